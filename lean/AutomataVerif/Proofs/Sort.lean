/-
Proofs/Sort.lean — the insertion sort `sortBy` of Model/DFAQuery.lean (Python's `sorted`): it
permutes, and it sorts for a transitive Boolean `<` that decides distinct members.  Core only.
-/
import AutomataVerif.Model.DFAQuery

namespace AV

section sort
variable {β : Type}

theorem insertBy_perm (lt : β → β → Bool) (x : β) (l : List β) :
    (insertBy lt x l).Perm (x :: l) := by
  induction l with
  | nil => exact List.Perm.refl _
  | cons y t ih =>
    unfold insertBy
    split
    · exact (List.Perm.cons y ih).trans (List.Perm.swap x y t)
    · exact List.Perm.refl _

theorem sortBy_perm (lt : β → β → Bool) (l : List β) : (sortBy lt l).Perm l := by
  induction l with
  | nil => exact List.Perm.refl _
  | cons x t ih =>
    show (insertBy lt x (sortBy lt t)).Perm (x :: t)
    exact (insertBy_perm lt x _).trans (List.Perm.cons x ih)

theorem mem_sortBy {lt : β → β → Bool} {l : List β} {x : β} : x ∈ sortBy lt l ↔ x ∈ l :=
  (sortBy_perm lt l).mem_iff

theorem sortBy_pairwise {lt : β → β → Bool} (l : List β) (hnd : l.Nodup)
    (htr : ∀ a b c, lt a b = true → lt b c = true → lt a c = true)
    (htot : ∀ a ∈ l, ∀ b ∈ l, a ≠ b → lt a b = true ∨ lt b a = true) :
    (sortBy lt l).Pairwise fun a b => lt a b = true := by
  induction l with
  | nil => exact List.Pairwise.nil
  | cons x t ih =>
    obtain ⟨hx, ht⟩ := List.nodup_cons.mp hnd
    have ih' := ih ht fun a ha b hb => htot a (List.mem_cons_of_mem _ ha) b (List.mem_cons_of_mem _ hb)
    have hxs : ∀ y ∈ sortBy lt t, lt y x = true ∨ lt x y = true := fun y hy =>
      have hyt := mem_sortBy.mp hy
      htot y (List.mem_cons_of_mem _ hyt) x List.mem_cons_self fun e => hx (e ▸ hyt)
    show (insertBy lt x (sortBy lt t)).Pairwise _
    generalize sortBy lt t = s at ih' hxs
    induction s with
    | nil => exact List.pairwise_singleton _ _
    | cons y s ihs =>
      obtain ⟨hy, hs⟩ := List.pairwise_cons.mp ih'
      unfold insertBy
      by_cases h : lt y x = true
      · rw [if_pos h]
        refine List.pairwise_cons.mpr ⟨fun z hz => ?_, ihs hs fun z hz => hxs z (List.mem_cons_of_mem _ hz)⟩
        rcases List.mem_cons.mp ((insertBy_perm lt x s).mem_iff.mp hz) with rfl | hz'
        · exact h
        · exact hy z hz'
      · rw [if_neg h]
        have hxy : lt x y = true := (hxs y List.mem_cons_self).resolve_left h
        exact List.pairwise_cons.mpr ⟨fun z hz => (List.mem_cons.mp hz).elim (· ▸ hxy)
          fun hz' => htr _ _ _ hxy (hy z hz'), ih'⟩

theorem sortBy_strict (k : β → Int) (l : List β) (hnd : l.Nodup)
    (hinj : ∀ a ∈ l, ∀ b ∈ l, k a = k b → a = b) :
    (sortBy (fun a b => decide (k a < k b)) l).Pairwise fun a b => k a < k b :=
  (sortBy_pairwise (lt := fun a b => decide (k a < k b)) l hnd
    (fun _ _ _ h1 h2 => decide_eq_true (Int.lt_trans (of_decide_eq_true h1) (of_decide_eq_true h2)))
    fun a ha b hb hne => (Int.lt_trichotomy (k a) (k b)).elim (fun h => Or.inl (decide_eq_true h))
      fun h => h.elim (fun e => absurd (hinj a ha b hb e) hne) fun h => Or.inr (decide_eq_true h)).imp
    of_decide_eq_true

end sort

end AV
