/-
Proofs/CompareEq.lean — the deterministic system behind `DFA.__eq__`: the disjoint union of
the two operands (`(state | None, operand index)`), its runs, and a finite universe closed
under its transitions.  Core only.
-/
import AutomataVerif.Proofs.Compare
import AutomataVerif.Model.DFACompare

namespace AV
namespace DFA

variable {σ α : Type} [DecidableEq σ] [DecidableEq α]

/-- `transition` of `__eq__`. -/
def eqStep (A B : DFA σ α) : EqState σ → α → EqState σ := fun s a =>
  (if s.2 then B.step? s.1 a else A.step? s.1 a, s.2)

/-- `is_final_state` of `__eq__`. -/
def eqFin (A B : DFA σ α) : EqState σ → Bool := fun s =>
  if s.2 then B.isFinal s.1 else A.isFinal s.1

/-- The finite universe of the union–find: every name of either definition (`graphNodes`: declared
states, row keys and targets, since the system steps through rows of undeclared names too) plus
`None` on each side. -/
def eqUniv (A B : DFA σ α) : List (EqState σ) :=
  (none :: A.graphNodes.map some).map (fun x => (x, false)) ++
  (none :: B.graphNodes.map some).map (fun x => (x, true))

theorem eqFin_run_left (A B : DFA σ α) (w : List α) :
    eqFin A B (w.foldl (eqStep A B) (some A.init, false)) = A.accepts w :=
  congrArg (eqFin A B) (List.foldl_hom (fun x => (x, false)) fun _ _ => rfl)

theorem eqFin_run_right (A B : DFA σ α) (w : List α) :
    eqFin A B (w.foldl (eqStep A B) (some B.init, true)) = B.accepts w :=
  congrArg (eqFin A B) (List.foldl_hom (fun x => (x, true)) fun _ _ => rfl)

omit [DecidableEq α] in
theorem length_eqUniv (A B : DFA σ α) :
    (A.eqUniv B).length = A.graphNodes.length + B.graphNodes.length + 2 := by
  simp only [eqUniv, List.length_append, List.length_map, List.length_cons]; omega

omit [DecidableEq σ] in
theorem mem_side {l : List σ} {x : Option σ} (b : Bool) (h : x = none ∨ ∃ q ∈ l, x = some q) :
    (x, b) ∈ (none :: l.map some).map (fun x => (x, b)) :=
  List.mem_map.mpr ⟨x, mem_optNodes.mpr h, rfl⟩

theorem eqUniv_closed (A B : DFA σ α) :
    ∀ s ∈ A.eqUniv B, ∀ a ∈ A.syms, eqStep A B s a ∈ A.eqUniv B := by
  rintro ⟨x, b⟩ _ a _
  cases b with
  | false => exact List.mem_append_left _ (mem_side false (step?_in_univ A x a))
  | true => exact List.mem_append_right _ (mem_side true (step?_in_univ B x a))

omit [DecidableEq α] in
theorem init_mem_eqUniv {A B : DFA σ α} (wfA : A.WF) (wfB : B.WF) :
    ((some A.init, false) : EqState σ) ∈ A.eqUniv B ∧
    ((some B.init, true) : EqState σ) ∈ A.eqUniv B :=
  ⟨List.mem_append_left _
      (mem_side false (Or.inr ⟨A.init, states_sub_graphNodes A wfA.initOk, rfl⟩)),
    List.mem_append_right _
      (mem_side true (Or.inr ⟨B.init, states_sub_graphNodes B wfB.initOk, rfl⟩))⟩

end DFA
end AV
