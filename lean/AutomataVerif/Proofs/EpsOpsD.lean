/-
Proofs/EpsOpsD.lean — the edit-distance grid automaton: a step relation over grid points `(i, e)`
(i symbols of the reference string consumed, e edits spent) that is characterised on the grid
accepts from `(0, 0)` exactly the words within `K` enabled edits of the reference string
(`acc_edit`, in the path calculus of Proofs/EpsPath).  Core only.
-/
import AutomataVerif.Proofs.EpsPath

namespace AV.Edit

variable {α : Type}

/-- `Edits ins del sub r w n`: the word `w` is obtained from the reference string `r` by an
alignment with exactly `n` unit-cost edits of the enabled kinds: a matched symbol is free; a
substitution (if `sub`), a deletion of a reference symbol (if `del`) and an insertion of a
new symbol (if `ins`) cost 1 each. -/
inductive Edits (ins del sub : Bool) : List α → List α → Nat → Prop
  | nil : Edits ins del sub [] [] 0
  | keep (a : α) {r w : List α} {n : Nat} : Edits ins del sub r w n → Edits ins del sub (a :: r) (a :: w) n
  | subst (a b : α) {r w : List α} {n : Nat} : sub = true → Edits ins del sub r w n →
      Edits ins del sub (a :: r) (b :: w) (n + 1)
  | delete (a : α) {r w : List α} {n : Nat} : del = true → Edits ins del sub r w n →
      Edits ins del sub (a :: r) w (n + 1)
  | insert (b : α) {r w : List α} {n : Nat} : ins = true → Edits ins del sub r w n →
      Edits ins del sub r (b :: w) (n + 1)

section Paths

theorem drop_eq_cons {ref : List α} {i : Nat} {a : α} {r : List α} (h : a :: r = ref.drop i) :
    ∃ hi : i < ref.length, ref[i] = a ∧ r = ref.drop (i + 1) := by
  have hi : i < ref.length :=
    Nat.lt_of_not_le fun hle => by rw [List.drop_eq_nil_of_le hle] at h; cases h
  rw [List.drop_eq_getElem_cons hi] at h
  injection h with h1 h2
  exact ⟨hi, h1.symm, h2⟩

variable {step : Nat × Nat → Option α → Nat × Nat → Prop} (syms : α → Prop) (ref : List α) (K : Nat)
  (ins del sub : Bool)
  (hstep_some : ∀ i e c t, i ≤ ref.length → e ≤ K → (step (i, e) (some c) t ↔
    (ref[i]? = some c ∧ t = (i + 1, e)) ∨
      (e < K ∧ ins = true ∧ syms c ∧ t = (i, e + 1)) ∨
      (i < ref.length ∧ e < K ∧ sub = true ∧ syms c ∧ t = (i + 1, e + 1))))
  (hstep_none : ∀ i e t, i ≤ ref.length → e ≤ K → (step (i, e) none t ↔
    i < ref.length ∧ e < K ∧ del = true ∧ t = (i + 1, e + 1)))

include hstep_some hstep_none

theorem path_edits (href : ∀ c ∈ ref, syms c) {s t : Nat × Nat} {w : List α}
    (h : Rx.Path step s w t) :
    ∀ i e, s = (i, e) → i ≤ ref.length → e ≤ K →
      ∃ i' m, t = (i', e + m) ∧ i' ≤ ref.length ∧ e + m ≤ K ∧
        (∀ c ∈ w, syms c) ∧
        (i' = ref.length → Edits ins del sub (ref.drop i) w m) := by
  induction h with
  | nil s =>
    intro i e hs hi he
    refine ⟨i, 0, hs, hi, he, (fun _ h => nomatch h), fun hi' => ?_⟩
    rw [hi', List.drop_length]
    exact Edits.nil
  | eps ht _ ih =>
    intro i e hs hi he
    subst hs
    replace ht := (hstep_none i e _ hi he).mp ht
    obtain ⟨hil, heK, hdel, rfl⟩ := ht
    obtain ⟨i', m, hu, hi', hm, hsy, hE⟩ := ih (i + 1) (e + 1) rfl hil heK
    rw [Nat.add_right_comm] at hu hm
    refine ⟨i', m + 1, hu, hi', hm, hsy, fun hlen => ?_⟩
    rw [List.drop_eq_getElem_cons hil]
    exact Edits.delete _ hdel (hE hlen)
  | @sym _ _ _ c _ ht _ ih =>
    intro i e hs hi he
    subst hs
    replace ht := (hstep_some i e c _ hi he).mp ht
    rcases ht with ⟨hget, rfl⟩ | ⟨heK, hins, hc, rfl⟩ | ⟨hil, heK, hsub, hc, rfl⟩
    · obtain ⟨hil, hgc⟩ := List.getElem?_eq_some_iff.mp hget
      obtain ⟨i', m, hu, hi', hm, hsy, hE⟩ := ih (i + 1) e rfl hil he
      refine ⟨i', m, hu, hi', hm,
        List.forall_mem_cons.mpr ⟨href c (List.mem_of_getElem? hget), hsy⟩, fun hlen => ?_⟩
      rw [List.drop_eq_getElem_cons hil, hgc]
      exact Edits.keep _ (hE hlen)
    · obtain ⟨i', m, hu, hi', hm, hsy, hE⟩ := ih i (e + 1) rfl hi heK
      rw [Nat.add_right_comm] at hu hm
      exact ⟨i', m + 1, hu, hi', hm, List.forall_mem_cons.mpr ⟨hc, hsy⟩,
        fun hlen => Edits.insert _ hins (hE hlen)⟩
    · obtain ⟨i', m, hu, hi', hm, hsy, hE⟩ := ih (i + 1) (e + 1) rfl hil heK
      rw [Nat.add_right_comm] at hu hm
      refine ⟨i', m + 1, hu, hi', hm, List.forall_mem_cons.mpr ⟨hc, hsy⟩, fun hlen => ?_⟩
      rw [List.drop_eq_getElem_cons hil]
      exact Edits.subst _ _ hsub (hE hlen)

theorem edits_path {r w : List α} {n : Nat} (h : Edits ins del sub r w n) :
    ∀ i e, r = ref.drop i → i ≤ ref.length → e + n ≤ K → (∀ c ∈ w, syms c) →
      Rx.Path step (i, e) w (ref.length, e + n) := by
  induction h with
  | nil =>
    intro i e hr hi he _
    obtain rfl : i = ref.length := Nat.le_antisymm hi (List.drop_eq_nil_iff.mp hr.symm)
    exact .nil _
  | keep a _ ih =>
    intro i e hr hi he hw
    obtain ⟨hil, hga, hr'⟩ := drop_eq_cons hr
    refine .sym (t := (i + 1, e)) ?_ (ih (i + 1) e hr' hil he (List.forall_mem_cons.mp hw).2)
    exact (hstep_some i e a _ hi (Nat.le_of_add_right_le he)).mpr <|
      Or.inl ⟨List.getElem?_eq_some_iff.mpr ⟨hil, hga⟩, rfl⟩
  | @subst a b _ _ n hsub _ ih =>
    intro i e hr hi he hw
    obtain ⟨hil, hga, hr'⟩ := drop_eq_cons hr
    have he' : e + 1 + n ≤ K := Nat.le_trans (Nat.le_of_eq (Nat.add_right_comm e 1 n)) he
    have hp := ih (i + 1) (e + 1) hr' hil he' (List.forall_mem_cons.mp hw).2
    rw [Nat.add_right_comm] at hp
    refine .sym (t := (i + 1, e + 1)) ?_ hp
    exact (hstep_some i e b _ hi (Nat.le_of_add_right_le he)).mpr <|
      Or.inr (Or.inr ⟨hil, Nat.le_of_add_right_le he', hsub, (List.forall_mem_cons.mp hw).1, rfl⟩)
  | @delete a _ _ n hdel _ ih =>
    intro i e hr hi he hw
    obtain ⟨hil, hga, hr'⟩ := drop_eq_cons hr
    have he' : e + 1 + n ≤ K := Nat.le_trans (Nat.le_of_eq (Nat.add_right_comm e 1 n)) he
    have hp := ih (i + 1) (e + 1) hr' hil he' hw
    rw [Nat.add_right_comm] at hp
    refine .eps (t := (i + 1, e + 1)) ?_ hp
    exact (hstep_none i e _ hi (Nat.le_of_add_right_le he)).mpr <|
      ⟨hil, Nat.le_of_add_right_le he', hdel, rfl⟩
  | @insert b _ _ n hins _ ih =>
    intro i e hr hi he hw
    have he' : e + 1 + n ≤ K := Nat.le_trans (Nat.le_of_eq (Nat.add_right_comm e 1 n)) he
    have hp := ih i (e + 1) hr hi he' (List.forall_mem_cons.mp hw).2
    rw [Nat.add_right_comm] at hp
    refine .sym (t := (i, e + 1)) ?_ hp
    exact (hstep_some i e b _ hi (Nat.le_of_add_right_le he)).mpr <|
      Or.inr (Or.inl ⟨Nat.le_of_add_right_le he', hins, (List.forall_mem_cons.mp hw).1, rfl⟩)

end Paths

/-- The grid automaton, from `(0, 0)`: `hstep_some` lists the matching, insertion and substitution
moves, `hstep_none` the deletion move, the last column is final. -/
theorem acc_edit {step : Nat × Nat → Option α → Nat × Nat → Prop} {Fin : Nat × Nat → Prop}
    (syms : α → Prop) (ref : List α) (K : Nat) (ins del sub : Bool) (href : ∀ c ∈ ref, syms c)
    (hstep_some : ∀ i e c t, i ≤ ref.length → e ≤ K → (step (i, e) (some c) t ↔
      (ref[i]? = some c ∧ t = (i + 1, e)) ∨
        (e < K ∧ ins = true ∧ syms c ∧ t = (i, e + 1)) ∨
        (i < ref.length ∧ e < K ∧ sub = true ∧ syms c ∧ t = (i + 1, e + 1))))
    (hstep_none : ∀ i e t, i ≤ ref.length → e ≤ K → (step (i, e) none t ↔
      i < ref.length ∧ e < K ∧ del = true ∧ t = (i + 1, e + 1)))
    (hacc : ∀ i e, i ≤ ref.length → e ≤ K → (Fin (i, e) ↔ i = ref.length)) (w : List α) :
    Rx.Acc step Fin (0, 0) w ↔ (∀ c ∈ w, syms c) ∧ ∃ n, n ≤ K ∧ Edits ins del sub ref w n := by
  constructor
  · rintro ⟨t, ht, hp⟩
    obtain ⟨i', m, rfl, hi', hm, hsy, hE⟩ :=
      path_edits syms ref K ins del sub hstep_some hstep_none href hp 0 0 rfl
        (Nat.zero_le _) (Nat.zero_le _)
    rw [Nat.zero_add] at hm ht
    exact ⟨hsy, m, hm, hE ((hacc i' m hi' hm).mp ht)⟩
  · rintro ⟨hw, n, hn, hE⟩
    have hn' : 0 + n ≤ K := Nat.le_trans (Nat.le_of_eq (Nat.zero_add n)) hn
    exact ⟨_, (hacc _ _ (Nat.le_refl _) hn').mpr rfl,
      edits_path syms ref K ins del sub hstep_some hstep_none hE 0 0 rfl (Nat.zero_le _) hn' hw⟩

end AV.Edit
