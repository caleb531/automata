/-
Proofs/EditSteps.lean — the OPERATIONAL reading of "obtained from the reference string by at
most k edits": a chain of at most `k` single edits, each one insertion, deletion or
substitution of one symbol at an arbitrary position of the current string, and its
equivalence with the alignment reading `Edits` (Proofs/EpsOpsD.lean) for every set of
enabled edit kinds.

Independent of the code; only lists (`Edits` is defined in Proofs/EpsOpsD.lean, next to the grid
automaton, whence the import; nothing here mentions an automaton).  Core only.
-/
import AutomataVerif.Proofs.EpsOpsD

namespace AV.Edit

variable {α : Type}

/-- One edit of an enabled kind at any position: the string is `u ++ … ++ v` and exactly one
symbol is inserted between `u` and `v`, removed there, or replaced there.  `ok` restricts the
symbols that may be written (inserted, or substituted in); take `fun _ => True` for no
restriction, `(· ∈ Σ)` to stay inside an alphabet. -/
inductive Step1 (ok : α → Prop) (ins del sub : Bool) : List α → List α → Prop
  | insert (u v : List α) (b : α) : ins = true → ok b → Step1 ok ins del sub (u ++ v) (u ++ b :: v)
  | delete (u v : List α) (a : α) : del = true → Step1 ok ins del sub (u ++ a :: v) (u ++ v)
  | subst (u v : List α) (a b : α) : sub = true → ok b →
      Step1 ok ins del sub (u ++ a :: v) (u ++ b :: v)

/-- A chain of exactly `n` single edits from `r` to `w`. -/
inductive Steps (ok : α → Prop) (ins del sub : Bool) : Nat → List α → List α → Prop
  | refl (r : List α) : Steps ok ins del sub 0 r r
  | tail {n : Nat} {r u w : List α} : Steps ok ins del sub n r u → Step1 ok ins del sub u w →
      Steps ok ins del sub (n + 1) r w

/-- `w` is obtained from `r` by at most `k` single edits of the enabled kinds. -/
def StepsLe (ok : α → Prop) (ins del sub : Bool) (k : Nat) (r w : List α) : Prop :=
  ∃ n, n ≤ k ∧ Steps ok ins del sub n r w

namespace EditSteps

variable {ok : α → Prop} {ins del sub : Bool}

/-- The same single edit, described recursively: at the head, or below an unchanged head. -/
inductive StepR (ok : α → Prop) (ins del sub : Bool) : List α → List α → Prop
  | insHere (b : α) (v : List α) : ins = true → ok b → StepR ok ins del sub v (b :: v)
  | delHere (a : α) (v : List α) : del = true → StepR ok ins del sub (a :: v) v
  | subHere (a b : α) (v : List α) : sub = true → ok b → StepR ok ins del sub (a :: v) (b :: v)
  | cons (c : α) {u w : List α} : StepR ok ins del sub u w → StepR ok ins del sub (c :: u) (c :: w)

theorem StepR.prepend (p : List α) {u w : List α} (h : StepR ok ins del sub u w) :
    StepR ok ins del sub (p ++ u) (p ++ w) := by
  induction p with
  | nil => exact h
  | cons c p ih => exact StepR.cons c ih

theorem stepR_of_step1 {u w : List α} (h : Step1 ok ins del sub u w) : StepR ok ins del sub u w := by
  cases h with
  | insert u v b hi hb => exact StepR.prepend u (StepR.insHere b v hi hb)
  | delete u v a hd => exact StepR.prepend u (StepR.delHere a v hd)
  | subst u v a b hs hb => exact StepR.prepend u (StepR.subHere a b v hs hb)

theorem step1_cons (c : α) {u w : List α} (h : Step1 ok ins del sub u w) :
    Step1 ok ins del sub (c :: u) (c :: w) := by
  cases h with
  | insert u v b hi hb => exact Step1.insert (c :: u) v b hi hb
  | delete u v a hd => exact Step1.delete (c :: u) v a hd
  | subst u v a b hs hb => exact Step1.subst (c :: u) v a b hs hb

theorem step1_of_stepR {u w : List α} (h : StepR ok ins del sub u w) : Step1 ok ins del sub u w := by
  induction h with
  | insHere b v hi hb => exact Step1.insert [] v b hi hb
  | delHere a v hd => exact Step1.delete [] v a hd
  | subHere a b v hs hb => exact Step1.subst [] v a b hs hb
  | cons c _ ih => exact step1_cons c ih

theorem step1_iff_stepR {u w : List α} : Step1 ok ins del sub u w ↔ StepR ok ins del sub u w :=
  ⟨stepR_of_step1, step1_of_stepR⟩

theorem steps_cons (c : α) {n : Nat} {r w : List α} (h : Steps ok ins del sub n r w) :
    Steps ok ins del sub n (c :: r) (c :: w) := by
  induction h with
  | refl r => exact Steps.refl _
  | tail _ hs ih => exact Steps.tail ih (step1_cons c hs)

/-- An alignment with `n` edits yields a chain of exactly `n` single edits; the only symbols
ever written are symbols of the target word. -/
theorem steps_of_edits {r w : List α} {n : Nat} (h : Edits ins del sub r w n)
    (hw : ∀ c ∈ w, ok c) : Steps ok ins del sub n r w := by
  induction h with
  | nil => exact Steps.refl _
  | keep a _ ih => exact steps_cons a (ih fun c hc => hw c (List.mem_cons_of_mem _ hc))
  | subst a b hs _ ih =>
    exact Steps.tail (steps_cons a (ih fun c hc => hw c (List.mem_cons_of_mem _ hc)))
      (Step1.subst [] _ a b hs (hw b List.mem_cons_self))
  | delete a hd _ ih => exact Steps.tail (steps_cons a (ih hw)) (Step1.delete [] _ a hd)
  | insert b hi _ ih =>
    exact Steps.tail (ih fun c hc => hw c (List.mem_cons_of_mem _ hc))
      (Step1.insert [] _ b hi (hw b List.mem_cons_self))

theorem edits_refl (r : List α) : Edits ins del sub r r 0 := by
  induction r with
  | nil => exact Edits.nil
  | cons a r ih => exact Edits.keep a ih

/-- One more single edit after an alignment of cost `n` gives an alignment of cost ≤ `n + 1`
(the new edit may cancel or merge with an earlier one, never cost more than one). -/
theorem edits_stepR {r u : List α} {n : Nat} (h : Edits ins del sub r u n) :
    ∀ {w : List α}, StepR ok ins del sub u w → ∃ m, m ≤ n + 1 ∧ Edits ins del sub r w m := by
  induction h with
  | nil =>
    intro w hs
    cases hs with
    | insHere b v hi _ => exact ⟨1, Nat.le_refl _, Edits.insert b hi Edits.nil⟩
  | @keep a r u n h ih =>
    intro w hs
    cases hs with
    | insHere b v hi _ => exact ⟨n + 1, Nat.le_refl _, Edits.insert b hi (Edits.keep a h)⟩
    | delHere a' v hd => exact ⟨n + 1, Nat.le_refl _, Edits.delete a hd h⟩
    | subHere a' b v hsb _ => exact ⟨n + 1, Nat.le_refl _, Edits.subst a b hsb h⟩
    | cons c hs' =>
      obtain ⟨m, hm, he⟩ := ih hs'
      exact ⟨m, hm, Edits.keep a he⟩
  | @subst a b r u n hsub h ih =>
    intro w hs
    cases hs with
    | insHere c v hi _ =>
      exact ⟨n + 1 + 1, Nat.le_refl _, Edits.insert c hi (Edits.subst a b hsub h)⟩
    | delHere b' v hd => exact ⟨n + 1, Nat.le_succ _, Edits.delete a hd h⟩
    | subHere b' c v hsb _ => exact ⟨n + 1, Nat.le_succ _, Edits.subst a c hsb h⟩
    | cons c hs' =>
      obtain ⟨m, hm, he⟩ := ih hs'
      exact ⟨m + 1, Nat.succ_le_succ hm, Edits.subst a b hsub he⟩
  | @delete a r u n hdel h ih =>
    intro w hs
    obtain ⟨m, hm, he⟩ := ih hs
    exact ⟨m + 1, Nat.succ_le_succ hm, Edits.delete a hdel he⟩
  | @insert b r u n hins h ih =>
    intro w hs
    cases hs with
    | insHere c v hi _ =>
      exact ⟨n + 1 + 1, Nat.le_refl _, Edits.insert c hi (Edits.insert b hins h)⟩
    | delHere b' v hd => exact ⟨n, Nat.le_add_right n 2, h⟩
    | subHere b' c v hsb _ => exact ⟨n + 1, Nat.le_succ _, Edits.insert c hins h⟩
    | cons c hs' =>
      obtain ⟨m, hm, he⟩ := ih hs'
      exact ⟨m + 1, Nat.succ_le_succ hm, Edits.insert b hins he⟩

theorem edits_of_steps {r w : List α} {n : Nat} (h : Steps ok ins del sub n r w) :
    ∃ m, m ≤ n ∧ Edits ins del sub r w m := by
  induction h with
  | refl r => exact ⟨0, Nat.le_refl _, edits_refl r⟩
  | tail _ hs ih =>
    obtain ⟨m, hm, he⟩ := ih
    obtain ⟨m', hm', he'⟩ := edits_stepR he (stepR_of_step1 hs)
    exact ⟨m', Nat.le_trans hm' (Nat.succ_le_succ hm), he'⟩

end EditSteps

open EditSteps

/-- **Alignment reading = operational reading**, provided the symbols of `w` may be written
(`ok`); the chain direction needs no proviso. -/
theorem edits_le_iff_stepsLe (ok : α → Prop) (ins del sub : Bool) (k : Nat) (r w : List α)
    (hw : ∀ c ∈ w, ok c) :
    (∃ n, n ≤ k ∧ Edits ins del sub r w n) ↔ StepsLe ok ins del sub k r w := by
  constructor
  · rintro ⟨n, hn, he⟩
    exact ⟨n, hn, steps_of_edits he hw⟩
  · rintro ⟨n, hn, hs⟩
    obtain ⟨m, hm, he⟩ := edits_of_steps hs
    exact ⟨m, Nat.le_trans hm hn, he⟩

theorem edits_le_iff_stepsLe_any (ins del sub : Bool) (k : Nat) (r w : List α) :
    (∃ n, n ≤ k ∧ Edits ins del sub r w n) ↔ StepsLe (fun _ => True) ins del sub k r w :=
  edits_le_iff_stepsLe _ ins del sub k r w (fun _ _ => trivial)

/-- Passing through strings outside the alphabet buys nothing. -/
theorem stepsLe_restrict (ok : α → Prop) (ins del sub : Bool) (k : Nat) (r w : List α)
    (hw : ∀ c ∈ w, ok c) :
    StepsLe (fun _ => True) ins del sub k r w ↔ StepsLe ok ins del sub k r w := by
  rw [← edits_le_iff_stepsLe_any, edits_le_iff_stepsLe ok ins del sub k r w hw]

end AV.Edit
