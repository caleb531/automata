/-
Proofs/TMValidate.lean — what `validate` of the three Turing-machine classes (`Model/TMValidate.lean`)
gives the runs (final states carry no rows; MNTM: one move per tape, written symbols in the tape
alphabet), and that a valid DTM table is valid as an NTM (`DTM.asNTM`) and as a one-tape MNTM
(`DTM.asMNTM`).
-/
import AutomataVerif.Proofs.Validate
import AutomataVerif.Model.TMValidate
import AutomataVerif.Model.TM

namespace AV.TM
variable {σ Γ : Type} [DecidableEq σ] [DecidableEq Γ]

theorem validateStates_ok {states trKeys : List σ} {init : σ} {finals : List σ}
    (h : validateStates states trKeys init finals = .ok ()) :
    init ∈ states ∧ init ∉ finals ∧ (∀ q ∈ finals, q ∈ states) ∧ ∀ q ∈ finals, q ∉ trKeys := by
  unfold validateStates at h
  simp only [Res.andThen_eq_ok, guardE_eq_ok, firstErr_eq_ok, decide_eq_true_eq, List.all_eq_true] at h
  exact ⟨h.1, h.2.2.1, h.2.2.2.1, h.2.2.2.2⟩

theorem final_no_rows {states : List σ} {β : Type} {trans : List (σ × β)} {init : σ} {finals : List σ}
    (h : validateStates states (akeys trans) init finals = .ok ()) :
    (∀ q ∈ finals, alookup q trans = none) ∧ init ∉ finals :=
  let ⟨_, hinit, _, hkeys⟩ := validateStates_ok h
  ⟨fun q hq => alookup_eq_none_iff.mpr (hkeys q hq), hinit⟩

/-- `validate` succeeds iff its stages do, in the order of the code: the alphabet checks, every row of
the table, the checks on initial and final states (and, for an MNTM, the tape counts). -/
theorem DTM.validate_eq_ok (M : DTM σ Γ) : M.validate = .ok () ↔
    validateSymbols M.inputSyms M.tapeSyms M.blank = .ok () ∧ (∀ kv ∈ M.trans, M.validateRow kv = .ok ()) ∧
      validateStates M.states (akeys M.trans) M.init M.finals = .ok () := by
  simp only [DTM.validate, Res.andThen_eq_ok, firstErr_eq_ok]

theorem NTM.validate_eq_ok (M : NTM σ Γ) : M.validate = .ok () ↔
    validateSymbols M.inputSyms M.tapeSyms M.blank = .ok () ∧ (∀ kv ∈ M.trans, M.validateRow kv = .ok ()) ∧
      validateStates M.states (akeys M.trans) M.init M.finals = .ok () := by
  simp only [NTM.validate, Res.andThen_eq_ok, firstErr_eq_ok]

theorem MNTM.validate_eq_ok (M : MNTM σ Γ) : M.validate = .ok () ↔
    validateSymbols M.inputSyms M.tapeSyms M.blank = .ok () ∧ (∀ kv ∈ M.trans, M.validateRow kv = .ok ()) ∧
      validateStates M.states (akeys M.trans) M.init M.finals = .ok () ∧ M.validateTapes = .ok () := by
  simp only [MNTM.validate, Res.andThen_eq_ok, firstErr_eq_ok]

theorem DTM.validate_final_no_rows (M : DTM σ Γ) (h : M.validate = .ok ()) :
    (∀ q ∈ M.finals, alookup q M.trans = none) ∧ M.init ∉ M.finals :=
  let ⟨_, _, hstates⟩ := M.validate_eq_ok.mp h
  final_no_rows hstates

theorem NTM.validate_final_no_rows (M : NTM σ Γ) (h : M.validate = .ok ()) :
    (∀ q ∈ M.finals, alookup q M.trans = none) ∧ M.init ∉ M.finals :=
  let ⟨_, _, hstates⟩ := M.validate_eq_ok.mp h
  final_no_rows hstates

theorem MNTM.validate_final_no_rows (M : MNTM σ Γ) (h : M.validate = .ok ()) :
    (∀ q ∈ M.finals, alookup q M.trans = none) ∧ M.init ∉ M.finals :=
  let ⟨_, _, hstates, _⟩ := M.validate_eq_ok.mp h
  final_no_rows hstates

theorem DTM.validateRow_eq_ok (M : DTM σ Γ) (kv : σ × List (Γ × (σ × Γ × Dir))) :
    M.validateRow kv = .ok () ↔ kv.1 ∈ M.states ∧ (∀ s ∈ akeys kv.2, s ∈ M.tapeSyms) ∧
      ∀ e ∈ kv.2, validateResult M.states M.tapeSyms e.2 = .ok () := by
  simp only [DTM.validateRow, Res.andThen_eq_ok, guardE_eq_ok, firstErr_eq_ok, decide_eq_true_eq, avals,
    List.forall_mem_map]

theorem NTM.validateRow_eq_ok (M : NTM σ Γ) (kv : σ × List (Γ × List (σ × Γ × Dir))) :
    M.validateRow kv = .ok () ↔ kv.1 ∈ M.states ∧ (∀ s ∈ akeys kv.2, s ∈ M.tapeSyms) ∧
      ∀ e ∈ kv.2, ∀ r ∈ e.2, validateResult M.states M.tapeSyms r = .ok () := by
  simp only [NTM.validateRow, Res.andThen_eq_ok, guardE_eq_ok, firstErr_eq_ok, decide_eq_true_eq, avals,
    List.forall_mem_map]

theorem MNTM.validateRow_eq_ok (M : MNTM σ Γ) (kv : σ × List (List Γ × List (σ × List (Γ × Dir)))) :
    M.validateRow kv = .ok () ↔ kv.1 ∈ M.states ∧ (∀ k ∈ akeys kv.2, ∀ s ∈ k, s ∈ M.tapeSyms) ∧
      ∀ e ∈ kv.2, ∀ r ∈ e.2, ∀ m ∈ r.2,
        validateResult M.states M.tapeSyms (r.1, m.1, m.2) = .ok () := by
  simp only [MNTM.validateRow, Res.andThen_eq_ok, guardE_eq_ok, firstErr_eq_ok, decide_eq_true_eq, avals,
    List.forall_mem_map, List.mem_flatMap, id, forall_exists_index, and_imp]
  constructor
  · rintro ⟨h1, h2, h3⟩; exact ⟨h1, fun k hk s hs => h2 s k hk hs, h3⟩
  · rintro ⟨h1, h2, h3⟩; exact ⟨h1, fun s k hk hs => h2 k hk s hs, h3⟩

theorem validateResult_eq_ok (states : List σ) (tapeSyms : List Γ) (r : σ × Γ × Dir) :
    validateResult states tapeSyms r = .ok () ↔ r.1 ∈ states ∧ r.2.1 ∈ tapeSyms ∧ r.2.2 ≠ .bad := by
  simp [validateResult, validateDir]

theorem MNTM.validate_tapes (M : MNTM σ Γ) (h : M.validate = .ok ()) :
    ∀ kv ∈ M.trans, ∀ e ∈ kv.2, e.1.length = M.nTapes ∧ ∀ t ∈ e.2, t.2.length = M.nTapes := by
  obtain ⟨_, _, _, htapes⟩ := M.validate_eq_ok.mp h
  simpa only [MNTM.validateTapes, Res.andThen_eq_ok, firstErr_eq_ok, guardE_eq_ok, decide_eq_true_eq]
    using htapes

theorem MNTM.validate_symbols (M : MNTM σ Γ) (h : M.validate = .ok ()) :
    M.blank ∈ M.tapeSyms ∧
    ∀ kv ∈ M.trans, ∀ e ∈ kv.2, ∀ t ∈ e.2, ∀ m ∈ t.2, m.1 ∈ M.tapeSyms := by
  obtain ⟨hsym, hrows, _⟩ := M.validate_eq_ok.mp h
  simp only [validateSymbols, Res.andThen_eq_ok, guardE_eq_ok, decide_eq_true_eq] at hsym
  simp only [MNTM.validateRow_eq_ok, validateResult_eq_ok] at hrows
  exact ⟨hsym.2, fun kv hkv e he t ht m hm => ((hrows kv hkv).2.2 e he t ht m hm).2.1⟩

theorem DTM.asNTM_validate (M : DTM σ Γ) (h : M.validate = .ok ()) : M.asNTM.validate = .ok () := by
  simp only [DTM.validate_eq_ok, NTM.validate_eq_ok, DTM.validateRow_eq_ok, NTM.validateRow_eq_ok] at h ⊢
  obtain ⟨hsym, hrows, hstates⟩ := h
  refine ⟨hsym, ?_, by rw [DTM.asNTM, akeys_map_val]; exact hstates⟩
  rintro _ hkv'
  obtain ⟨kv, hkv, rfl⟩ := List.mem_map.mp hkv'
  obtain ⟨h1, h2, h3⟩ := hrows kv hkv
  refine ⟨h1, (akeys_map_val (fun x => [x]) kv.2).symm ▸ h2, ?_⟩
  simp only [List.forall_mem_map, List.mem_singleton, forall_eq]
  exact h3

theorem DTM.asMNTM_validate (M : DTM σ Γ) (h : M.validate = .ok ()) : M.asMNTM.validate = .ok () := by
  simp only [DTM.validate_eq_ok, MNTM.validate_eq_ok, DTM.validateRow_eq_ok, MNTM.validateRow_eq_ok,
    MNTM.validateTapes, Res.andThen_eq_ok, firstErr_eq_ok, guardE_eq_ok, decide_eq_true_eq] at h ⊢
  obtain ⟨hsym, hrows, hstates⟩ := h
  refine ⟨hsym, ?_, by rw [DTM.asMNTM, akeys_map_val]; exact hstates, ?_⟩
  · rintro _ hkv'
    obtain ⟨kv, hkv, rfl⟩ := List.mem_map.mp hkv'
    obtain ⟨h1, h2, h3⟩ := hrows kv hkv
    refine ⟨h1, ?_, ?_⟩
    · simp only [akeys, List.map_map, List.forall_mem_map, Function.comp_def, List.mem_singleton, forall_eq]
      exact fun e he => h2 e.1 (List.mem_map.mpr ⟨e, he, rfl⟩)
    · simp only [List.forall_mem_map, List.mem_singleton, forall_eq]
      exact h3
  · rintro _ hkv' _ he'
    obtain ⟨kv, _, rfl⟩ := List.mem_map.mp hkv'
    obtain ⟨e, _, rfl⟩ := List.mem_map.mp he'
    exact ⟨rfl, fun t ht => by rw [List.mem_singleton.mp ht]; rfl⟩

end AV.TM
