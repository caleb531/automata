/-
Proofs/CtorKMPDfa.lean — from_substring / from_suffix (C15): from the verified `kmp_table` and
transition function to the DFA: validity, the state invariant, the language, minimality.
Core only.
-/
import AutomataVerif.Proofs.CtorKMP

namespace AV.Ctor.KMP

variable {α : Type} [DecidableEq α]

omit [DecidableEq α] in
theorem rowsM_ok (f : Nat → Res (List (α × Int))) (g : Nat → List (α × Int)) :
    ∀ (n start : Nat), (∀ i, start ≤ i → i < start + n → f i = .ok (g i)) →
      rowsM f n start = .ok ((List.range' start n).map fun i => (nat i, g i)) := by
  intro n
  induction n with
  | zero => intro start _; rfl
  | succ n ih =>
    intro start h
    rw [rowsM, h start (Nat.le_refl _) (by omega),
      ih (start + 1) fun i h1 h2 => h i (by omega) (by omega), List.range'_succ, List.map_cons]

section dfa
variable (syms p : List α) (T : List Int)

/-- The next-state function the table is filled with: the KMP transition below the accepting
state (and at it in suffix mode), the self-loop of the accepting state in substring mode. -/
def kmpDelta (sf : Bool) (i : Nat) (a : α) : Int :=
  if i < p.length ∨ sf = true then getOk (kmpNext p T i a) else nat p.length

def kmpStepN (sf : Bool) (i : Nat) (a : α) : Nat := (kmpDelta p T sf i a).toNat

def kmpRow (sf : Bool) (i : Nat) : List (α × Int) := rowOf syms (kmpDelta p T sf i)

def kmpDFA (contains sf : Bool) : DFA Int α :=
  flagDFA syms (List.range (p.length + 1)) nat (kmpRow syms p T sf) 0 p.length contains

variable (hT : TableOK p T) (hne : p ≠ [])
include hT hne

/-- What the table is filled with, state by state: a state number `≤ |p|`; in KMP mode it keeps
"longest prefix of the pattern that is a suffix of the input", the accepting state of
substring mode is absorbing. -/
theorem kmpDelta_spec (sf : Bool) (i : Nat) (hi : i ≤ p.length) (a : α) :
    kmpDelta p T sf i a = nat (kmpStepN p T sf i a) ∧ kmpStepN p T sf i a ≤ p.length ∧
    (i < p.length ∨ sf = true → ∀ w, IsLps p w i → IsLps p (w ++ [a]) (kmpStepN p T sf i a)) ∧
    (i = p.length → sf = false → kmpStepN p T sf i a = p.length) := by
  by_cases h : i < p.length ∨ sf = true
  · obtain ⟨k, hk, hkm, hl⟩ := kmpNext_spec p T hT i
      (h.elim Or.inl fun _ => (Nat.lt_or_eq_of_le hi).imp id fun e' => ⟨e', hne⟩) a
    have e : kmpDelta p T sf i a = nat k := by rw [kmpDelta, if_pos h, hk]; rfl
    have e' : kmpStepN p T sf i a = k := by rw [kmpStepN, e]; rfl
    rw [e, e']
    exact ⟨rfl, hkm, fun _ => hl, fun e1 e2 => absurd h (by rw [e1, e2]; simp)⟩
  · have e : kmpDelta p T sf i a = nat p.length := if_neg h
    have e' : kmpStepN p T sf i a = p.length := by rw [kmpStepN, e]; rfl
    rw [e, e']
    exact ⟨rfl, Nat.le_refl _, fun h' => absurd h' h, fun _ _ => rfl⟩

theorem fromSubstring_eq (hk : kmpTable p = .ok T) (contains sf : Bool) :
    fromSubstring syms p contains sf = build (kmpDFA syms p T contains sf) := by
  -- the rows the code computes with `kmpNext`
  have hrows : ∀ n, (n ≤ p.length ∨ sf = true) → n ≤ p.length + 1 →
      rowsM (fun i => rowOfM (kmpNext p T i) syms) n 0 =
        .ok (tableOf (List.range n) nat (kmpRow syms p T sf)) := by
    intro n hn hn'
    rw [List.range_eq_range']
    refine rowsM_ok _ _ n 0 fun i _ hi => ?_
    have hd : kmpDelta p T sf i = fun a => getOk (kmpNext p T i a) :=
      funext fun a => if_pos (hn.imp (fun h => by omega) id)
    rw [kmpRow, hd]
    refine rowOfM_ok _ _ fun a _ => ?_
    obtain ⟨k, hk, _⟩ := kmpNext_spec p T hT i
      ((Nat.lt_or_ge i p.length).imp id fun h => ⟨by omega, hne⟩) a
    exact ⟨_, hk⟩
  have hemp : p.isEmpty = false := by cases p with
    | nil => exact absurd rfl hne
    | cons a t => rfl
  unfold fromSubstring kmpDFA flagDFA tableDFA
  rw [hemp, if_neg Bool.false_ne_true, hk]
  cases sf with
  | true =>
    simp only [if_true, hrows (p.length + 1) (Or.inr rfl) (Nat.le_refl _)]
    rfl
  | false =>
    simp only [Bool.false_eq_true, if_false, hrows p.length (Or.inl (Nat.le_refl _)) (Nat.le_succ _)]
    rw [snoc_ladder]
    · rfl
    · exact congrArg (rowOf syms) (funext fun a => if_neg (by simp) :
        kmpDelta p T false p.length = fun _ => nat p.length)

theorem kmp_sim (sf : Bool) :
    Sim syms (List.range (p.length + 1)) nat (kmpRow syms p T sf) (kmpStepN p T sf) :=
  Sim.ofRowOf (fun _ _ => nat_inj.mp) _ fun i hi a _ =>
    have h := kmpDelta_spec p T hT hne sf i (Nat.le_of_lt_succ (List.mem_range.mp hi)) a
    ⟨h.1, List.mem_range.mpr (Nat.lt_succ_of_le h.2.1)⟩

theorem kmp_fold_le (sf : Bool) (w : List α) (i : Nat) (hi : i ≤ p.length) :
    w.foldl (kmpStepN p T sf) i ≤ p.length :=
  List.foldlRecOn (motive := (· ≤ p.length)) w _ hi
    fun i hi a _ => (kmpDelta_spec p T hT hne sf i hi a).2.1

/-- **State invariant, suffix mode**: the state after `w` is the length of the longest prefix of
the pattern that is a suffix of `w`. -/
theorem kmp_inv_suffix (w : List α) :
    IsLps p w (w.foldl (kmpStepN p T true) 0) := by
  induction w using snoc_induction with
  | h0 => exact IsLps.nil p
  | hs w a ih =>
    rw [List.foldl_append, List.foldl_cons, List.foldl_nil]
    exact (kmpDelta_spec p T hT hne true _
      (kmp_fold_le p T hT hne true w 0 (Nat.zero_le _)) a).2.2.1 (Or.inr rfl) w ih

/-- **State invariant, substring mode**: absorbing at `|p|` once the pattern has occurred,
longest prefix-suffix before. -/
theorem kmp_inv_substring (w : List α) :
    (p <:+: w → w.foldl (kmpStepN p T false) 0 = p.length) ∧
    (¬ p <:+: w → IsLps p w (w.foldl (kmpStepN p T false) 0)) := by
  induction w using snoc_induction with
  | h0 => exact ⟨fun h => by rw [List.eq_nil_of_infix_nil h]; rfl, fun _ => IsLps.nil p⟩
  | hs w a ih =>
    rw [List.foldl_append, List.foldl_cons, List.foldl_nil]
    obtain ⟨_, _, h3, h5⟩ := kmpDelta_spec p T hT hne false _
      (kmp_fold_le p T hT hne false w 0 (Nat.zero_le _)) a
    by_cases hin : p <:+: w
    · refine ⟨fun _ => ?_, fun h => absurd (List.infix_concat_iff.mpr (Or.inr hin)) h⟩
      rw [ih.1 hin] at h5 ⊢
      exact h5 rfl rfl
    · have hl := ih.2 hin
      have hlt : w.foldl (kmpStepN p T false) 0 < p.length :=
        Nat.lt_of_le_of_ne hl.1.1 fun e => hin ((hl.full_iff p).mp e).isInfix
      have hl' := h3 (Or.inl hlt) w hl
      exact ⟨fun h => (List.infix_concat_iff.mp h).elim (hl'.full_iff p).mpr fun h => absurd h hin,
        fun _ => hl'⟩

theorem kmp_fold_top (sf : Bool) (w : List α) :
    w.foldl (kmpStepN p T sf) 0 = p.length ↔ (if sf then p <:+ w else p <:+: w) := by
  cases sf with
  | true => exact (kmp_inv_suffix p T hT hne w).full_iff p
  | false =>
    obtain ⟨h1, h2⟩ := kmp_inv_substring p T hT hne w
    refine ⟨fun e => Classical.byContradiction fun hin => ?_, h1⟩
    exact hin (((h2 hin).full_iff p).mp e).isInfix

/-- Below the top the automaton climbs on the next pattern symbol: `p[:i+1]` is its own longest
prefix-suffix. -/
theorem kmp_climb (sf : Bool) (i : Nat) (hi : i < p.length) :
    kmpStepN p T sf i p[i] = i + 1 := by
  have self : ∀ j, j ≤ p.length → IsLps p (p.take j) j := fun j hj =>
    ⟨⟨hj, List.suffix_refl _⟩, fun k hk => by
      have := hk.2.length_le
      rwa [List.length_take_of_le hk.1, List.length_take_of_le hj] at this⟩
  have := (kmpDelta_spec p T hT hne sf i (Nat.le_of_lt hi) p[i]).2.2.1 (Or.inl hi) _
    (self i (Nat.le_of_lt hi))
  rw [← List.take_succ_eq_append_getElem hi] at this
  exact this.unique p (self (i + 1) hi)

end dfa

/-- What `from_substring` returns for a non-empty pattern, without the `kmp_table`: a ladder of
height `|p| + 1` whose step function reaches the top exactly when the pattern has occurred, climbs
along the pattern and, in suffix mode, keeps the longest prefix of the pattern that is a suffix of
the input. -/
theorem fromSubstring_spec (syms p : List α) (hne : p ≠ []) (contains sf : Bool) :
    ∃ (row : Nat → List (α × Int)) (δ : Nat → α → Nat),
      Sim syms (List.range (p.length + 1)) nat row δ ∧
      fromSubstring syms p contains sf =
        build (flagDFA syms (List.range (p.length + 1)) nat row 0 p.length contains) ∧
      (∀ w, w.foldl δ 0 = p.length ↔ if sf then p <:+ w else p <:+: w) ∧
      (∀ i (hi : i < p.length), δ i p[i] = i + 1) ∧
      (sf = true → ∀ w, IsLps p w (w.foldl δ 0)) := by
  obtain ⟨T, hk, hT⟩ := kmpTable_ok p
  exact ⟨kmpRow syms p T sf, kmpStepN p T sf, kmp_sim syms p T hT hne sf,
    fromSubstring_eq syms p T hT hne hk contains sf, kmp_fold_top p T hT hne sf,
    kmp_climb p T hT hne sf, fun e w => by subst e; exact kmp_inv_suffix p T hT hne w⟩

/-- The empty pattern: `if not substring: return universal_language / empty_language` (finding
F10a). -/
theorem fromSubstring_empty (syms : List α) (contains sf : Bool) :
    fromSubstring syms [] contains sf =
      if contains then universalLanguage syms else emptyLanguage syms := rfl

end AV.Ctor.KMP
