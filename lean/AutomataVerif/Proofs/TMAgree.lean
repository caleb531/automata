/-
Proofs/TMAgree.lean — a deterministic table run as DTM, as NTM (`DTM.asNTM`) and as one-tape
MNTM (`DTM.asMNTM`): the three generators end the same way.  That final states carry no rows is a
hypothesis here; `Proofs/TMValidate.lean` derives it from `validate`.
-/
import AutomataVerif.Proofs.TMRun

namespace AV.TM
variable {σ Γ : Type} [DecidableEq σ] [DecidableEq Γ]

namespace DTM

/-- A `TMConfiguration(state, tape)` as the `MTMConfiguration(state, (tape,))` that the same table, run as
the one-tape machine `DTM.asMNTM`, yields in its place (`asMNTM_readStepwise`). -/
def toM (c : Cfg σ Γ) : MCfg σ Γ := { state := c.state, tapes := [c.tape] }

theorem asMNTM_getTransition (M : DTM σ Γ) (c : Cfg σ Γ) :
    M.asMNTM.getTransition c.state [c.tape] =
      (M.getTransition c.state c.tape.read).map fun r => [(r.1, [(r.2.1, r.2.2)])] := by
  rw [MNTM.getTransition_eq_bind, getTransition_eq_delta, delta, asMNTM, alookup_map_val]
  cases alookup c.state M.trans with
  | none => rfl
  | some row =>
    simp only [Option.map_some, Option.bind_some, List.map_cons, List.map_nil]
    exact alookup_map_key (fun s => [s]) (fun r : σ × Γ × Dir => [(r.1, [(r.2.1, r.2.2)])])
      (fun _ _ h => List.singleton_inj.mp h)

theorem asMNTM_children (M : DTM σ Γ) (c : Cfg σ Γ) :
    M.asMNTM.children (toM c) = (M.nxt c).map fun c' => [toM c'] := by
  unfold MNTM.children
  show (match M.asMNTM.getTransition c.state [c.tape] with | none => _ | some [] => _ | some (t0 :: ts) => _) = _
  rw [asMNTM_getTransition, nxt]
  cases M.getTransition c.state c.tape.read <;> rfl

theorem asMNTM_resume (M : DTM σ Γ) (hfin : ∀ q ∈ M.finals, alookup q M.trans = none)
    (c : Cfg σ Γ) :
    ResumeRel (fun st c => st = (toM c, [])) id toM (M.asMNTM.resume (toM c, [])) (M.resume c) := by
  have hch := M.asMNTM_children c
  by_cases hf : c.state ∈ M.finals
  · have hn : M.nxt c = none := by rw [nxt, getTransition_eq_delta, delta, hfin _ hf]; rfl
    have hf' : (toM c).state ∈ M.asMNTM.finals := hf
    simp [M.linGen.ret hf, MNTM.resume, hch, hn, hf', ResumeRel.ret]
  · have hf' : ¬ (toM c).state ∈ M.asMNTM.finals := hf
    cases hn : M.nxt c with
    | none => simp [M.linGen.stuck hf hn, MNTM.resume, hch, hn, hf', ResumeRel.raise]
    | some c' => simp [M.linGen.step hf hn, MNTM.resume, hch, hn, ResumeRel.yield]

theorem asMNTM_readStepwise (M : DTM σ Γ) (hfin : ∀ q ∈ M.finals, alookup q M.trans = none)
    (w : List Γ) (n : Nat) :
    M.asMNTM.readStepwise w n = ((M.readStepwise w n).1.map toM, (M.readStepwise w n).2) := by
  have h0 : M.asMNTM.initCfg w = toM (M.initCfg w) := by
    simp [MNTM.initCfg, MNTM.initTapes, asMNTM, toM, initCfg]
  obtain ⟨h1, h2⟩ := genStart_sim M.asMNTM.resume M.resume (fun st c => st = (toM c, [])) id toM
    (fun st c hst => by rw [hst]; exact M.asMNTM_resume hfin c) h0 (congrArg (·, []) h0) n
  exact Prod.ext ((List.map_id _).symm.trans h1) h2

theorem asNTM_getTransitions (M : DTM σ Γ) (q : σ) (s : Γ) :
    M.asNTM.getTransitions q s = (M.getTransition q s).toList := by
  rw [NTM.getTransitions_eq_delta, NTM.delta, getTransition_eq_delta, delta, asNTM, alookup_map_val]
  cases alookup q M.trans with
  | none => rfl
  | some row =>
    simp only [Option.map_some, Option.bind_some]
    rw [alookup_map_val (fun x => [x])]
    cases alookup s row <;> rfl

theorem asNTM_nxt (M : DTM σ Γ) (c : Cfg σ Γ) : M.asNTM.nxt [c] = some (M.nxt c).toList := by
  unfold NTM.nxt NTM.nextLevel NTM.nextCfgs nxt
  simp only [List.foldl_cons, List.foldl_nil, reduceCtorEq, if_false]
  rw [asNTM_getTransitions]
  cases M.getTransition c.state c.tape.read with
  | none => simp [dedup, sunion]
  | some r => simp [dedup, sunion, sinsert]

omit [DecidableEq σ] [DecidableEq Γ] in
theorem asNTM_fin (M : DTM σ Γ) (c : Cfg σ Γ) : M.asNTM.fin [c] ↔ c.state ∈ M.finals := by
  simp [NTM.fin, asNTM]

end DTM
end AV.TM
