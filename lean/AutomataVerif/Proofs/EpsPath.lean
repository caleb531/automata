/-
Proofs/EpsPath.lean — the path calculus of automata with ε-moves (no imports).  The regex builder,
the NFA operations (`Proofs/EpsOps*.lean`) and the readers (Proofs/Read) are read in it; graphs whose
edges carry languages (the GNFA tables) have their own `Walk` (Spec/GnfaRx.lean).  An
automaton is a step relation `σ → Option α → σ → Prop` (`none` reads nothing); `Path` are its runs,
`Acc` what it accepts from a state; languages are predicates on words (core-only counterparts of
Mathlib's `Language` operations, linked to them in `Proofs/EpsOpsA.lean` and `Proofs/RxDen.lean`).
The constructions are stated for an automaton whose moves are known on a set of states closed under
them.
-/

namespace AV.Rx

variable {σ α : Type}

/-- `Path step q w r`: the automaton can go from `q` to `r` reading `w` (`none`-steps read
nothing). -/
inductive Path (step : σ → Option α → σ → Prop) : σ → List α → σ → Prop
  | nil (q : σ) : Path step q [] q
  | eps {q t r : σ} {w : List α} : step q none t → Path step t w r → Path step q w r
  | sym {q t r : σ} {a : α} {w : List α} : step q (some a) t → Path step t w r →
      Path step q (a :: w) r

namespace Path
variable {step step' : σ → Option α → σ → Prop}

theorem trans {q r s : σ} {u v : List α} (h1 : Path step q u r) (h2 : Path step r v s) :
    Path step q (u ++ v) s := by
  induction h1 with
  | nil => simpa using h2
  | eps hs _ ih => exact Path.eps hs (ih h2)
  | sym hs _ ih => exact Path.sym hs (ih h2)

theorem single_eps {q t : σ} (h : step q none t) : Path step q [] t := Path.eps h (Path.nil _)

theorem single_sym {q t : σ} {a : α} (h : step q (some a) t) : Path step q [a] t :=
  Path.sym h (Path.nil _)

theorem snoc_eps {q r t : σ} {w : List α} (hp : Path step q w r) (h : step r none t) :
    Path step q w t := by
  simpa using hp.trans (single_eps h)

theorem snoc_sym {q r t : σ} {a : α} {w : List α} (hp : Path step q w r) (h : step r (some a) t) :
    Path step q (w ++ [a]) t := hp.trans (single_sym h)

theorem split_cons {p r : σ} {a : α} {u : List α} (hp : Path step p (a :: u) r) :
    ∃ p1 p2, Path step p [] p1 ∧ step p1 (some a) p2 ∧ Path step p2 u r := by
  generalize hw : a :: u = w at hp
  induction hp with
  | nil => cases hw
  | eps hs _ ih =>
    obtain ⟨p1, p2, h1, h2, h3⟩ := ih hw
    exact ⟨p1, p2, Path.eps hs h1, h2, h3⟩
  | sym hs hrest _ =>
    cases hw
    exact ⟨_, _, Path.nil _, hs, hrest⟩

theorem split_append {p r : σ} {u v : List α} (hp : Path step p (u ++ v) r) :
    ∃ m, Path step p u m ∧ Path step m v r := by
  induction u generalizing p with
  | nil => exact ⟨p, Path.nil _, hp⟩
  | cons a u ih =>
    obtain ⟨p1, p2, h1, h2, h3⟩ := hp.split_cons
    obtain ⟨m, h4, h5⟩ := ih h3
    exact ⟨m, h1.trans (Path.sym h2 h4), h5⟩

theorem map_on {τ : Type} {step2 : τ → Option α → τ → Prop} {S : σ → Prop} (f : σ → τ)
    (hS : ∀ q, S q → ∀ a t, step q a t → S t)
    (h : ∀ q, S q → ∀ a t, step q a t → step2 (f q) a (f t)) {q r : σ} {w : List α}
    (hp : Path step q w r) (hq : S q) : Path step2 (f q) w (f r) ∧ S r := by
  induction hp with
  | nil => exact ⟨Path.nil _, hq⟩
  | eps hs _ ih =>
    have ht := hS _ hq _ _ hs
    exact ⟨Path.eps (h _ hq _ _ hs) (ih ht).1, (ih ht).2⟩
  | sym hs _ ih =>
    have ht := hS _ hq _ _ hs
    exact ⟨Path.sym (h _ hq _ _ hs) (ih ht).1, (ih ht).2⟩

theorem closed_on {S : σ → Prop} (hS : ∀ q, S q → ∀ a t, step q a t → S t) {q r : σ} {w : List α}
    (hp : Path step q w r) (hq : S q) : S r :=
  (hp.map_on id hS (fun _ _ _ _ hs => hs) hq).2

theorem closed {S : σ → Prop} (hS : ∀ q a t, S q → step q a t → S t) {q r : σ} {w : List α}
    (hp : Path step q w r) (hq : S q) : S r :=
  hp.closed_on (fun q hq a t hs => hS q a t hq hs) hq

/-- The converse of `map_on`, along the names `nm` of structured states. -/
theorem lift {τ : Type} {astep : τ → Option α → τ → Prop} {V : τ → Prop} (nm : τ → σ)
    (hV : ∀ x, V x → ∀ a y, astep x a y → V y)
    (h : ∀ x, V x → ∀ a t, step (nm x) a t → ∃ y, astep x a y ∧ t = nm y) {x : τ} {r : σ}
    {w : List α} (hp : Path step (nm x) w r) (hx : V x) :
    ∃ y, r = nm y ∧ Path astep x w y ∧ V y := by
  generalize hs : nm x = s at hp
  induction hp generalizing x with
  | nil => exact ⟨x, hs.symm, Path.nil _, hx⟩
  | eps he _ ih =>
    subst hs
    obtain ⟨y, hy, rfl⟩ := h _ hx _ _ he
    obtain ⟨z, hz, hp, hv'⟩ := ih (hV _ hx _ _ hy) rfl
    exact ⟨z, hz, Path.eps hy hp, hv'⟩
  | sym he _ ih =>
    subst hs
    obtain ⟨y, hy, rfl⟩ := h _ hx _ _ he
    obtain ⟨z, hz, hp, hv'⟩ := ih (hV _ hx _ _ hy) rfl
    exact ⟨z, hz, Path.sym hy hp, hv'⟩

theorem eps_lift {τ : Type} {step2 : τ → Option α → τ → Prop} (f : σ → τ)
    (h : ∀ q t, step q none t → step2 (f q) none (f t)) {p r : σ}
    (hp : Path step p [] r) : Path step2 (f p) [] (f r) := by
  generalize hw : ([] : List α) = w at hp
  induction hp with
  | nil => exact Path.nil _
  | eps hs _ ih => exact Path.eps (h _ _ hs) (ih hw)
  | sym hs _ ih => cases hw

theorem reverse_on {S : σ → Prop} (hstep : ∀ q, S q → ∀ a p, step' q a p ↔ S p ∧ step p a q)
    {q t : σ} {w : List α} (hp : Path step' q w t) (hq : S q) :
    S t ∧ Path step t w.reverse q := by
  induction hp with
  | nil => exact ⟨hq, Path.nil _⟩
  | eps hs _ ih =>
    obtain ⟨ht, hs'⟩ := (hstep _ hq _ _).mp hs
    exact ⟨(ih ht).1, (ih ht).2.snoc_eps hs'⟩
  | sym hs _ ih =>
    obtain ⟨ht, hs'⟩ := (hstep _ hq _ _).mp hs
    exact ⟨(ih ht).1, List.reverse_cons ▸ (ih ht).2.snoc_sym hs'⟩

end Path

/-- `Acc step Fin q w`: the automaton with moves `step` and final states `Fin` accepts `w` from `q`.
The language of an automaton is `Acc step Fin init`; the constructions below relate such
languages, from any state of a closed set, not only from the initial one. -/
def Acc (step : σ → Option α → σ → Prop) (Fin : σ → Prop) (q : σ) (w : List α) : Prop :=
  ∃ f, Fin f ∧ Path step q w f

namespace Acc
variable {step : σ → Option α → σ → Prop} {Fin : σ → Prop}

theorem of_final {q : σ} (h : Fin q) : Acc step Fin q [] := ⟨q, h, Path.nil _⟩

theorem eps {q t : σ} {w : List α} (h : step q none t) (ha : Acc step Fin t w) :
    Acc step Fin q w := by
  obtain ⟨f, hf, hp⟩ := ha; exact ⟨f, hf, Path.eps h hp⟩

theorem sym {q t : σ} {a : α} {w : List α} (h : step q (some a) t) (ha : Acc step Fin t w) :
    Acc step Fin q (a :: w) := by
  obtain ⟨f, hf, hp⟩ := ha; exact ⟨f, hf, Path.sym h hp⟩

theorem prepend {q r : σ} {u v : List α} (hp : Path step q u r) (ha : Acc step Fin r v) :
    Acc step Fin q (u ++ v) := by
  obtain ⟨f, hf, hp2⟩ := ha; exact ⟨f, hf, hp.trans hp2⟩

theorem append_iff {q : σ} {u v : List α} :
    Acc step Fin q (u ++ v) ↔ ∃ m, Path step q u m ∧ Acc step Fin m v :=
  ⟨fun ⟨f, hf, hp⟩ => let ⟨m, h1, h2⟩ := hp.split_append; ⟨m, h1, f, hf, h2⟩,
    fun ⟨_, h1, h2⟩ => h2.prepend h1⟩

/-- An automaton that, on the image of a set `S` closed under `step`, is the copy of `step` along
`f` accepts from `f q` what the original accepts from `q`.  Every "sub-automaton", "renamed
automaton" and "embedded operand" of the development is an instance. -/
theorem copy {τ : Type} {step2 : τ → Option α → τ → Prop} {Fin2 : τ → Prop} {S : σ → Prop}
    (f : σ → τ) (hS : ∀ q, S q → ∀ a t, step q a t → S t)
    (hstep : ∀ q, S q → ∀ a t', step2 (f q) a t' ↔ ∃ t, step q a t ∧ t' = f t)
    (hfin : ∀ q, S q → (Fin2 (f q) ↔ Fin q)) {q : σ} (hq : S q) {w : List α} :
    Acc step2 Fin2 (f q) w ↔ Acc step Fin q w := by
  constructor
  · rintro ⟨r, hr, hp⟩
    obtain ⟨y, rfl, hpath, hy⟩ := hp.lift f hS (fun x hx a t => (hstep x hx a t).mp) hq
    exact ⟨y, (hfin y hy).mp hr, hpath⟩
  · rintro ⟨r, hr, hp⟩
    obtain ⟨hp', hr'⟩ := hp.map_on (step2 := step2) f hS
      (fun x hx a y hs => (hstep x hx a _).mpr ⟨y, hs, rfl⟩) hq
    exact ⟨_, (hfin r hr').mpr hr, hp'⟩

theorem congr_on {step2 : σ → Option α → σ → Prop} {Fin2 : σ → Prop} {S : σ → Prop}
    (hS : ∀ q, S q → ∀ a t, step q a t → S t) (hstep : ∀ q, S q → ∀ a t, step2 q a t ↔ step q a t)
    (hfin : ∀ q, S q → (Fin2 q ↔ Fin q)) {q : σ} (hq : S q) {w : List α} :
    Acc step2 Fin2 q w ↔ Acc step Fin q w :=
  copy id hS (fun q hq a t => (hstep q hq a t).trans ⟨fun h => ⟨t, h, rfl⟩, fun ⟨_, h, e⟩ => e ▸ h⟩)
    hfin hq

theorem congr {step2 : σ → Option α → σ → Prop} {Fin2 : σ → Prop}
    (hstep : ∀ q a t, step2 q a t ↔ step q a t) (hfin : ∀ q, Fin2 q ↔ Fin q) {q : σ}
    {w : List α} : Acc step2 Fin2 q w ↔ Acc step Fin q w :=
  congr_on (S := fun _ => True) (fun _ _ _ _ _ => trivial) (fun q _ => hstep q) (fun q _ => hfin q)
    trivial

theorem eps_source {n : σ} (hn : ∀ a t, ¬ step n (some a) t) {w : List α} :
    Acc step Fin n w ↔ (Fin n ∧ w = []) ∨ ∃ s, step n none s ∧ Acc step Fin s w := by
  constructor
  · rintro ⟨f, hf, hp⟩
    cases hp with
    | nil => exact Or.inl ⟨hf, rfl⟩
    | eps hs hrest => exact Or.inr ⟨_, hs, f, hf, hrest⟩
    | sym hs _ => exact absurd hs (hn _ _)
  · rintro (⟨h, rfl⟩ | ⟨s, hs, ha⟩)
    · exact of_final h
    · exact ha.eps hs

/-- A state whose only moves are silent ones into `J`: the fresh start state of union, star and option,
and the fresh initial state of the regex builder. -/
theorem new_source {n : σ} {J : σ → Prop} (hn : ∀ a t, step n a t ↔ a = none ∧ J t) {w : List α} :
    Acc step Fin n w ↔ (Fin n ∧ w = []) ∨ ∃ j, J j ∧ Acc step Fin j w :=
  (eps_source fun a t h => nomatch ((hn (some a) t).mp h).1).trans
    (or_congr_right ⟨fun ⟨s, hs, h⟩ => ⟨s, ((hn none s).mp hs).2, h⟩,
      fun ⟨j, hj, h⟩ => ⟨j, (hn none j).mpr ⟨rfl, hj⟩, h⟩⟩)

/-- Union: a non-final state whose only moves are silent ones to `j₁` and `j₂`. -/
theorem union_on {i j₁ j₂ : σ} (hi : ∀ a t, step i a t ↔ a = none ∧ (t = j₁ ∨ t = j₂))
    (hfin : ¬ Fin i) {w : List α} : Acc step Fin i w ↔ Acc step Fin j₁ w ∨ Acc step Fin j₂ w :=
  (new_source hi).trans
    ⟨fun h => h.elim (fun h => absurd h.1 hfin) fun ⟨_, hj, h⟩ => hj.elim (· ▸ Or.inl h) (· ▸ Or.inr h),
      fun h => Or.inr (h.elim (fun h => ⟨_, Or.inl rfl, h⟩) fun h => ⟨_, Or.inr rfl, h⟩)⟩

end Acc

def LCat (L M : List α → Prop) : List α → Prop := fun w => ∃ u v, L u ∧ M v ∧ w = u ++ v

def LPow (L : List α → Prop) : Nat → List α → Prop
  | 0 => fun w => w = []
  | k + 1 => LCat L (LPow L k)

def LStar (L : List α → Prop) : List α → Prop := fun w => ∃ k, LPow L k w

/-- `Interleave u v w`: `w` is an interleaving (shuffle) of `u` and `v`. -/
inductive Interleave : List α → List α → List α → Prop
  | nil : Interleave [] [] []
  | left (a : α) {u v w : List α} : Interleave u v w → Interleave (a :: u) v (a :: w)
  | right (a : α) {u v w : List α} : Interleave u v w → Interleave u (a :: v) (a :: w)

def LShuffle (L M : List α → Prop) : List α → Prop :=
  fun w => ∃ u v, L u ∧ M v ∧ Interleave u v w

theorem LPow_add {L : List α → Prop} {j k : Nat} {u v : List α} (hu : LPow L j u)
    (hv : LPow L k v) : LPow L (j + k) (u ++ v) := by
  induction j generalizing u with
  | zero => simp only [LPow] at hu; subst hu; simpa using hv
  | succ j ih =>
    obtain ⟨x, y, hx, hy, rfl⟩ := hu
    have : j + 1 + k = (j + k) + 1 := by omega
    rw [this]
    exact ⟨x, y ++ v, hx, ih hy, by simp⟩

theorem LPow_one {L : List α → Prop} {u : List α} (hu : L u) : LPow L 1 u :=
  ⟨u, [], hu, rfl, by simp⟩

theorem LPow_succ_right {L : List α → Prop} {k : Nat} {u v : List α} (hu : LPow L k u)
    (hv : L v) : LPow L (k + 1) (u ++ v) :=
  LPow_add hu (LPow_one hv)

theorem Interleave.nil_left (v : List α) : Interleave [] v v := by
  induction v with
  | nil => exact .nil
  | cons a v ih => exact .right a ih

theorem Interleave.nil_right (u : List α) : Interleave u [] u := by
  induction u with
  | nil => exact .nil
  | cons a u ih => exact .left a ih

section elim
variable {M E : σ → Option α → σ → Prop} {FM FE R : σ → Prop} {C : σ → σ → Prop}
  (hC : ∀ q r, C q r ↔ Path M q [] r) (hR : ∀ q, R q → ∀ a t, E q a t → R t)
  (hnone : ∀ q, R q → ∀ t, ¬ E q none t)
  (hlow : ∀ q, R q → ∀ a r, C q r → ∀ s, M r (some a) s → E q (some a) s)
  (hup : ∀ q, R q → ∀ a p, E q (some a) p → ∃ r, C q r ∧ ∃ s, M r (some a) s ∧ C s p)
  (hfin : ∀ q, R q → (FE q ↔ ∃ p, C q p ∧ FM p))
include hC hR hnone hlow hup hfin

/-- ε-elimination.  `C q` is the silent closure of `q` in `M`.  On `R`, closed under `E`, the
automaton `E` has no ε-moves, its symbol moves lie between "silently, then the symbol" and
"silently, the symbol, silently" of `M`, and a state is final in `E` iff its closure meets the
final states of `M`.  Then `E` accepts from `R` what `M` accepts. -/
theorem Acc.elim_on {q : σ} (hq : R q) {w : List α} : Acc E FE q w ↔ Acc M FM q w := by
  constructor
  · rintro ⟨t, ht, hp⟩
    have key : R t ∧ Path M q w t := by
      induction hp with
      | nil => exact ⟨hq, Path.nil _⟩
      | eps hs _ _ => exact absurd hs (hnone _ hq _)
      | sym hs _ ih =>
        obtain ⟨r, hr, s, hs', hsp⟩ := hup _ hq _ _ hs
        have hr' := (hC _ r).mp hr
        obtain ⟨hRt, hp⟩ := ih (hR _ hq _ _ hs) ht
        exact ⟨hRt, hr'.trans (Path.sym hs'
          (((hC s _).mp hsp).trans hp))⟩
    obtain ⟨p, hp', hpf⟩ := (hfin t key.1).mp ht
    exact ⟨p, hpf, by simpa using key.2.trans ((hC t p).mp hp')⟩
  · have key : ∀ {r w t}, Path M r w t → FM t → ∀ q, R q → Path M q [] r → Acc E FE q w := by
      intro r w t hp ht
      induction hp with
      | nil => exact fun q hq hr => Acc.of_final ((hfin q hq).mpr ⟨_, (hC q _).mpr hr, ht⟩)
      | eps hs _ ih => exact fun q hq hr => ih ht q hq (hr.snoc_eps hs)
      | sym hs _ ih =>
        intro q hq hr
        have hs' := hlow q hq _ _ ((hC q _).mpr hr) _ hs
        exact (ih ht _ (hR q hq _ _ hs') (Path.nil _)).sym hs'
    rintro ⟨t, ht, hp⟩
    exact key hp ht q hq (Path.nil _)

end elim

/-- Sequencing, for a result known on the copy of the first phase: the copy has the moves of
`step` and silent bridges `B q j` that leave it, and none of its states is final.  An accepting
path follows the copy up to some state, crosses one bridge and is accepted from there. -/
theorem Acc.seq_on {τ : Type} {step : σ → Option α → σ → Prop}
    {step2 : τ → Option α → τ → Prop} {Fin2 : τ → Prop} {S : σ → Prop} (f : σ → τ)
    (B : σ → τ → Prop) (hS : ∀ q, S q → ∀ a t, step q a t → S t)
    (hstep : ∀ q, S q → ∀ a t',
      step2 (f q) a t' ↔ (∃ t, step q a t ∧ t' = f t) ∨ (a = none ∧ B q t'))
    (hfin : ∀ q, S q → ¬ Fin2 (f q)) {q : σ} (hq : S q) {w : List α} :
    Acc step2 Fin2 (f q) w ↔
      ∃ u v r j, Path step q u r ∧ B r j ∧ Acc step2 Fin2 j v ∧ w = u ++ v := by
  constructor
  · rintro ⟨r, hr, hp⟩
    generalize hs : f q = s at hp
    induction hp generalizing q with
    | nil => exact absurd hr (hs ▸ hfin q hq)
    | eps he hrest ih =>
      subst hs
      rcases (hstep _ hq _ _).mp he with ⟨t, ht, rfl⟩ | ⟨_, hb⟩
      · obtain ⟨u, v, r', j, hu, hb, hv, rfl⟩ := ih (hS _ hq _ _ ht) hr rfl
        exact ⟨u, v, r', j, Path.eps ht hu, hb, hv, rfl⟩
      · exact ⟨[], _, q, _, Path.nil _, hb, ⟨_, hr, hrest⟩, rfl⟩
    | sym he _ ih =>
      subst hs
      rcases (hstep _ hq _ _).mp he with ⟨t, ht, rfl⟩ | ⟨e, _⟩
      · obtain ⟨u, v, r', j, hu, hb, hv, rfl⟩ := ih (hS _ hq _ _ ht) hr rfl
        exact ⟨_ :: u, v, r', j, Path.sym ht hu, hb, hv, rfl⟩
      · cases e
  · rintro ⟨u, v, r, j, hp, hb, hv, rfl⟩
    obtain ⟨hp', hr'⟩ := hp.map_on (step2 := step2) f hS
      (fun x hx a y hs => (hstep x hx a _).mpr (Or.inl ⟨y, hs, rfl⟩)) hq
    exact Acc.prepend hp' (hv.eps ((hstep r hr' none j).mpr (Or.inr ⟨rfl, hb⟩)))

/-- Concatenation: the bridges are ε-moves from the final states of the first operand to `j`. -/
theorem Acc.concat_on {τ : Type} {step : σ → Option α → σ → Prop} {Fin : σ → Prop}
    {step2 : τ → Option α → τ → Prop} {Fin2 : τ → Prop} {S : σ → Prop} (f : σ → τ) (j : τ)
    (hS : ∀ q, S q → ∀ a t, step q a t → S t)
    (hstep : ∀ q, S q → ∀ a t',
      step2 (f q) a t' ↔ (∃ t, step q a t ∧ t' = f t) ∨ (a = none ∧ Fin q ∧ t' = j))
    (hfin : ∀ q, S q → ¬ Fin2 (f q)) {q : σ} (hq : S q) {w : List α} :
    Acc step2 Fin2 (f q) w ↔ LCat (Acc step Fin q) (Acc step2 Fin2 j) w :=
  (Acc.seq_on f (fun q t' => Fin q ∧ t' = j) hS hstep hfin hq).trans
    ⟨fun ⟨u, v, r, _, hp, ⟨hr, e⟩, hv, hw⟩ => ⟨u, v, ⟨r, hr, hp⟩, e ▸ hv, hw⟩,
      fun ⟨u, v, ⟨r, hr, hp⟩, hv, hw⟩ => ⟨u, v, r, j, hp, ⟨hr, rfl⟩, hv, hw⟩⟩

/-- Iteration on a closed set: the moves of the operand and an ε-move from every final state
back to `i`.  From `i` the result accepts the words of `L⁺`, `L` the language of the operand. -/
theorem Acc.plus_on {step step2 : σ → Option α → σ → Prop} {Fin Fin2 : σ → Prop} {S : σ → Prop}
    {i : σ} (hS : ∀ q, S q → ∀ a t, step q a t → S t) (hi : S i)
    (hstep : ∀ q, S q → ∀ a t, step2 q a t ↔ step q a t ∨ (a = none ∧ Fin q ∧ t = i))
    (hfin : ∀ q, S q → (Fin2 q ↔ Fin q)) {w : List α} :
    Acc step2 Fin2 i w ↔ ∃ k, LPow (Acc step Fin i) (k + 1) w := by
  constructor
  · -- each return to `i` closes one word of `L`
    have key : ∀ {q w r}, Path step2 q w r → S q → Fin2 r →
        ∃ k, LCat (Acc step Fin q) (LPow (Acc step Fin i) k) w := by
      intro q w r hp
      induction hp with
      | nil => exact fun hq hr => ⟨0, [], [], Acc.of_final ((hfin _ hq).mp hr), rfl, rfl⟩
      | eps he _ ih =>
        intro hq hr
        rcases (hstep _ hq _ _).mp he with h | ⟨_, hf, rfl⟩
        · obtain ⟨k, u, v, hu, hv, rfl⟩ := ih (hS _ hq _ _ h) hr
          exact ⟨k, u, v, hu.eps h, hv, rfl⟩
        · obtain ⟨k, u, v, hu, hv, rfl⟩ := ih hi hr
          exact ⟨k + 1, [], u ++ v, Acc.of_final hf, ⟨u, v, hu, hv, rfl⟩, rfl⟩
      | sym he _ ih =>
        intro hq hr
        rcases (hstep _ hq _ _).mp he with h | ⟨e, _⟩
        · obtain ⟨k, u, v, hu, hv, rfl⟩ := ih (hS _ hq _ _ h) hr
          exact ⟨k, _ :: u, v, hu.sym h, hv, rfl⟩
        · cases e
    rintro ⟨r, hr, hp⟩
    exact key hp hi hr
  · rintro ⟨k, hk⟩
    induction k generalizing w with
    | zero =>
      obtain ⟨u, _, ⟨f, hf, hp⟩, rfl, rfl⟩ := hk
      obtain ⟨hp', hf'⟩ := hp.map_on (step2 := step2) id hS
        (fun x hx a y hs => (hstep x hx a y).mpr (Or.inl hs)) hi
      exact ⟨f, (hfin f hf').mpr hf, by simpa using hp'⟩
    | succ k ih =>
      obtain ⟨u, v, ⟨f, hf, hp⟩, hv, rfl⟩ := hk
      obtain ⟨hp', hf'⟩ := hp.map_on (step2 := step2) id hS
        (fun x hx a y hs => (hstep x hx a y).mpr (Or.inl hs)) hi
      exact Acc.prepend hp' ((ih hv).eps ((hstep f hf' none i).mpr (Or.inr ⟨rfl, hf, rfl⟩)))

section product
variable {τ : Type} {s1 : σ → Option α → σ → Prop} {s2 : τ → Option α → τ → Prop}

/-- Asynchronous product: every move is a move of one side. -/
def shufStep (s1 : σ → Option α → σ → Prop) (s2 : τ → Option α → τ → Prop) (pq : σ × τ)
    (a : Option α) (pq' : σ × τ) : Prop :=
  (s1 pq.1 a pq'.1 ∧ pq'.2 = pq.2) ∨ (pq'.1 = pq.1 ∧ s2 pq.2 a pq'.2)

/-- Synchronous product: ε-moves are moves of one side, symbols are read by both. -/
def prodStep (s1 : σ → Option α → σ → Prop) (s2 : τ → Option α → τ → Prop) (pq : σ × τ)
    (a : Option α) (pq' : σ × τ) : Prop :=
  match a with
  | none => shufStep s1 s2 pq none pq'
  | some x => s1 pq.1 (some x) pq'.1 ∧ s2 pq.2 (some x) pq'.2

theorem shufStep_left {p p' : σ} {a : Option α} (h : s1 p a p') (q : τ) :
    shufStep s1 s2 (p, q) a (p', q) := Or.inl ⟨h, rfl⟩

theorem shufStep_right {q q' : τ} {a : Option α} (p : σ) (h : s2 q a q') :
    shufStep s1 s2 (p, q) a (p, q') := Or.inr ⟨rfl, h⟩

section closed
variable {S1 : σ → Prop} {S2 : τ → Prop} (h1 : ∀ q, S1 q → ∀ a t, s1 q a t → S1 t)
  (h2 : ∀ q, S2 q → ∀ a t, s2 q a t → S2 t)
include h1 h2

theorem shufStep_closed {x y : σ × τ} {a : Option α} (hx : S1 x.1 ∧ S2 x.2)
    (h : shufStep s1 s2 x a y) : S1 y.1 ∧ S2 y.2 := by
  rcases h with ⟨h, e⟩ | ⟨e, h⟩
  · exact ⟨h1 _ hx.1 _ _ h, e ▸ hx.2⟩
  · exact ⟨e ▸ hx.1, h2 _ hx.2 _ _ h⟩

theorem prodStep_closed {x y : σ × τ} {a : Option α} (hx : S1 x.1 ∧ S2 x.2)
    (h : prodStep s1 s2 x a y) : S1 y.1 ∧ S2 y.2 := by
  cases a with
  | none => exact shufStep_closed h1 h2 hx h
  | some a => exact ⟨h1 _ hx.1 _ _ h.1, h2 _ hx.2 _ _ h.2⟩

end closed

theorem Path.shuffle_iff {x y : σ × τ} {w : List α} :
    Path (shufStep s1 s2) x w y ↔
      ∃ u v, Path s1 x.1 u y.1 ∧ Path s2 x.2 v y.2 ∧ Interleave u v w := by
  constructor
  · intro hp
    induction hp with
    | nil => exact ⟨[], [], Path.nil _, Path.nil _, .nil⟩
    | eps hs _ ih =>
      obtain ⟨u, v, hu, hv, hi⟩ := ih
      rcases hs with ⟨h, e⟩ | ⟨e, h⟩
      · exact ⟨u, v, Path.eps h hu, e ▸ hv, hi⟩
      · exact ⟨u, v, e ▸ hu, Path.eps h hv, hi⟩
    | @sym _ _ _ a _ hs _ ih =>
      obtain ⟨u, v, hu, hv, hi⟩ := ih
      rcases hs with ⟨h, e⟩ | ⟨e, h⟩
      · exact ⟨a :: u, v, Path.sym h hu, e ▸ hv, .left a hi⟩
      · exact ⟨u, a :: v, e ▸ hu, Path.sym h hv, .right a hi⟩
  · obtain ⟨p, q⟩ := x
    obtain ⟨f1, f2⟩ := y
    rintro ⟨u, v, hu, hv, hi⟩
    have left : ∀ {p p' : σ} (q : τ), Path s1 p [] p' → Path (shufStep s1 s2) (p, q) [] (p', q) :=
      fun q => Path.eps_lift (fun p => (p, q)) (fun _ _ h => shufStep_left h q)
    have right : ∀ (p : σ) {q q' : τ}, Path s2 q [] q' → Path (shufStep s1 s2) (p, q) [] (p, q') :=
      fun p => Path.eps_lift (fun q => (p, q)) (fun _ _ h => shufStep_right p h)
    induction hi generalizing p q with
    | nil => exact (left q hu).trans (right f1 hv)
    | left a _ ih =>
      obtain ⟨p1, p2, e1, e2, e3⟩ := hu.split_cons
      exact (left q e1).trans (Path.sym (shufStep_left e2 q) (ih _ _ e3 hv))
    | right a _ ih =>
      obtain ⟨q1, q2, e1, e2, e3⟩ := hv.split_cons
      exact (right p e1).trans (Path.sym (shufStep_right p e2) (ih _ _ hu e3))

theorem Path.prod_iff {x y : σ × τ} {w : List α} :
    Path (prodStep s1 s2) x w y ↔ Path s1 x.1 w y.1 ∧ Path s2 x.2 w y.2 := by
  constructor
  · intro hp
    induction hp with
    | nil => exact ⟨Path.nil _, Path.nil _⟩
    | eps hs _ ih =>
      rcases hs with ⟨h, e⟩ | ⟨e, h⟩
      · exact ⟨Path.eps h ih.1, e ▸ ih.2⟩
      · exact ⟨e ▸ ih.1, Path.eps h ih.2⟩
    | sym hs _ ih => exact ⟨Path.sym hs.1 ih.1, Path.sym hs.2 ih.2⟩
  · obtain ⟨p, q⟩ := x
    obtain ⟨f1, f2⟩ := y
    rintro ⟨hu, hv⟩
    have left : ∀ {p p' : σ} (q : τ), Path s1 p [] p' → Path (prodStep s1 s2) (p, q) [] (p', q) :=
      fun q => Path.eps_lift (step2 := prodStep s1 s2) (fun p => (p, q))
        (fun _ _ h => shufStep_left h q)
    have right : ∀ (p : σ) {q q' : τ}, Path s2 q [] q' → Path (prodStep s1 s2) (p, q) [] (p, q') :=
      fun p => Path.eps_lift (step2 := prodStep s1 s2) (fun q => (p, q))
        (fun _ _ h => shufStep_right p h)
    induction w generalizing p q with
    | nil => exact (left q hu).trans (right f1 hv)
    | cons a w ih =>
      obtain ⟨p1, p2, e1, e2, e3⟩ := hu.split_cons
      obtain ⟨q1, q2, g1, g2, g3⟩ := hv.split_cons
      exact ((left q e1).trans (right p1 g1)).trans (Path.sym ⟨e2, g2⟩ (ih _ _ e3 g3))

variable {F1 : σ → Prop} {F2 : τ → Prop}

theorem Acc.prod_iff {x : σ × τ} {w : List α} :
    Acc (prodStep s1 s2) (fun y => F1 y.1 ∧ F2 y.2) x w ↔ Acc s1 F1 x.1 w ∧ Acc s2 F2 x.2 w := by
  constructor
  · rintro ⟨y, hy, hp⟩
    exact ⟨⟨y.1, hy.1, (Path.prod_iff.mp hp).1⟩, ⟨y.2, hy.2, (Path.prod_iff.mp hp).2⟩⟩
  · rintro ⟨⟨f1, hf1, hu⟩, ⟨f2, hf2, hv⟩⟩
    exact ⟨(f1, f2), ⟨hf1, hf2⟩, Path.prod_iff.mpr ⟨hu, hv⟩⟩

theorem Acc.shuffle_iff {x : σ × τ} {w : List α} :
    Acc (shufStep s1 s2) (fun y => F1 y.1 ∧ F2 y.2) x w ↔
      LShuffle (Acc s1 F1 x.1) (Acc s2 F2 x.2) w := by
  constructor
  · rintro ⟨y, hy, hp⟩
    obtain ⟨u, v, hu, hv, hi⟩ := Path.shuffle_iff.mp hp
    exact ⟨u, v, ⟨y.1, hy.1, hu⟩, ⟨y.2, hy.2, hv⟩, hi⟩
  · rintro ⟨u, v, ⟨f1, hf1, hu⟩, ⟨f2, hf2, hv⟩, hi⟩
    exact ⟨(f1, f2), ⟨hf1, hf2⟩, Path.shuffle_iff.mpr ⟨u, v, hu, hv, hi⟩⟩

end product

/-- All moves of `s`, made silent. -/
def hideStep (s : σ → Option α → σ → Prop) (q : σ) (a : Option α) (t : σ) : Prop :=
  a = none ∧ ∃ b, s q b t

theorem Path.hide_iff {s : σ → Option α → σ → Prop} {q r : σ} {w : List α} :
    Path (hideStep s) q w r ↔ w = [] ∧ ∃ x, Path s q x r := by
  constructor
  · intro hp
    induction hp with
    | nil => exact ⟨rfl, [], Path.nil _⟩
    | eps hs _ ih =>
      obtain ⟨e, x, hx⟩ := ih
      obtain ⟨_, b, hb⟩ := hs
      cases b with
      | none => exact ⟨e, x, Path.eps hb hx⟩
      | some b => exact ⟨e, b :: x, Path.sym hb hx⟩
    | sym hs _ _ => cases hs.1
  · rintro ⟨rfl, x, hx⟩
    induction hx with
    | nil => exact Path.nil _
    | eps hs _ ih => exact Path.eps ⟨rfl, none, hs⟩ ih
    | sym hs _ ih => exact Path.eps ⟨rfl, some _, hs⟩ ih

theorem Acc.hide_iff {Fin : σ → Prop} {s : σ → Option α → σ → Prop} {q : σ} {w : List α} :
    Acc (hideStep s) Fin q w ↔ w = [] ∧ ∃ x, Acc s Fin q x :=
  ⟨fun ⟨f, hf, hp⟩ => let ⟨e, x, hx⟩ := Path.hide_iff.mp hp; ⟨e, x, f, hf, hx⟩,
    fun ⟨e, x, f, hf, hx⟩ => ⟨f, hf, Path.hide_iff.mpr ⟨e, x, hx⟩⟩⟩

section quotient
variable {σ₁ σ₂ : Type}
  {M : σ₁ × σ₂ × Bool → Option α → σ₁ × σ₂ × Bool → Prop} {FM : σ₁ × σ₂ × Bool → Prop}
  {E₁ : σ₁ → Option α → σ₁ → Prop} {E₂ : σ₂ → Option α → σ₂ → Prop}
  {F₁ : σ₁ → Prop} {F₂ : σ₂ → Prop} {R₁ : σ₁ → Prop} {R₂ : σ₂ → Prop}

/-- Both sides move on a common symbol, silently; `b` is the flag carried along. -/
def Sync (E₁ : σ₁ → Option α → σ₁ → Prop) (E₂ : σ₂ → Option α → σ₂ → Prop) (b : Bool)
    (qa : σ₁) (qb : σ₂) (a : Option α) (t : σ₁ × σ₂ × Bool) : Prop :=
  a = none ∧ ∃ c pa pb, E₁ qa (some c) pa ∧ E₂ qb (some c) pb ∧ t = (pa, pb, b)

section
variable (hR₁ : ∀ q, R₁ q → ∀ a t, E₁ q a t → R₁ t) (hR₂ : ∀ q, R₂ q → ∀ a t, E₂ q a t → R₂ t)
  (he₁ : ∀ q, R₁ q → ∀ t, ¬ E₁ q none t) (he₂ : ∀ q, R₂ q → ∀ t, ¬ E₂ q none t)
include he₁ he₂

/-- On ε-free operands a `Sync` move is a move of the synchronous product with its symbols
hidden. -/
theorem sync_step_iff (b : Bool) {s : σ₁ × σ₂} (hs : R₁ s.1 ∧ R₂ s.2) {a : Option α}
    {t' : σ₁ × σ₂ × Bool} :
    Sync E₁ E₂ b s.1 s.2 a t' ↔ ∃ t, hideStep (prodStep E₁ E₂) s a t ∧ t' = (t.1, t.2, b) := by
  constructor
  · rintro ⟨rfl, c, pa, pb, hpa, hpb, rfl⟩
    exact ⟨(pa, pb), ⟨rfl, some c, hpa, hpb⟩, rfl⟩
  · rintro ⟨t, ⟨rfl, c, h⟩, rfl⟩
    cases c with
    | some c => exact ⟨rfl, c, t.1, t.2, h.1, h.2, rfl⟩
    | none =>
      rcases h with ⟨h, _⟩ | ⟨_, h⟩
      · exact absurd h (he₁ _ hs.1 _)
      · exact absurd h (he₂ _ hs.2 _)

include hR₁ hR₂

omit he₁ he₂ in
theorem sync_closed (s : σ₁ × σ₂) (hs : R₁ s.1 ∧ R₂ s.2) (a : Option α) (t : σ₁ × σ₂)
    (h : hideStep (prodStep E₁ E₂) s a t) : R₁ t.1 ∧ R₂ t.2 :=
  prodStep_closed hR₁ hR₂ hs h.2.choose_spec

/-- The synchronised silent phase: there `M` is the copy of the hidden synchronous product, so it
reads nothing and reaches the pairs that the two sides reach on a common word. -/
theorem acc_sync (b : Bool) (Fin : σ₁ × σ₂ → Prop)
    (hstep : ∀ qa, R₁ qa → ∀ qb, R₂ qb → ∀ a t, M (qa, qb, b) a t ↔ Sync E₁ E₂ b qa qb a t)
    (hfin : ∀ qa, R₁ qa → ∀ qb, R₂ qb → (FM (qa, qb, b) ↔ Fin (qa, qb)))
    {qa : σ₁} {qb : σ₂} (hqa : R₁ qa) (hqb : R₂ qb) {v : List α} :
    Acc M FM (qa, qb, b) v ↔ v = [] ∧ ∃ x, Acc (prodStep E₁ E₂) Fin (qa, qb) x :=
  (Acc.copy (S := fun s : σ₁ × σ₂ => R₁ s.1 ∧ R₂ s.2)
    (step := hideStep (prodStep E₁ E₂)) (fun s => (s.1, s.2, b)) (sync_closed hR₁ hR₂)
    (fun s hs a t => (hstep s.1 hs.1 s.2 hs.2 a t).trans (sync_step_iff he₁ he₂ b hs))
    (fun s hs => hfin s.1 hs.1 s.2 hs.2) (q := (qa, qb)) ⟨hqa, hqb⟩).trans Acc.hide_iff

variable {i₁ : σ₁} {i₂ : σ₂} (hi₁ : R₁ i₁) (hi₂ : R₂ i₂)
  (hacc : ∀ s, FM s ↔ ∃ qa, F₁ qa ∧ ∃ qb, F₂ qb ∧ s = (qa, qb, true))
include hi₁ hi₂ hacc

/-- Right quotient of two ε-free relations `E₁`, `E₂` (on closed sets `R₁`, `R₂`): flag `false` =
still reading the word (the copy of `E₁`, the second component parked at `i₂`), one ε-move flips
the flag, then both components move silently on a common symbol. -/
theorem Acc.right_quotient
    (hA : ∀ q, R₁ q → ∀ a t, M (q, i₂, false) a t ↔
      (∃ p, E₁ q a p ∧ t = (p, i₂, false)) ∨ (a = none ∧ t = (q, i₂, true)))
    (hB : ∀ qa, R₁ qa → ∀ qb, R₂ qb → ∀ a t, M (qa, qb, true) a t ↔ Sync E₁ E₂ true qa qb a t)
    {w : List α} :
    Acc M FM (i₁, i₂, false) w ↔ ∃ x, Acc E₂ F₂ i₂ x ∧ Acc E₁ F₁ i₁ (w ++ x) := by
  -- phase 1: the copy of `E₁` along `q ↦ (q, i₂, false)`, left by the flip of the flag
  have h1 := fun w => Acc.seq_on (S := R₁) (step := E₁) (step2 := M) (Fin2 := FM) (w := w)
    (fun q => (q, i₂, false)) (fun q j => j = (q, i₂, true)) hR₁ hA
    (fun q _ h => by obtain ⟨_, _, _, _, e⟩ := (hacc _).mp h; cases e) hi₁
  -- phase 2: the hidden synchronous product
  have h2 := fun (q : σ₁) (hq : R₁ q) v => (acc_sync (M := M) (FM := FM) hR₁ hR₂ he₁ he₂ true
    (fun s => F₁ s.1 ∧ F₂ s.2) hB
    (fun qa _ qb _ => (hacc _).trans ⟨fun ⟨_, h1, _, h2, e⟩ => by cases e; exact ⟨h1, h2⟩,
      fun ⟨h1, h2⟩ => ⟨_, h1, _, h2, rfl⟩⟩) hq hi₂ (v := v)).trans
    (and_congr_right fun _ => exists_congr fun _ => Acc.prod_iff)
  have hin : ∀ {u r}, Path E₁ i₁ u r → R₁ r := fun hp => hp.closed_on hR₁ hi₁
  rw [h1]
  simp only [Acc.append_iff]
  constructor
  · rintro ⟨u, v, r, _, hp, rfl, hv, rfl⟩
    obtain ⟨rfl, x, hx₁, hx₂⟩ := (h2 r (hin hp) v).mp hv
    exact ⟨x, hx₂, r, by simpa using hp, hx₁⟩
  · rintro ⟨x, hx₂, r, hp, hx₁⟩
    exact ⟨w, [], r, _, hp, rfl, (h2 r (hin hp) []).mpr ⟨rfl, x, hx₁, hx₂⟩, by simp⟩

/-- Left quotient: flag `false` = both components move silently on a common symbol (reading the
prefix); where the second component is final one ε-move flips the flag; flag `true` = the copy
of `E₁` on the remaining word. -/
theorem Acc.left_quotient
    (hA : ∀ qa, R₁ qa → ∀ qb, R₂ qb → ∀ a t, M (qa, qb, false) a t ↔
      Sync E₁ E₂ false qa qb a t ∨ (a = none ∧ F₂ qb ∧ t = (qa, qb, true)))
    (hB : ∀ qa, R₁ qa → ∀ qb, F₂ qb → ∀ a t, M (qa, qb, true) a t ↔
      ∃ p, E₁ qa a p ∧ t = (p, qb, true))
    {w : List α} :
    Acc M FM (i₁, i₂, false) w ↔ ∃ x, Acc E₂ F₂ i₂ x ∧ Acc E₁ F₁ i₁ (x ++ w) := by
  -- phase 1: the hidden synchronous product, left by the flip of the flag at a final `qb`
  have h1 := fun w => Acc.seq_on (S := fun s : σ₁ × σ₂ => R₁ s.1 ∧ R₂ s.2)
    (step := hideStep (prodStep E₁ E₂)) (step2 := M) (Fin2 := FM) (w := w)
    (fun s => (s.1, s.2, false)) (fun s j => F₂ s.2 ∧ j = (s.1, s.2, true)) (sync_closed hR₁ hR₂)
    (fun s hs a t' => (hA s.1 hs.1 s.2 hs.2 a t').trans
      (or_congr (sync_step_iff he₁ he₂ false hs) Iff.rfl))
    (fun s _ h => by obtain ⟨_, _, _, _, e⟩ := (hacc _).mp h; cases e) (q := (i₁, i₂)) ⟨hi₁, hi₂⟩
  -- phase 2: the copy of `E₁` along `q ↦ (q, qb, true)`
  have h2 := fun (qb : σ₂) (hf : F₂ qb) (q : σ₁) (hq : R₁ q) v =>
    Acc.copy (S := R₁) (step := E₁) (Fin := F₁) (step2 := M) (Fin2 := FM) (w := v)
      (fun q => (q, qb, true)) hR₁ (fun q hq => hB q hq qb hf)
      (fun q _ => (hacc _).trans ⟨fun ⟨_, h, _, _, e⟩ => by cases e; exact h,
        fun h => ⟨_, h, _, hf, rfl⟩⟩) hq
  have hin : ∀ {x} {r : σ₁ × σ₂}, Path E₁ i₁ x r.1 → Path E₂ i₂ x r.2 → R₁ r.1 :=
    fun h1 h2 => ((Path.prod_iff (x := (i₁, i₂))).mpr ⟨h1, h2⟩ |>.closed_on
      (S := fun s => R₁ s.1 ∧ R₂ s.2) (fun _ hs _ _ => prodStep_closed hR₁ hR₂ hs) ⟨hi₁, hi₂⟩).1
  rw [h1]
  simp only [Acc.append_iff, Path.hide_iff, Path.prod_iff]
  constructor
  · rintro ⟨_, v, r, _, ⟨rfl, x, hx₁, hx₂⟩, ⟨hf, rfl⟩, hv, rfl⟩
    exact ⟨x, ⟨r.2, hf, hx₂⟩, r.1, hx₁, (h2 r.2 hf r.1 (hin hx₁ hx₂) _).mp hv⟩
  · rintro ⟨x, ⟨q₂, hf, hx₂⟩, q₁, hx₁, hv⟩
    exact ⟨[], w, (q₁, q₂), _, ⟨rfl, x, hx₁, hx₂⟩, ⟨hf, rfl⟩,
      (h2 q₂ hf q₁ (hin (r := (q₁, q₂)) hx₁ hx₂) w).mpr hv, rfl⟩

end

end quotient

end AV.Rx
