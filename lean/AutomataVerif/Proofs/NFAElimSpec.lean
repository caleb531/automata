/-
Proofs/NFAElimSpec.lean — `_eliminate_lambda` (Model/NFAElim.lean `NFAElim.core`) on a valid
NFA never raises and returns a triple satisfying `ElimSpec`.  Its loop body is `NFA.elimStep`
(`stateStep_eq`), so the loop is read through the invariant `C07.LoopInv` of Proofs/Elim.lean and
the pruning to the reachable states through `C07.LoopInv.elimSpec`.  Core only.
-/
import AutomataVerif.Proofs.NFAElimDefs
import AutomataVerif.Proofs.NFAOpsUnary
import AutomataVerif.Proofs.Elim

open AV.AL

namespace AV.NFAElim
open AV AV.NFA

variable {σ α : Type} [DecidableEq σ] [DecidableEq α]

set_option linter.unusedSectionVars false in
theorem el_ok_filter {S : Option α → Prop} {T : σ → Prop} {t : Tbl σ α} (h : Tbl.Ok S T t)
    (f : σ × Row σ α → Bool) : Tbl.Ok S T (t.filter f) :=
  fun kv hkv => h kv (List.mem_filter.mp hkv).1

/-- The loop body of `_eliminate_lambda` in this model is the one of Model/Convert.lean
(`NFA.elimStep`, read in Proofs/Elim.lean), spelt differently; on a state of a valid NFA no
subscript fails. -/
theorem stateStep_eq {A : NFA σ α} (wf : A.WF) (acc : Tbl σ α × List σ) {s : σ} (hs : s ∈ A.states) :
    stateStep A acc s = .ok (A.elimStep acc s) := by
  have h1 := NFA.closureE_eq (n := A) hs
  have hencl : ((A.closure s).filter fun p => !decide (p = s)) = C07.encl A s :=
    List.filter_congr fun p _ => by by_cases h : p = s <;> simp [h]
  have hsym (t : Tbl σ α) (a : α) : (match A.nextStates (C07.encl A s) a with
      | [] => t
      | _ :: _ => Tbl.addTargets t s (some a) (A.nextStates (C07.encl A s) a)) = C07.tabSym A s t a := by
    unfold C07.tabSym
    cases A.nextStates (C07.encl A s) a <;> rfl
  have hpop (t : Tbl σ α) : (match alookup s t with
      | some row => ainsert s (aerase none row) t
      | none => t) = C07.popEps s t := by
    unfold C07.popEps
    cases alookup s t with
    | none => rfl
    | some row =>
      exact congrArg (ainsert s · t) (List.filter_congr fun e _ => by cases e.1 <;> rfl)
  have hfin : (if ((C07.encl A s).any fun p => decide (p ∈ acc.2)) then sinsert s acc.2 else acc.2) =
      C07.finStep A acc.2 s := by
    have : ((C07.encl A s).any fun p => decide (p ∈ acc.2)) =
        acc.2.any fun p => decide (p ∈ C07.encl A s) := by
      rw [Bool.eq_iff_iff, List.any_eq_true, List.any_eq_true]
      exact ⟨fun ⟨p, hp, hf⟩ => ⟨p, of_decide_eq_true hf, decide_eq_true hp⟩,
        fun ⟨p, hp, hf⟩ => ⟨p, of_decide_eq_true hf, decide_eq_true hp⟩⟩
    unfold C07.finStep
    rw [this]
  unfold stateStep
  rw [h1, res_ok_bind, hencl]
  show (A.syms.foldlM _ acc.1 >>= fun t => pure (_, _)) = _
  rw [foldlM_eq_ok (g := C07.tabSym A s) (fun t a _ => by rw [nextStatesE_eq wf]; exact congrArg _ (hsym t a))
    acc.1, res_ok_bind, C07.elimStep_eq]
  exact congrArg Except.ok (Prod.ext (hpop _) hfin)

omit [DecidableEq α] in
theorem el_mem_succ {t : Tbl σ α} {q p : σ} :
    p ∈ succ t q ↔ ∃ e ∈ (alookup q t).getD [], p ∈ e.2 := List.mem_flatMap

omit [DecidableEq α] in
theorem el_succ_mem_nodes {t : Tbl σ α} {u v : σ} (h : v ∈ succ t u) : v ∈ nodes t := by
  obtain ⟨e, he, hv⟩ := el_mem_succ.mp h
  exact mem_dedup.mpr (List.mem_append_right _
    (List.mem_flatMap.mpr ⟨_, mem_of_mem_getD_alookup he, List.mem_flatMap.mpr ⟨e, he, hv⟩⟩))

omit [DecidableEq α] in
theorem el_mem_reachable {init : σ} {t : Tbl σ α} {q : σ} :
    q ∈ reachable init t ↔ Reach (succ t) init q := by
  unfold reachable
  rw [mem_bfs_iff (succ t) (univ := init :: nodes t) (srcs := [init])]
  · simp
  · intro s hs; simp at hs; subst hs; simp
  · intro u _ v hv; exact List.mem_cons_of_mem _ (el_succ_mem_nodes hv)

theorem core_spec (A : NFA σ α) (hA : A.Valid) :
    ∃ ra ta fa, core A = .ok (ra, ta, fa) ∧ ElimSpec A ra ta fa := by
  have wf := hA.wf
  have hfold : A.states.foldlM (stateStep A) (A.trans, A.finals) =
      .ok (A.states.foldl A.elimStep (A.trans, A.finals)) :=
    foldlM_eq_ok (fun b s hs => stateStep_eq wf b hs) _
  have hinv := C07.loopInv wf (F := A.finals) fun _ => Iff.rfl
  have hok := C07.loop_ok wf A.finals
  have hdict := C07.loop_dict wf A.finals hA.dict
  generalize A.states.foldl A.elimStep (A.trans, A.finals) = acc at hfold hinv hok hdict
  obtain ⟨t', fin'⟩ := acc
  refine ⟨reachable A.init t', t'.filter (fun kv => decide (kv.1 ∈ reachable A.init t')),
    (reachable A.init t').filter (fun q => decide (q ∈ fin')), ?_,
    hinv.elimSpec wf hok hdict fun _ => el_mem_reachable⟩
  unfold core
  rw [hfold]
  rfl

end AV.NFAElim
