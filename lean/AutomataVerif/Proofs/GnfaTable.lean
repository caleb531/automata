/-
Proofs/GnfaTable.lean — the dict manipulation of `GNFA.to_regex` (model: `ripPair`, `ripStep`,
`findMin`): one round never raises on a table that has the entries it reads.  Each update is
described twice, by what a lookup finds afterwards (`get2`) and by where the entries of the new
rows, as lists, come from (`Evo`).  The labels the round writes keep the invariant `DenotesOn`,
for every label type and every label rule that is sound for the label semantics (`CombSound`).
-/
import AutomataVerif.Proofs.Basic
import AutomataVerif.Proofs.GnfaElim
import AutomataVerif.Model.GNFA

namespace AV.GNFA
open AV AV.GnfaSpec

variable {σ ℓ : Type} [DecidableEq σ]

theorem alookup_adel {κ β : Type} [DecidableEq κ] (k k' : κ) (d : List (κ × β)) :
    alookup k' (adel k d) = if k' = k then none else alookup k' d :=
  alookup_filter_ne k k' d

theorem mem_adel {κ β : Type} [DecidableEq κ] {k : κ} {d : List (κ × β)} {e : κ × β}
    (h : e ∈ adel k d) : e ∈ d := (List.mem_filter.mp h).1

/-- `tr.get(p, {}).get(r)` with "missing" made explicit: `none` = no entry,
`some none` = the entry `None`, `some (some l)` = a label. -/
def get2 (tr : Table σ ℓ) (p r : σ) : Option (Option ℓ) := (alookup p tr).bind (alookup r)

/-- The label at `(p, r)`, a missing entry read as `None`. -/
def lab (tr : Table σ ℓ) (p r : σ) : Option ℓ := (get2 tr p r).join

theorem get2_of_row {tr : Table σ ℓ} {p : σ} {row : List (σ × Option ℓ)}
    (h : alookup p tr = some row) (r : σ) : get2 tr p r = alookup r row := by
  rw [get2, h]; rfl

theorem get2_isSome_iff {tr : Table σ ℓ} {p r : σ} :
    (get2 tr p r).isSome ↔ ∃ row, alookup p tr = some row ∧ r ∈ akeys row := by
  cases h : alookup p tr with
  | none => exact ⟨fun h' => (by rw [get2, h] at h'; cases h'), fun ⟨_, h', _⟩ => nomatch h'⟩
  | some row =>
    rw [get2_of_row h, alookup_isSome_iff]
    exact ⟨fun hr => ⟨row, rfl, hr⟩, fun ⟨_, h', hr⟩ => Option.some.inj h' ▸ hr⟩

theorem get2_isSome_of_mem {tr : Table σ ℓ} {p : σ} {row : List (σ × Option ℓ)}
    (hrow : alookup p tr = some row) {e : σ × Option ℓ} (he : e ∈ row) :
    (get2 tr p e.1).isSome :=
  get2_isSome_iff.mpr ⟨row, hrow, List.mem_map.mpr ⟨e, he, rfl⟩⟩

theorem lab_of_get2 {tr : Table σ ℓ} {p r : σ} {o : Option ℓ} (h : get2 tr p r = some o) :
    lab tr p r = o := by rw [lab, h]; rfl

theorem lab_of_get2_none {tr : Table σ ℓ} {p r : σ} (h : get2 tr p r = none) :
    lab tr p r = none := by rw [lab, h]; rfl

theorem getE_eq (tr : Table σ ℓ) (p r : σ) :
    getE tr p r = match get2 tr p r with
      | some l => .ok l
      | none => .error (.py .keyError) := by
  unfold getE get2
  cases alookup p tr with
  | none => rfl
  | some row => cases h : alookup r row <;> simp [h]

theorem getE_of_get2 {tr : Table σ ℓ} {p r : σ} {l : Option ℓ} (h : get2 tr p r = some l) :
    getE tr p r = .ok l := by rw [getE_eq, h]

theorem row_of_get2 {tr : Table σ ℓ} {p r : σ} (h : (get2 tr p r).isSome) :
    (alookup p tr).isSome :=
  let ⟨_, hrow, _⟩ := get2_isSome_iff.mp h
  hrow ▸ rfl

theorem get2_ainsert (tr : Table σ ℓ) (p : σ) (row : List (σ × Option ℓ)) (p' r' : σ) :
    get2 (ainsert p row tr) p' r' = if p' = p then alookup r' row else get2 tr p' r' := by
  unfold get2
  by_cases h : p' = p
  · rw [if_pos h, h, alookup_ainsert_self]; rfl
  · rw [if_neg h, alookup_ainsert_ne _ _ h]

theorem isSome_alookup_ainsert {tr : Table σ ℓ} {p : σ} (hrow : (alookup p tr).isSome)
    (row : List (σ × Option ℓ)) (p' : σ) :
    (alookup p' (ainsert p row tr)).isSome = (alookup p' tr).isSome := by
  by_cases h : p' = p
  · rw [h, alookup_ainsert_self, hrow]; rfl
  · rw [alookup_ainsert_ne _ _ h]

/-- An update seen on the rows as lists, which `findMin` iterates over (shadowed duplicates
included): a row of `tr'` comes from the row of `tr` with the same key, and an entry that is not
from there has its key in `T`. -/
def Evo (T : σ → Prop) (tr tr' : Table σ ℓ) : Prop :=
  ∀ p row', alookup p tr' = some row' →
    ∃ row, alookup p tr = some row ∧ ∀ e ∈ row', e ∈ row ∨ T e.1

theorem Evo.refl (T : σ → Prop) (tr : Table σ ℓ) : Evo T tr tr :=
  fun _ row' h => ⟨row', h, fun _ he => Or.inl he⟩

theorem Evo.trans {T : σ → Prop} {a b c : Table σ ℓ} (h1 : Evo T a b) (h2 : Evo T b c) :
    Evo T a c := by
  intro p row2 hp
  obtain ⟨row1, hr1, hs1⟩ := h2 p row2 hp
  obtain ⟨row0, hr0, hs0⟩ := h1 p row1 hr1
  refine ⟨row0, hr0, fun e he => ?_⟩
  rcases hs1 e he with h | h
  · exact hs0 e h
  · exact Or.inr h

theorem Evo.ainsert {T : σ → Prop} {tr : Table σ ℓ} {i : σ} {row row' : List (σ × Option ℓ)}
    (hr : alookup i tr = some row) (h : ∀ e ∈ row', e ∈ row ∨ T e.1) :
    Evo T tr (ainsert i row' tr) := by
  intro p r hp
  rw [alookup_ainsert] at hp
  split at hp
  · next hpi => cases hp; exact ⟨row, hpi ▸ hr, h⟩
  · exact ⟨r, hp, fun _ he => .inl he⟩

theorem setE_spec {tr : Table σ ℓ} {p : σ} (hrow : (alookup p tr).isSome) (r : σ) (v : Option ℓ) :
    ∃ tr', setE tr p r v = .ok tr' ∧
      (∀ p', (alookup p' tr').isSome = (alookup p' tr).isSome) ∧
      (∀ p' r', get2 tr' p' r' = if p' = p ∧ r' = r then some v else get2 tr p' r') ∧
      ∀ T : σ → Prop, T r → Evo T tr tr' := by
  obtain ⟨row, hr⟩ := Option.isSome_iff_exists.mp hrow
  refine ⟨_, by rw [setE, hr], isSome_alookup_ainsert hrow _, fun p' r' => ?_, fun T hT =>
    Evo.ainsert hr fun e he => (mem_ainsert he).elim (fun h => .inr (h ▸ hT)) .inl⟩
  rw [get2_ainsert]
  by_cases h : p' = p
  · rw [if_pos h, h, get2_of_row hr]
    by_cases h' : r' = r
    · rw [h', alookup_ainsert_self, if_pos ⟨rfl, rfl⟩]
    · rw [alookup_ainsert_ne _ _ h', if_neg (fun c => h' c.2)]
  · rw [if_neg h, if_neg (fun c => h c.1)]

theorem delRow_spec {tr : Table σ ℓ} {q : σ} (hrow : (alookup q tr).isSome) :
    ∃ tr', delRow tr q = .ok tr' ∧
      (∀ p', (alookup p' tr').isSome = (if p' = q then false else (alookup p' tr).isSome)) ∧
      (∀ p' r', get2 tr' p' r' = if p' = q then none else get2 tr p' r') ∧
      ∀ T : σ → Prop, Evo T tr tr' := by
  refine ⟨_, by rw [delRow, ahas, if_pos hrow], fun p' => ?_, fun p' r' => ?_,
    fun T p' row' hp => ?_⟩
  · rw [alookup_adel]
    by_cases h : p' = q
    · rw [if_pos h, if_pos h]; rfl
    · rw [if_neg h, if_neg h]
  · rw [get2, alookup_adel]
    by_cases h : p' = q
    · rw [if_pos h, if_pos h]; rfl
    · rw [if_neg h, if_neg h]; rfl
  · rw [alookup_adel] at hp
    split at hp
    · cases hp
    · exact ⟨row', hp, fun _ he => .inl he⟩

theorem delEntry_spec {tr : Table σ ℓ} {p q : σ} (h : (get2 tr p q).isSome) :
    ∃ tr', delEntry tr p q = .ok tr' ∧
      (∀ p', (alookup p' tr').isSome = (alookup p' tr).isSome) ∧
      (∀ p' r', get2 tr' p' r' = if p' = p ∧ r' = q then none else get2 tr p' r') ∧
      ∀ T : σ → Prop, Evo T tr tr' := by
  have hrow := row_of_get2 h
  obtain ⟨row, hr⟩ := Option.isSome_iff_exists.mp hrow
  rw [get2_of_row hr] at h
  refine ⟨_, by rw [delEntry, hr]; exact if_pos h, isSome_alookup_ainsert hrow _,
    fun p' r' => ?_, fun T => Evo.ainsert hr fun e he => .inl (mem_adel he)⟩
  rw [get2_ainsert, alookup_adel]
  by_cases h1 : p' = p
  · rw [if_pos h1, h1, get2_of_row hr]
    by_cases h' : r' = q
    · rw [if_pos h', if_pos ⟨rfl, h'⟩]
    · rw [if_neg h', if_neg (fun c => h' c.2)]
  · rw [if_neg h1, if_neg (fun c => h1 c.1)]

/-- All updates of the `for q_i, q_j in product(…)` loop read the table as it was before the
loop: entries in row/column `q_rip` are never written, and each pair is written once. -/
theorem fold_ripPair (comb : Option ℓ → Option ℓ → Option ℓ → Option ℓ → Option ℓ) (q : σ)
    (tr0 : Table σ ℓ) :
    ∀ (l : List (σ × σ)) (tr : Table σ ℓ),
      l.Nodup →
      (∀ pr ∈ l, pr.1 ≠ q ∧ pr.2 ≠ q ∧ (get2 tr0 pr.1 q).isSome ∧ (get2 tr0 q q).isSome ∧
        (get2 tr0 q pr.2).isSome ∧ (get2 tr0 pr.1 pr.2).isSome) →
      (∀ p r, (p = q ∨ r = q ∨ (p, r) ∈ l) → get2 tr p r = get2 tr0 p r) →
      (∀ p, (alookup p tr).isSome = (alookup p tr0).isSome) →
      ∃ tr', l.foldlM (fun tr pr => ripPair comb q tr pr.1 pr.2) tr = .ok tr' ∧
        (∀ p, (alookup p tr').isSome = (alookup p tr0).isSome) ∧
        (∀ p r, get2 tr' p r =
          if (p, r) ∈ l then
            some (comb (lab tr0 p q) (lab tr0 q q) (lab tr0 q r) (lab tr0 p r))
          else get2 tr p r) ∧
        ∀ T : σ → Prop, (∀ pr ∈ l, T pr.2) → Evo T tr tr' := by
  intro l
  induction l with
  | nil =>
    intro tr _ _ _ hrows
    exact ⟨tr, rfl, hrows, fun _ _ => rfl, fun T _ => Evo.refl T tr⟩
  | cons pr l ih =>
    intro tr hnd hmem hsame hrows
    obtain ⟨i, j⟩ := pr
    obtain ⟨hiq, hjq, h1, h2, h3, h4⟩ := hmem (i, j) List.mem_cons_self
    have hnd' := List.nodup_cons.mp hnd
    obtain ⟨r1, hr1⟩ := Option.isSome_iff_exists.mp h1
    obtain ⟨r2, hr2⟩ := Option.isSome_iff_exists.mp h2
    obtain ⟨r3, hr3⟩ := Option.isSome_iff_exists.mp h3
    obtain ⟨r4, hr4⟩ := Option.isSome_iff_exists.mp h4
    have e1 : getE tr i q = .ok r1 := getE_of_get2 ((hsame i q (Or.inr (Or.inl rfl))).trans hr1)
    have e2 : getE tr q q = .ok r2 := getE_of_get2 ((hsame q q (Or.inl rfl)).trans hr2)
    have e3 : getE tr q j = .ok r3 := getE_of_get2 ((hsame q j (Or.inl rfl)).trans hr3)
    have e4 : getE tr i j = .ok r4 :=
      getE_of_get2 ((hsame i j (Or.inr (Or.inr List.mem_cons_self))).trans hr4)
    obtain ⟨tr1, hset, hrows1, hget1, hevo1⟩ :=
      setE_spec (tr := tr) (p := i) (by rw [hrows]; exact row_of_get2 h1) j (comb r1 r2 r3 r4)
    have hstep : ripPair comb q tr i j = .ok tr1 := by
      simp only [ripPair, bind, Except.bind, e1, e2, e3, e4, hset]
    -- the write leaves column `q`, row `q` and the pairs still to come alone
    have hsame1 : ∀ p r, (p = q ∨ r = q ∨ (p, r) ∈ l) → get2 tr1 p r = get2 tr0 p r := by
      intro p r hpr
      rw [hget1, if_neg, hsame p r (hpr.imp_right (Or.imp_right (List.mem_cons_of_mem _)))]
      rintro ⟨rfl, rfl⟩
      exact hpr.elim hiq (Or.elim · hjq hnd'.1)
    obtain ⟨tr', hfold, hrows', hget', hevo'⟩ := ih tr1 hnd'.2
      (fun pr hpr => hmem pr (List.mem_cons_of_mem _ hpr)) hsame1
      (fun p => by rw [hrows1, hrows])
    refine ⟨tr', ?_, hrows', fun p r => ?_, fun T hT => (hevo1 T (hT _ List.mem_cons_self)).trans
      (hevo' T fun pr hpr => hT pr (List.mem_cons_of_mem _ hpr))⟩
    · rw [List.foldlM_cons]
      simp only [bind, Except.bind, hstep]
      exact hfold
    · rw [hget', hget1]
      by_cases hin : (p, r) ∈ l
      · rw [if_pos hin, if_pos (List.mem_cons_of_mem _ hin)]
      · rw [if_neg hin]
        by_cases hij : p = i ∧ r = j
        · obtain ⟨rfl, rfl⟩ := hij
          rw [if_pos ⟨rfl, rfl⟩, if_pos List.mem_cons_self, lab_of_get2 hr1, lab_of_get2 hr2,
            lab_of_get2 hr3, lab_of_get2 hr4]
        · rw [if_neg hij, if_neg]
          intro hmem'
          rcases List.mem_cons.mp hmem' with h | h
          · exact hij ⟨congrArg Prod.fst h, congrArg Prod.snd h⟩
          · exact hin h

theorem fold_delEntry (q : σ) :
    ∀ (l : List σ) (tr : Table σ ℓ),
      l.Nodup →
      (∀ p ∈ l, (get2 tr p q).isSome) →
      ∃ tr', l.foldlM (fun tr p => delEntry tr p q) tr = .ok tr' ∧
        (∀ p, (alookup p tr').isSome = (alookup p tr).isSome) ∧
        (∀ p r, get2 tr' p r = if p ∈ l ∧ r = q then none else get2 tr p r) ∧
        ∀ T : σ → Prop, Evo T tr tr' := by
  intro l
  induction l with
  | nil =>
    intro tr _ _
    exact ⟨tr, rfl, fun _ => rfl, fun _ _ => (if_neg (by simp)).symm, fun T => Evo.refl T tr⟩
  | cons a l ih =>
    intro tr hnd hmem
    have hnd' := List.nodup_cons.mp hnd
    obtain ⟨tr1, hdel, hrows1, hget1, hevo1⟩ := delEntry_spec (hmem a List.mem_cons_self)
    obtain ⟨tr', hfold, hrows', hget', hevo'⟩ := ih tr1 hnd'.2 (by
      intro p hp
      rw [hget1, if_neg (fun h : p = a ∧ q = q => hnd'.1 (h.1 ▸ hp))]
      exact hmem p (List.mem_cons_of_mem _ hp))
    refine ⟨tr', ?_, fun p => by rw [hrows', hrows1], fun p r => ?_,
      fun T => (hevo1 T).trans (hevo' T)⟩
    · rw [List.foldlM_cons]
      simp only [bind, Except.bind, hdel]
      exact hfold
    · rw [hget', hget1]
      by_cases hr : r = q
      · simp only [hr, and_true, List.mem_cons]
        by_cases h1 : p ∈ l
        · rw [if_pos h1, if_pos (Or.inr h1)]
        · by_cases h2 : p = a
          · rw [if_neg h1, if_pos h2, if_pos (Or.inl h2)]
          · rw [if_neg h1, if_neg h2, if_neg (not_or.mpr ⟨h2, h1⟩)]
      · rw [if_neg (fun h => hr h.2), if_neg (fun h => hr h.2), if_neg (fun h => hr h.2)]

/-- What `from_dfa` / `from_nfa` build and `to_regex` maintains: a row for every state but the
final one, in each row an entry (possibly `None`) for every state but the initial one, and
nothing else. -/
structure Shape (S : List σ) (init final : σ) (tr : Table σ ℓ) : Prop where
  nodup : S.Nodup
  init_mem : init ∈ S
  final_mem : final ∈ S
  ne : init ≠ final
  rows : ∀ p, (alookup p tr).isSome ↔ (p ∈ S ∧ p ≠ final)
  entries : ∀ p r, (get2 tr p r).isSome ↔ (p ∈ S ∧ p ≠ final ∧ r ∈ S ∧ r ≠ init)

-- `pairs` (`itertools.product`) unfolds to Mathlib's `List.product`
omit [DecidableEq σ] in
theorem mem_pairs {xs ys : List σ} {p r : σ} : (p, r) ∈ pairs xs ys ↔ p ∈ xs ∧ r ∈ ys :=
  List.pair_mem_product

omit [DecidableEq σ] in
theorem nodup_pairs {xs ys : List σ} (hx : xs.Nodup) (hy : ys.Nodup) : (pairs xs ys).Nodup :=
  hx.product hy

theorem length_filter_ne {S : List σ} (h : S.Nodup) {q : σ} (hq : q ∈ S) :
    (S.filter fun x => decide (x ≠ q)).length + 1 = S.length := by
  -- on a duplicate-free list the filter is `erase`
  have he : (S.filter fun x => decide (x ≠ q)) = S.erase q := by
    rw [h.erase_eq_filter]
    exact List.filter_congr fun x _ => decide_not
  rw [he, List.length_erase_of_mem hq]
  have := List.length_pos_of_mem hq
  omega

theorem mem_filter_ne {S : List σ} {q x : σ} :
    x ∈ S.filter (fun y => decide (y ≠ q)) ↔ x ∈ S ∧ x ≠ q := by
  rw [List.mem_filter, decide_eq_true_eq]

/-- What `GNFA.validate` establishes and `to_regex` maintains: an entry for every pair
(non-final state, non-initial state), and every *labelled* entry in the row of a non-final state
leads to a non-initial state.  Unlike `Shape` nothing is said about other rows and other entries
(an empty row for the final state, rows of non-states, `None` entries for the initial state). -/
structure Loose (S : List σ) (init final : σ) (tr : Table σ ℓ) : Prop where
  nodup : S.Nodup
  init_mem : init ∈ S
  final_mem : final ∈ S
  ne : init ≠ final
  entries : ∀ p r, p ∈ S → p ≠ final → r ∈ S → r ≠ init → (get2 tr p r).isSome
  lbl : ∀ p, p ∈ S → p ≠ final → ∀ row, alookup p tr = some row →
    ∀ e ∈ row, e.2 ≠ none → e.1 ∈ S ∧ e.1 ≠ init

theorem Shape.loose {S : List σ} {init final : σ} {tr : Table σ ℓ} (h : Shape S init final tr) :
    Loose S init final tr where
  nodup := h.nodup
  init_mem := h.init_mem
  final_mem := h.final_mem
  ne := h.ne
  entries := fun p r h1 h2 h3 h4 => (h.entries p r).mpr ⟨h1, h2, h3, h4⟩
  lbl := fun p _ _ _ hrow e he _ =>
    ((h.entries p e.1).mp (get2_isSome_of_mem hrow he)).2.2

theorem Loose.row {S : List σ} {init final : σ} {tr : Table σ ℓ} (h : Loose S init final tr)
    {p : σ} (hp : p ∈ S) (hpf : p ≠ final) : (alookup p tr).isSome :=
  row_of_get2 (h.entries p final hp hpf h.final_mem (fun e => h.ne e.symm))

/-- One iteration of the `while` loop of `to_regex`, computed, as soon as every pair (non-final
state, non-initial state) has an entry. -/
theorem ripStep_eq (comb : Option ℓ → Option ℓ → Option ℓ → Option ℓ → Option ℓ)
    {S : List σ} {init final q : σ} {tr : Table σ ℓ} (hS : Loose S init final tr) (hq : q ∈ S)
    (hqi : q ≠ init) (hqf : q ≠ final) :
    ∃ tr', ripStep comb init final S tr q = .ok (S.filter (fun x => decide (x ≠ q)), tr') ∧
      (∀ p, (alookup p tr').isSome = if p = q then false else (alookup p tr).isSome) ∧
      (∀ p r, get2 tr' p r =
        if p = q ∨ (p ∈ S ∧ p ≠ final ∧ r = q) then none
        else if p ∈ S ∧ p ≠ final ∧ r ∈ S ∧ r ≠ init then
          some (comb (lab tr p q) (lab tr q q) (lab tr q r) (lab tr p r))
        else get2 tr p r) ∧
      Evo (fun x => x ∈ S ∧ x ≠ init) tr tr' := by
  have hent := hS.entries
  have ndS' : (S.filter fun x => decide (x ≠ q)).Nodup := hS.nodup.filter _
  have memF : ∀ x, x ∈ (S.filter fun x => decide (x ≠ q)).filter (fun x => decide (x ≠ final)) ↔
      (x ∈ S ∧ x ≠ final) ∧ x ≠ q := by
    intro x; rw [mem_filter_ne, mem_filter_ne, and_right_comm]
  have memT : ∀ x, x ∈ (S.filter fun x => decide (x ≠ q)).filter (fun x => decide (x ≠ init)) ↔
      (x ∈ S ∧ x ≠ init) ∧ x ≠ q := by
    intro x; rw [mem_filter_ne, mem_filter_ne, and_right_comm]
  obtain ⟨tr1, hfold1, hrows1, hget1, hevo1⟩ := fold_ripPair comb q tr _ tr
    (nodup_pairs (ndS'.filter _) (ndS'.filter _))
    (by
      rintro ⟨i, j⟩ hij
      obtain ⟨hi, hj⟩ := mem_pairs.mp hij
      obtain ⟨⟨hiS, hif⟩, hiq⟩ := (memF i).mp hi
      obtain ⟨⟨hjS, hji⟩, hjq⟩ := (memT j).mp hj
      exact ⟨hiq, hjq, hent i q hiS hif hq hqi, hent q q hq hqf hq hqi, hent q j hq hqf hjS hji,
        hent i j hiS hif hjS hji⟩)
    (fun _ _ _ => rfl) (fun _ => rfl)
  -- `del new_transitions[q_rip]`
  obtain ⟨tr2, hdel2, hrows2, hget2, hevo2⟩ :=
    delRow_spec (tr := tr1) (q := q) (by rw [hrows1]; exact row_of_get2 (hent q q hq hqf hq hqi))
  -- `del new_transitions[state][q_rip]`
  obtain ⟨tr3, hfold3, hrows3, hget3, hevo3⟩ := fold_delEntry q _ tr2 (ndS'.filter _) (by
    intro p hp
    obtain ⟨⟨hpS, hpf⟩, hpq⟩ := (memF p).mp hp
    rw [hget2, if_neg hpq, hget1, if_neg (fun h => ((memT q).mp (mem_pairs.mp h).2).2 rfl)]
    exact hent p q hpS hpf hq hqi)
  have hevo := hevo1 (fun x => x ∈ S ∧ x ≠ init) fun pr hpr =>
    ((memT pr.2).mp (mem_pairs.mp hpr).2).1
  refine ⟨tr3, ?_, fun p => by rw [hrows3, hrows2, hrows1], fun p r => ?_,
    (hevo.trans (hevo2 _)).trans (hevo3 _)⟩
  · rw [ripStep, if_neg (not_not.mpr hq)]
    simp only [bind, Except.bind, hfold1, hdel2, hfold3]
  · rw [hget3, hget2, hget1]
    simp only [mem_pairs, memF, memT]
    by_cases hpq : p = q
    · rw [if_neg (fun h => h.1.2 hpq), if_pos hpq, if_pos (Or.inl hpq)]
    · by_cases hrq : r = q
      · by_cases hpF : p ∈ S ∧ p ≠ final
        · rw [if_pos ⟨⟨hpF, hpq⟩, hrq⟩, if_pos (Or.inr ⟨hpF.1, hpF.2, hrq⟩)]
        · rw [if_neg (fun h => hpF h.1.1), if_neg hpq, if_neg (fun h => hpF h.1.1),
            if_neg (not_or.mpr ⟨hpq, fun h => hpF ⟨h.1, h.2.1⟩⟩), if_neg (fun h => hpF ⟨h.1, h.2.1⟩)]
      · rw [if_neg (fun h => hrq h.2), if_neg hpq, if_neg (not_or.mpr ⟨hpq, fun h => hrq h.2.2⟩)]
        exact if_congr ⟨fun h => ⟨h.1.1.1, h.1.1.2, h.2.1.1, h.2.1.2⟩,
          fun h => ⟨⟨⟨h.1, h.2.1⟩, hpq⟩, ⟨h.2.2.1, h.2.2.2⟩, hrq⟩⟩ rfl rfl

theorem Shape.get2_eq_none {S : List σ} {init final : σ} {tr : Table σ ℓ}
    (hS : Shape S init final tr) {p r : σ} :
    get2 tr p r = none ↔ ¬ (p ∈ S ∧ p ≠ final ∧ r ∈ S ∧ r ≠ init) := by
  rw [← hS.entries, Option.not_isSome_iff_eq_none]

theorem degInc_spec {deg : List (σ × Nat)} {K : List σ} (hk : ∀ y, y ∈ akeys deg ↔ y ∈ K)
    {c : Prop} [Decidable c] {x : σ} (h : c → x ∈ K) :
    ∃ deg', (if c then degInc deg x else .ok deg) = .ok deg' ∧ ∀ y, y ∈ akeys deg' ↔ y ∈ K := by
  by_cases hc : c
  · have hx := (hk x).mpr (h hc)
    obtain ⟨n, hn⟩ := exists_alookup hx
    refine ⟨ainsert x (n + 1) deg, ?_, fun y => ?_⟩
    · rw [if_pos hc, degInc, hn]
    · rw [akeys_ainsert_of_mem hx]; exact hk y
  · exact ⟨deg, if_neg hc, hk⟩

theorem rowDegrees_spec (init final q : σ) (K : List σ) (hq : q ≠ init → q ∈ K) :
    ∀ (row : List (σ × Option ℓ)) (deg : List (σ × Nat)),
      (∀ e ∈ row, e.2 ≠ none → e.1 ≠ final → e.1 ∈ K) →
      (∀ y, y ∈ akeys deg ↔ y ∈ K) →
      ∃ deg', rowDegrees init final q row deg = .ok deg' ∧ ∀ y, y ∈ akeys deg' ↔ y ∈ K := by
  intro row deg hrow hk
  refine foldlM_ok_inv (fun deg => ∀ y, y ∈ akeys deg ↔ y ∈ K) hk fun deg hk e he => ?_
  cases he2 : e.2 with
  | none => exact ⟨deg, rfl, hk⟩
  | some l =>
    obtain ⟨d1, hd1, hk1⟩ := degInc_spec hk hq
    obtain ⟨d2, hd2, hk2⟩ := degInc_spec hk1
      (hrow e he (by rw [he2]; exact Option.some_ne_none l))
    exact ⟨d2, by simp only [bind, Except.bind, hd1, hd2], hk2⟩

omit [DecidableEq σ] in
theorem argminAux_mem (best : σ) (bn : Nat) (t : List (σ × Nat)) :
    argminAux best bn t = best ∨ argminAux best bn t ∈ akeys t := by
  induction t generalizing best bn with
  | nil => exact Or.inl rfl
  | cons e t ih =>
    obtain ⟨x, n⟩ := e
    rw [argminAux]
    by_cases h : n < bn
    · rw [if_pos h]
      exact Or.inr ((ih x n).elim (fun h => by rw [h]; exact List.mem_cons_self)
        (List.mem_cons_of_mem _))
    · rw [if_neg h]
      exact (ih best bn).imp id (List.mem_cons_of_mem _)

theorem exists_inner {S : List σ} (hnd : S.Nodup) {init final : σ} (hlen : S.length > 2) :
    ∃ x, x ∈ innerStates S init final := by
  by_contra hne
  have hsub : S ⊆ [init, final] := by
    intro x hx
    by_contra hx'
    apply hne
    refine ⟨x, ?_⟩
    simp only [List.mem_cons, List.not_mem_nil, or_false, not_or] at hx'
    simp [innerStates, hx, hx'.1, hx'.2]
  have := List.Nodup.length_le_of_subset hnd hsub
  simp at this
  omega

/-- `_find_min_connected_node` returns an inner state, whatever the set order: it indexes the
row of every non-final state, and `state_degree` at the targets of the labelled entries of these
rows, which must therefore be non-initial states. -/
theorem findMin_loose {S : List σ} {init final : σ} {tr : Table σ ℓ} (hS : Loose S init final tr)
    (hlen : S.length > 2) (ord : List σ → List σ) (hord : ∀ l x, x ∈ ord l ↔ x ∈ l) :
    ∃ q, findMin S tr init final ord = .ok q ∧ q ∈ S ∧ q ≠ init ∧ q ≠ final := by
  have memK : ∀ x, x ∈ ord (innerStates S init final) ↔ x ∈ S ∧ x ≠ init ∧ x ≠ final := by
    intro x; rw [hord]; simp [innerStates]
  -- the double loop keeps the key set
  obtain ⟨deg, hdeg, hk⟩ := foldlM_ok_inv
    (f := fun deg q =>
      match alookup q tr with
      | none => (.error (.py .keyError) : Res (List (σ × Nat)))
      | some row => rowDegrees init final q row deg)
    (l := S.filter fun q => decide (q ≠ final))
    (b := (ord (innerStates S init final)).map fun q => (q, 0))
    (fun deg : List (σ × Nat) => ∀ y, y ∈ akeys deg ↔ y ∈ ord (innerStates S init final))
    (by intro y; simp [akeys, List.map_map, Function.comp_def])
    fun deg hk p hp => by
      obtain ⟨hpS, hpf⟩ := mem_filter_ne.mp hp
      obtain ⟨row, hr⟩ := Option.isSome_iff_exists.mp (hS.row hpS hpf)
      simp only [hr]
      exact rowDegrees_spec (ℓ := ℓ) init final p _
        (fun hpi => (memK p).mpr ⟨hpS, hpi, hpf⟩) row deg
        (fun e he hne hef =>
          (memK e.1).mpr ⟨(hS.lbl p hpS hpf row hr e he hne).1, (hS.lbl p hpS hpf row hr e he hne).2, hef⟩)
        hk
  obtain ⟨x, hx⟩ := exists_inner hS.nodup (init := init) (final := final) hlen
  have hxdeg : x ∈ akeys deg := (hk x).mpr ((hord _ x).mpr hx)
  have hdeg' : stateDegrees S tr init final (ord (innerStates S init final)) = .ok deg := hdeg
  unfold findMin
  simp only [bind, Except.bind, hdeg']
  cases deg with
  | nil => cases hxdeg
  | cons e t =>
    obtain ⟨b, n⟩ := e
    refine ⟨argminAux b n t, rfl, (memK _).mp ((hk _).mp ?_)⟩
    exact (argminAux_mem b n t).elim (fun h => by rw [h]; exact List.mem_cons_self)
      (List.mem_cons_of_mem _)

/-- The loop theorems are stated once for every label type `ℓ`, with a label semantics
`R L l` ("the label `l` denotes the language `L`"; expressions: `l.den = L`, strings: `Lab`).
`RO R` extends it to table entries, `None` being the missing edge. -/
def RO (R : Language Char → ℓ → Prop) (L : Language Char) : Option ℓ → Prop
  | none => L = 0
  | some l => R L l

/-- What the loop needs of the label rule `comb r1 r2 r3 r4` (`ripRx`, `ripLabel`): the textbook
rule of state elimination, with `r1 = [q_i][q_rip]`, `r2` the loop at `q_rip`, `r3 = [q_rip][q_j]`,
`r4 = [q_i][q_j]`. -/
def CombSound (R : Language Char → ℓ → Prop)
    (comb : Option ℓ → Option ℓ → Option ℓ → Option ℓ → Option ℓ) : Prop :=
  ∀ (L1 L2 L3 L4 : Language Char) (r1 r2 r3 r4 : Option ℓ),
    RO R L1 r1 → RO R L2 r2 → RO R L3 r3 → RO R L4 r4 →
    RO R (L4 + L1 * KStar.kstar L2 * L3) (comb r1 r2 r3 r4)

/-- The hypothesis of the `to_regex` theorems: every entry of `tr` denotes the edge language that
the graph `Lb` has there (`GLang Lb init final` is then the language of the GNFA). -/
def Denotes (R : Language Char → ℓ → Prop) (tr : Table σ ℓ) (Lb : σ → σ → Language Char) : Prop :=
  ∀ p r, RO R (Lb p r) (lab tr p r)

/-- The invariant of the loop of `to_regex`: on the pairs the loop reads — (non-final state,
non-initial state) — the table labels the graph `Lb`, and `Lb` has no other edge.  Nothing is said
about the other entries of the table. -/
def DenotesOn (R : Language Char → ℓ → Prop) (S : List σ) (init final : σ) (tr : Table σ ℓ)
    (Lb : σ → σ → Language Char) : Prop :=
  ∀ p r, (p ∈ S ∧ p ≠ final ∧ r ∈ S ∧ r ≠ init → RO R (Lb p r) (lab tr p r)) ∧
    (¬ (p ∈ S ∧ p ≠ final ∧ r ∈ S ∧ r ≠ init) → Lb p r = 0)

theorem Shape.denotesOn_iff {S : List σ} {init final : σ} {tr : Table σ ℓ}
    (hS : Shape S init final tr) {R : Language Char → ℓ → Prop} {Lb : σ → σ → Language Char} :
    DenotesOn R S init final tr Lb ↔ Denotes R tr Lb := by
  have hnone : ∀ p r, ¬ (p ∈ S ∧ p ≠ final ∧ r ∈ S ∧ r ≠ init) → lab tr p r = none :=
    fun p r h => lab_of_get2_none (hS.get2_eq_none.mpr h)
  refine forall₂_congr fun p r => ⟨fun h => ?_, fun h => ⟨fun _ => h, fun hn => ?_⟩⟩
  · by_cases hc : p ∈ S ∧ p ≠ final ∧ r ∈ S ∧ r ≠ init
    · exact h.1 hc
    · rw [hnone p r hc]; exact h.2 hc
  · rwa [hnone p r hn] at h

/-- All that is used of the new table are the labels written by the `product` loop (`hcore`). -/
theorem DenotesOn.rip {R : Language Char → ℓ → Prop}
    {comb : Option ℓ → Option ℓ → Option ℓ → Option ℓ → Option ℓ} (hcomb : CombSound R comb)
    {S : List σ} {init final : σ} {tr tr' : Table σ ℓ} {Lb : σ → σ → Language Char}
    (hD : DenotesOn R S init final tr Lb) {q : σ} (hq : q ∈ S) (hqi : q ≠ init) (hqf : q ≠ final)
    (hcore : ∀ p r, p ∈ S → p ≠ q → p ≠ final → r ∈ S → r ≠ q → r ≠ init →
      get2 tr' p r = some (comb (lab tr p q) (lab tr q q) (lab tr q r) (lab tr p r))) :
    DenotesOn R (S.filter fun x => decide (x ≠ q)) init final tr' (GnfaSpec.rip Lb q) := by
  intro p r
  rw [mem_filter_ne, mem_filter_ne]
  constructor
  · rintro ⟨⟨hp, hpq⟩, hpf, ⟨hr, hrq⟩, hri⟩
    rw [lab_of_get2 (hcore p r hp hpq hpf hr hrq hri), rip_apply hpq hrq]
    exact hcomb _ _ _ _ _ _ _ _ ((hD p q).1 ⟨hp, hpf, hq, hqi⟩) ((hD q q).1 ⟨hq, hqf, hq, hqi⟩)
      ((hD q r).1 ⟨hq, hqf, hr, hri⟩) ((hD p r).1 ⟨hp, hpf, hr, hri⟩)
  · intro hn
    by_cases h : p = q ∨ r = q
    · exact if_pos h
    · obtain ⟨hpq, hrq⟩ := not_or.mp h
      -- no edge `p → r`, and no edge `p → q` or no edge `q → r`
      have hn' : ¬ (p ∈ S ∧ p ≠ final ∧ r ∈ S ∧ r ≠ init) :=
        fun h => hn ⟨⟨h.1, hpq⟩, h.2.1, ⟨h.2.2.1, hrq⟩, h.2.2.2⟩
      rw [rip_apply hpq hrq, (hD p r).2 hn', zero_add]
      by_cases hp : p ∈ S ∧ p ≠ final
      · rw [(hD q r).2 fun h => hn' ⟨hp.1, hp.2, h.2.2⟩, mul_zero]
      · rw [(hD p q).2 fun h => hp ⟨h.1, h.2.1⟩, zero_mul, zero_mul]

theorem DenotesOn.GLang_two {R : Language Char → ℓ → Prop} {S : List σ} {init final : σ}
    {tr : Table σ ℓ} {Lb : σ → σ → Language Char} (hD : DenotesOn R S init final tr Lb)
    (hi : init ∈ S) (hf : final ∈ S) (hne : init ≠ final) (hlen : S.length = 2) :
    GLang Lb init final = Lb init final := by
  have hsub : ∀ x ∈ S, x = init ∨ x = final := fun x hx => List.mem_pair.mp
    (subset_of_nodup_length_eq (l := [init, final]) (by simp [hne]) (by simp [hi, hf]) hlen.symm x hx)
  refine GLang_single hne fun p r hpr => (hD p r).2 ?_
  rintro ⟨h1, h2, h3, h4⟩
  rcases hsub p h1 with rfl | rfl
  · rcases hsub r h3 with rfl | rfl
    · exact h4 rfl
    · exact hpr ⟨rfl, rfl⟩
  · exact h2 rfl

end AV.GNFA
