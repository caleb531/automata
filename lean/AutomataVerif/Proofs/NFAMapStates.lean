/-
Proofs/NFAMapStates.lean — renaming the states of an NFA through an injective function
keeps validity (`validate` passes, the tables are dicts) and the language (Mathlib
`εNFA.accepts` of the textbook ε-NFA).  Used to embed the typed results of the NFA
operations (`Nat`, pairs, triples) into the universal name type `PyName`
(Model/NFAOpsPy.lean), where further operations add ints next to names of any shape.
Also `EpsOps.on_states`: a well-formed NFA, known on its `states`, is an operand (`EpsOps.On`) of the
constructions of Proofs/EpsOps*; the C08 theorems pass their operands through it.
-/
import AutomataVerif.Model.NFAOpsPy
import AutomataVerif.Proofs.NFAOpsUnary
import AutomataVerif.Proofs.EpsOpsA
import AutomataVerif.Props.C01

open AV.AL

namespace AV
namespace NFA
namespace MapStates

open AV.Props.C01 AV.EpsOps

variable {σ τ α : Type} [DecidableEq σ] [DecidableEq τ] [DecidableEq α]

variable (f : σ → τ) (n : NFA σ α)

omit [DecidableEq σ] [DecidableEq τ] [DecidableEq α] in
theorem mapStates_keys : akeys (n.mapStates f).trans = (akeys n.trans).map f :=
  akeys_map_key f _ n.trans

theorem mapStates_targets (hf : Function.Injective f) (q : σ) (a : Option α) :
    (n.mapStates f).targets (f q) a = (n.targets q a).map f := by
  rw [targets, targets, row_eq, row_eq, mapStates,
    getD_alookup_map_key f rfl fun _ _ e => hf e, getD_alookup_map_val rfl]

omit [DecidableEq σ] [DecidableEq τ] [DecidableEq α] in
theorem mapStates_wf (wf : n.WF) : (n.mapStates f).WF := by
  refine ⟨?_, ?_, ?_, ?_, ?_⟩
  · intro kv' hkv' a ha
    obtain ⟨kv, hkv, rfl⟩ := List.mem_map.mp hkv'
    simp only at ha
    rw [akeys_map_val] at ha
    exact wf.symsOk kv hkv a ha
  · intro kv' hkv' ts' hts' q' hq'
    obtain ⟨kv, hkv, rfl⟩ := List.mem_map.mp hkv'
    simp only [avals, List.map_map] at hts'
    obtain ⟨e, he, rfl⟩ := List.mem_map.mp hts'
    simp only [Function.comp] at hq'
    obtain ⟨q, hq, rfl⟩ := List.mem_map.mp hq'
    exact List.mem_map.mpr ⟨q, wf.tgtOk kv hkv e.2 (List.mem_map.mpr ⟨e, he, rfl⟩) q hq, rfl⟩
  · exact List.mem_map.mpr ⟨n.init, wf.initOk, rfl⟩
  · rcases wf.initRow with h | h
    · left
      rw [mapStates_keys]
      exact List.mem_map.mpr ⟨n.init, h, rfl⟩
    · right
      simpa [mapStates] using h
  · intro q' hq'
    obtain ⟨q, hq, rfl⟩ := List.mem_map.mp hq'
    exact List.mem_map.mpr ⟨q, wf.finalsOk q hq, rfl⟩

omit [DecidableEq σ] [DecidableEq τ] [DecidableEq α] in
theorem mapStates_dict (hf : Function.Injective f) (h : Tbl.Dict n.trans) :
    Tbl.Dict (n.mapStates f).trans := by
  refine ⟨?_, ?_⟩
  · rw [mapStates_keys]
    exact h.keys.map hf
  · intro kv' hkv'
    obtain ⟨kv, hkv, rfl⟩ := List.mem_map.mp hkv'
    simp only
    rw [akeys_map_val]
    exact h.rows kv hkv

omit [DecidableEq σ] [DecidableEq τ] [DecidableEq α] in
theorem mapStates_valid (hf : Function.Injective f) (h : n.Valid) : (n.mapStates f).Valid :=
  ⟨mapStates_wf f n h.wf, mapStates_dict f n hf h.dict⟩

omit [DecidableEq τ] in
/-- A well-formed NFA as an operand of the constructions of Proofs/EpsOps*: known on its states. -/
theorem _root_.AV.EpsOps.on_states {n : NFA σ α} (wf : n.WF) :
    On (nfaTextbook n) {q | q ∈ n.states} n.init :=
  ⟨fun _ _ _ _ hp => NFA.targets_mem_states wf hp, wf.initOk, rfl⟩

theorem mapStates_lang (hf : Function.Injective f) (wf : n.WF) :
    (nfaTextbook (n.mapStates f)).accepts = (nfaTextbook n).accepts := by
  refine accepts_map (on_states wf) rfl ?_ ?_
  · intro q _ a p
    show p ∈ (n.mapStates f).targets (f q) a ↔ ∃ t ∈ n.targets q a, f t = p
    rw [mapStates_targets f n hf q a, List.mem_map]
  · exact fun q _ => mem_map_iff_of_inj fun _ _ e => hf e

theorem nat_injective : Function.Injective PyName.nat := by
  intro i j h
  simp only [PyName.nat, PyName.int.injEq] at h
  exact Int.ofNat.inj h

theorem ofPair_injective : Function.Injective PyName.ofPair := by
  rintro ⟨a, b⟩ ⟨c, d⟩ h
  simp only [PyName.ofPair, PyName.pair.injEq] at h
  rw [h.1, h.2]

theorem ofTriple_injective : Function.Injective PyName.ofTriple := by
  rintro ⟨a, b, x⟩ ⟨c, d, y⟩ h
  simp only [PyName.ofTriple, PyName.triple.injEq] at h
  rw [h.1, h.2.1, h.2.2]

end MapStates
end NFA
end AV
