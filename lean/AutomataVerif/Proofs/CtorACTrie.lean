/-
Proofs/CtorACTrie.lean — from_substrings (C15), phase 1: the trie built by the insertion loop.
Ghost state: `paths[i]` = the string spelled from the root to node `i`.  Core only.
-/
import AutomataVerif.Proofs.CtorBasic

namespace AV.Ctor.AC

variable {α : Type} [DecidableEq α]

theorem lt_of_getElem? {β : Type} {l : List β} {i : Nat} {x : β} (h : l[i]? = some x) : i < l.length :=
  (List.getElem?_eq_some_iff.mp h).1

theorem getElem?_snoc_eq_some {β : Type} {l : List β} {z y : β} {j : Nat} :
    (l ++ [z])[j]? = some y ↔ l[j]? = some y ∨ (j = l.length ∧ z = y) := by
  rw [List.getElem?_append]
  by_cases h : j < l.length
  · rw [if_pos h]
    exact ⟨Or.inl, fun | .inl p => p | .inr ⟨e, _⟩ => absurd e (Nat.ne_of_lt h)⟩
  · rw [if_neg h, List.getElem?_eq_none (Nat.le_of_not_lt h)]
    by_cases e : j = l.length
    · simp [e]
    · have : ¬ j - l.length = 0 := by omega
      simp [e, this]

theorem prefix_getElem? {β : Type} {l₁ l₂ : List β} (hp : l₁ <+: l₂) {i : Nat} (hi : i < l₁.length) :
    l₂[i]? = l₁[i]? := by
  obtain ⟨t, rfl⟩ := hp
  exact List.getElem?_append_left hi

omit [DecidableEq α] in
theorem acGet_eq (nodes : List (ACNode α)) (i : Nat) :
    acGet nodes i = (nodes[i]?).getD ACNode.empty := by
  unfold acGet; rw [List.getD_eq_getElem?_getD]

section
omit [DecidableEq α]

theorem acGet_set (nodes : List (ACNode α)) (i j : Nat) (v : ACNode α) (hi : i < nodes.length) :
    acGet (nodes.set i v) j = if j = i then v else acGet nodes j := by
  rw [acGet_eq, acGet_eq, List.getElem?_set]
  by_cases h : j = i
  · subst h; simp [hi]
  · have : ¬ i = j := fun e => h e.symm
    simp [h, this]

theorem acGet_out_of_range (nodes : List (ACNode α)) (j : Nat) (h : nodes.length ≤ j) :
    acGet nodes j = ACNode.empty := by
  rw [acGet_eq, List.getElem?_eq_none h]; rfl

theorem acGet_append_new (nodes : List (ACNode α)) (e : ACNode α) (j : Nat) :
    acGet (nodes ++ [e]) j = if j = nodes.length then e else acGet nodes j := by
  rw [acGet_eq, acGet_eq]
  by_cases h : j = nodes.length
  · rw [if_pos h, h, List.getElem?_concat_length]; rfl
  · rw [if_neg h]
    cases hj : (nodes ++ [e])[j]? with
    | some y =>
      rcases getElem?_snoc_eq_some.mp hj with h1 | ⟨h1, _⟩
      · rw [h1]
      · exact absurd h1 h
    | none =>
      have := List.getElem?_eq_none_iff.mp hj
      rw [List.length_append] at this
      rw [List.getElem?_eq_none (by omega)]

end

/-- `nodes` is a trie whose node `i` spells `paths[i]`. -/
structure Trie (nodes : List (ACNode α)) (paths : List (List α)) : Prop where
  len : paths.length = nodes.length
  root : paths[0]? = some []
  inj : ∀ (i j : Nat) (x : List α), paths[i]? = some x → paths[j]? = some x → i = j
  child : ∀ (i : Nat) (x : List α) (a : α) (j : Nat), paths[i]? = some x →
    (alookup a (acGet nodes i).succ = some j ↔ paths[j]? = some (x ++ [a]))
  pclosed : ∀ (j : Nat) (x : List α) (a : α), paths[j]? = some (x ++ [a]) → ∃ i : Nat, paths[i]? = some x
  entries : ∀ (i : Nat) (a : α) (j : Nat), (a, j) ∈ (acGet nodes i).succ → alookup a (acGet nodes i).succ = some j
  keysNodup : ∀ i : Nat, (akeys (acGet nodes i).succ).Nodup

theorem Trie.lt {nodes : List (ACNode α)} {paths : List (List α)} (h : Trie nodes paths) {i : Nat}
    {x : List α} (hx : paths[i]? = some x) : i < nodes.length := by
  rw [← h.len]; exact lt_of_getElem? hx

theorem Trie.pos {nodes : List (ACNode α)} {paths : List (List α)} (h : Trie nodes paths) :
    0 < nodes.length := h.lt h.root

/-- `nodes` has the tree structure of `nodes0` (only `fail` / `out` fields may differ). -/
structure SameTree (nodes0 nodes : List (ACNode α)) : Prop where
  len : nodes.length = nodes0.length
  succ : ∀ i : Nat, (acGet nodes i).succ = (acGet nodes0 i).succ

omit [DecidableEq α] in
theorem SameTree.refl (nodes : List (ACNode α)) : SameTree nodes nodes := ⟨rfl, fun _ => rfl⟩

omit [DecidableEq α] in
theorem SameTree.set {nodes0 nodes : List (ACNode α)} (s : SameTree nodes0 nodes) {i : Nat}
    {v : ACNode α} (hi : i < nodes.length) (hv : v.succ = (acGet nodes i).succ) :
    SameTree nodes0 (nodes.set i v) := by
  refine ⟨by rw [List.length_set]; exact s.len, fun j => ?_⟩
  rw [acGet_set nodes i j v hi]
  by_cases h : j = i
  · rw [if_pos h, hv, h]; exact s.succ i
  · rw [if_neg h]; exact s.succ j

theorem Trie.of_sameTree {nodes0 nodes : List (ACNode α)} {paths : List (List α)}
    (h : Trie nodes0 paths) (s : SameTree nodes0 nodes) : Trie nodes paths := by
  refine ⟨by rw [h.len, s.len], h.root, h.inj, ?_, h.pclosed, ?_, ?_⟩
  · intro i x a j hi; rw [s.succ]; exact h.child i x a j hi
  · intro i a j hm; rw [s.succ] at hm ⊢; exact h.entries i a j hm
  · intro i; rw [s.succ]; exact h.keysNodup i

theorem acInsertSym_some {st : List (ACNode α) × Nat} {a : α} {j : Nat}
    (h : alookup a (acGet st.1 st.2).succ = some j) : acInsertSym st a = (st.1, j) := by
  unfold acInsertSym; simp only [h]

theorem acInsertSym_none {st : List (ACNode α) × Nat} {a : α}
    (h : alookup a (acGet st.1 st.2).succ = none) :
    acInsertSym st a =
      (st.1.set st.2 { acGet st.1 st.2 with succ := (acGet st.1 st.2).succ ++ [(a, st.1.length)] } ++
        [ACNode.empty], st.1.length) := by
  unfold acInsertSym; simp only [h]

/-- The insertion loop leaves the `out` and `fail` fields alone (a fresh node has neither, like
the node read at an index past the end). -/
theorem acInsertSym_out_fail (st : List (ACNode α) × Nat) (a : α) (i : Nat) :
    (acGet (acInsertSym st a).1 i).out = (acGet st.1 i).out ∧
      (acGet (acInsertSym st a).1 i).fail = (acGet st.1 i).fail := by
  cases hl : alookup a (acGet st.1 st.2).succ with
  | some j => rw [acInsertSym_some hl]; exact ⟨rfl, rfl⟩
  | none =>
    rw [acInsertSym_none hl, acGet_append_new, List.length_set]
    by_cases h1 : i = st.1.length
    · rw [if_pos h1, acGet_out_of_range st.1 i (Nat.le_of_eq h1.symm)]; exact ⟨rfl, rfl⟩
    · rw [if_neg h1]
      by_cases h2 : st.2 < st.1.length
      · rw [acGet_set _ _ _ _ h2]
        by_cases h3 : i = st.2
        · rw [if_pos h3, h3]; exact ⟨rfl, rfl⟩
        · rw [if_neg h3]; exact ⟨rfl, rfl⟩
      · rw [List.set_eq_of_length_le (Nat.le_of_not_lt h2)]; exact ⟨rfl, rfl⟩

theorem acInsertWalk_out_fail (w : List α) (st : List (ACNode α) × Nat) (i : Nat) :
    (acGet (w.foldl acInsertSym st).1 i).out = (acGet st.1 i).out ∧
      (acGet (w.foldl acInsertSym st).1 i).fail = (acGet st.1 i).fail :=
  List.foldlRecOn (motive := fun r => (acGet r.1 i).out = (acGet st.1 i).out ∧
      (acGet r.1 i).fail = (acGet st.1 i).fail) w _ ⟨rfl, rfl⟩ fun r h a _ =>
    ⟨(acInsertSym_out_fail r a i).1.trans h.1, (acInsertSym_out_fail r a i).2.trans h.2⟩

theorem insertSym_spec {st : List (ACNode α) × Nat} {paths : List (List α)} (h : Trie st.1 paths)
    (x : List α) (hx : paths[st.2]? = some x) (a : α) :
    ∃ paths', Trie (acInsertSym st a).1 paths' ∧
      paths'[(acInsertSym st a).2]? = some (x ++ [a]) ∧ paths <+: paths' ∧
      (∀ y, y ∈ paths' ↔ y ∈ paths ∨ y = x ++ [a]) := by
  obtain ⟨nodes, cur⟩ := st
  have hcur : cur < nodes.length := h.lt hx
  cases hl : alookup a (acGet nodes cur).succ with
  | some j =>
    rw [acInsertSym_some (st := (nodes, cur)) hl]
    have hj := (h.child cur x a j hx).mp hl
    refine ⟨paths, h, hj, List.prefix_refl _, fun y => ⟨Or.inl, ?_⟩⟩
    rintro (h1 | rfl)
    · exact h1
    · exact List.mem_iff_getElem?.mpr ⟨j, hj⟩
  | none =>
    rw [acInsertSym_none (st := (nodes, cur)) hl]
    -- the new string is not yet in the trie
    have hnew : ∀ j : Nat, paths[j]? ≠ some (x ++ [a]) := by
      intro j hj
      rw [(h.child cur x a j hx).mpr hj] at hl; cases hl
    have hp : ∀ (j : Nat) (y : List α), (paths ++ [x ++ [a]])[j]? = some y ↔
        paths[j]? = some y ∨ (j = nodes.length ∧ x ++ [a] = y) := by
      intro j y; rw [getElem?_snoc_eq_some, h.len]
    -- only the successors of `cur` change
    have hsucc : ∀ i, (acGet (nodes.set cur { acGet nodes cur with
          succ := (acGet nodes cur).succ ++ [(a, nodes.length)] } ++ [ACNode.empty]) i).succ =
        if i = cur then (acGet nodes cur).succ ++ [(a, nodes.length)] else (acGet nodes i).succ := by
      intro i
      rw [acGet_append_new, List.length_set]
      by_cases h1 : i = nodes.length
      · rw [if_pos h1, if_neg (by omega), acGet_out_of_range nodes i (Nat.le_of_eq h1.symm)]
      · rw [if_neg h1, acGet_set _ _ _ _ hcur]
        by_cases h2 : i = cur
        · rw [if_pos h2, if_pos h2]
        · rw [if_neg h2, if_neg h2]
    have hkeys : ∀ i, (akeys (acGet (nodes.set cur { acGet nodes cur with
          succ := (acGet nodes cur).succ ++ [(a, nodes.length)] } ++ [ACNode.empty]) i).succ).Nodup := by
      intro i
      rw [hsucc]
      by_cases h2 : i = cur
      · rw [if_pos h2]; exact nodup_akeys_snoc (alookup_eq_none_iff.mp hl) (h.keysNodup cur)
      · rw [if_neg h2]; exact h.keysNodup i
    refine ⟨paths ++ [x ++ [a]], ⟨by simp [h.len], (hp 0 []).mpr (Or.inl h.root), ?_, ?_, ?_,
      fun i b j hm => alookup_of_mem_nodup (hkeys i) hm, hkeys⟩,
      (hp _ _).mpr (Or.inr ⟨by simp, rfl⟩), List.prefix_append _ _, fun y => by simp⟩
    · intro i j y hi hj
      rcases (hp i y).mp hi with hi | ⟨rfl, rfl⟩
      · rcases (hp j y).mp hj with hj | ⟨rfl, rfl⟩
        · exact h.inj i j y hi hj
        · exact absurd hi (hnew i)
      · rcases (hp j _).mp hj with hj | ⟨rfl, _⟩
        · exact absurd hj (hnew j)
        · rfl
    · intro i y b j hi
      rw [hsucc, hp]
      by_cases hic : i = cur
      · subst hic
        have hyx : y = x := by
          rcases (hp i y).mp hi with hi | ⟨e, _⟩
          · exact Option.some.inj (hi.symm.trans hx)
          · omega
        subst hyx
        rw [if_pos rfl, alookup_snoc_eq_some, h.child i y b j hx]
        refine or_congr Iff.rfl ⟨fun ⟨_, e1, e2⟩ => ⟨e2.symm, by rw [e1]⟩, fun ⟨e1, e2⟩ => ?_⟩
        have hab := (List.append_singleton_inj.mp e2).2
        exact ⟨hab ▸ hl, hab, e1.symm⟩
      · rw [if_neg hic]
        rcases (hp i y).mp hi with hi | ⟨rfl, rfl⟩
        · rw [h.child i y b j hi]
          refine ⟨Or.inl, fun | .inl p => p | .inr ⟨_, e⟩ => ?_⟩
          exact absurd (h.inj i cur x ((List.append_singleton_inj.mp e).1 ▸ hi) hx) hic
        · -- the new node has no successors
          rw [acGet_out_of_range nodes _ (Nat.le_refl _)]
          show alookup b [] = some j ↔ _
          refine ⟨fun e => (nomatch e), ?_⟩
          rintro (hj | ⟨_, e⟩)
          · obtain ⟨i', hi'⟩ := h.pclosed j _ b hj
            exact absurd hi' (hnew i')
          · have := congrArg List.length e
            simp at this
    · intro j y b hj
      rcases (hp j _).mp hj with hj | ⟨_, e⟩
      · obtain ⟨i, hi⟩ := h.pclosed j y b hj
        exact ⟨i, (hp i y).mpr (Or.inl hi)⟩
      · exact ⟨cur, (hp cur y).mpr (Or.inl ((List.append_singleton_inj.mp e).1 ▸ hx))⟩

theorem insertWalk_spec (w : List α) : ∀ {st : List (ACNode α) × Nat} {paths : List (List α)}
    (_ : Trie st.1 paths) (x : List α) (_ : paths[st.2]? = some x),
    ∃ paths', Trie (w.foldl acInsertSym st).1 paths' ∧
      paths'[(w.foldl acInsertSym st).2]? = some (x ++ w) ∧ paths <+: paths' ∧
      (∀ y, y ∈ paths' ↔ y ∈ paths ∨ ∃ u, u ≠ [] ∧ u <+: w ∧ y = x ++ u) := by
  induction w with
  | nil =>
    intro st paths h x hx
    refine ⟨paths, h, by simpa using hx, List.prefix_refl _, fun y => ⟨Or.inl, ?_⟩⟩
    rintro (h1 | ⟨u, hu, hp, _⟩)
    · exact h1
    · exact absurd (List.prefix_nil.mp hp) hu
  | cons a w ih =>
    intro st paths h x hx
    obtain ⟨p1, t1, c1, pre1, m1⟩ := insertSym_spec h x hx a
    obtain ⟨p2, t2, c2, pre2, m2⟩ := ih t1 (x ++ [a]) c1
    refine ⟨p2, t2, by rw [List.foldl_cons, c2]; simp, pre1.trans pre2, fun y => ?_⟩
    rw [m2, m1]
    constructor
    · rintro ((h1 | h1) | ⟨u, hu, hp, rfl⟩)
      · exact Or.inl h1
      · exact Or.inr ⟨[a], by simp, by simp [List.prefix_cons_iff], h1⟩
      · exact Or.inr ⟨a :: u, by simp, by simp [List.cons_prefix_cons, hp], by simp⟩
    · rintro (h1 | ⟨u, hu, hp, rfl⟩)
      · exact Or.inl (Or.inl h1)
      · cases u with
        | nil => exact absurd rfl hu
        | cons b u =>
          obtain ⟨rfl, hp'⟩ := List.cons_prefix_cons.mp hp
          by_cases hu' : u = []
          · subst hu'; exact Or.inl (Or.inr rfl)
          · exact Or.inr ⟨u, hu', hp', by simp⟩

structure TrieOf (pats : List (List α)) (nodes : List (ACNode α)) (paths : List (List α)) : Prop
    extends Trie nodes paths where
  mem : ∀ y : List α, y ∈ paths ↔ y = [] ∨ ∃ s ∈ pats, y <+: s
  out : ∀ (i : Nat) (y : List α), paths[i]? = some y → ((acGet nodes i).out ≠ [] ↔ y ∈ pats)
  nofail : ∀ i : Nat, (acGet nodes i).fail = none

theorem insertWord_spec {pats : List (List α)} {nodes : List (ACNode α)} {paths : List (List α)}
    (h : TrieOf pats nodes paths) (w : List α) :
    ∃ paths', TrieOf (pats ++ [w]) (acInsertWord nodes w) paths' := by
  obtain ⟨p1, t1, c1, pre1, m1⟩ := insertWalk_spec w (st := (nodes, 0)) h.toTrie [] h.root
  simp only [List.nil_append] at c1 m1
  have hframe := acInsertWalk_out_fail w (nodes, 0)
  unfold acInsertWord
  generalize w.foldl acInsertSym (nodes, 0) = st at t1 c1 hframe ⊢
  have hend : st.2 < st.1.length := t1.lt c1
  have hget : ∀ j, acGet (st.1.set st.2 { acGet st.1 st.2 with out := [w] }) j =
      if j = st.2 then { acGet st.1 st.2 with out := [w] } else acGet st.1 j :=
    fun j => acGet_set _ _ _ _ hend
  refine ⟨p1, t1.of_sameTree ((SameTree.refl _).set hend rfl), ?_, ?_, ?_⟩
  · intro y
    rw [m1, h.mem]
    constructor
    · rintro ((h1 | ⟨s, hs, hp⟩) | ⟨u, hu, hp, rfl⟩)
      · exact Or.inl h1
      · exact Or.inr ⟨s, List.mem_append_left _ hs, hp⟩
      · exact Or.inr ⟨w, by simp, hp⟩
    · rintro (h1 | ⟨s, hs, hp⟩)
      · exact Or.inl (Or.inl h1)
      · rcases List.mem_append.mp hs with h2 | h2
        · exact Or.inl (Or.inr ⟨s, h2, hp⟩)
        · rw [List.mem_singleton.mp h2] at hp
          by_cases hy : y = []
          · exact Or.inl (Or.inl hy)
          · exact Or.inr ⟨y, hy, hp, rfl⟩
  · intro i y hi
    rw [hget, List.mem_append, List.mem_singleton]
    by_cases h1 : i = st.2
    · have hy : y = w := Option.some.inj ((h1 ▸ hi).symm.trans c1)
      simp [h1, hy]
    · have hyw : y ≠ w := fun e => h1 (t1.inj _ _ _ hi (e ▸ c1))
      rw [if_neg h1, (hframe i).1]
      -- a pattern is already in the old trie, at an old index
      have hold : paths[i]? = some y → ((acGet nodes i).out ≠ [] ↔ y ∈ pats ∨ y = w) := fun hiy =>
        (h.out i y hiy).trans ⟨Or.inl, fun | .inl p => p | .inr e => absurd e hyw⟩
      by_cases h2 : i < nodes.length
      · exact hold (by rw [← prefix_getElem? pre1 (h.len ▸ h2)]; exact hi)
      · rw [acGet_out_of_range nodes i (Nat.le_of_not_lt h2)]
        refine ⟨fun e => absurd rfl e, ?_⟩
        rintro (hy | hy)
        · obtain ⟨i', hi'⟩ := List.mem_iff_getElem?.mp
            ((h.mem y).mpr (Or.inr ⟨y, hy, List.prefix_refl _⟩))
          have hlt := lt_of_getElem? hi'
          have := t1.inj i i' y hi (by rw [prefix_getElem? pre1 hlt]; exact hi')
          rw [h.len] at hlt
          omega
        · exact absurd hy hyw
  · intro i
    have : (acGet (st.1.set st.2 { acGet st.1 st.2 with out := [w] }) i).fail = (acGet st.1 i).fail := by
      rw [hget]
      by_cases h1 : i = st.2
      · rw [if_pos h1, h1]
      · rw [if_neg h1]
    rw [this, (hframe i).2]; exact h.nofail i

theorem trieOf_init : TrieOf ([] : List (List α)) [ACNode.empty] [[]] := by
  have hget : ∀ i, acGet [(ACNode.empty : ACNode α)] i = ACNode.empty := by
    intro i; cases i <;> rfl
  have hp : ∀ (i : Nat) (x : List α), [([] : List α)][i]? = some x → i = 0 ∧ x = [] := by
    intro i x hi
    have := lt_of_getElem? hi
    simp only [List.length_singleton, Nat.lt_one_iff] at this
    subst this
    exact ⟨rfl, (Option.some.inj hi).symm⟩
  refine ⟨⟨rfl, rfl, ?_, ?_, ?_, ?_, ?_⟩, by simp, ?_, ?_⟩
  · intro i j x hi hj
    rw [(hp i x hi).1, (hp j x hj).1]
  · intro i x a j hi
    rw [hget]
    refine ⟨fun e => (nomatch e), fun e => ?_⟩
    have := (hp j _ e).2
    rw [(hp i x hi).2] at this
    cases this
  · intro j x a hj
    have := (hp j _ hj).2
    simp at this
  · intro i a j hm; rw [hget] at hm; cases hm
  · intro i; rw [hget]; exact List.nodup_nil
  · intro i y hi
    rw [hget, (hp i y hi).2]
    simp [ACNode.empty]
  · intro i; rw [hget]; rfl

theorem acTrie_spec (pats : List (List α)) : ∃ paths, TrieOf pats (acTrie pats) paths := by
  unfold acTrie
  have key : ∀ (rest done : List (List α)) (nodes : List (ACNode α)) (paths : List (List α)),
      TrieOf done nodes paths → ∃ paths', TrieOf (done ++ rest) (rest.foldl acInsertWord nodes) paths' := by
    intro rest
    induction rest with
    | nil => intro done nodes paths h; exact ⟨paths, by simpa using h⟩
    | cons w rest ih =>
      intro done nodes paths h
      obtain ⟨p1, h1⟩ := insertWord_spec h w
      obtain ⟨p2, h2⟩ := ih (done ++ [w]) _ p1 h1
      exact ⟨p2, by simpa using h2⟩
  simpa using key pats [] _ _ trieOf_init

end AV.Ctor.AC
