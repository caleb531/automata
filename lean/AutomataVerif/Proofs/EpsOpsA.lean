/-
Proofs/EpsOpsA.lean — first the bridge from Mathlib's `εNFA` to the path calculus of
Proofs/EpsPath (`rel`, `mem_accepts_iff_acc`; the only place where `εNFA.IsPath` occurs).  Then
textbook constructions, stated for an arbitrary result automaton `M` whose transition function is
*characterised* on a `Closed` set of states (rather than defined by a formula), so that they apply
to the tables the library builds; all an operand has to bring is `On`.  Last the edit-distance
grid (`Edit.acc_edit` of Proofs/EpsOpsD) for an `εNFA`.
-/
import Mathlib.Computability.EpsilonNFA
import Mathlib.Computability.Language
import AutomataVerif.Proofs.EpsPath
import AutomataVerif.Proofs.EpsOpsD

namespace AV.EpsOps

open Set

variable {α σ σ₁ σ₂ τ : Type}

/-- The moves of an `εNFA` as a relation: what the path calculus of `Proofs/EpsPath` speaks of. -/
def rel (M : εNFA α σ) (q : σ) (a : Option α) (t : σ) : Prop := t ∈ M.step q a

/-- `Q` is closed under the moves of `M`, in the form the lemmas of `Proofs/EpsPath` take.  The
constructions below are characterised on such a set only (in Props/C08: the `states` of a
well-formed NFA, whose table may have further rows). -/
def Closed (M : εNFA α σ) (Q : Set σ) : Prop := ∀ q, q ∈ Q → ∀ a t, rel M q a t → t ∈ Q

/-- What the constructions need of an operand. -/
structure On (M : εNFA α σ) (Q : Set σ) (i : σ) : Prop where
  closed : Closed M Q
  init : i ∈ Q
  start : M.start = {i}

section bridge
open AV.Rx

theorem isPath_to_path (M : εNFA α σ) {s t : σ} {x : List (Option α)}
    (h : M.IsPath s t x) : Path (rel M) s x.reduceOption t := by
  induction h with
  | nil => exact Path.nil _
  | cons t' s' u a x hstep _ ih =>
    cases a with
    | none => exact Path.eps hstep ih
    | some a => exact Path.sym hstep ih

theorem path_to_isPath (M : εNFA α σ) {s t : σ} {w : List α} (h : Path (rel M) s w t) :
    ∃ x : List (Option α), x.reduceOption = w ∧ M.IsPath s t x := by
  induction h with
  | nil q => exact ⟨[], rfl, .nil q⟩
  | eps hs _ ih =>
    obtain ⟨x, hx, hp⟩ := ih
    exact ⟨none :: x, hx, .cons _ _ _ _ _ hs hp⟩
  | sym hs _ ih =>
    obtain ⟨x, hx, hp⟩ := ih
    exact ⟨some _ :: x, congrArg (_ :: ·) hx, .cons _ _ _ _ _ hs hp⟩

theorem mem_accepts_iff_acc {M : εNFA α σ} {i : σ} (hs : M.start = {i}) {w : List α} :
    w ∈ M.accepts ↔ Acc (rel M) (· ∈ M.accept) i w := by
  rw [εNFA.mem_accepts_iff_exists_path, hs]
  constructor
  · rintro ⟨_, t, x, rfl, ht, rfl, hp⟩
    exact ⟨t, ht, isPath_to_path M hp⟩
  · rintro ⟨t, ht, hp⟩
    obtain ⟨x, hx, hp'⟩ := path_to_isPath M hp
    exact ⟨i, t, x, rfl, ht, hx, hp'⟩

theorem mem_evalFrom_iff_path {M : εNFA α σ} {i p : σ} {w : List α} :
    p ∈ M.evalFrom {i} w ↔ Path (rel M) i w p := by
  rw [εNFA.mem_evalFrom_iff_exists_path]
  exact ⟨fun ⟨_, hx, hp⟩ => hx ▸ isPath_to_path M hp, path_to_isPath M⟩

theorem LCat_iff (L M : Language α) (w : List α) :
    LCat (fun x => x ∈ L) (fun x => x ∈ M) w ↔ w ∈ L * M := by
  rw [Language.mem_mul]
  constructor
  · rintro ⟨u, v, hu, hv, rfl⟩; exact ⟨u, hu, v, hv, rfl⟩
  · rintro ⟨u, hu, v, hv, rfl⟩; exact ⟨u, v, hu, hv, rfl⟩

theorem LPow_iff (L : Language α) (k : Nat) (w : List α) :
    LPow (fun x => x ∈ L) k w ↔ w ∈ L ^ k := by
  induction k generalizing w with
  | zero => simp [LPow, Language.mem_one]
  | succ k ih =>
    rw [pow_succ', ← LCat_iff]
    exact ⟨fun ⟨u, v, hu, hv, e⟩ => ⟨u, v, hu, (ih v).mp hv, e⟩,
      fun ⟨u, v, hu, hv, e⟩ => ⟨u, v, hu, (ih v).mpr hv, e⟩⟩

theorem mem_kstar_iff_pow (L : Language α) (w : List α) : w ∈ KStar.kstar L ↔ ∃ k, w ∈ L ^ k := by
  rw [Language.kstar_eq_iSup_pow]
  simp [Language.mem_iSup]

theorem acc_embed {M : εNFA α τ} {N : εNFA α σ} {Q : Set σ} {f : σ → τ}
    (hQ : Closed N Q) (hf : ∀ q ∈ Q, ∀ a p, p ∈ M.step (f q) a ↔ ∃ t ∈ N.step q a, f t = p)
    (hacc : ∀ q ∈ Q, f q ∈ M.accept ↔ q ∈ N.accept) {q : σ} (hq : q ∈ Q) {w : List α} :
    Acc (rel M) (· ∈ M.accept) (f q) w ↔ Acc (rel N) (· ∈ N.accept) q w :=
  Acc.copy f hQ (fun q hq a p => (hf q hq a p).trans
    ⟨fun ⟨t, h, e⟩ => ⟨t, h, e.symm⟩, fun ⟨t, h, e⟩ => ⟨t, h, e.symm⟩⟩) hacc hq

/-- An automaton `M` that copies `N` along an embedding `f` of a closed set of states
containing the initial state accepts the same language. -/
theorem accepts_map {M : εNFA α τ} {N : εNFA α σ} {Q : Set σ} {f : σ → τ} {i : σ}
    (hN : On N Q i) (hMs : M.start = {f i})
    (hstep : ∀ q ∈ Q, ∀ a p, p ∈ M.step (f q) a ↔ ∃ t ∈ N.step q a, f t = p)
    (hacc : ∀ q ∈ Q, f q ∈ M.accept ↔ q ∈ N.accept) : M.accepts = N.accepts := by
  ext w
  rw [mem_accepts_iff_acc hMs, mem_accepts_iff_acc hN.start]
  exact acc_embed hN.closed hstep hacc hN.init

end bridge

open AV.Rx in

/-- Union: a new initial state `i` with ε-moves to the images of the two initial states;
`f`, `g` embed the operands. -/
theorem accepts_union
    (M : εNFA α τ) {M₁ : εNFA α σ₁} {M₂ : εNFA α σ₂} {Q₁ : Set σ₁} {Q₂ : Set σ₂}
    (f : σ₁ → τ) (g : σ₂ → τ) (i : τ) {i₁ : σ₁} {i₂ : σ₂}
    (h₁ : On M₁ Q₁ i₁) (h₂ : On M₂ Q₂ i₂) (hs : M.start = {i})
    (hi : ∀ a t, t ∈ M.step i a ↔ a = none ∧ (t = f i₁ ∨ t = g i₂))
    (hf : ∀ q ∈ Q₁, ∀ a p, p ∈ M.step (f q) a ↔ ∃ t ∈ M₁.step q a, f t = p)
    (hg : ∀ q ∈ Q₂, ∀ a p, p ∈ M.step (g q) a ↔ ∃ t ∈ M₂.step q a, g t = p)
    (hacc_f : ∀ q ∈ Q₁, f q ∈ M.accept ↔ q ∈ M₁.accept)
    (hacc_g : ∀ q ∈ Q₂, g q ∈ M.accept ↔ q ∈ M₂.accept)
    (hacc_i : i ∉ M.accept) :
    M.accepts = M₁.accepts + M₂.accepts := by
  ext w
  rw [Language.mem_add, mem_accepts_iff_acc hs, mem_accepts_iff_acc h₁.start,
    mem_accepts_iff_acc h₂.start, ← acc_embed h₁.closed hf hacc_f h₁.init,
    ← acc_embed h₂.closed hg hacc_g h₂.init,
    Acc.union_on (step := rel M) (Fin := (· ∈ M.accept)) hi hacc_i]

open AV.Rx in
/-- Concatenation: every accepting state of the first operand gets an extra ε-move to the
image of the second operand's initial state. -/
theorem accepts_concat
    (M : εNFA α τ) {M₁ : εNFA α σ₁} {M₂ : εNFA α σ₂} {Q₁ : Set σ₁} {Q₂ : Set σ₂}
    (f : σ₁ → τ) (g : σ₂ → τ) {i₁ : σ₁} {i₂ : σ₂}
    (h₁ : On M₁ Q₁ i₁) (h₂ : On M₂ Q₂ i₂) (hs : M.start = {f i₁})
    (hf : ∀ q ∈ Q₁, ∀ a p, p ∈ M.step (f q) a ↔
      (∃ t ∈ M₁.step q a, f t = p) ∨ (a = none ∧ q ∈ M₁.accept ∧ p = g i₂))
    (hg : ∀ q ∈ Q₂, ∀ a p, p ∈ M.step (g q) a ↔ ∃ t ∈ M₂.step q a, g t = p)
    (hacc_f : ∀ q ∈ Q₁, f q ∉ M.accept)
    (hacc_g : ∀ q ∈ Q₂, g q ∈ M.accept ↔ q ∈ M₂.accept) :
    M.accepts = M₁.accepts * M₂.accepts := by
  ext w
  rw [Language.mem_mul, mem_accepts_iff_acc hs]
  refine (Acc.concat_on (S := (· ∈ Q₁)) (step := rel M₁) (Fin := (· ∈ M₁.accept))
    (step2 := rel M) f (g i₂) h₁.closed (fun q hq a p => (hf q hq a p).trans (or_congr
      ⟨fun ⟨t, h, e⟩ => ⟨t, h, e.symm⟩, fun ⟨t, h, e⟩ => ⟨t, h, e.symm⟩⟩ Iff.rfl))
    hacc_f h₁.init).trans ?_
  · simp only [LCat, acc_embed h₂.closed hg hacc_g h₂.init, ← mem_accepts_iff_acc h₁.start,
      ← mem_accepts_iff_acc h₂.start]
    exact ⟨fun ⟨u, v, hu, hv, e⟩ => ⟨u, hu, v, hv, e.symm⟩,
      fun ⟨u, hu, v, hv, e⟩ => ⟨u, v, hu, hv, e.symm⟩⟩

open AV.Rx in
/-- Option: a new accepting initial state `n` with an ε-move to the old initial state. -/
theorem accepts_option
    (M : εNFA α σ) {M₁ : εNFA α σ} {Q : Set σ} (n : σ) {i₁ : σ} (h₁ : On M₁ Q i₁)
    (hs : M.start = {n})
    (hn : ∀ a t, t ∈ M.step n a ↔ a = none ∧ t = i₁)
    (hstep : ∀ q ∈ Q, ∀ a t, t ∈ M.step q a ↔ t ∈ M₁.step q a)
    (hacc : ∀ q ∈ Q, q ∈ M.accept ↔ q ∈ M₁.accept) (hacc_n : n ∈ M.accept) :
    M.accepts = 1 + M₁.accepts := by
  ext w
  rw [Language.mem_add, Language.mem_one, mem_accepts_iff_acc hs, mem_accepts_iff_acc h₁.start,
    ← Acc.congr_on (S := (· ∈ Q)) (step := rel M₁) (step2 := rel M) (Fin2 := (· ∈ M.accept))
      h₁.closed hstep hacc h₁.init,
    Acc.new_source (step := rel M) (J := (· = i₁)) hn, exists_eq_left]
  exact or_congr_left (and_iff_right hacc_n)

open AV.Rx in
/-- Kleene star: as option, plus an ε-move from every accepting state back to the old
initial state. -/
theorem accepts_star
    (M : εNFA α σ) {M₁ : εNFA α σ} {Q : Set σ} (n : σ) {i₁ : σ} (h₁ : On M₁ Q i₁)
    (hs : M.start = {n})
    (hn : ∀ a t, t ∈ M.step n a ↔ a = none ∧ t = i₁)
    (hstep : ∀ q ∈ Q, ∀ a t, t ∈ M.step q a ↔
      t ∈ M₁.step q a ∨ (q ∈ M₁.accept ∧ a = none ∧ t = i₁))
    (hacc : ∀ q ∈ Q, q ∈ M.accept ↔ q ∈ M₁.accept) (hacc_n : n ∈ M.accept) :
    M.accepts = KStar.kstar M₁.accepts := by
  have hL : (fun x => x ∈ M₁.accepts) = Acc (rel M₁) (· ∈ M₁.accept) i₁ :=
    funext fun x => propext (mem_accepts_iff_acc h₁.start)
  ext w
  have hplus := Acc.plus_on (S := (· ∈ Q)) (step := rel M₁) (step2 := rel M)
    (Fin := (· ∈ M₁.accept)) (Fin2 := (· ∈ M.accept)) (w := w) h₁.closed h₁.init
    (fun q hq a t => (hstep q hq a t).trans (or_congr_right and_left_comm)) hacc
  rw [mem_kstar_iff_pow, mem_accepts_iff_acc hs,
    Acc.new_source (step := rel M) (J := (· = i₁)) hn, exists_eq_left, hplus]
  simp only [← LPow_iff, hL]
  constructor
  · rintro (⟨_, rfl⟩ | ⟨k, hk⟩)
    · exact ⟨0, rfl⟩
    · exact ⟨k + 1, hk⟩
  · rintro ⟨_ | k, hk⟩
    · exact Or.inl ⟨hacc_n, hk⟩
    · exact Or.inr ⟨k, hk⟩

open AV.Rx in
/-- Reversal: all edges between states of `Q` flipped, a new initial state `n` with ε-moves
to the old accepting states, the old initial state is the only accepting state. -/
theorem accepts_reverse
    (M : εNFA α σ) {M₁ : εNFA α σ} {Q : Set σ} (n : σ) {i₁ : σ} (h₁ : On M₁ Q i₁)
    (hn : n ∉ Q) (hF : M₁.accept ⊆ Q) (hs : M.start = {n})
    (hn_none : ∀ p, p ∈ M.step n none ↔ p ∈ M₁.accept) (hn_some : ∀ a t, t ∉ M.step n (some a))
    (hstep : ∀ q ∈ Q, ∀ a p, p ∈ M.step q a ↔ (p ∈ Q ∧ q ∈ M₁.step p a))
    (hacc : ∀ q, q ∈ M.accept ↔ q = i₁) :
    M.accepts = M₁.accepts.reverse := by
  have hne : n ≠ i₁ := fun e => hn (e ▸ h₁.init)
  have hflip : ∀ p, p ∈ Q → ∀ a q, rel M₁ p a q ↔ q ∈ Q ∧ rel M q a p := fun p hp a q =>
    ⟨fun h => ⟨h₁.closed p hp a q h, (hstep q (h₁.closed p hp a q h) a p).mpr ⟨hp, h⟩⟩,
      fun ⟨hq, h⟩ => ((hstep q hq a p).mp h).2⟩
  ext w
  rw [Language.mem_reverse, mem_accepts_iff_acc hs, mem_accepts_iff_acc h₁.start,
    Acc.eps_source (step := rel M) fun a t h => hn_some a t h]
  constructor
  · rintro (⟨h, _⟩ | ⟨s, hst, t, ht, hp⟩)
    · exact absurd ((hacc n).mp h) hne
    · obtain rfl := (hacc t).mp ht
      have hs := (hn_none s).mp hst
      exact ⟨s, hs, (Path.reverse_on (step := rel M₁) hstep hp (hF hs)).2⟩
  · rintro ⟨t, ht, hp⟩
    refine Or.inr ⟨t, (hn_none t).mpr ht, i₁, (hacc i₁).mpr rfl, ?_⟩
    have := (Path.reverse_on (step := rel M) hflip hp h₁.init).2
    rwa [List.reverse_reverse] at this

end AV.EpsOps

/-- `Edit.acc_edit` for an `εNFA`. -/
theorem AV.Edit.accepts_edit {α : Type} (M : εNFA α (ℕ × ℕ)) (syms : Set α) (ref : List α) (K : ℕ)
    (ins del sub : Bool) (href : ∀ c ∈ ref, c ∈ syms)
    (hs : M.start = {(0, 0)})
    (hstep_some : ∀ i e c t, i ≤ ref.length → e ≤ K → (t ∈ M.step (i, e) (some c) ↔
      (ref[i]? = some c ∧ t = (i + 1, e)) ∨
        (e < K ∧ ins = true ∧ c ∈ syms ∧ t = (i, e + 1)) ∨
        (i < ref.length ∧ e < K ∧ sub = true ∧ c ∈ syms ∧ t = (i + 1, e + 1))))
    (hstep_none : ∀ i e t, i ≤ ref.length → e ≤ K → (t ∈ M.step (i, e) none ↔
      i < ref.length ∧ e < K ∧ del = true ∧ t = (i + 1, e + 1)))
    (hacc : ∀ i e, i ≤ ref.length → e ≤ K → ((i, e) ∈ M.accept ↔ i = ref.length)) :
    M.accepts = {w | (∀ c ∈ w, c ∈ syms) ∧ ∃ n, n ≤ K ∧ Edits ins del sub ref w n} :=
  Set.ext fun w => (EpsOps.mem_accepts_iff_acc hs).trans
    (acc_edit (step := EpsOps.rel M) (· ∈ syms) ref K ins del sub href hstep_some hstep_none hacc w)
