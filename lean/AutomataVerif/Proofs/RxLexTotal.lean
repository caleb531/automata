/-
Proofs/RxLexTotal.lean — the lexer on ARBITRARY strings (no `Renders` hypothesis), by following
`lexAux_cons` along the run: a lexing failure is `LexerError`, `InvalidRegexError` or `ValueError`,
the last only when some brace group `{g1,g2}` of the string has a non-empty bound text that `int()`
rejects; the tokens of a successful run are lexer tokens (`LexTok`) whose symbols are
non-white-space characters of the string that are not reserved, or a lone brace.  Core only.
-/
import AutomataVerif.Proofs.RxLex
import AutomataVerif.Proofs.RxValidate

namespace AV.Rx

theorem TokText.lexTok {t : Tok Char} {txt : List Char} (h : TokText t txt) : LexTok t := by
  cases h <;> simp [LexTok]

namespace LexTotal

/-- `from_match` + `__init__` on a match `{g1,g2}` of the quantifier pattern: `InvalidRegexError` is
for negative or ill-ordered numeric bounds, `ValueError` for a non-empty bound text that `int()`
rejects. -/
theorem quantFromMatch_cases {g1 g2 : List Char} (h1 : NoStop ',' g1) (h2 : NoStop '}' g2) :
    (∃ lo hi, quantFromMatch ('{' :: (g1 ++ ',' :: (g2 ++ ['}']))) = .ok (.quant lo hi)) ∨
    quantFromMatch ('{' :: (g1 ++ ',' :: (g2 ++ ['}']))) = .error (.lib .invalidRegexError) ∨
    (quantFromMatch ('{' :: (g1 ++ ',' :: (g2 ++ ['}']))) = .error (.py .valueError) ∧
      ((g1 ≠ [] ∧ pyInt g1 = none) ∨ (g2 ≠ [] ∧ pyInt g2 = none))) := by
  -- a bound parser answers `none` only on a non-empty text that `int()` rejects
  have bad : ∀ {β : Type} {g : List Char} {z : β} {f : Option Int → Option β},
      (if g.isEmpty = true then some z else f (pyInt g)) = none → (∀ i, f (some i) ≠ none) →
      g ≠ [] ∧ pyInt g = none := by
    intro β g z f h hf
    cases g with
    | nil => cases h
    | cons c r =>
      refine ⟨by simp, ?_⟩
      cases hp : pyInt (c :: r) with
      | none => rfl
      | some i => rw [hp] at h; exact absurd h (hf i)
  simp only [quantFromMatch, quantGroups_of_noStop h1 h2 []]
  cases hlo : (if g1.isEmpty = true then some (0 : Int) else pyInt g1) with
  | none => exact .inr (.inr ⟨rfl, .inl (bad (f := id) hlo (fun _ => nofun))⟩)
  | some lo =>
    cases hhi : (if g2.isEmpty = true then some none else (pyInt g2).map some) with
    | none => exact .inr (.inr ⟨rfl, .inr (bad (f := Option.map some) hhi (fun _ => nofun))⟩)
    | some hi =>
      simp only
      split
      · exact .inr (.inl rfl)
      · cases hi with
        | none => exact .inl ⟨_, _, rfl⟩
        | some h =>
          simp only
          split
          · exact .inr (.inl rfl)
          · exact .inl ⟨_, _, rfl⟩

/-- Some brace group of `s` is not a numeral: at some position of `s` the quantifier pattern
matches with groups `g1`, `g2`, and a non-empty one of them is rejected by `int()`. -/
def HasBadBound (s : List Char) : Prop :=
  ∃ pre rest g1 g2, s = pre ++ rest ∧ quantGroups rest = some (g1, g2) ∧
    ((g1 ≠ [] ∧ pyInt g1 = none) ∨ (g2 ≠ [] ∧ pyInt g2 = none))

theorem HasBadBound.append (pre : List Char) {s : List Char} (h : HasBadBound s) :
    HasBadBound (pre ++ s) := by
  obtain ⟨p, rest, g1, g2, rfl, hq, hb⟩ := h
  exact ⟨pre ++ p, rest, g1, g2, by simp, hq, hb⟩

def LexErrKind (s : List Char) (e : Exn) : Prop :=
  e = .lib .lexerError ∨ e = .lib .invalidRegexError ∨ (e = .py .valueError ∧ HasBadBound s)

def LexSpec (text : List Char) : Res (List (Tok Char)) → Prop
  | .error e => LexErrKind text e
  | .ok ts => (∀ t ∈ ts, LexTok t) ∧
      ∀ a, Tok.str [a] ∈ ts →
        a ∈ text ∧ isPySpace a = false ∧ (isReserved a = false ∨ a = '{' ∨ a = '}')

theorem LexSpec.append (pre : List Char) {text : List Char} {r : Res (List (Tok Char))}
    (h : LexSpec text r) : LexSpec (pre ++ text) r := by
  cases r with
  | error e => exact h.imp_right (.imp_right (.imp_right (.append pre)))
  | ok ts => exact ⟨h.1, fun a ha => ⟨List.mem_append_right _ (h.2 a ha).1, (h.2 a ha).2⟩⟩

theorem LexSpec.cons {text : List Char} {t : Tok Char} (hl : LexTok t)
    (hstr : ∀ a, t = Tok.str [a] →
      a ∈ text ∧ isPySpace a = false ∧ (isReserved a = false ∨ a = '{' ∨ a = '}')) :
    ∀ {r : Res (List (Tok Char))}, LexSpec text r →
      LexSpec text (push t r) := by
  intro r h
  cases r with
  | error e => exact h
  | ok ts =>
    refine ⟨fun t' ht' => ?_, fun a ha => ?_⟩
    · rcases List.mem_cons.mp ht' with rfl | ht'
      · exact hl
      · exact h.1 t' ht'
    · rcases List.mem_cons.mp ha with ha | ha
      · exact hstr a ha.symm
      · exact h.2 a ha

theorem reserved_of_sym {c : Char} (hop : opTok c = none) (hs : isPySpace c = false) :
    isReserved c = false ∨ c = '{' ∨ c = '}' := by
  by_cases hb : c = '{'
  · exact .inr (.inl hb)
  by_cases hcb : c = '}'
  · exact .inr (.inr hcb)
  have hsp : c ≠ ' ' := by rintro rfl; revert hs; decide
  have htb : c ≠ '\t' := by rintro rfl; revert hs; decide
  obtain ⟨h1, h2, h3, h4, h5, h6, h7, h8, h9⟩ := opTok_none hop
  simp [isReserved, Gen.Regex.reservedCharacters, *]

theorem lexAux_spec : ∀ (fuel : Nat) (text : List Char), LexSpec text (lexAux fuel text) := by
  intro fuel
  induction fuel with
  | zero => intro text; exact ⟨fun _ h => (nomatch h), fun _ h => (nomatch h)⟩
  | succ fuel ih =>
    intro text
    cases text with
    | nil => exact ⟨fun _ h => (nomatch h), fun _ h => (nomatch h)⟩
    | cons c rest =>
      have sym : opTok c = none → isPySpace c = false →
          LexSpec (c :: rest) (push (.str [c]) (lexAux fuel rest)) := fun h1 h2 =>
        LexSpec.cons (t := .str [c]) ⟨c, rfl⟩ (fun a ha => by cases ha; exact ⟨by simp, h2, reserved_of_sym h1 h2⟩)
          ((ih rest).append [c])
      rw [lexAux_cons]
      cases hop : opTok c with
      | some t =>
        obtain ⟨ht, -, hns, -⟩ := opTok_some hop
        exact LexSpec.cons ht.lexTok (fun a ha => absurd ha (hns a)) ((ih rest).append [c])
      | none =>
        by_cases hb : c = '{'
        · subst hb
          simp only [if_true]
          cases hq : quantGroups ('{' :: rest) with
          | none => exact sym hop (by decide)
          | some g =>
            obtain ⟨rest', rfl, n1, n2⟩ := quantGroups_inv hq
            simp only [drop_groups]
            rcases quantFromMatch_cases n1 n2 with ⟨lo, hi, hq'⟩ | hq' | ⟨hq', hbad⟩
            · rw [hq']
              have := LexSpec.cons (t := .quant lo hi) trivial (fun _ => nofun)
                ((ih rest').append ('{' :: (g.1 ++ ',' :: (g.2 ++ ['}']))))
              simpa using this
            · rw [hq']
              exact .inr (.inl rfl)
            · rw [hq']
              exact .inr (.inr ⟨rfl, [], _, g.1, g.2, rfl, hq, hbad⟩)
        · simp only [if_neg hb]
          by_cases hs : isPySpace c = true
          · simp only [if_pos hs]
            cases isBlank c
            · exact .inl rfl
            · exact (ih rest).append [c]
          · simp only [if_neg hs]
            exact sym hop (by simpa using hs)

theorem lex_spec (s : List Char) : LexSpec s (lex s) := lexAux_spec s.length s

theorem lex_error {s : List Char} {e : Exn} (h : lex s = .error e) : LexErrKind s e := by
  have := lex_spec s
  rwa [h] at this

theorem lex_ok_spec {s : List Char} {ts : List (Tok Char)} (h : lex s = .ok ts) :
    LexSpec s (.ok ts) := by
  have := lex_spec s
  rwa [h] at this

theorem lex_error_kind (s : List Char) :
    (∃ ts, lex s = .ok ts) ∨ lex s = .error (.lib .lexerError) ∨
    lex s = .error (.lib .invalidRegexError) ∨
    (lex s = .error (.py .valueError) ∧ HasBadBound s) := by
  cases h : lex s with
  | ok ts => exact .inl ⟨ts, rfl⟩
  | error e =>
    refine .inr ?_
    rcases lex_error h with rfl | rfl | ⟨rfl, hb⟩
    · exact .inl rfl
    · exact .inr (.inl rfl)
    · exact .inr (.inr ⟨rfl, hb⟩)

theorem lex_ok_lexTok {s : List Char} {ts : List (Tok Char)} (h : lex s = .ok ts) :
    ∀ t ∈ ts, LexTok t :=
  (lex_ok_spec h).1

theorem lex_ok_str {s : List Char} {ts : List (Tok Char)} (h : lex s = .ok ts) :
    ∀ a, Tok.str [a] ∈ ts →
      a ∈ s ∧ isPySpace a = false ∧ (isReserved a = false ∨ a = '{' ∨ a = '}') :=
  (lex_ok_spec h).2

end LexTotal
end AV.Rx
