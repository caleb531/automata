/-
Proofs/GnfaValid.lean — C12's concrete syntax (`GnfaSpec.Renders`, character level) read by the
C10/C11 front end: a string of grammar characters lexes to one token per character, the tokens of a
rendered string are in the documented grammar `G` with the same tree, so every string of the
grammar passes the model of `re._validate`.
-/
import AutomataVerif.Proofs.GnfaRender
import AutomataVerif.Proofs.GnfaReValidate

namespace AV.GnfaSpec
open AV AV.GNFA
open AV.GNFA.ReValidate (tokC)
open AV.Rx (TokText SymChar lex lex_renders)

/-- Characters that occur in rendered strings. -/
def RChar (c : Char) : Prop := c = '(' ∨ c = ')' ∨ c = '|' ∨ c = '*' ∨ c = '?' ∨ IsLit c

theorem RChar.lit {c : Char} (h : IsLit c) : RChar c := .inr (.inr (.inr (.inr (.inr h))))

/-- What `_validate_transition_invalid_symbols` lets through, over literal input symbols. -/
theorem rchar_of_mem {syms : List Char} (hlit : ∀ a ∈ syms, IsLit a) {c : Char}
    (hc : c ∈ syms ++ ['*', '|', '(', ')', '?']) : RChar c := by
  rcases List.mem_append.mp hc with h | h
  · exact .lit (hlit c h)
  · simp only [List.mem_cons, List.not_mem_nil, or_false] at h
    rcases h with rfl | rfl | rfl | rfl | rfl <;> simp [RChar]

theorem Renders.rchars {l : Lvl} {e : Rx} {s : Str} (h : Renders l e s) : ∀ c ∈ s, RChar c := by
  induction h with
  | sym hc => exact List.forall_mem_singleton.mpr (.lit hc)
  | emp => simp [RChar]
  | paren _ ih =>
    rw [List.forall_mem_append, List.forall_mem_cons, List.forall_mem_singleton]
    exact ⟨⟨.inl rfl, ih⟩, .inr (.inl rfl)⟩
  | star _ ih =>
    rw [List.forall_mem_append, List.forall_mem_singleton]
    exact ⟨ih, .inr (.inr (.inr (.inl rfl)))⟩
  | opt _ ih =>
    rw [List.forall_mem_append, List.forall_mem_singleton]
    exact ⟨ih, .inr (.inr (.inr (.inr (.inl rfl))))⟩
  | ofP _ ih => exact ih
  | cat _ _ ih1 ih2 => exact List.forall_mem_append.mpr ⟨ih1, ih2⟩
  | ofC _ ih => exact ih
  | union _ _ ih1 ih2 =>
    rw [List.forall_mem_append, List.forall_mem_cons]
    exact ⟨ih1, .inr (.inr (.inl rfl)), ih2⟩

theorem not_mem_brace_of_rchars {s : Str} (h : ∀ c ∈ s, RChar c) : '{' ∉ s :=
  fun hm => absurd (h '{' hm) (by unfold RChar; decide)

theorem not_mem_brace_of_isLit {syms : List Char} (hlit : ∀ a ∈ syms, IsLit a) : '{' ∉ syms :=
  not_mem_brace_of_rchars fun c hc => .lit (hlit c hc)

theorem symChar_of_isLit {c : Char} (h : IsLit c) : SymChar c := by
  refine ⟨(ReValidate.pyIsSpace_eq_isPySpace c).symm.trans h.2, ?_⟩
  unfold AV.Rx.isReserved
  cases hc : AV.Gen.Regex.reservedCharacters.contains c with
  | false => rfl
  | true => exact absurd (List.contains_iff_mem.mp hc) h.1

theorem tokC_lit {c : Char} (h : IsLit c) : tokC c = .str [c] := by
  have hr := h.1
  simp only [AV.Gen.Regex.reservedCharacters, List.mem_cons, List.not_mem_nil, or_false,
    not_or] at hr
  simp [tokC, AV.Rx.opTok, hr]

theorem tokText_tokC {c : Char} (h : RChar c) : TokText (tokC c) [c] := by
  rcases h with rfl | rfl | rfl | rfl | rfl | hl
  · exact .lparen
  · exact .rparen
  · exact .union
  · exact .star
  · exact .opt
  · exact tokC_lit hl ▸ .sym c (symChar_of_isLit hl)

theorem renders_rchars {s : Str} (h : ∀ c ∈ s, RChar c) : AV.Rx.Renders (s.map tokC) s := by
  induction s with
  | nil => exact .nil
  | cons c s ih =>
    rw [List.forall_mem_cons] at h
    exact .tok (tokText_tokC h.1) (ih h.2)

theorem lex_rchars {s : Str} (h : ∀ c ∈ s, RChar c) : lex s = .ok (s.map tokC) :=
  lex_renders (renders_rchars h)

theorem simpleRxValid_iff_of_rchars {s : Str} (h : ∀ c ∈ s, RChar c) :
    simpleRxValid s = .ok true ↔ AV.Rx.validateTokens (s.map tokC) = .ok () := by
  rw [ReValidate.simpleRxValid_eq_reValidate s (not_mem_brace_of_rchars h), reValidate,
    AV.Rx.validate, lex_rchars h]
  rcases AV.Rx.validate_error_kind (s.map tokC) with h | h <;> simp [h]

end AV.GnfaSpec

namespace AV.Rx.GnfaGlue
open AV AV.Rx
open AV.GNFA.ReValidate (tokC)

/-- C12's expressions as C10 trees. -/
def tr : GnfaSpec.Rx → Rx Char
  | .eps => .eps
  | .sym c => .lit c
  | .cat a b => .cat (tr a) (tr b)
  | .union a b => .union (tr a) (tr b)
  | .star a => .star (tr a)
  | .opt a => .opt (tr a)

def mapLvl : GnfaSpec.Lvl → Lvl
  | .U => .E
  | .C => .T
  | .P => .F

/-- Unprefixed `Rx`, `Lvl`, `G` are C10's (token level). -/
theorem translate {lvl : GnfaSpec.Lvl} {e : GnfaSpec.Rx} {s : List Char}
    (h : GnfaSpec.Renders lvl e s) : G (mapLvl lvl) (tr e) (s.map tokC) := by
  induction h with
  | @sym c hc => rw [List.map_singleton, GnfaSpec.tokC_lit hc]; exact .atom (.lit c)
  | emp => exact .atom .eps
  | paren _ ih => rw [List.map_append, List.map_cons]; exact .atom (.paren ih)
  | star _ ih => rw [List.map_append]; exact .star ih
  | opt _ ih => rw [List.map_append]; exact .opt ih
  | ofP _ ih => exact .factor ih
  | cat _ _ ih1 ih2 => rw [List.map_append]; exact .cat ih1 ih2
  | ofC _ ih => exact .term ih
  | union _ _ ih1 ih2 => rw [List.map_append, List.map_cons, List.append_cons]; exact .union ih1 ih2

end AV.Rx.GnfaGlue

namespace AV.GnfaSpec
open AV AV.GNFA

theorem Renders.valid {l : Lvl} {e : Rx} {s : Str} (h : Renders l e s) :
    simpleRxValid s = .ok true :=
  (simpleRxValid_iff_of_rchars h.rchars).mpr
    (AV.Rx.validate_of_grammar (AV.Rx.GnfaGlue.translate h))

theorem simpleRxValid_nil : simpleRxValid [] = .ok true := by decide

theorem Lab.valid {L : Language Char} {s : Str} (h : Lab L s) : simpleRxValid s = .ok true := by
  rcases h with ⟨rfl, _⟩ | ⟨e, hr, _⟩
  · exact simpleRxValid_nil
  · exact hr.valid

end AV.GnfaSpec
