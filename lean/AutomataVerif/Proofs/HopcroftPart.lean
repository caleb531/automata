/-
Proofs/HopcroftPart.lean — `PartitionRefinement` (model: `Part`): the id ↦ block view of a
partition, and the specification of `Part.refine` (`refine_spec`).
-/
import AutomataVerif.Proofs.MinifySpec

namespace AV

theorem alookup_append {κ β : Type} [DecidableEq κ] [DecidableEq β] (k : κ) (l m : List (κ × β)) :
    alookup k (l ++ m) = (alookup k l).or (alookup k m) :=
  alookup_append_or k l m

theorem alookup_split {β : Type} [DecidableEq β] (bl : List (Nat × β)) (aid nid : Nat) (D I : β)
    (j : Nat) :
    alookup j ((bl.map fun b => if b.1 = aid then (aid, D) else b) ++ [(nid, I)]) =
      ((alookup j bl).map fun v => if j = aid then D else v).or (if nid = j then some I else none) := by
  rw [alookup_append]
  congr 1
  induction bl with
  | nil => rfl
  | cons kv t ih =>
    obtain ⟨k, v⟩ := kv
    rw [List.map_cons]
    by_cases hk : k = aid
    · subst hk
      rw [if_pos rfl, alookup_cons, alookup_cons]
      by_cases hj : k = j
      · rw [if_pos hj, if_pos hj, Option.map_some, if_pos hj.symm]
      · rw [if_neg hj, if_neg hj]; exact ih
    · rw [if_neg hk, alookup_cons, alookup_cons]
      by_cases hj : k = j
      · rw [if_pos hj, if_pos hj, Option.map_some, if_neg (hj ▸ hk)]
      · rw [if_neg hj, if_neg hj]; exact ih

namespace DFA
namespace Part
variable {τ : Type} [DecidableEq τ]

def ids (p : Part τ) : List Nat := p.blocks.map Prod.fst

omit [DecidableEq τ] in
theorem get_of_mem {p : Part τ} (hnd : p.ids.Nodup) {i : Nat} {B : List τ} (h : (i, B) ∈ p.blocks) :
    p.get i = B := by
  unfold get; rw [alookup_of_mem_nodup hnd h]; rfl

omit [DecidableEq τ] in
theorem get_mem_of_ids {p : Part τ} {i : Nat} (h : i ∈ p.ids) : (i, p.get i) ∈ p.blocks := by
  unfold get
  obtain ⟨v, hl⟩ := exists_alookup h
  rw [hl]
  exact alookup_some_mem hl

set_option linter.unusedSectionVars false in
theorem get_of_not_ids {p : Part τ} {i : Nat} (h : i ∉ p.ids) : p.get i = [] := by
  unfold get
  have : alookup i p.blocks = none := alookup_eq_none_iff.mpr h
  simp [this]

omit [DecidableEq τ] in
theorem mem_blocks_iff {p : Part τ} (hnd : p.ids.Nodup) {b : Nat × List τ} :
    b ∈ p.blocks ↔ b.1 ∈ p.ids ∧ p.get b.1 = b.2 := by
  obtain ⟨i, B⟩ := b
  constructor
  · intro h
    exact ⟨List.mem_map.mpr ⟨(i, B), h, rfl⟩, get_of_mem hnd h⟩
  · rintro ⟨h1, h2⟩
    have := get_mem_of_ids h1
    simp only at h2
    rw [h2] at this
    exact this

/-- The id ↦ block form of `IsPartitionOf`. -/
structure WF (p : Part τ) (U : List τ) : Prop where
  ids_nodup : p.ids.Nodup
  ids_lt : ∀ i ∈ p.ids, i < p.next
  nonempty : ∀ i ∈ p.ids, p.get i ≠ []
  block_nodup : ∀ i ∈ p.ids, (p.get i).Nodup
  cover : ∀ x, x ∈ U ↔ ∃ i ∈ p.ids, x ∈ p.get i
  disjoint : ∀ i ∈ p.ids, ∀ j ∈ p.ids, ∀ x, x ∈ p.get i → x ∈ p.get j → i = j

omit [DecidableEq τ] in
theorem WF.isPartitionOf {p : Part τ} {U : List τ} (h : p.WF U) : p.IsPartitionOf U where
  ids_nodup := h.ids_nodup
  ids_lt := fun b hb => h.ids_lt _ ((mem_blocks_iff h.ids_nodup).mp hb).1
  nonempty := fun b hb => by
    obtain ⟨h1, h2⟩ := (mem_blocks_iff h.ids_nodup).mp hb
    rw [← h2]; exact h.nonempty _ h1
  block_nodup := fun b hb => by
    obtain ⟨h1, h2⟩ := (mem_blocks_iff h.ids_nodup).mp hb
    rw [← h2]; exact h.block_nodup _ h1
  cover := fun x => by
    rw [h.cover]
    constructor
    · rintro ⟨i, hi, hx⟩
      exact ⟨(i, p.get i), get_mem_of_ids hi, hx⟩
    · rintro ⟨b, hb, hx⟩
      obtain ⟨h1, h2⟩ := (mem_blocks_iff h.ids_nodup).mp hb
      exact ⟨b.1, h1, by rw [h2]; exact hx⟩
  disjoint := fun b hb c hc x hxb hxc => by
    obtain ⟨b1, b2⟩ := b
    obtain ⟨c1, c2⟩ := c
    obtain ⟨h1, h2⟩ := (mem_blocks_iff h.ids_nodup).mp hb
    obtain ⟨h3, h4⟩ := (mem_blocks_iff h.ids_nodup).mp hc
    simp only at h1 h2 h3 h4 hxb hxc
    have := h.disjoint b1 h1 c1 h3 x (by rw [h2]; exact hxb) (by rw [h4]; exact hxc)
    subst this
    rw [← h2, ← h4]

omit [DecidableEq τ] in
theorem same_iff {p : Part τ} (hnd : p.ids.Nodup) {x y : τ} :
    p.Same x y ↔ ∃ i ∈ p.ids, x ∈ p.get i ∧ y ∈ p.get i := by
  unfold Same
  constructor
  · rintro ⟨b, hb, hx, hy⟩
    obtain ⟨h1, h2⟩ := (mem_blocks_iff hnd).mp hb
    exact ⟨b.1, h1, by rw [h2]; exact ⟨hx, hy⟩⟩
  · rintro ⟨i, hi, hx, hy⟩
    exact ⟨(i, p.get i), get_mem_of_ids hi, hx, hy⟩

omit [DecidableEq τ] in
theorem WF.same_mem {p : Part τ} {U : List τ} (h : p.WF U) {x y : τ} (hs : p.Same x y) :
    x ∈ U ∧ y ∈ U := by
  obtain ⟨i, hi, hx, hy⟩ := (same_iff h.ids_nodup).mp hs
  exact ⟨(h.cover x).mpr ⟨i, hi, hx⟩, (h.cover y).mpr ⟨i, hi, hy⟩⟩

/-- No more blocks than elements: each block holds an element of `U` that no other block holds. -/
theorem WF.ids_length_le {p : Part τ} {U : List τ} (h : p.WF U) : p.ids.length ≤ U.length := by
  refine length_le_of_rel_inj (fun i x => x ∈ p.get i) p.ids U h.ids_nodup (fun i hi => ?_)
    fun i hi j hj x hxi hxj => h.disjoint i hi j hj x hxi hxj
  obtain ⟨x, hx⟩ := List.exists_mem_of_ne_nil _ (h.nonempty i hi)
  exact ⟨x, (h.cover x).mpr ⟨i, hi, hx⟩, hx⟩

theorem WF.blockOf_iff {p : Part τ} {U : List τ} (h : p.WF U) {x : τ} {i : Nat} :
    p.blockOf x = some i ↔ i ∈ p.ids ∧ x ∈ p.get i := by
  unfold blockOf
  constructor
  · intro hf
    cases hfind : p.blocks.find? (fun b => decide (x ∈ b.2)) with
    | none => simp [hfind] at hf
    | some b =>
      simp only [hfind, Option.map_some, Option.some.injEq] at hf
      have hb := List.mem_of_find?_eq_some hfind
      have hx := List.find?_some hfind
      obtain ⟨h1, h2⟩ := (mem_blocks_iff h.ids_nodup).mp hb
      subst hf
      exact ⟨h1, by rw [h2]; simpa using hx⟩
  · rintro ⟨hi, hx⟩
    cases hfind : p.blocks.find? (fun b => decide (x ∈ b.2)) with
    | none =>
      have := List.find?_eq_none.mp hfind (i, p.get i) (get_mem_of_ids hi)
      simp [hx] at this
    | some b =>
      have hb := List.mem_of_find?_eq_some hfind
      have hxb := List.find?_some hfind
      obtain ⟨h1, h2⟩ := (mem_blocks_iff h.ids_nodup).mp hb
      have : b.1 = i := h.disjoint b.1 h1 i hi x (by rw [h2]; simpa using hxb) hx
      simp [this]

/-- The body of the `for Aid, AintS in hit.items()` loop. -/
def refStep (S : List τ) (acc : Part τ × List (Nat × Nat)) (aid : Nat) : Part τ × List (Nat × Nat) :=
  let A := acc.1.get aid
  let inter := A.filter fun x => decide (x ∈ S)
  if inter.length < A.length then
    let nid := acc.1.next
    ({ blocks := (acc.1.blocks.map fun b =>
                    if b.1 = aid then (aid, A.filter fun x => decide (x ∉ S)) else b) ++ [(nid, inter)],
       next := nid + 1 },
     acc.2 ++ [(nid, aid)])
  else acc

theorem refine_eq (p : Part τ) (S : List τ) :
    p.refine S = (dedup (S.filterMap p.blockOf)).foldl (refStep S) (p, []) := rfl

def NotAll (S A : List τ) : Prop := ∃ y ∈ A, y ∉ S

theorem notAll_iff (S A : List τ) :
    (A.filter fun x => decide (x ∈ S)).length < A.length ↔ NotAll S A := by
  rw [List.length_filter_lt_length_iff_exists]; simp [NotAll]

theorem refStep_nosplit {S : List τ} {acc : Part τ × List (Nat × Nat)} {aid : Nat}
    (h : ¬ NotAll S (acc.1.get aid)) : refStep S acc aid = acc :=
  if_neg fun hlt => h ((notAll_iff S _).mp hlt)

theorem refStep_split {S : List τ} {acc : Part τ × List (Nat × Nat)} {aid : Nat}
    (h : NotAll S (acc.1.get aid)) (haid : aid ∈ acc.1.ids) (hfresh : acc.1.next ∉ acc.1.ids) :
    (refStep S acc aid).1.ids = acc.1.ids ++ [acc.1.next] ∧
    (refStep S acc aid).1.next = acc.1.next + 1 ∧
    (refStep S acc aid).2 = acc.2 ++ [(acc.1.next, aid)] ∧
    (refStep S acc aid).1.get aid = (acc.1.get aid).filter (fun x => decide (x ∉ S)) ∧
    (refStep S acc aid).1.get acc.1.next = (acc.1.get aid).filter (fun x => decide (x ∈ S)) ∧
    ∀ j, j ≠ aid → j ≠ acc.1.next → (refStep S acc aid).1.get j = acc.1.get j := by
  have hstep : refStep S acc aid =
      ({ blocks := (acc.1.blocks.map fun b => if b.1 = aid then
            (aid, (acc.1.get aid).filter fun x => decide (x ∉ S)) else b) ++
            [(acc.1.next, (acc.1.get aid).filter fun x => decide (x ∈ S))],
         next := acc.1.next + 1 }, acc.2 ++ [(acc.1.next, aid)]) :=
    if_pos ((notAll_iff S _).mpr h)
  rw [hstep]
  refine ⟨?_, rfl, rfl, ?_, ?_, fun j hj hj' => ?_⟩
  · show List.map Prod.fst (List.map _ _ ++ [_]) = List.map Prod.fst _ ++ [_]
    rw [List.map_append, List.map_map]
    congr 1
    exact List.map_congr_left fun b _ => by
      show (if b.1 = aid then _ else b).1 = b.1
      split
      · exact (‹b.1 = aid›).symm
      · rfl
  · obtain ⟨v, hv⟩ := exists_alookup haid
    show (alookup aid _).getD [] = _
    rw [alookup_split, hv]
    simp only [Option.map_some, if_true, Option.some_or, Option.getD_some]
  · show (alookup acc.1.next _).getD [] = _
    rw [alookup_split, alookup_eq_none_iff.mpr hfresh]
    simp only [Option.map_none, Option.none_or, if_true, Option.getD_some]
  · show (alookup j _).getD [] = (alookup j _).getD []
    rw [alookup_split, if_neg (Ne.symm hj'), Option.or_none]
    simp only [if_neg hj, Option.map_id']

/-- `p.refine S = (r, out)` when `Sp` says which blocks are split: a split block `A` (id `o`)
becomes `A \ S` (id `o`) and `A ∩ S` (fresh id `n`), with `(n, o) ∈ out`; nothing else changes. -/
structure RefRel (S : List τ) (Sp : Nat → Prop) (p r : Part τ) (out : List (Nat × Nat)) : Prop where
  ids_eq : r.ids = p.ids ++ out.map Prod.fst
  next_eq : r.next = p.next + out.length
  ids_nodup : r.ids.Nodup
  ids_lt : ∀ i ∈ r.ids, i < r.next
  out_spec : ∀ pr ∈ out, p.next ≤ pr.1 ∧ Sp pr.2 ∧
    r.get pr.1 = (p.get pr.2).filter (fun x => decide (x ∈ S))
  out_complete : ∀ o, Sp o → ∃ n, (n, o) ∈ out
  fst_unique : ∀ pr ∈ out, ∀ pr' ∈ out, pr.2 = pr'.2 → pr.1 = pr'.1
  get_split : ∀ j ∈ p.ids, Sp j → r.get j = (p.get j).filter (fun x => decide (x ∉ S))
  get_keep : ∀ j ∈ p.ids, ¬ Sp j → r.get j = p.get j

theorem RefRel.congr {S : List τ} {Sp Sp' : Nat → Prop} {p r : Part τ} {out : List (Nat × Nat)}
    (h : RefRel S Sp p r out) (hiff : ∀ j, Sp j ↔ Sp' j) : RefRel S Sp' p r out :=
  (funext fun j => propext (hiff j) : Sp = Sp') ▸ h

/-- Loop invariant of `refine`: `done` are the hit ids already processed (`p` is the partition the
loop started from). -/
theorem RefRel.step {S : List τ} {p r : Part τ} {out : List (Nat × Nat)} {done : List Nat} {a : Nat}
    (h : RefRel S (fun j => j ∈ done ∧ NotAll S (p.get j)) p r out) (ha : a ∈ p.ids)
    (had : a ∉ done) :
    RefRel S (fun j => j ∈ done ++ [a] ∧ NotAll S (p.get j)) p
      (refStep S (r, out) a).1 (refStep S (r, out) a).2 := by
  have hga : r.get a = p.get a := h.get_keep a ha fun hd => had hd.1
  have hsub : ∀ j ∈ p.ids, j ∈ r.ids := fun j hj => by
    rw [h.ids_eq]; exact List.mem_append_left _ hj
  by_cases hs : NotAll S (p.get a)
  · have hfresh : r.next ∉ r.ids := fun hm => Nat.lt_irrefl _ (h.ids_lt _ hm)
    obtain ⟨e1, e2, e3, e4, e5, e6⟩ :=
      refStep_split (acc := (r, out)) (hga ▸ hs) (hsub a ha) hfresh
    generalize refStep S (r, out) a = acc' at e1 e2 e3 e4 e5 e6 ⊢
    simp only at e1 e2 e3 e4 e5 e6
    rw [hga] at e4 e5
    have hother : ∀ j ∈ r.ids, j ≠ a → acc'.1.get j = r.get j :=
      fun j hj hja => e6 j hja fun e => hfresh (e ▸ hj)
    have hdone : ∀ j, j ∈ done → j ≠ a := fun j hj e => had (e ▸ hj)
    constructor
    · rw [e1, e3, h.ids_eq]; simp
    · rw [e2, e3, h.next_eq, List.length_append, Nat.add_assoc]; rfl
    · rw [e1]
      exact List.nodup_append.mpr ⟨h.ids_nodup, by simp,
        fun x hx y hy e => hfresh (List.mem_singleton.mp hy ▸ e ▸ hx)⟩
    · intro i hi
      rw [e1] at hi; rw [e2]
      rcases List.mem_append.mp hi with hi | hi
      · exact Nat.lt_succ_of_lt (h.ids_lt i hi)
      · rw [List.mem_singleton.mp hi]; exact Nat.lt_succ_self _
    · intro pr hpr
      rw [e3] at hpr
      rcases List.mem_append.mp hpr with hpr | hpr
      · obtain ⟨h1, h2, h3⟩ := h.out_spec pr hpr
        have hpr1 : pr.1 ∈ r.ids := by
          rw [h.ids_eq]; exact List.mem_append_right _ (List.mem_map_of_mem hpr)
        have hne : pr.1 ≠ a := fun e =>
          (List.nodup_append.mp (h.ids_eq ▸ h.ids_nodup)).2.2 a ha _ (List.mem_map_of_mem hpr) e.symm
        exact ⟨h1, ⟨List.mem_append_left _ h2.1, h2.2⟩, by rw [hother _ hpr1 hne, h3]⟩
      · rw [List.mem_singleton.mp hpr]
        exact ⟨by rw [h.next_eq]; exact Nat.le_add_right _ _, ⟨List.mem_append_right _ (List.mem_singleton_self a), hs⟩, e5⟩
    · rintro o ⟨ho, hno⟩
      rw [e3]
      rcases List.mem_append.mp ho with ho | ho
      · obtain ⟨n, hn⟩ := h.out_complete o ⟨ho, hno⟩
        exact ⟨n, List.mem_append_left _ hn⟩
      · rw [List.mem_singleton.mp ho]; exact ⟨r.next, List.mem_append_right _ (List.mem_singleton_self _)⟩
    · intro pr hpr pr' hpr' e
      rw [e3] at hpr hpr'
      rcases List.mem_append.mp hpr with hpr | hpr <;> rcases List.mem_append.mp hpr' with hpr' | hpr'
      · exact h.fst_unique pr hpr pr' hpr' e
      · rw [List.mem_singleton.mp hpr'] at e
        exact absurd ((show pr.2 = a from e) ▸ (h.out_spec pr hpr).2.1.1) had
      · rw [List.mem_singleton.mp hpr] at e
        exact absurd ((show a = pr'.2 from e).symm ▸ (h.out_spec pr' hpr').2.1.1) had
      · rw [List.mem_singleton.mp hpr, List.mem_singleton.mp hpr']
    · rintro j hj ⟨hjd, hno⟩
      rcases List.mem_append.mp hjd with hjd | hjd
      · rw [hother j (hsub j hj) (hdone j hjd), h.get_split j hj ⟨hjd, hno⟩]
      · rw [List.mem_singleton.mp hjd, e4]
    · intro j hj hno
      have hja : j ≠ a := fun e => hno ⟨List.mem_append_right _ (List.mem_singleton.mpr e), e ▸ hs⟩
      rw [hother j (hsub j hj) hja]
      exact h.get_keep j hj fun hh => hno ⟨List.mem_append_left _ hh.1, hh.2⟩
  · rw [refStep_nosplit (acc := (r, out)) (hga ▸ hs)]
    refine h.congr fun j => ⟨fun hj => ⟨List.mem_append_left _ hj.1, hj.2⟩, fun hj => ⟨?_, hj.2⟩⟩
    rcases List.mem_append.mp hj.1 with hj' | hj'
    · exact hj'
    · exact absurd (List.mem_singleton.mp hj' ▸ hj.2) hs

theorem refFold_spec {S : List τ} {p : Part τ} : ∀ (todo done : List Nat) (acc : Part τ × List (Nat × Nat)),
    (done ++ todo).Nodup → (∀ i ∈ todo, i ∈ p.ids) →
    RefRel S (fun j => j ∈ done ∧ NotAll S (p.get j)) p acc.1 acc.2 →
    RefRel S (fun j => j ∈ done ++ todo ∧ NotAll S (p.get j)) p
      (todo.foldl (refStep S) acc).1 (todo.foldl (refStep S) acc).2 := by
  intro todo
  induction todo with
  | nil => intro done acc _ _ h; rw [List.append_nil]; exact h
  | cons a t ih =>
    intro done acc hnd hsub h
    rw [List.append_cons] at hnd ⊢
    have had : a ∉ done := fun hm =>
      (List.nodup_append.mp (List.nodup_append.mp hnd).1).2.2 a hm a (List.mem_singleton_self a) rfl
    exact ih (done ++ [a]) _ hnd (fun i hi => hsub i (List.mem_cons_of_mem _ hi))
      (h.step (hsub a List.mem_cons_self) had)

def Split (p : Part τ) (S : List τ) (j : Nat) : Prop :=
  j ∈ p.ids ∧ (∃ x ∈ p.get j, x ∈ S) ∧ (∃ y ∈ p.get j, y ∉ S)

theorem split_of_sep {p : Part τ} {S : List τ} {i : Nat} (hi : i ∈ p.ids) {u v : τ}
    (hu : u ∈ p.get i) (hv : v ∈ p.get i) (hne : ¬ (u ∈ S ↔ v ∈ S)) : p.Split S i := by
  by_cases h : u ∈ S
  · exact ⟨hi, ⟨u, hu, h⟩, ⟨v, hv, fun h' => hne ⟨fun _ => h', fun _ => h⟩⟩⟩
  · exact ⟨hi, ⟨v, hv, Classical.byContradiction fun h' =>
      hne ⟨fun h'' => absurd h'' h, fun h'' => absurd h'' h'⟩⟩, ⟨u, hu, h⟩⟩

/-- The specification of `p.refine S = (r, out)`: exactly the properly split blocks are split. -/
abbrev RefineSpec (p : Part τ) (S : List τ) (r : Part τ) (out : List (Nat × Nat)) : Prop :=
  RefRel S (p.Split S) p r out

theorem WF.mem_hit_iff {p : Part τ} {U : List τ} (h : p.WF U) (S : List τ) {i : Nat} :
    i ∈ dedup (S.filterMap p.blockOf) ↔ i ∈ p.ids ∧ ∃ x ∈ p.get i, x ∈ S := by
  rw [mem_dedup, List.mem_filterMap]
  constructor
  · rintro ⟨x, hx, hb⟩
    obtain ⟨h1, h2⟩ := h.blockOf_iff.mp hb
    exact ⟨h1, x, h2, hx⟩
  · rintro ⟨h1, x, h2, hx⟩
    exact ⟨x, hx, h.blockOf_iff.mpr ⟨h1, h2⟩⟩

theorem refine_spec {p : Part τ} {U : List τ} (h : p.WF U) (S : List τ) :
    RefineSpec p S (p.refine S).1 (p.refine S).2 := by
  rw [refine_eq]
  refine (refFold_spec (dedup (S.filterMap p.blockOf)) [] (p, []) (nodup_dedup _)
    (fun i hi => ((h.mem_hit_iff S).mp hi).1)
    ⟨by simp, by simp, h.ids_nodup, h.ids_lt, by simp, by simp, by simp, by simp,
      fun _ _ _ => rfl⟩).congr fun j => ?_
  rw [List.nil_append, h.mem_hit_iff S]
  exact ⟨fun hj => ⟨hj.1.1, hj.1.2, hj.2⟩, fun hj => ⟨⟨hj.1, hj.2.1⟩, hj.2.2⟩⟩

theorem RefRel.mem_get_old {p r : Part τ} {S : List τ} {out : List (Nat × Nat)}
    (hs : RefineSpec p S r out) {j : Nat} (hj : j ∈ p.ids) {x : τ} :
    x ∈ r.get j ↔ x ∈ p.get j ∧ (p.Split S j → x ∉ S) := by
  by_cases hsp : p.Split S j
  · rw [hs.get_split j hj hsp]; simp [hsp]
  · rw [hs.get_keep j hj hsp]; simp [hsp]

theorem RefRel.mem_get_new {p r : Part τ} {S : List τ} {out : List (Nat × Nat)}
    (hs : RefineSpec p S r out) {pr : Nat × Nat} (hpr : pr ∈ out) {x : τ} :
    x ∈ r.get pr.1 ↔ x ∈ p.get pr.2 ∧ x ∈ S := by
  rw [(hs.out_spec pr hpr).2.2]; simp

theorem RefRel.mem_ids {p r : Part τ} {S : List τ} {out : List (Nat × Nat)}
    (hs : RefineSpec p S r out) {i : Nat} :
    i ∈ r.ids ↔ i ∈ p.ids ∨ ∃ pr ∈ out, pr.1 = i := by
  rw [hs.ids_eq, List.mem_append, List.mem_map]

theorem RefRel.sep_old {p r : Part τ} {S : List τ} {out : List (Nat × Nat)}
    (hs : RefineSpec p S r out) {i : Nat} (hi : i ∈ p.ids) {z t : τ} (hz : z ∈ p.get i)
    (ht : t ∉ p.get i) : ∃ k, (k = i ∨ (k, i) ∈ out) ∧ z ∈ r.get k ∧ t ∉ r.get k := by
  by_cases hzS : z ∈ S ∧ p.Split S i
  · obtain ⟨n, hn⟩ := hs.out_complete i hzS.2
    exact ⟨n, Or.inr hn, (hs.mem_get_new hn).mpr ⟨hz, hzS.1⟩,
      fun h => ht ((hs.mem_get_new hn).mp h).1⟩
  · exact ⟨i, Or.inl rfl, (hs.mem_get_old hi).mpr ⟨hz, fun hsp hzs => hzS ⟨hzs, hsp⟩⟩,
      fun h => ht ((hs.mem_get_old hi).mp h).1⟩

theorem RefRel.sep_new {p r : Part τ} {S : List τ} {out : List (Nat × Nat)}
    (hs : RefineSpec p S r out) {i : Nat} (hi : i ∈ p.ids) {u v : τ} (hu : u ∈ p.get i)
    (hv : v ∈ p.get i) (hne : ¬ (u ∈ S ↔ v ∈ S)) :
    ∃ n, (n, i) ∈ out ∧ ¬ (u ∈ r.get n ↔ v ∈ r.get n) ∧ ¬ (u ∈ r.get i ↔ v ∈ r.get i) := by
  have hsp := split_of_sep hi hu hv hne
  obtain ⟨n, hn⟩ := hs.out_complete i hsp
  refine ⟨n, hn, ?_, ?_⟩
  · rw [hs.mem_get_new hn, hs.mem_get_new hn]
    exact fun h => hne ⟨fun hx => (h.mp ⟨hu, hx⟩).2, fun hx => (h.mpr ⟨hv, hx⟩).2⟩
  · rw [hs.mem_get_old hi, hs.mem_get_old hi]
    exact fun h => hne (Decidable.not_iff_not.mp
      ⟨fun hx => (h.mp ⟨hu, fun _ => hx⟩).2 hsp, fun hx => (h.mpr ⟨hv, fun _ => hx⟩).2 hsp⟩)

/-- Every field by cases on the id: an id of `p` holds its old block, without `S` if split
(`mem_get_old`); a fresh id `pr.1` holds the part of `p.get pr.2` inside `S` (`mem_get_new`).  Both
halves of a split block are inhabited by the definition of `Split`; an element of both would be
inside and outside `S`; two fresh ids with the same parent are one (`fst_unique`). -/
theorem RefRel.wf {p r : Part τ} {S U : List τ} {out : List (Nat × Nat)}
    (h : p.WF U) (hs : RefineSpec p S r out) : r.WF U where
  ids_nodup := hs.ids_nodup
  ids_lt := hs.ids_lt
  nonempty := by
    intro i hi
    rcases hs.mem_ids.mp hi with hi | ⟨pr, hpr, rfl⟩
    · by_cases hsp : p.Split S i
      · obtain ⟨y, hy, hyS⟩ := hsp.2.2
        have : y ∈ r.get i := (hs.mem_get_old hi).mpr ⟨hy, fun _ => hyS⟩
        exact List.ne_nil_of_mem this
      · rw [hs.get_keep i hi hsp]; exact h.nonempty i hi
    · obtain ⟨x, hx, hxS⟩ := (hs.out_spec pr hpr).2.1.2.1
      exact List.ne_nil_of_mem ((hs.mem_get_new hpr).mpr ⟨hx, hxS⟩)
  block_nodup := by
    intro i hi
    rcases hs.mem_ids.mp hi with hi | ⟨pr, hpr, rfl⟩
    · by_cases hsp : p.Split S i
      · rw [hs.get_split i hi hsp]; exact (h.block_nodup i hi).filter _
      · rw [hs.get_keep i hi hsp]; exact h.block_nodup i hi
    · rw [(hs.out_spec pr hpr).2.2]
      exact (h.block_nodup _ (hs.out_spec pr hpr).2.1.1).filter _
  cover := by
    intro x
    rw [h.cover]
    constructor
    · rintro ⟨i, hi, hx⟩
      by_cases hxS : x ∈ S ∧ p.Split S i
      · obtain ⟨n, hn⟩ := hs.out_complete i hxS.2
        exact ⟨n, hs.mem_ids.mpr (Or.inr ⟨_, hn, rfl⟩), (hs.mem_get_new hn).mpr ⟨hx, hxS.1⟩⟩
      · exact ⟨i, hs.mem_ids.mpr (Or.inl hi), (hs.mem_get_old hi).mpr ⟨hx, fun hsp hS => hxS ⟨hS, hsp⟩⟩⟩
    · rintro ⟨i, hi, hx⟩
      rcases hs.mem_ids.mp hi with hi | ⟨pr, hpr, rfl⟩
      · exact ⟨i, hi, ((hs.mem_get_old hi).mp hx).1⟩
      · exact ⟨pr.2, (hs.out_spec pr hpr).2.1.1, ((hs.mem_get_new hpr).mp hx).1⟩
  disjoint := by
    intro i hi j hj x hxi hxj
    rcases hs.mem_ids.mp hi with hi | ⟨pr, hpr, rfl⟩ <;>
      rcases hs.mem_ids.mp hj with hj | ⟨pr', hpr', rfl⟩
    · exact h.disjoint i hi j hj x ((hs.mem_get_old hi).mp hxi).1 ((hs.mem_get_old hj).mp hxj).1
    · obtain ⟨h1, h2⟩ := (hs.mem_get_old hi).mp hxi
      obtain ⟨h3, h4⟩ := (hs.mem_get_new hpr').mp hxj
      have hsp := (hs.out_spec pr' hpr').2.1
      have e : i = pr'.2 := h.disjoint i hi _ hsp.1 x h1 h3
      subst e
      exact absurd h4 (h2 hsp)
    · obtain ⟨h1, h2⟩ := (hs.mem_get_old hj).mp hxj
      obtain ⟨h3, h4⟩ := (hs.mem_get_new hpr).mp hxi
      have hsp := (hs.out_spec pr hpr).2.1
      have e : j = pr.2 := h.disjoint j hj _ hsp.1 x h1 h3
      subst e
      exact absurd h4 (h2 hsp)
    · obtain ⟨h1, _⟩ := (hs.mem_get_new hpr).mp hxi
      obtain ⟨h3, _⟩ := (hs.mem_get_new hpr').mp hxj
      have e := h.disjoint _ (hs.out_spec pr hpr).2.1.1 _ (hs.out_spec pr' hpr').2.1.1 x h1 h3
      exact hs.fst_unique pr hpr pr' hpr' e

theorem RefRel.same_iff {p r : Part τ} {S U : List τ} {out : List (Nat × Nat)}
    (h : p.WF U) (hs : RefineSpec p S r out) {x y : τ} :
    r.Same x y ↔ p.Same x y ∧ (x ∈ S ↔ y ∈ S) := by
  rw [Part.same_iff hs.ids_nodup, Part.same_iff h.ids_nodup]
  constructor
  · rintro ⟨i, hi, hx, hy⟩
    rcases hs.mem_ids.mp hi with hi | ⟨pr, hpr, rfl⟩
    · obtain ⟨h1, h2⟩ := (hs.mem_get_old hi).mp hx
      obtain ⟨h3, h4⟩ := (hs.mem_get_old hi).mp hy
      refine ⟨⟨i, hi, h1, h3⟩, ?_⟩
      by_cases hsp : p.Split S i
      · simp [h2 hsp, h4 hsp]
      · exact Classical.not_not.mp fun hne => hsp (split_of_sep hi h1 h3 hne)
    · obtain ⟨h1, h2⟩ := (hs.mem_get_new hpr).mp hx
      obtain ⟨h3, h4⟩ := (hs.mem_get_new hpr).mp hy
      exact ⟨⟨pr.2, (hs.out_spec pr hpr).2.1.1, h1, h3⟩, by simp [h2, h4]⟩
  · rintro ⟨⟨i, hi, hx, hy⟩, hxy⟩
    by_cases hxS : x ∈ S ∧ p.Split S i
    · obtain ⟨n, hn⟩ := hs.out_complete i hxS.2
      exact ⟨n, hs.mem_ids.mpr (Or.inr ⟨_, hn, rfl⟩), (hs.mem_get_new hn).mpr ⟨hx, hxS.1⟩,
        (hs.mem_get_new hn).mpr ⟨hy, hxy.mp hxS.1⟩⟩
    · exact ⟨i, hs.mem_ids.mpr (Or.inl hi),
        (hs.mem_get_old hi).mpr ⟨hx, fun hsp hS => hxS ⟨hS, hsp⟩⟩,
        (hs.mem_get_old hi).mpr ⟨hy, fun hsp hS => hxS ⟨hxy.mpr hS, hsp⟩⟩⟩

end Part
end DFA
end AV
