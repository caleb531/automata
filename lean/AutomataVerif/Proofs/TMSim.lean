/-
Proofs/TMSim.lean — the extended-tape simulation (`Model/TMSim.lean`) against the native
multitape run.  Directions and tape ends are analysed in one place, a move on a zipper (`zip_step`).
-/
import AutomataVerif.Proofs.TMRun
import AutomataVerif.Proofs.TMValidate
import AutomataVerif.Spec.TMSim

namespace AV.TM
variable {σ Γ : Type}

@[simp] theorem pyGet?_nat (l : List Γ) (n : Nat) : pyGet? l (n : Int) = l[n]? := by
  simp [pyGet?]

@[simp] theorem pyTake_nat (l : List Γ) (n : Nat) : pyTake l (n : Int) = l.take n := by
  simp [pyTake]

@[simp] theorem pyDrop_nat (l : List Γ) (n : Nat) : pyDrop l (n : Int) = l.drop n := by
  simp [pyDrop]

section Split
variable {l P S : List Γ} {i : Int}

theorem pyTake_split (hl : l = P ++ S) (hi : i = P.length) : pyTake l i = P := by
  subst hl hi; rw [pyTake_nat, List.take_left]

theorem pyDrop_split (hl : l = P ++ S) (hi : i = P.length) : pyDrop l i = S := by
  subst hl hi; rw [pyDrop_nat, List.drop_left]

theorem pyGet?_split {x : Γ} (hl : l = P ++ x :: S) (hi : i = P.length) : pyGet? l i = some x := by
  subst hl hi; simp

theorem pyInsert_split (hl : l = P ++ S) (hi : i = P.length) (xs : List Γ) :
    pyInsert l i xs = P ++ xs ++ S := by
  rw [pyInsert, pyTake_split hl hi, pyDrop_split hl hi]

end Split

theorem Clean.cons {hd sep : Γ} {x : Γ} {l : List Γ} (hx : x ≠ hd ∧ x ≠ sep) (hl : Clean hd sep l) :
    Clean hd sep (x :: l) := by
  intro y hy
  rcases List.mem_cons.mp hy with rfl | h
  · exact hx
  · exact hl y h

theorem Clean.nil {hd sep : Γ} : Clean hd sep ([] : List Γ) := by intro x hx; cases hx

/-- A tape given by the cells left of the head, the scanned cell, the cells right of it. -/
def Tape.ofZip (A : List Γ) (c : Γ) (B : List Γ) (b : Γ) : Tape Γ :=
  { cells := A ++ c :: B, blank := b, pos := A.length }

theorem Tape.ofZip_wf (A : List Γ) (c : Γ) (B : List Γ) (b : Γ) : (Tape.ofZip A c B b).WF := by
  simp [Tape.ofZip, Tape.WF]

theorem Tape.ofZip_read (A : List Γ) (c : Γ) (B : List Γ) (b : Γ) : (Tape.ofZip A c B b).read = c := by
  simp [Tape.ofZip, Tape.read]

theorem encTape_ofZip (hd sep : Γ) (A : List Γ) (c : Γ) (B : List Γ) (b : Γ) :
    encTape hd sep (Tape.ofZip A c B b) = A ++ c :: hd :: B ++ [sep] := by
  have h : (A ++ c :: B).take (A.length + 1) = A ++ [c] ∧ (A ++ c :: B).drop (A.length + 1) = B := by
    rw [List.take_length_add_append, List.drop_length_add_append]; exact ⟨rfl, rfl⟩
  simp [encTape, Tape.ofZip, h.1, h.2]

theorem GoodTape.exists_zip {hd sep b : Γ} {t : Tape Γ} (h : GoodTape hd sep b t) :
    ∃ A c B, t = Tape.ofZip A c B b ∧ Clean hd sep A ∧ (c ≠ hd ∧ c ≠ sep) ∧ Clean hd sep B := by
  obtain ⟨hw, hb, hcl⟩ := h
  cases t with
  | mk cells blank pos =>
    subst hb
    have hsplit : cells = cells.take pos ++ cells[pos] :: cells.drop (pos + 1) := by
      rw [← List.drop_eq_getElem_cons hw, List.take_append_drop]
    refine ⟨cells.take pos, cells[pos], cells.drop (pos + 1), ?_,
      fun x hx => hcl x (List.mem_of_mem_take hx), hcl _ (List.getElem_mem hw),
      fun x hx => hcl x (List.mem_of_mem_drop hx)⟩
    simp only [Tape.ofZip, Tape.mk.injEq, true_and, ← hsplit, List.length_take]
    exact (Nat.min_eq_left (Nat.le_of_lt hw)).symm

theorem GoodTape.init {hd sep b : Γ} (hb : b ≠ hd ∧ b ≠ sep) {c : List Γ} (hc : Clean hd sep c) (p : Nat) :
    GoodTape hd sep b (Tape.init c b p) := by
  refine ⟨Tape.init_wf _ _ _, rfl, fun x hx => ?_⟩
  simp only [Tape.init, List.mem_append, List.mem_replicate] at hx
  rcases hx with h | ⟨_, rfl⟩
  · exact hc x h
  · exact hb

theorem Tape.ofZip_write (A : List Γ) (c s : Γ) (B : List Γ) (b : Γ) :
    (Tape.ofZip A c B b).write s = Tape.ofZip A s B b := by
  have hw := Tape.ofZip_wf A c B b
  have hc := Tape.write_cells hw s
  have : (Tape.ofZip A c B b).write s =
      { cells := ((Tape.ofZip A c B b).write s).cells, blank := b, pos := A.length } := rfl
  rw [this, hc]
  simp [Tape.ofZip]

theorem Tape.ofZip_move_R_end (A : List Γ) (s : Γ) (b : Γ) :
    (Tape.ofZip A s [] b).move .R = Tape.ofZip (A ++ [s]) b [] b := by
  rw [Tape.move_R (Tape.ofZip_wf _ _ _ _)]
  simp [Tape.ofZip]

theorem Tape.ofZip_move_R_mid (A : List Γ) (s x : Γ) (B : List Γ) (b : Γ) :
    (Tape.ofZip A s (x :: B) b).move .R = Tape.ofZip (A ++ [s]) x B b := by
  rw [Tape.move_R (Tape.ofZip_wf _ _ _ _)]
  simp [Tape.ofZip]

theorem Tape.ofZip_move_L_left (s : Γ) (B : List Γ) (b : Γ) :
    (Tape.ofZip [] s B b).move .L = Tape.ofZip [] b (s :: B) b := by
  rw [Tape.move_L_zero rfl]
  simp [Tape.ofZip]

theorem Tape.ofZip_move_L_mid (A : List Γ) (a s : Γ) (B : List Γ) (b : Γ) :
    (Tape.ofZip (A ++ [a]) s B b).move .L = Tape.ofZip A a (s :: B) b := by
  rw [Tape.move_L_succ (Tape.ofZip_wf _ _ _ _) (by simp [Tape.ofZip])]
  simp [Tape.ofZip]

theorem encode_cons {hd sep : Γ} (t : Tape Γ) (ts : List (Tape Γ)) :
    encode hd sep (t :: ts) = encTape hd sep t ++ encode hd sep ts := by
  simp [encode]

variable [DecidableEq σ] [DecidableEq Γ]

theorem pyEqAt_split {l P S : List Γ} {i : Int} {x : Γ} (sep : Γ) (hl : l = P ++ x :: S) (hi : i = P.length) :
    pyEqAt sep l i = .ok (decide (x = sep)) := by
  rw [pyEqAt, pyGet?_split hl hi]

section Head
variable (hd sep blank s : Γ)

/-- The head branch on the tape `P ++ c :: hd :: S` (head mark at index `|P| + 1`, `s` the symbol to
write): `c` is overwritten and the mark removed; what remains are the direction part and the
re-insertion of the mark. -/
theorem spliceHead_prefix (dir : Dir) (P S : List Γ) (c : Γ) :
    spliceHead hd sep blank s dir (P ++ c :: hd :: S) ((P.length : Int) + 1) =
      match spliceDir sep blank dir (P ++ s :: S) ((P.length : Int) + 1) with
      | .error e => .error e
      | .ok r => spliceMark hd sep blank r.1 r.2 := by
  have t1 : pyTake (P ++ c :: hd :: S) ((P.length : Int) + 1 - 1) ++ [s] ++
      pyDrop (P ++ c :: hd :: S) ((P.length : Int) + 1) = (P ++ [s]) ++ hd :: S := by
    rw [pyTake_split (P := P) rfl (by omega),
      pyDrop_split (P := P ++ [c]) (S := hd :: S) (by simp) (by simp)]
  have t2 : pyTake ((P ++ [s]) ++ hd :: S) ((P.length : Int) + 1) ++
      pyDrop ((P ++ [s]) ++ hd :: S) ((P.length : Int) + 1 + 1) = P ++ s :: S := by
    rw [pyTake_split (P := P ++ [s]) rfl (by simp),
      pyDrop_split (P := P ++ [s, hd]) (S := S) (by simp) (by simp; omega)]
    simp
  simp only [spliceHead, t1, t2]
  rfl

/-- The direction part of a left move from the cell after `Q`: when that is the first cell of
its virtual tape (nothing, or a separator, before it) a blank is inserted (/repo commit 8f7542c). -/
theorem spliceDir_L (Q S : List Γ) :
    spliceDir sep blank .L (Q ++ S) ((Q.length : Int) + 1) =
      .ok (if Q = [] ∨ Q.getLast? = some sep then (Q ++ blank :: S, (Q.length : Int) + 1)
        else (Q ++ S, (Q.length : Int))) := by
  rcases List.eq_nil_or_concat Q with rfl | ⟨Q', a, rfl⟩
  · simp [spliceDir, pyInsert, pyTake, pyDrop]
  · rw [List.concat_eq_append]
    have hl : ((Q' ++ [a]).length : Int) = Q'.length + 1 := by simp
    have h0 : ¬ (((Q' ++ [a]).length : Int) + 1 - 1 = 0) := by omega
    have hq : pyEqAt sep (Q' ++ [a] ++ S) (((Q' ++ [a]).length : Int) + 1 - 1 - 1) =
        .ok (decide (a = sep)) := pyEqAt_split sep (P := Q') (S := S) (by simp) (by omega)
    have hins : pyInsert (Q' ++ [a] ++ S) (((Q' ++ [a]).length : Int) + 1 - 1) [blank] =
        Q' ++ [a] ++ [blank] ++ S := pyInsert_split rfl (by omega) _
    simp only [spliceDir, h0, if_false, hq, hins]
    by_cases ha : a = sep
    · simp [ha]
    · simp [ha]

/-- Re-inserting the head mark after the cell `a` at index `|Q|`; when `a` is the separator (the
head ran past the last cell) a blank is inserted before it first. -/
theorem spliceMark_at {tape Q S : List Γ} {a : Γ} {i : Int} (ht : tape = Q ++ a :: S)
    (hi : i = (Q.length : Int) + 1) :
    spliceMark hd sep blank tape i =
      .ok (if a = sep then Q ++ blank :: hd :: a :: S else Q ++ a :: hd :: S, (Q.length : Int) + 1) := by
  subst hi
  have h0 : (Q.length : Int) + 1 > 0 := by omega
  have hq : pyEqAt sep tape ((Q.length : Int) + 1 - 1) = .ok (decide (a = sep)) :=
    pyEqAt_split sep ht (by omega)
  have h1 : pyInsert tape ((Q.length : Int) + 1 - 1) [blank, hd] = Q ++ [blank, hd] ++ a :: S :=
    pyInsert_split ht (by omega) _
  have h2 : pyInsert tape ((Q.length : Int) + 1) [hd] = (Q ++ [a]) ++ [hd] ++ S :=
    pyInsert_split (by simp [ht]) (by simp) _
  simp only [spliceMark, h0, if_true, hq, h1, h2]
  by_cases ha : a = sep
  · simp [ha]
  · simp [ha]

end Head

set_option linter.unusedSectionVars false in
theorem Clean.append {hd sep : Γ} {a b : List Γ} (ha : Clean hd sep a) (hb : Clean hd sep b) :
    Clean hd sep (a ++ b) := by
  intro x hx
  rcases List.mem_append.mp hx with h | h
  · exact ha x h
  · exact hb x h

section Step
variable (hd sep b : Γ)

/-- **One move on a zipper**, natively and on the extended tape.  `write_symbol s` then `move d`
turns the zipper `(A, c, B)` into a zipper `(A', c', B')` of mark-free parts, and the head branch
of the splice loop turns `… A c ^ B _ …` into `… A' c' ^ B' _ …` (all directions; a blank is added
at either end of the virtual tape when the head leaves it), leaving the index on the new mark.
`done` is what precedes the virtual tape: nothing, or something ending with a separator. -/
theorem zip_step (hb : b ≠ hd ∧ b ≠ sep) (s : Γ) (hs : s ≠ hd ∧ s ≠ sep) (d : Dir)
    (A : List Γ) (c : Γ) (B : List Γ) (hA : Clean hd sep A) (hB : Clean hd sep B) :
    ∃ A' c' B', ((Tape.ofZip A c B b).write s).move d = Tape.ofZip A' c' B' b ∧
      Clean hd sep A' ∧ (c' ≠ hd ∧ c' ≠ sep) ∧ Clean hd sep B' ∧ B'.length ≤ B.length + 1 ∧
      ∀ done rest : List Γ, (done = [] ∨ done.getLast? = some sep) →
        spliceHead hd sep b s d (done ++ A ++ c :: hd :: (B ++ sep :: rest))
            (((done ++ A).length : Int) + 1) =
          .ok (done ++ A' ++ c' :: hd :: (B' ++ sep :: rest), ((done ++ A').length : Int) + 1) := by
  rw [Tape.ofZip_write]
  cases d with
  | R =>
    cases B with
    | nil =>
      refine ⟨A ++ [s], b, [], Tape.ofZip_move_R_end .., hA.append (.cons hs .nil), hb, .nil, by simp,
        fun done rest _ => ?_⟩
      rw [spliceHead_prefix]
      simp only [spliceDir, List.nil_append]
      rw [spliceMark_at hd sep b (Q := done ++ A ++ [s]) (a := sep) (S := rest) (by simp)
        (by simp; omega)]
      rw [if_pos rfl, List.append_assoc done A [s]]
    | cons x B' =>
      have hx := hB x (by simp)
      refine ⟨A ++ [s], x, B', Tape.ofZip_move_R_mid .., hA.append (.cons hs .nil), hx,
        fun y hy => hB y (by simp [hy]), by simp only [List.length_cons]; omega,
        fun done rest _ => ?_⟩
      rw [spliceHead_prefix]
      simp only [spliceDir]
      rw [spliceMark_at hd sep b (Q := done ++ A ++ [s]) (a := x) (S := B' ++ sep :: rest) (by simp)
        (by simp; omega)]
      rw [if_neg hx.2, List.append_assoc done A [s]]
  | L =>
    rcases List.eq_nil_or_concat A with rfl | ⟨A₀, a, rfl⟩
    · refine ⟨[], b, s :: B, Tape.ofZip_move_L_left .., .nil, hb, .cons hs hB, by simp,
        fun done rest hdone => ?_⟩
      rw [spliceHead_prefix, spliceDir_L]
      simp only [List.append_nil, hdone, if_true]
      rw [spliceMark_at hd sep b (Q := done) (a := b) (S := s :: (B ++ sep :: rest)) (by simp) (by simp)]
      rw [if_neg hb.2]; rfl
    · rw [List.concat_eq_append] at hA ⊢
      have ha := hA a (by simp)
      refine ⟨A₀, a, s :: B, Tape.ofZip_move_L_mid .., fun y hy => hA y (by simp [hy]), ha,
        .cons hs hB, by simp, fun done rest _ => ?_⟩
      rw [spliceHead_prefix, spliceDir_L]
      have : ¬ (done ++ (A₀ ++ [a]) = [] ∨ (done ++ (A₀ ++ [a])).getLast? = some sep) := by
        simp [← List.append_assoc, ha.2]
      simp only [this, if_false]
      rw [spliceMark_at hd sep b (Q := done ++ A₀) (a := a) (S := s :: (B ++ sep :: rest)) (by simp)
        (by simp; omega)]
      rw [if_neg ha.2]; rfl
  | N | bad =>
    refine ⟨A, s, B, Tape.move_stay (Tape.ofZip_wf ..) (by simp), hA, hs, hB, by simp,
      fun done rest _ => ?_⟩
    rw [spliceHead_prefix]
    simp only [spliceDir]
    rw [spliceMark_at hd sep b (Q := done ++ A) (a := s) (S := B ++ sep :: rest) rfl rfl]
    rw [if_neg hs.2]

theorem GoodTape.step {t : Tape Γ} (h : GoodTape hd sep b t) (hb : b ≠ hd ∧ b ≠ sep) (s : Γ)
    (hs : s ≠ hd ∧ s ≠ sep) (d : Dir) : GoodTape hd sep b ((t.write s).move d) := by
  obtain ⟨A, c, B, rfl, hA, _, hB⟩ := h.exists_zip
  obtain ⟨A', c', B', hmv, hA', hc', hB', _⟩ := zip_step hd sep b hb s hs d A c B hA hB
  rw [hmv]
  exact ⟨Tape.ofZip_wf .., rfl, hA'.append (.cons hc' hB')⟩

end Step

section Scan
variable (hd sep blank s : Γ) (dir : Dir)

theorem scan_skip (X : List Γ) (hX : Clean hd sep X) (fuel : Nat) (P S : List Γ) :
    scanMove hd sep blank s dir (fuel + X.length) (P ++ X ++ S) (P.length : Int) =
      scanMove hd sep blank s dir fuel (P ++ X ++ S) ((P ++ X).length : Int) := by
  induction X generalizing P with
  | nil => simp
  | cons x X ih =>
    have hx := hX x (by simp)
    have := ih (fun y hy => hX y (by simp [hy])) (P ++ [x])
    simp only [List.append_assoc, List.cons_append, List.nil_append] at this
    rw [show fuel + (x :: X).length = fuel + X.length + 1 from rfl, scanMove,
      pyGet?_split (P := P) (x := x) (S := X ++ S) (by simp) rfl]
    simp only [hx.1, hx.2, if_false, List.append_assoc, List.cons_append]
    rw [show ((P.length : Int) + 1) = ((P ++ [x]).length : Int) by simp, this]

theorem scan_tail (hne : sep ≠ hd) (X : List Γ) (hX : Clean hd sep X) (fuel : Nat) (P S : List Γ) :
    scanMove hd sep blank s dir (fuel + 1 + X.length) (P ++ X ++ sep :: S) (P.length : Int) =
      .ok (some (P ++ X ++ sep :: S, ((P ++ X).length : Int) + 1)) := by
  rw [scan_skip hd sep blank s dir X hX, scanMove, pyGet?_split rfl rfl]
  simp only [hne, if_false, if_true]

theorem scan_to_head (A : List Γ) (c : Γ) (hA : Clean hd sep A) (hc : c ≠ hd ∧ c ≠ sep)
    (P S : List Γ) (f : Nat) :
    scanMove hd sep blank s dir (f + 1 + (A.length + 1)) (P ++ A ++ c :: hd :: S) (P.length : Int) =
      match spliceHead hd sep blank s dir (P ++ A ++ c :: hd :: S) (((P ++ A).length : Int) + 1) with
      | .error e => .error e
      | .ok r => scanMove hd sep blank s dir f r.1 (r.2 + 1) := by
  have := scan_skip hd sep blank s dir (A ++ [c]) (hA.append (.cons hc .nil)) (f + 1) P (hd :: S)
  simp only [List.append_assoc, List.cons_append, List.nil_append, List.length_append,
    List.length_cons, List.length_nil] at this ⊢
  rw [this, scanMove, pyGet?_split (P := P ++ (A ++ [c])) (x := hd) (S := S) (by simp) (by simp)]
  simp only [if_true]
  rw [show ((P.length + (A.length + (0 + 1)) : Nat) : Int) = ((P.length + A.length : Nat) : Int) + 1 by
    omega]
  rfl

end Scan

section Moves
variable (hd sep b : Γ)

/-- **One move on one virtual tape**: scanning from the first symbol of the encoding of `t`
rewrites exactly that encoding into the encoding of `(t.write s).move d` and stops right after
its separator — whatever precedes (`done`: nothing, or something ending with a separator) and
follows. -/
theorem scan_tape (hne : sep ≠ hd) (hb : b ≠ hd ∧ b ≠ sep) (s : Γ) (hs : s ≠ hd ∧ s ≠ sep) (d : Dir)
    {t : Tape Γ} (ht : GoodTape hd sep b t) (done rest : List Γ)
    (hdone : done = [] ∨ done.getLast? = some sep) (fuel : Nat)
    (hfuel : (encTape hd sep t).length + 1 ≤ fuel) :
    scanMove hd sep b s d fuel (done ++ encTape hd sep t ++ rest) (done.length : Int) =
      .ok (some (done ++ encTape hd sep ((t.write s).move d) ++ rest,
        ((done ++ encTape hd sep ((t.write s).move d)).length : Int))) := by
  obtain ⟨A, c, B, rfl, hA, hc, hB⟩ := ht.exists_zip
  obtain ⟨A', c', B', hmv, _, _, hB', hlen, hsp⟩ := zip_step hd sep b hb s hs d A c B hA hB
  rw [hmv, encTape_ofZip, encTape_ofZip]
  simp only [encTape_ofZip, List.length_append, List.length_cons, List.length_nil] at hfuel
  obtain ⟨f, rfl⟩ : ∃ f, fuel = (f + 1 + B'.length) + 1 + (A.length + 1) :=
    ⟨fuel - (B'.length + A.length + 3), by omega⟩
  -- up to the head mark; the head branch; the rest of the virtual tape
  have h1 := scan_to_head hd sep b s d A c hA hc done (B ++ sep :: rest) (f + 1 + B'.length)
  have h2 := scan_tail hd sep b s d hne B' hB' f (done ++ A' ++ [c', hd]) rest
  simp only [List.append_assoc, List.cons_append, List.nil_append, List.length_append,
    List.length_cons, List.length_nil] at h1 h2 hsp ⊢
  rw [h1, hsp done rest hdone]
  simp only
  rw [show ((done.length + A'.length : Nat) : Int) + 1 + 1 =
    ((done.length + (A'.length + (0 + 1 + 1)) : Nat) : Int) by omega, h2]
  congr 3

theorem spliceMoves_encode (hne : sep ≠ hd) (hb : b ≠ hd ∧ b ≠ sep) :
    ∀ (moves : List (Γ × Dir)) (ts : List (Tape Γ)) (done : List Γ),
      moves.length = ts.length → (∀ m ∈ moves, m.1 ≠ hd ∧ m.1 ≠ sep) →
      (∀ t ∈ ts, GoodTape hd sep b t) → (done = [] ∨ done.getLast? = some sep) →
      spliceMoves hd sep b moves (done ++ encode hd sep ts) (done.length : Int) =
        .ok (some (done ++ encode hd sep (stepTapes moves ts),
          (((done ++ encode hd sep (stepTapes moves ts)).length : Nat) : Int))) := by
  intro moves
  induction moves with
  | nil =>
    intro ts done hl _ _ _
    have : ts = [] := by cases ts with | nil => rfl | cons _ _ => simp at hl
    subst this
    simp [spliceMoves, stepTapes, encode]
  | cons m ms ih =>
    intro ts done hl hm hts hdone
    cases ts with
    | nil => simp at hl
    | cons t ts' =>
      rw [encode_cons, spliceMoves, ← List.append_assoc,
        scan_tape hd sep b hne hb m.1 (hm m (by simp)) m.2 (hts t (by simp)) done _ hdone _
          (by simp only [List.length_append]; omega)]
      simp only
      rw [ih ts' (done ++ encTape hd sep ((t.write m.1).move m.2)) (by simpa using hl) (fun x hx => hm x (by simp [hx]))
        (fun x hx => hts x (by simp [hx]))
        (.inr (by rw [encTape, ← List.append_assoc, List.getLast?_concat]))]
      simp [stepTapes, encode_cons]

omit [DecidableEq σ] in
theorem spliceAll_encode (hne : sep ≠ hd) (hb : b ≠ hd ∧ b ≠ sep) (q : σ) (moves : List (Γ × Dir))
    (ts : List (Tape Γ)) (hl : moves.length = ts.length) (hm : ∀ m ∈ moves, m.1 ≠ hd ∧ m.1 ≠ sep)
    (hts : ∀ t ∈ ts, GoodTape hd sep b t) :
    spliceAll hd sep b (encode hd sep ts) (q, moves) =
      .ok (some (q, encode hd sep (stepTapes moves ts),
        (((encode hd sep (stepTapes moves ts)).length : Nat) : Int) - 1)) := by
  unfold spliceAll
  have := spliceMoves_encode hd sep b hne hb moves ts [] hl hm hts (Or.inl rfl)
  simp only [List.nil_append, List.length_nil, Int.natCast_zero] at this
  simp only [this]

end Moves

section Decode
variable (hd sep : Γ)

theorem readExt_to_head (X : List Γ) (hX : Clean hd sep X) (c : Γ) (hc : c ≠ hd ∧ c ≠ sep) :
    ∀ (prev : Option Γ) (Y heads : List Γ) (hf seps : Nat),
      readExtAux hd sep prev (X ++ c :: hd :: Y) heads hf seps =
        readExtAux hd sep (some hd) Y (heads ++ [c]) (hf + 1) seps := by
  induction X with
  | nil =>
    intro prev Y heads hf seps
    simp [readExtAux, hc.1, hc.2]
  | cons x X ih =>
    intro prev Y heads hf seps
    have hx := hX x (by simp)
    simp only [List.cons_append, readExtAux, hx.1, hx.2, if_false]
    exact ih (fun y hy => hX y (by simp [hy])) _ _ _ _ _

theorem readExt_to_sep (hne : sep ≠ hd) (B : List Γ) (hB : Clean hd sep B) :
    ∀ (prev : Option Γ) (Y heads : List Γ) (seps : Nat),
      readExtAux hd sep prev (B ++ sep :: Y) heads 1 seps =
        readExtAux hd sep (some sep) Y heads 0 (seps + 1) := by
  induction B with
  | nil =>
    intro prev Y heads seps
    simp [readExtAux, hne]
  | cons x B ih =>
    intro prev Y heads seps
    have hx := hB x (by simp)
    simp only [List.cons_append, readExtAux, hx.1, hx.2, if_false]
    exact ih (fun y hy => hB y (by simp [hy])) _ _ _ _

theorem readExt_tape (hne : sep ≠ hd) {b : Γ} {t : Tape Γ} (ht : GoodTape hd sep b t)
    (prev : Option Γ) (Y heads : List Γ) (seps : Nat) :
    readExtAux hd sep prev (encTape hd sep t ++ Y) heads 0 seps =
      readExtAux hd sep (some sep) Y (heads ++ [t.read]) 0 (seps + 1) := by
  obtain ⟨A, c, B, rfl, hA, hc, hB⟩ := ht.exists_zip
  rw [encTape_ofZip, Tape.ofZip_read]
  have h1 : A ++ c :: hd :: B ++ [sep] ++ Y = A ++ c :: hd :: (B ++ sep :: Y) := by simp
  rw [h1, readExt_to_head hd sep A hA c hc, readExt_to_sep hd sep hne B hB]

theorem readExtended_encode (hne : sep ≠ hd) {b : Γ} (ts : List (Tape Γ))
    (hts : ∀ t ∈ ts, GoodTape hd sep b t) :
    readExtended hd sep (encode hd sep ts) = .ok (ts.map Tape.read) := by
  unfold readExtended
  have key : ∀ (ts : List (Tape Γ)), (∀ t ∈ ts, GoodTape hd sep b t) →
      ∀ (prev : Option Γ) (heads : List Γ) (seps : Nat), heads.length = seps →
        readExtAux hd sep prev (encode hd sep ts) heads 0 seps = .ok (heads ++ ts.map Tape.read) := by
    intro ts
    induction ts with
    | nil =>
      intro _ prev heads seps hl
      simp [encode, readExtAux, hl]
    | cons t ts ih =>
      intro hts prev heads seps hl
      rw [encode_cons, readExt_tape hd sep hne (hts t (by simp))]
      rw [ih (fun x hx => hts x (by simp [hx])) _ _ _ (by simp [hl])]
      simp
  simpa using key ts hts none [] 0 rfl

end Decode

namespace MNTM

theorem mem_succ_iff_succL (M : MNTM σ Γ) (c x : MCfg σ Γ) : x ∈ M.succ c ↔ x ∈ M.succL c := by
  simp only [succ_eq, succL, getTransition_eq, List.mem_map, mem_enq]

theorem acc_eq_accF (M : MNTM σ Γ) (hv : M.validate = .ok ()) : M.acc = M.accF := by
  funext c
  rw [M.acc_eq_final (M.validate_final_no_rows hv).1 c]
  rfl

theorem getTransition_valid (M : MNTM σ Γ) (hv : M.validate = .ok ()) {q : σ} {tapes : List (Tape Γ)}
    {l : List (σ × List (Γ × Dir))} (h : M.getTransition q tapes = some l) :
    ∀ t ∈ l, t.2.length = M.nTapes ∧ ∀ m ∈ t.2, m.1 ∈ M.tapeSyms := by
  obtain ⟨row, hq, h⟩ := Option.bind_eq_some_iff.mp (M.getTransition_eq_bind q tapes ▸ h)
  have hkv := alookup_some_mem hq
  have he := alookup_some_mem h
  exact fun t ht => ⟨(M.validate_tapes hv _ hkv _ he).2 t ht, (M.validate_symbols hv).2 _ hkv _ he t ht⟩

variable (hd sep : Γ)

theorem goodCfg_succL (M : MNTM σ Γ) (dom : SimDomain M hd sep) {c : MCfg σ Γ}
    (hc : GoodCfg M hd sep c) : ∀ x ∈ M.succL c, GoodCfg M hd sep x := by
  intro x hx
  unfold succL at hx
  cases hg : M.getTransition c.state c.tapes with
  | none => rw [hg] at hx; simp at hx
  | some l =>
    rw [hg] at hx
    simp only [Option.getD_some, List.mem_map] at hx
    obtain ⟨t, ht, rfl⟩ := hx
    obtain ⟨hlen, hsym⟩ := M.getTransition_valid dom.valid hg t ht
    have hb := dom.alphabet _ (M.validate_symbols dom.valid).1
    exact ⟨by simp [apply, hlen, hc.len], forall_mem_apply fun m hm tp htp =>
      (hc.tapes tp htp).step hd sep M.blank hb _ (dom.alphabet _ (hsym m hm)) _⟩

theorem goodCfg_init (M : MNTM σ Γ) (dom : SimDomain M hd sep) (w : List Γ)
    (hw : Clean hd sep w) : GoodCfg M hd sep (M.initCfg w) := by
  have hb := dom.alphabet _ (M.validate_symbols dom.valid).1
  refine ⟨?_, M.forall_mem_initTapes w (.init hb hw 0) (.init hb (.cons hb .nil) 0)⟩
  have := dom.ntapes
  simp [initCfg, initTapes]; omega

/-- The queue entry the simulation appends for the transition `t` from the tapes `ts`. -/
def entryOf (ts : List (Tape Γ)) (t : σ × List (Γ × Dir)) : SimEntry σ Γ :=
  (t.1, encode hd sep (stepTapes t.2 ts), (((encode hd sep (stepTapes t.2 ts)).length : Nat) : Int) - 1)

theorem spliceEach_encode (M : MNTM σ Γ) (dom : SimDomain M hd sep) {c : MCfg σ Γ}
    (hc : GoodCfg M hd sep c) :
    ∀ (l : List (σ × List (Γ × Dir))) (acc : List (SimEntry σ Γ)),
      (∀ t ∈ l, t.2.length = M.nTapes ∧ ∀ m ∈ t.2, m.1 ∈ M.tapeSyms) →
      spliceEach hd sep M.blank (encode hd sep c.tapes) l acc =
        .ok (some (acc ++ l.map (entryOf hd sep c.tapes))) := by
  have hb := dom.alphabet _ (M.validate_symbols dom.valid).1
  intro l
  induction l with
  | nil => intro acc _; simp [spliceEach]
  | cons t ts ih =>
    intro acc hl
    have ht := hl t (by simp)
    have hsp := spliceAll_encode hd sep M.blank dom.marks hb t.1 t.2 c.tapes
      (by rw [ht.1, hc.len]) (fun m hm => dom.alphabet _ (ht.2 m hm)) hc.tapes
    rw [spliceEach, show t = (t.1, t.2) from rfl, hsp]
    simp only
    rw [ih _ fun x hx => hl x (by simp [hx])]
    simp [entryOf]

/-- Processing the entry of a representable configuration: `return` on a final state,
otherwise exactly the entries of its successors in list order; never an exception. -/
theorem simProcess_good (M : MNTM σ Γ) (dom : SimDomain M hd sep) {c : MCfg σ Γ}
    (hc : GoodCfg M hd sep c) (e : SimEntry σ Γ) (he : strip e = encS hd sep c) :
    (c.state ∈ M.finals ∧ simProcess M hd sep e = .ok (some none)) ∨
    (c.state ∉ M.finals ∧ ∃ kids, simProcess M hd sep e = .ok (some (some kids)) ∧
      kids.map strip = (M.succL c).map (encS hd sep)) := by
  have he1 : e.1 = c.state := congrArg Prod.fst he
  have he2 : e.2.1 = encode hd sep c.tapes := congrArg Prod.snd he
  unfold simProcess
  rw [he1, he2]
  by_cases hf : c.state ∈ M.finals
  · left; exact ⟨hf, by simp [hf]⟩
  · right
    refine ⟨hf, ?_⟩
    simp only [hf, if_false]
    rw [readExtended_encode hd sep dom.marks c.tapes hc.tapes]
    simp only
    rw [← M.getTransition_eq_bind]
    unfold succL
    cases hg : M.getTransition c.state c.tapes with
    | none => exact ⟨[], rfl, rfl⟩
    | some l =>
      refine ⟨l.map (entryOf hd sep c.tapes), ?_, by simp only [Option.getD_some, List.map_map]; rfl⟩
      simp only [M.spliceEach_encode hd sep dom hc l [] (M.getTransition_valid dom.valid hg),
        List.nil_append]

omit [DecidableEq Γ] in
theorem extOfTapes_eq_encode (ts : List (Tape Γ)) (h : ∀ t ∈ ts, t.pos = 0 ∧ t.WF) :
    extOfTapes hd sep ts = encode hd sep ts := by
  induction ts with
  | nil => rfl
  | cons t ts ih =>
    obtain ⟨hp, hw⟩ := h t (by simp)
    have ih' := ih (fun x hx => h x (by simp [hx]))
    unfold extOfTapes encode at ih' ⊢
    simp only [List.flatMap_cons, ih']
    congr 1
    unfold Tape.WF at hw
    unfold encTape
    cases hc : t.cells with
    | nil => rw [hc, hp] at hw; simp at hw
    | cons c rest => simp [hp]

theorem simStepwise_eq (M : MNTM σ Γ) (dom : SimDomain M hd sep) (w : List Γ)
    (hw : Clean hd sep w) (n : Nat) :
    (simStepwise M hd sep w n).1.map strip =
      (Q.qobs M.succL M.accF n [M.initCfg w]).1.map (encS hd sep) ∧
    (simStepwise M hd sep w n).2 = (Q.qobs M.succL M.accF n [M.initCfg w]).2 := by
  have hext : extOfTapes hd sep (M.initTapes w) = encode hd sep (M.initCfg w).tapes :=
    extOfTapes_eq_encode hd sep _
      (M.forall_mem_initTapes w ⟨rfl, Tape.init_wf _ _ _⟩ ⟨rfl, Tape.init_wf _ _ _⟩)
  exact Q.qobs_sim strip (encS hd sep) (GoodCfg M hd sep) (simResume M hd sep) M.succL M.accF
    (fun e c he hc q => by
      unfold simResume accF
      rcases M.simProcess_good hd sep dom hc e he with ⟨hf, hp⟩ | ⟨hf, kids, hp, hk⟩
      · simp only [hf, decide_true, if_true, hp]
      · simp only [hf, decide_false, Bool.false_eq_true, if_false, hp]
        exact ⟨kids, hk, M.goodCfg_succL hd sep dom hc, by cases q ++ kids <;> rfl⟩)
    (e0 := (M.init, extOfTapes hd sep (M.initTapes w), 0)) (c0 := M.initCfg w)
    (by rw [hext]; rfl) (M.goodCfg_init hd sep dom w hw) n

end MNTM

end AV.TM
