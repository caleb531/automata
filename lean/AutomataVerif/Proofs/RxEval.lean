/-
Proofs/RxEval.lean — token classification lemmas (read off the regenerated class table) and
`parse_postfix_tokens` on the postfix linearisation of a tree = the builder run of the tree.
Core only.
-/
import AutomataVerif.Model.RxAst

namespace AV.Rx

variable {α : Type}

section tables
-- the class table is keyed by class names: `simp` compares string literals by simproc, `rfl` would unfold them
attribute [local simp] Tok.base Tok.cls baseOfCls Tok.prec Gen.Regex.precOf Gen.Regex.tokenClasses

@[simp] theorem base_lparen : (Tok.lparen : Tok α).base = .lparen := by simp
@[simp] theorem base_rparen : (Tok.rparen : Tok α).base = .rparen := by simp
@[simp] theorem base_union : (Tok.union : Tok α).base = .infixOp := by simp
@[simp] theorem base_inter : (Tok.inter : Tok α).base = .infixOp := by simp
@[simp] theorem base_shuffle : (Tok.shuffle : Tok α).base = .infixOp := by simp
@[simp] theorem base_concat : (Tok.concat : Tok α).base = .infixOp := by simp
@[simp] theorem base_star : (Tok.star : Tok α).base = .postfixOp := by simp
@[simp] theorem base_plus : (Tok.plus : Tok α).base = .postfixOp := by simp
@[simp] theorem base_opt : (Tok.opt : Tok α).base = .postfixOp := by simp
@[simp] theorem base_quant (lo : Nat) (hi : Option Nat) :
    (Tok.quant lo hi : Tok α).base = .postfixOp := by simp
@[simp] theorem base_str (s : List α) : (Tok.str s : Tok α).base = .literal := by simp
@[simp] theorem base_wildcard : (Tok.wildcard : Tok α).base = .literal := by simp

@[simp] theorem prec_union : (Tok.union : Tok α).prec = some 1 := by simp
@[simp] theorem prec_inter : (Tok.inter : Tok α).prec = some 1 := by simp
@[simp] theorem prec_shuffle : (Tok.shuffle : Tok α).prec = some 1 := by simp
@[simp] theorem prec_concat : (Tok.concat : Tok α).prec = some 2 := by simp
@[simp] theorem prec_star : (Tok.star : Tok α).prec = some 3 := by simp
@[simp] theorem prec_plus : (Tok.plus : Tok α).prec = some 3 := by simp
@[simp] theorem prec_opt : (Tok.opt : Tok α).prec = some 3 := by simp
@[simp] theorem prec_quant (lo : Nat) (hi : Option Nat) :
    (Tok.quant lo hi : Tok α).prec = some 3 := by simp

end tables

variable [DecidableEq α]

theorem evalPostfix_literal (syms : List α) {t : Tok α} (ht : t.base = .literal)
    (ts : List (Tok α)) (stack : List (Builder α)) (c : Nat) :
    evalPostfix syms (t :: ts) stack c =
      match litVal syms t c with
      | .error x => .error x
      | .ok (b, c') => evalPostfix syms ts (b :: stack) c' := by
  simp only [evalPostfix, ht]
  rfl

theorem evalPostfix_infix (syms : List α) {t : Tok α} (ht : t.base = .infixOp)
    (ts : List (Tok α)) (l r : Builder α) (stack : List (Builder α)) (c : Nat) :
    evalPostfix syms (t :: ts) (r :: l :: stack) c =
      match infixOp t l r c with
      | .error x => .error x
      | .ok (b, c') => evalPostfix syms ts (b :: stack) c' := by
  simp only [evalPostfix, ht]
  rfl

theorem evalPostfix_postfix (syms : List α) {t : Tok α} (ht : t.base = .postfixOp)
    (ts : List (Tok α)) (l : Builder α) (stack : List (Builder α)) (c : Nat) :
    evalPostfix syms (t :: ts) (l :: stack) c =
      match postfixOp t l c with
      | .error x => .error x
      | .ok (b, c') => evalPostfix syms ts (b :: stack) c' := by
  simp only [evalPostfix, ht]
  rfl

theorem evalPostfix_toPostfix (syms : List α) (e : Rx α) :
    ∀ (rest : List (Tok α)) (stack : List (Builder α)) (c : Nat),
      evalPostfix syms (e.toPostfix ++ rest) stack c =
        match e.build syms c with
        | .error x => .error x
        | .ok (b, c') => evalPostfix syms rest (b :: stack) c' := by
  induction e with
  | lit a | wildcard | eps =>
    intro rest stack c
    exact evalPostfix_literal syms (by simp) rest stack c
  | cat e f ihe ihf | union e f ihe ihf | inter e f ihe ihf | shuffle e f ihe ihf =>
    intro rest stack c
    simp only [Rx.toPostfix, List.append_assoc, ihe, Rx.build]
    cases e.build syms c with
    | error x => rfl
    | ok r1 =>
      simp only [ihf]
      cases f.build syms r1.2 with
      | error x => rfl
      | ok r2 =>
        exact evalPostfix_infix syms (by simp) ..
  | star e ihe | plus e ihe | opt e ihe | rep e lo hi ihe =>
    intro rest stack c
    simp only [Rx.toPostfix, List.append_assoc, ihe, Rx.build]
    cases e.build syms c with
    | error x => rfl
    | ok r1 =>
      exact evalPostfix_postfix syms (by simp) ..

theorem evalPostfix_tree (syms : List α) (e : Rx α) (c : Nat) :
    evalPostfix syms e.toPostfix [] c = e.build syms c := by
  have := evalPostfix_toPostfix syms e [] [] c
  rw [List.append_nil] at this
  rw [this]
  cases e.build syms c with
  | error x => rfl
  | ok r => rfl

end AV.Rx
