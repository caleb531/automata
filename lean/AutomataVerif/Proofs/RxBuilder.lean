/-
Proofs/RxBuilder.lean — a builder read as an ε-automaton (acceptance along `Path`s of its table),
the invariant every builder of the pipeline satisfies, `Built` (what the theorem about each
operation assumes of the operands and proves of the result) and the basic operations.  Core only.
-/
import AutomataVerif.Proofs.EpsPath
import AutomataVerif.Proofs.RxRows
import AutomataVerif.Proofs.RxAList

namespace AV.Rx

variable {α : Type} [DecidableEq α]

namespace Builder

def step (b : Builder α) : Nat → Option α → Nat → Prop := fun q a t => t ∈ b.targets q a

def AccFrom (b : Builder α) (q : Nat) (w : List α) : Prop :=
  Acc b.step (fun f => f ∈ b.finals) q w

def Lang (b : Builder α) (w : List α) : Prop := b.AccFrom b.init w

/-- The invariant every builder produced by the regex pipeline satisfies (DESIGN.md App. B):
the keys of the transition dict are pairwise distinct names in `[lo, hi)` (`hi` ≤ the counter),
every target, the initial state and the final states are keys, and **no transition enters the
initial state**. -/
structure Inv (b : Builder α) (lo hi : Nat) : Prop where
  keysNodup : b.keys.Nodup
  keysRange : ∀ q ∈ b.keys, lo ≤ q ∧ q < hi
  tgtKeys : ∀ q a t, t ∈ b.targets q a → t ∈ b.keys
  initKey : b.init ∈ b.keys
  finalsKeys : ∀ f ∈ b.finals, f ∈ b.keys
  noIntoInit : ∀ q a, b.init ∉ b.targets q a

theorem Inv.mono {b : Builder α} {lo hi lo' hi' : Nat} (i : b.Inv lo hi) (h1 : lo' ≤ lo)
    (h2 : hi ≤ hi') : b.Inv lo' hi' :=
  { i with keysRange := fun q hq => ⟨Nat.le_trans h1 (i.keysRange q hq).1,
      Nat.lt_of_lt_of_le (i.keysRange q hq).2 h2⟩ }

theorem Inv.lo_lt_hi {b : Builder α} {lo hi : Nat} (i : b.Inv lo hi) : lo < hi := by
  have := i.keysRange _ i.initKey; omega

theorem Inv.not_key {b : Builder α} {lo hi q : Nat} (i : b.Inv lo hi) (h : q < lo ∨ hi ≤ q) :
    q ∉ b.keys := fun hq => by have := i.keysRange q hq; omega

theorem Inv.disjoint {b1 b2 : Builder α} {c0 c1 c2 q : Nat} (i1 : b1.Inv c0 c1)
    (i2 : b2.Inv c1 c2) (hq : q ∈ b1.keys) : q ∉ b2.keys :=
  i2.not_key (Or.inl (i1.keysRange q hq).2)

theorem Inv.of_edges {r : Builder α} {lo hi : Nat} (hnd : r.keys.Nodup)
    (hrange : ∀ q ∈ r.keys, lo ≤ q ∧ q < hi) (hinit : r.init ∈ r.keys)
    (hfin : ∀ f ∈ r.finals, f ∈ r.keys)
    (htg : ∀ q a t, t ∈ r.targets q a → t ∈ r.keys ∧ t ≠ r.init) : r.Inv lo hi :=
  ⟨hnd, hrange, fun q a t h => (htg q a t h).1, hinit, hfin, fun q a h => (htg q a _ h).2 rfl⟩

theorem Inv.closed {b : Builder α} {lo hi : Nat} (i : b.Inv lo hi) :
    ∀ q, q ∈ b.keys → ∀ a t, b.step q a t → t ∈ b.keys := fun _ _ _ _ => i.tgtKeys _ _ _

theorem Inv.acc_sub {b r : Builder α} {lo hi : Nat} (i : b.Inv lo hi)
    (htg : ∀ q ∈ b.keys, ∀ a t, t ∈ r.targets q a ↔ t ∈ b.targets q a)
    (hfin : ∀ f ∈ b.keys, f ∈ r.finals ↔ f ∈ b.finals) {q : Nat} {w : List α}
    (hq : q ∈ b.keys) : r.AccFrom q w ↔ b.AccFrom q w :=
  Acc.congr_on i.closed htg hfin hq

end Builder

open Builder

/-- Acceptance by the NFA (`NFA.accepts`, the model of the library's reader) is acceptance along a
`Path` of the builder's table. -/
theorem toNFA_accepts_iff (b : Builder α) (syms : List α) (w : List α) :
    (b.toNFA syms).accepts w = true ↔ b.Lang w :=
  NFA.accepts_iff_acc _ w

/-- What the builder run of a tree establishes, with `S` the symbols allowed on the rows, `L` the
language and `[c, c')` the block of state names: the one hypothesis and the one conclusion of the
lemma about each operation.  The operands of a binary operation occupy adjacent blocks, as the
shared counter hands them out.  The result's `c'` is the counter afterwards: `union` draws one name
(`c + 1`), the two products as many as they have states (`(…).2`), `concatenate` none; `concatenate`
and `repeat` index the table (`T[s]`) and are `Res`-valued in the model, hence the `∃`. -/
structure Built (S : α → Prop) (L : List α → Prop) (c : Nat) (b : Builder α) (c' : Nat) :
    Prop where
  inv : b.Inv c c'
  rows : RowsNodup b.trans
  syms : SymsIn S b.trans
  lang : ∀ w, b.Lang w ↔ L w

namespace Built
variable {S S' : α → Prop} {L L' : List α → Prop} {b : Builder α} {c c' : Nat}

theorem congr (g : Built S L c b c') (h : ∀ w, L w ↔ L' w) : Built S L' c b c' :=
  { g with lang := fun w => (g.lang w).trans (h w) }

theorem mono (g : Built S L c b c') (hS : ∀ x, S x → S' x) : Built S' L c b c' :=
  { g with syms := g.syms.mono hS }

/-- The NFA handed to `NFA(...)` by `from_regex` is `Valid` — it passes the constructor's validation
and its table is a dict of dicts — over any alphabet that contains the symbols on the rows. -/
theorem toNFA_Valid (g : Built S L c b c') {syms : List α} (hS : ∀ x, S x → x ∈ syms) :
    (b.toNFA syms).Valid :=
  have hd : Tbl.Dict b.trans := ⟨g.inv.keysNodup, g.rows⟩
  ⟨(NFA.wf_iff_ok _).mpr ⟨Tbl.ok_of_tgt hd
      (fun kv hkv _ he x hx => hS x (g.syms kv hkv x (hx ▸ List.mem_map_of_mem he)))
      fun kv _ => g.inv.tgtKeys kv.1, g.inv.initKey, Or.inl g.inv.initKey, g.inv.finalsKeys⟩, hd⟩

theorem toNFA_valid (g : Built S L c b c') {syms : List α} (hS : ∀ x, S x → x ∈ syms) :
    (b.toNFA syms).validate = .ok () :=
  (g.toNFA_Valid hS).validate

theorem accepts_iff (g : Built S L c b c') (A : List α) (w : List α) :
    (b.toNFA A).accepts w = true ↔ L w :=
  (toNFA_accepts_iff b A w).trans (g.lang w)

end Built

namespace Builder

theorem wildcard_row (syms : List α) (c : Nat) (x : Option α) (acc : Row α) :
    alookup x (syms.foldl (fun row a => ainsert (some a) [c + 1] row) acc) =
      if ∃ a ∈ syms, x = some a then some [c + 1] else alookup x acc := by
  induction syms generalizing acc with
  | nil => simp
  | cons s rest ih =>
    rw [List.foldl_cons, ih, alookup_ainsert]
    simp only [List.mem_cons, exists_eq_or_imp, eq_comm (a := some s)]
    by_cases h1 : ∃ a ∈ rest, x = some a <;> by_cases h2 : x = some s <;> simp [h1, h2]

theorem wildcard_targets (syms : List α) (c q t : Nat) (x : Option α) :
    t ∈ (wildcard syms c).1.targets q x ↔ q = c ∧ (∃ a ∈ syms, x = some a) ∧ t = c + 1 := by
  show t ∈ tgts [(c, _), (c + 1, [])] q x ↔ _
  unfold tgts
  simp only [alookup_cons, alookup_nil]
  by_cases h1 : c = q
  · subst h1
    simp only [if_true, Option.getD_some, wildcard_row, alookup_nil]
    by_cases h2 : ∃ a ∈ syms, x = some a <;> simp [h2]
  · by_cases h2 : c + 1 = q <;> simp [h1, h2, Ne.symm h1]

/-- The two-state automaton `c —a→ c + 1`, `a ∈ syms`. -/
theorem _root_.AV.Rx.Built.wildcard (syms : List α) (c : Nat) :
    Built (· ∈ syms) (fun w => ∃ a, a ∈ syms ∧ w = [a]) c (wildcard syms c).1 (c + 2) := by
  have tg := wildcard_targets syms c
  have hk : ∀ q, q ∈ (Builder.wildcard syms c).1.keys ↔ q = c ∨ q = c + 1 := by
    intro q; show q ∈ [c, c + 1] ↔ _; simp
  refine ⟨Inv.of_edges ?_ ?_ ((hk c).mpr (Or.inl rfl)) ?_ ?_, fun kv hkv => ?_, fun kv hkv => ?_,
    fun w => ⟨?_, ?_⟩⟩
  · show [c, c + 1].Nodup; simp
  · intro q hq; rcases (hk q).mp hq with rfl | rfl <;> omega
  · intro f hf; exact (hk f).mpr (Or.inr (List.mem_singleton.mp hf))
  · intro q x t h
    obtain rfl := ((tg q t x).mp h).2.2
    exact ⟨(hk _).mpr (Or.inr rfl), Nat.succ_ne_self c⟩
  · rcases List.mem_cons.mp hkv with rfl | hkv
    · exact nodup_akeys_foldl_ainsert (fun _ a => some a) (fun _ _ => [c + 1]) syms [] List.nodup_nil
    · rw [List.mem_singleton.mp hkv]; exact List.nodup_nil
  · rcases List.mem_cons.mp hkv with rfl | hkv
    · intro x hx
      have h := alookup_isSome_iff.mpr hx
      rw [wildcard_row] at h
      split at h
      · next h' => obtain ⟨a, ha, e⟩ := h'; exact Option.some.inj e ▸ ha
      · cases h
    · rw [List.mem_singleton.mp hkv]; simp [akeys]
  · -- a path from `c` to `c + 1` is one symbol edge
    rintro ⟨f, hf, hp⟩
    have hf : f = c + 1 := List.mem_singleton.mp hf
    cases hp with
    | nil => have : c = c + 1 := hf; omega
    | eps hs _ => obtain ⟨_, ⟨a, _, e⟩, _⟩ := (tg _ _ _).mp hs; cases e
    | @sym _ _ _ x _ hs hrest =>
      obtain ⟨_, ⟨a, ha, e⟩, rfl⟩ := (tg _ _ _).mp hs
      obtain rfl : x = a := Option.some.inj e
      cases hrest with
      | nil => exact ⟨x, ha, rfl⟩
      | eps hs' _ => have := ((tg _ _ _).mp hs').1; omega
      | sym hs' _ => have := ((tg _ _ _).mp hs').1; omega
  · rintro ⟨a, ha, rfl⟩
    exact ⟨c + 1, List.mem_singleton.mpr rfl,
      Path.single_sym ((tg c (c + 1) (some a)).mpr ⟨rfl, ⟨a, ha, rfl⟩, rfl⟩)⟩

omit [DecidableEq α] in
theorem fromStringLiteral_single (a : α) (c : Nat) :
    fromStringLiteral [a] c =
      ({ trans := [(c, [(some a, [c + 1])]), (c + 1, [])], init := c, finals := [c + 1] }, c + 2) :=
  rfl

omit [DecidableEq α] in
theorem fromStringLiteral_nil (c : Nat) :
    fromStringLiteral ([] : List α) c =
      ({ trans := [(c, [])], init := c, finals := [c] }, c + 1) := rfl

theorem fromStringLiteral_single_eq_wildcard (a : α) (c : Nat) :
    fromStringLiteral [a] c = wildcard [a] c := rfl

theorem _root_.AV.Rx.Built.lit (a : α) (c : Nat) :
    Built (· = a) (· = [a]) c (fromStringLiteral [a] c).1 (c + 2) := by
  rw [fromStringLiteral_single_eq_wildcard]
  exact ((Built.wildcard [a] c).mono fun _ => List.mem_singleton.mp).congr fun w => by simp

theorem _root_.AV.Rx.Built.eps (S : α → Prop) (c : Nat) :
    Built S (· = []) c (fromStringLiteral ([] : List α) c).1 (c + 1) := by
  have tg : ∀ q x t, t ∉ (fromStringLiteral ([] : List α) c).1.targets q x := by
    intro q x t
    show t ∉ tgts [(c, [])] q x
    unfold tgts
    by_cases h : c = q <;> simp [alookup_cons, h]
  have row : ∀ kv ∈ (fromStringLiteral ([] : List α) c).1.trans, kv.2 = [] :=
    fun kv hkv => by rw [List.mem_singleton.mp hkv]
  refine ⟨Inv.of_edges ?_ ?_ (List.mem_singleton.mpr rfl) (fun f hf => hf)
    (fun q x t h => absurd h (tg q x t)), fun kv hkv => row kv hkv ▸ List.nodup_nil,
    fun kv hkv x hx => (by rw [row kv hkv] at hx; cases hx), fun w => ⟨?_, ?_⟩⟩
  · show [c].Nodup; simp
  · intro q hq; have : q = c := List.mem_singleton.mp hq; omega
  · rintro ⟨f, hf, hp⟩
    cases hp with
    | nil => rfl
    | eps hs _ => exact absurd hs (tg _ _ _)
    | sym hs _ => exact absurd hs (tg _ _ _)
  · rintro rfl
    exact ⟨c, List.mem_singleton.mpr rfl, Path.nil _⟩

section union
variable {b1 b2 : Builder α} {c0 c1 c : Nat}

omit [DecidableEq α] in
theorem union_keys (q : Nat) :
    q ∈ (b1.union b2 c).1.keys ↔ q = c ∨ q ∈ b1.keys ∨ q ∈ b2.keys := by
  show q ∈ akeys (ainsert c _ (aupdate b1.trans b2.trans)) ↔ _
  rw [mem_akeys_ainsert, mem_akeys_aupdate]; rfl

theorem union_targets (i1 : b1.Inv c0 c1) (i2 : b2.Inv c1 c) (q : Nat) (a : Option α) (t : Nat) :
    t ∈ (b1.union b2 c).1.targets q a ↔
      (q = c ∧ a = none ∧ (t = b1.init ∨ t = b2.init)) ∨ t ∈ b1.targets q a ∨ t ∈ b2.targets q a := by
  have hc1 : c ∉ b1.keys := i1.not_key (Or.inr (by have := i2.lo_lt_hi; omega))
  have hc2 : c ∉ b2.keys := i2.not_key (Or.inr (Nat.le_refl c))
  show t ∈ tgts (ainsert c _ (aupdate b1.trans b2.trans)) q a ↔ _
  rw [tgts_ainsert]
  by_cases hq : c = q
  · subst hq
    rw [if_pos rfl, targets_eq, targets_eq, tgts_of_not_key hc1, tgts_of_not_key hc2]
    cases a <;> simp [alookup_cons, or_comm]
  · rw [if_neg hq, mem_tgts_aupdate i2.keysNodup fun q h2 h1 => i1.disjoint i2 h1 h2]
    exact ⟨Or.inr, fun h => h.resolve_left fun h => hq h.1.symm⟩

theorem _root_.AV.Rx.Built.union {S : α → Prop} {L1 L2 : List α → Prop} {c0 c1 : Nat}
    (g1 : Built S L1 c0 b1 c1) (g2 : Built S L2 c1 b2 c) :
    Built S (fun w => L1 w ∨ L2 w) c0 (b1.union b2 c).1 (c + 1) := by
  have i1 := g1.inv
  have i2 := g2.inv
  have hlt1 := i1.lo_lt_hi
  have hlt2 := i2.lo_lt_hi
  have hfin : ∀ f, f ∈ (b1.union b2 c).1.finals ↔ f ∈ b1.finals ∨ f ∈ b2.finals :=
    fun f => mem_sunion
  have hc1 : c ∉ b1.keys := i1.not_key (Or.inr (by omega))
  have hc2 : c ∉ b2.keys := i2.not_key (Or.inr (Nat.le_refl c))
  have tg := union_targets i1 i2
  have tgI : ∀ {a t}, t ∈ (b1.union b2 c).1.targets c a ↔ a = none ∧ (t = b1.init ∨ t = b2.init) :=
    (tg c _ _).trans ⟨fun h => h.elim (fun h => h.2) fun h =>
      h.elim (fun h => absurd (mem_tgts_key h) hc1) (fun h => absurd (mem_tgts_key h) hc2),
      fun h => Or.inl ⟨rfl, h⟩⟩
  have sub1 : ∀ {q w}, q ∈ b1.keys → ((b1.union b2 c).1.AccFrom q w ↔ b1.AccFrom q w) :=
    i1.acc_sub (fun q hq a t => (tg q a t).trans
        ⟨fun h => h.elim (fun h => absurd (h.1 ▸ hq) hc1) fun h =>
          h.resolve_right fun h => i1.disjoint i2 hq (mem_tgts_key h), fun h => Or.inr (Or.inl h)⟩)
      (fun f hf => (hfin f).trans
        ⟨fun h => h.resolve_right (fun h2 => i1.disjoint i2 hf (i2.finalsKeys f h2)), Or.inl⟩)
  have sub2 : ∀ {q w}, q ∈ b2.keys → ((b1.union b2 c).1.AccFrom q w ↔ b2.AccFrom q w) :=
    i2.acc_sub (fun q hq a t => (tg q a t).trans
        ⟨fun h => h.elim (fun h => absurd (h.1 ▸ hq) hc2) fun h =>
          h.resolve_left fun h => i1.disjoint i2 (mem_tgts_key h) hq, fun h => Or.inr (Or.inr h)⟩)
      (fun f hf => (hfin f).trans
        ⟨fun h => h.resolve_left (fun h1 => i1.disjoint i2 (i1.finalsKeys f h1) hf), Or.inr⟩)
  have k1 : ∀ {q}, q ∈ b1.keys → q ∈ (b1.union b2 c).1.keys ∧ q ≠ c := fun hq =>
    ⟨(union_keys _).mpr (Or.inr (Or.inl hq)), fun e => hc1 (e ▸ hq)⟩
  have k2 : ∀ {q}, q ∈ b2.keys → q ∈ (b1.union b2 c).1.keys ∧ q ≠ c := fun hq =>
    ⟨(union_keys _).mpr (Or.inr (Or.inr hq)), fun e => hc2 (e ▸ hq)⟩
  refine ⟨Inv.of_edges ?_ ?_ ?_ ?_ ?_, rowInv_nodup.union g1.rows g2.rows c,
    (rowInv_syms S).union g1.syms g2.syms c, fun w => ?_⟩
  · exact nodup_akeys_ainsert (nodup_akeys_aupdate i1.keysNodup)
  · intro q hq
    rcases (union_keys q).mp hq with h | h | h
    · omega
    · have := i1.keysRange _ h; omega
    · have := i2.keysRange _ h; omega
  · exact (union_keys c).mpr (Or.inl rfl)
  · intro f hf
    exact ((hfin f).mp hf).elim (fun h => (k1 (i1.finalsKeys _ h)).1)
      (fun h => (k2 (i2.finalsKeys _ h)).1)
  · intro q a t h
    rcases (tg q a t).mp h with ⟨_, _, rfl | rfl⟩ | h | h
    · exact k1 i1.initKey
    · exact k2 i2.initKey
    · exact k1 (i1.tgtKeys _ _ _ h)
    · exact k2 (i2.tgtKeys _ _ _ h)
  · rw [← g1.lang, ← g2.lang]
    exact (Acc.union_on (step := (b1.union b2 c).1.step) (i := c) (fun _ _ => tgI) fun hf =>
      ((hfin _).mp hf).elim (fun h => hc1 (i1.finalsKeys _ h)) (fun h => hc2 (i2.finalsKeys _ h))).trans
      (or_congr (sub1 i1.initKey) (sub2 i2.initKey))

end union

section concat
variable {b1 b2 : Builder α} {c0 c1 c2 : Nat}

theorem concatenate_ok (i1 : b1.Inv c0 c1) (i2 : b2.Inv c1 c2) :
    ∃ b, b1.concatenate b2 = .ok b ∧ b.init = b1.init ∧ b.finals = b2.finals ∧
      (∀ q, q ∈ b.keys ↔ q ∈ b1.keys ∨ q ∈ b2.keys) ∧ b.keys.Nodup ∧
      (∀ q a t, t ∈ b.targets q a ↔
        t ∈ b1.targets q a ∨ t ∈ b2.targets q a ∨ (q ∈ b1.finals ∧ a = none ∧ t = b2.init)) ∧
      ∀ P, RowInv P → AllRows P b1.trans → AllRows P b2.trans → AllRows P b.trans := by
  have hsrc : ∀ s ∈ b1.finals, s ∈ akeys (aupdate b1.trans b2.trans) :=
    fun s hs => mem_akeys_aupdate.mpr (Or.inl (i1.finalsKeys _ hs))
  obtain ⟨T, hT, hkeys, htg⟩ := addEdgesE_ok hsrc none b2.init
  refine ⟨{ trans := T, init := b1.init, finals := b2.finals }, ?_, rfl, rfl, ?_, ?_, ?_,
    fun P hP h1 h2 => (h1.aupdate h2).addEdgesE (hP.addEps _) hT⟩
  · unfold concatenate; rw [hT]
  · intro q
    show q ∈ akeys T ↔ _
    rw [hkeys, mem_akeys_aupdate]; rfl
  · show (akeys T).Nodup
    rw [hkeys]; exact nodup_akeys_aupdate i1.keysNodup
  · intro q a t
    show t ∈ tgts T q a ↔ _
    rw [htg, mem_tgts_aupdate i2.keysNodup fun q h2 h1 => i1.disjoint i2 h1 h2, or_assoc]
    rfl

theorem _root_.AV.Rx.Built.concatenate {S : α → Prop} {L1 L2 : List α → Prop} {c0 c1 c2 : Nat}
    (g1 : Built S L1 c0 b1 c1) (g2 : Built S L2 c1 b2 c2) :
    ∃ b, b1.concatenate b2 = .ok b ∧ Built S (LCat L1 L2) c0 b c2 := by
  have i1 := g1.inv
  have i2 := g2.inv
  obtain ⟨b, hb, hinit, hfin, hkeys, hnd, tg, rows⟩ := concatenate_ok i1 i2
  have hlt1 := i1.lo_lt_hi
  have hlt2 := i2.lo_lt_hi
  have sub2 : ∀ {q w}, q ∈ b2.keys → (b.AccFrom q w ↔ b2.AccFrom q w) := by
    refine i2.acc_sub (fun q hq a t => (tg q a t).trans ⟨?_, fun h => Or.inr (Or.inl h)⟩)
      (fun f _ => by rw [hfin])
    rintro (h | h | ⟨h, _⟩)
    · exact absurd hq (i1.disjoint i2 (mem_tgts_key h))
    · exact h
    · exact absurd hq (i1.disjoint i2 (i1.finalsKeys _ h))
  refine ⟨b, hb, Inv.of_edges hnd ?_ ?_ ?_ ?_, rows _ rowInv_nodup g1.rows g2.rows,
    rows _ (rowInv_syms S) g1.syms g2.syms, fun w => ?_⟩
  · intro q hq
    rcases (hkeys q).mp hq with h | h
    · have := i1.keysRange _ h; omega
    · have := i2.keysRange _ h; omega
  · rw [hinit, hkeys]; exact Or.inl i1.initKey
  · intro f hf
    exact (hkeys f).mpr (Or.inr (i2.finalsKeys _ (hfin ▸ hf)))
  · intro q a t h
    rw [hinit]
    have k2 : ∀ {q}, q ∈ b2.keys → q ∈ b.keys ∧ q ≠ b1.init := fun hq =>
      ⟨(hkeys _).mpr (Or.inr hq), fun e => i1.disjoint i2 i1.initKey (e ▸ hq)⟩
    rcases (tg q a t).mp h with h | h | ⟨_, _, rfl⟩
    · exact ⟨(hkeys _).mpr (Or.inl (i1.tgtKeys _ _ _ h)), fun e => i1.noIntoInit q a (e ▸ h)⟩
    · exact k2 (i2.tgtKeys _ _ _ h)
    · exact k2 i2.initKey
  · rw [Lang, hinit]
    refine (Acc.concat_on (Fin := (· ∈ b1.finals)) (step2 := b.step) id b2.init i1.closed
      (fun q hq a t => (tg q a t).trans ?_)
      (fun q hq hf => i1.disjoint i2 hq (i2.finalsKeys _ (hfin ▸ hf))) i1.initKey).trans ?_
    · constructor
      · rintro (h | h | h)
        · exact Or.inl ⟨t, h, rfl⟩
        · exact absurd (mem_tgts_key h) (i1.disjoint i2 hq)
        · exact Or.inr ⟨h.2.1, h.1, h.2.2⟩
      · rintro (⟨_, h, rfl⟩ | h)
        · exact Or.inl h
        · exact Or.inr (Or.inr ⟨h.2.1, h.1, h.2.2⟩)
    · exact ⟨fun ⟨u, v, hu, hv, e⟩ => ⟨u, v, (g1.lang u).mp hu, (g2.lang v).mp ((sub2 i2.initKey).mp hv), e⟩,
        fun ⟨u, v, hu, hv, e⟩ => ⟨u, v, (g1.lang u).mpr hu, (sub2 i2.initKey).mpr ((g2.lang v).mpr hv), e⟩⟩

end concat

end Builder
end AV.Rx
