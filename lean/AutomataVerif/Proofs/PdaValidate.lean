/-
Proofs/PdaValidate.lean — `PDA.validate` for NPDA and DPDA: `ok` ↔ declarative
well-formedness (∧ determinism), and where a `NondeterminismError` can come from; all derived
through `toVA` from the theory of the same validator on `VA.NPDA` / `VA.DPDA` (Proofs/ValidateRules.lean).
-/
import AutomataVerif.Proofs.Pda
import AutomataVerif.Proofs.ValidateRules

namespace AV.PDA

variable {σ α γ τ : Type} [DecidableEq σ] [DecidableEq α] [DecidableEq γ]

theorem Table.mode_valid_iff (s : String) : s ∈ Gen.Pda.validModes ↔ ∃ m : AccMode, s = m.literal := by
  constructor
  · intro h
    simp only [Gen.Pda.validModes, List.mem_cons, List.not_mem_nil, or_false] at h
    rcases h with h | h | h
    · exact ⟨.finalState, h⟩
    · exact ⟨.emptyStack, h⟩
    · exact ⟨.both, h⟩
  · rintro ⟨m, rfl⟩; cases m <;> simp [Gen.Pda.validModes, AccMode.literal]

omit [DecidableEq α] in
theorem Table.validateCommon_eq_ok (M : Table σ α γ τ) :
    M.validateCommon = .ok () ↔
      M.init ∈ M.states ∧ M.initStack ∈ M.stackSyms ∧ (∀ q ∈ M.finals, q ∈ M.states) ∧
      ∃ m : AccMode, M.mode = m.literal := by
  unfold Table.validateCommon
  simp only [Res.andThen_eq_ok, guardE_eq_ok, decide_eq_true_eq, List.all_eq_true,
    Table.mode_valid_iff]

omit [DecidableEq σ] [DecidableEq γ] in
theorem Table.validateInputSymbol_eq_ok (M : Table σ α γ τ) (a : Option α) :
    M.validateInputSymbol a = .ok () ↔ ∀ b, a = some b → b ∈ M.inputSyms := by
  cases a with
  | none => simp [Table.validateInputSymbol]
  | some b => simp [Table.validateInputSymbol]

omit [DecidableEq σ] [DecidableEq α] in
theorem Table.validateStackSymbol_eq_ok (M : Table σ α γ τ) (X : γ) :
    M.validateStackSymbol X = .ok () ↔ X ∈ M.stackSyms := by
  simp [Table.validateStackSymbol]

/-- The same definition as a `VA.NPDA` / `VA.DPDA` (Model/ValidateAll.lean). -/
def NPDA.toVA (M : NPDA σ α γ) : VA.NPDA σ α γ :=
  ⟨M.states, M.inputSyms, M.stackSyms, M.trans, M.init, M.initStack, M.finals, M.mode⟩

def DPDA.toVA (M : DPDA σ α γ) : VA.DPDA σ α γ :=
  ⟨M.states, M.inputSyms, M.stackSyms, M.trans, M.init, M.initStack, M.finals, M.mode⟩

theorem NPDA.validate_toVA (M : NPDA σ α γ) : M.toVA.validate = M.validate := rfl

omit [DecidableEq σ] [DecidableEq α] [DecidableEq γ] in
theorem NPDA.toVA_wf (M : NPDA σ α γ) : M.toVA.WF ↔ M.WellFormed :=
  ⟨fun h => ⟨h.symsOk, h.stackOk, h.tail.initOk, h.tail.initStackOk, h.tail.finalsOk,
      (Table.mode_valid_iff _).mp h.tail.modeOk⟩,
    fun h => ⟨h.inputOk, h.stackOk, h.initOk, h.initStackOk, h.finalsOk,
      (Table.mode_valid_iff _).mpr h.modeOk⟩⟩

theorem NPDA.validate_eq_ok (M : NPDA σ α γ) : M.validate = .ok () ↔ M.WellFormed :=
  (VA.NPDA.validate_eq_ok M.toVA).trans M.toVA_wf

/-- No state and stack top have both a symbol move and a λ-move iff every row passes the validator's
test (`VA.DPDA.RowDet`: no symbol entry shares a stack symbol with the λ entry of its row). -/
theorem DPDA.rowDet_iff (M : DPDA σ α γ) (hk : M.KeysUnique) :
    (∀ kv ∈ M.trans, VA.DPDA.RowDet kv.2) ↔ ¬ M.TwoMoves := by
  rw [M.twoMoves_iff_mem hk]
  constructor
  · rintro hdet ⟨q, row, a, sp, sp', X, hrow, hsp, hsp', hX, hX'⟩
    refine hdet (q, row) hrow (some a, sp) hsp a rfl X hX ?_
    rwa [VA.DPDA.lamRow, alookup_of_mem_nodup (hk.2 _ hrow) hsp']
  · rintro hno ⟨q, row⟩ hkv ⟨a', sp⟩ hsib a rfl Y hY hYl
    unfold VA.DPDA.lamRow at hYl
    cases hl : alookup none row with
    | none => rw [hl] at hYl; cases hYl
    | some sp' =>
      rw [hl] at hYl
      exact hno ⟨q, row, a, sp, sp', Y, hkv, hsib, alookup_some_mem hl, hY, hYl⟩

/-- With unique keys the lookups of `_validate_transition_lambda_transition_sibling` find the row
being validated and its λ entry. -/
theorem DPDA.validateIsolated_eq (M : DPDA σ α γ) (hk : (akeys M.trans).Nodup) {q : σ}
    {row : List (Option α × List (γ × (σ × List γ)))} (hrow : (q, row) ∈ M.trans)
    {e : Option α × List (γ × (σ × List γ))} (he : e ∈ row) :
    M.validateIsolated q e.1 =
      match e.1 with
      | none => VA.DPDA.lambdaSiblingsOk row
      | some _ => .ok () := by
  obtain ⟨a, sp⟩ := e
  cases a with
  | some b => rfl
  | none =>
    obtain ⟨eps, heps⟩ := exists_alookup (List.mem_map.mpr ⟨_, he, rfl⟩)
    simp only [DPDA.validateIsolated, alookup_of_mem_nodup hk hrow, VA.DPDA.lambdaSiblingsOk]
    refine firstErr_congr fun sib _ => ?_
    unfold DPDA.validateSibling DPDA.siblingCheck
    cases sib.1 with
    | none => rfl
    | some b => simp only [alookup_of_mem_nodup hk hrow, heps, VA.DPDA.lamRow, Option.getD_some]

theorem DPDA.validate_toVA (M : DPDA σ α γ) (hk : (akeys M.trans).Nodup) :
    M.toVA.validate = M.validate := by
  show (firstErr M.trans fun kv => M.toVA.validateRow kv.2).andThen M.validateCommon = _
  unfold DPDA.validate
  rw [firstErr_congr fun kv hkv => ?_]
  unfold VA.DPDA.validateRow DPDA.validateRow
  refine firstErr_congr fun e he => ?_
  rw [M.validateIsolated_eq hk hkv he]
  rfl

theorem DPDA.toVA_wf (M : DPDA σ α γ) (hk : M.KeysUnique) : M.toVA.WF ↔ M.WellFormed ∧ ¬ M.TwoMoves :=
  ⟨fun h => ⟨⟨h.symsOk, h.stackOk, h.tail.initOk, h.tail.initStackOk, h.tail.finalsOk,
      (Table.mode_valid_iff _).mp h.tail.modeOk⟩, (M.rowDet_iff hk).mp h.det⟩,
    fun ⟨h, hd⟩ => ⟨h.inputOk, h.stackOk, (M.rowDet_iff hk).mpr hd, h.initOk, h.initStackOk,
      h.finalsOk, (Table.mode_valid_iff _).mpr h.modeOk⟩⟩

theorem DPDA.validate_eq_ok (M : DPDA σ α γ) (hk : M.KeysUnique) :
    M.validate = .ok () ↔ M.WellFormed ∧ ¬ M.TwoMoves := by
  rw [← M.validate_toVA hk.1, VA.DPDA.validate_eq_ok, M.toVA_wf hk]

theorem DPDA.validate_nondeterminism_twoMoves (M : DPDA σ α γ) (hk : M.KeysUnique)
    (h : M.validate = .error (.lib .nondeterminismError)) : M.TwoMoves :=
  Classical.not_not.mp fun hno => by
    rw [← M.validate_toVA hk.1] at h
    obtain ⟨r, hv, hr, _⟩ := VA.DPDA.rules_correct.error_kind _ _ h
    cases r <;> cases hr
    obtain ⟨kv, hkv, hnd⟩ := hv
    exact hnd ((M.rowDet_iff hk).mpr hno kv hkv)

theorem DPDA.validate_of_wf_twoMoves (M : DPDA σ α γ) (hk : M.KeysUnique) (wf : M.WellFormed)
    (h2 : M.TwoMoves) : M.validate = .error (.lib .nondeterminismError) := by
  rw [← M.validate_toVA hk.1]
  refine VA.DPDA.rules_correct.corrupt_raises M.toVA .nondeterministic ?_ fun r' hv => ?_
  · exact Classical.not_forall_not.mp fun hall => (M.rowDet_iff hk).mp
      (fun kv hkv => Classical.not_not.mp fun hn => hall kv ⟨hkv, hn⟩) h2
  · cases r' with
    | unknownInputSymbol =>
      obtain ⟨kv, hkv, e, he, a, ha, hn⟩ := hv
      exact absurd (wf.inputOk kv hkv e he a ha) hn
    | unknownStackSymbol =>
      obtain ⟨kv, hkv, e, he, g, hg, hn⟩ := hv
      exact absurd (wf.stackOk kv hkv e he g hg) hn
    | nondeterministic => exact .inl rfl
    | _ => exact .inr (Nat.zero_lt_succ _)

end AV.PDA
