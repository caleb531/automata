/-
Proofs/RxSyms.lean — the literals of an expression tree.  Core only.
-/
import AutomataVerif.Model.RxAst

namespace AV.Rx

variable {α : Type} [DecidableEq α]

/-- The symbols at the literal leaves: what the alphabet must contain for the compiled NFA to
pass the constructor's validation. -/
def Rx.lits : Rx α → List α
  | .lit a => [a]
  | .wildcard => []
  | .eps => []
  | .cat e f => e.lits ++ f.lits
  | .union e f => e.lits ++ f.lits
  | .inter e f => e.lits ++ f.lits
  | .shuffle e f => e.lits ++ f.lits
  | .star e => e.lits
  | .plus e => e.lits
  | .opt e => e.lits
  | .rep e _ _ => e.lits

end AV.Rx
