/-
Proofs/NFAOpsBinary.lean — `_get_state_maps`, `_load_new_transition_dict`, `union`,
`concatenate` (Model/NFAOps.lean): the state maps are injective renamings with disjoint
ranges, loading a table never fails on a valid operand and renames exactly the rows keyed by
states, the results are valid and their transition reading is the renamed operand's.
Core only.
-/
import AutomataVerif.Model.NFAOps
import AutomataVerif.Proofs.NFATable
import AutomataVerif.Proofs.NFAOpsUnary

open AV.AL

namespace AV
namespace NFA

variable {σ σ₁ σ₂ α : Type} [DecidableEq σ] [DecidableEq σ₁] [DecidableEq σ₂] [DecidableEq α]

/-- `dict(zip(state_set, count(start)))[q]` is `start +` the position of `q`. -/
theorem alookup_stateMap (l : List σ) (start : Nat) (q : σ) :
    alookup q (stateMap l start) = if q ∈ l then some (start + l.idxOf q) else none := by
  unfold stateMap
  induction l generalizing start with
  | nil => rfl
  | cons x t ih =>
    rw [List.length_cons, List.range'_succ, List.zip_cons_cons, alookup_cons, List.idxOf_cons,
      ih (start + 1)]
    by_cases e : x = q
    · simp [e]
    · simp only [e, if_false, List.mem_cons, Ne.symm e, false_or, Nat.add_assoc, Nat.add_comm 1,
        beq_false_of_ne e, cond_false]

theorem avals_stateMap_mem (l : List σ) (start : Nat) {q : σ} (h : q ∈ l) :
    start + l.idxOf q ∈ avals (stateMap l start) :=
  alookup_some_val_mem ((alookup_stateMap l start q).trans (if_pos h))

set_option linter.unusedSectionVars false in
theorem mem_avals_stateMap (l : List σ) (start : Nat) {k : Nat} (h : k ∈ avals (stateMap l start)) :
    start ≤ k ∧ k < start + l.length := by
  obtain ⟨e, he, rfl⟩ := List.mem_map.mp h
  exact List.mem_range'_1.mp (List.of_mem_zip he).2

section load
variable (m : List (σ × Nat)) (states : List σ) (φ : σ → Nat)

def MapSpec : Prop := ∀ q, alookup q m = if q ∈ states then some (φ q) else none

variable {m states φ}

theorem lookupE_mapSpec (hm : MapSpec m states φ) {q : σ} (hq : q ∈ states) :
    lookupE q m = .ok (φ q) :=
  lookupE_of_alookup ((hm q).trans (if_pos hq))

theorem mapM_lookupE_mapSpec (hm : MapSpec m states φ) {l : List σ} (h : ∀ q ∈ l, q ∈ states) :
    (l.mapM fun q => lookupE q m) = .ok (l.map φ) :=
  mapM_ok _ φ l fun q hq => lookupE_mapSpec hm (h q hq)

variable (states φ)

/-- The whole of `_load_new_transition_dict` as a pure fold: rows keyed by states are renamed
(`new[φ q][symbol] = {φ b for b in ends}`, which is `Tbl.setTargets` since `new[φ q]` exists),
the others are skipped. -/
def loadPure (old : Tbl σ α) (new : Tbl Nat α) : Tbl Nat α :=
  old.foldl (fun t kv =>
    if kv.1 ∈ states then Tbl.setRow (φ kv.1) (fun ts => dedup (ts.map φ)) kv.2 t else t) new

variable {states φ}

theorem load_eq {A : NFA σ α} (hA : A.WF) (hm : MapSpec m A.states φ) (new : Tbl Nat α)
    (hk : ∀ q ∈ A.states, φ q ∈ akeys new) :
    loadNewTransitionDict m A.trans new = .ok (loadPure A.states φ A.trans new) := by
  unfold loadNewTransitionDict loadPure
  refine (foldlM_ok_of_inv (fun t => ∀ q ∈ A.states, φ q ∈ akeys t) hk ?_).1
  intro t ht kv hkv
  by_cases hq : kv.1 ∈ A.states
  · simp only [hm kv.1, if_pos hq]
    refine foldlM_ok_of_inv (fun t => ∀ q ∈ A.states, φ q ∈ akeys t) ht ?_
    intro t ht e he
    obtain ⟨row, hrow⟩ := exists_alookup (ht kv.1 hq)
    rw [mapM_lookupE_mapSpec hm (hA.tgtOk kv hkv e.2 (List.mem_map.mpr ⟨e, he, rfl⟩)), res_ok_bind,
      lookupE_of_alookup hrow, res_ok_bind]
    refine ⟨?_, fun q hq' => Tbl.mem_akeys_setTargets.mpr (Or.inr (ht q hq'))⟩
    unfold Tbl.setTargets
    rw [hrow]
    rfl
  · simp only [hm kv.1, if_neg hq]
    exact ⟨rfl, ht⟩

theorem ext_loadPure {A : NFA σ α} (hA : A.WF) {syms : List α} (hs : ∀ a ∈ A.syms, a ∈ syms)
    {T : Nat → Prop} (hT : ∀ q ∈ A.states, T (φ q)) (new : Tbl Nat α) :
    Tbl.Ext (SymOk syms) T new (loadPure A.states φ A.trans new) := by
  refine Tbl.Ext.foldl _ _ _ fun kv hkv t => ?_
  split
  · refine Tbl.Ext.setRow _ _ _ _ fun e he => ?_
    have hok := hA.ok kv hkv e he
    refine ⟨fun x hx => hs x (hok.1 x hx), fun p hp => ?_⟩
    obtain ⟨b, hb, rfl⟩ := List.mem_map.mp (mem_dedup.mp hp)
    exact hT b (hok.2 b hb)
  · exact Tbl.Ext.refl t

theorem tgt_loadPure_other {k : Nat} (hk : ∀ q ∈ states, φ q ≠ k) (a : Option α) :
    ∀ (old : Tbl σ α) (new : Tbl Nat α),
      Tbl.tgt (loadPure states φ old new) k a = Tbl.tgt new k a :=
  fun old new => List.foldlRecOn (motive := fun t => Tbl.tgt t k a = Tbl.tgt new k a) old _ rfl
    fun t ht kv _ => by
      split
      · rename_i hs
        exact (Tbl.tgt_setRow_ne _ _ (hk kv.1 hs).symm a _ _).trans ht
      · exact ht

theorem tgt_loadPure_state (hinj : ∀ q ∈ states, ∀ q' ∈ states, φ q = φ q' → q = q') {q : σ}
    (hq : q ∈ states) (a : Option α) : ∀ (old : Tbl σ α) (new : Tbl Nat α), Tbl.Dict old →
    Tbl.tgt (loadPure states φ old new) (φ q) a =
      (((alookup q old).bind (alookup a)).map fun ts => dedup (ts.map φ)).getD
        (Tbl.tgt new (φ q) a) := by
  intro old
  induction old with
  | nil => exact fun _ _ => rfl
  | cons kv old ih =>
    obtain ⟨q0, es0⟩ := kv
    intro new hd
    have hk := hd.keys
    rw [akeys, List.map_cons, List.nodup_cons] at hk
    rw [loadPure, List.foldl_cons, ← loadPure,
      ih _ ⟨hk.2, fun kv hkv => hd.rows kv (List.mem_cons_of_mem _ hkv)⟩, alookup_cons]
    by_cases e : q0 = q
    · subst e
      rw [if_pos rfl, if_pos hq, alookup_eq_none_iff.mpr hk.1,
        Tbl.tgt_setRow_self _ _ a _ (hd.rows _ List.mem_cons_self)]
      rfl
    · rw [if_neg e]
      split
      · rename_i hs
        rw [Tbl.tgt_setRow_ne _ _ (fun h => e (hinj q hq q0 hs h).symm)]
      · rfl

theorem mem_tgt_loadPure_state {A : NFA σ α} (hd : Tbl.Dict A.trans)
    (hinj : ∀ q ∈ states, ∀ q' ∈ states, φ q = φ q' → q = q') {q : σ} (hq : q ∈ states)
    {new : Tbl Nat α} {a : Option α} (h0 : Tbl.tgt new (φ q) a = []) (p : Nat) :
    p ∈ Tbl.tgt (loadPure states φ A.trans new) (φ q) a ↔ ∃ x ∈ A.targets q a, φ x = p := by
  rw [tgt_loadPure_state hinj hq a _ _ hd, h0, targets, row_eq]
  cases alookup q A.trans with
  | none => simp
  | some es =>
    cases h2 : alookup a es with
    | none => simp [h2]
    | some ts => simp [h2]

end load

section twoLoads
variable (A : NFA σ₁ α) (B : NFA σ₂ α) (s : Nat)

/-- `state_map_a` of `_get_state_maps(A.states, B.states, start=s)` as a function. -/
def φa (q : σ₁) : Nat := s + A.states.idxOf q
/-- `state_map_b`: it continues where `state_map_a` stopped. -/
def φb (q : σ₂) : Nat := s + A.states.length + B.states.idxOf q

omit [DecidableEq α] in
theorem mapSpec_a : MapSpec (stateMap A.states s) A.states (φa A s) := alookup_stateMap A.states s

omit [DecidableEq σ₁] [DecidableEq α] in
theorem mapSpec_b : MapSpec (stateMap B.states (s + A.states.length)) B.states (φb A B s) :=
  alookup_stateMap B.states _

omit [DecidableEq α] in
theorem φa_inj : ∀ q ∈ A.states, ∀ q' ∈ A.states, φa A s q = φa A s q' → q = q' :=
  fun _ hq _ _ h => idxOf_inj_on hq (Nat.add_left_cancel h)

omit [DecidableEq σ₁] [DecidableEq α] in
theorem φb_inj : ∀ q ∈ B.states, ∀ q' ∈ B.states, φb A B s q = φb A B s q' → q = q' :=
  fun _ hq _ _ h => idxOf_inj_on hq (Nat.add_left_cancel h)

omit [DecidableEq α] in
theorem φa_ne_φb {q : σ₁} (hq : q ∈ A.states) (q' : σ₂) : φa A s q ≠ φb A B s q' := by
  have := List.idxOf_lt_length_of_mem hq
  unfold φa φb; omega

omit [DecidableEq α] in
theorem le_φa (q : σ₁) : s ≤ φa A s q := Nat.le_add_right _ _

omit [DecidableEq σ₁] [DecidableEq α] in
theorem le_φb (q : σ₂) : s ≤ φb A B s q := Nat.le_trans (Nat.le_add_right _ _) (Nat.le_add_right _ _)

omit [DecidableEq α] in
theorem mem_map_φa {l : List σ₁} (hl : ∀ x ∈ l, x ∈ A.states) {q : σ₁} :
    φa A s q ∈ l.map (φa A s) ↔ q ∈ l :=
  mem_map_iff_of_inj fun x hx h => idxOf_inj_on (hl x hx) (Nat.add_left_cancel h)

omit [DecidableEq σ₁] [DecidableEq α] in
theorem mem_map_φb {l : List σ₂} (hl : ∀ x ∈ l, x ∈ B.states) {q : σ₂} :
    φb A B s q ∈ l.map (φb A B s) ↔ q ∈ l :=
  mem_map_iff_of_inj fun x hx h => idxOf_inj_on (hl x hx) (Nat.add_left_cancel h)

omit [DecidableEq α] in
theorem φa_not_mem_map_φb {l : List σ₂} {q : σ₁} (hq : q ∈ A.states) :
    φa A s q ∉ l.map (φb A B s) :=
  fun h => by obtain ⟨x, _, e⟩ := List.mem_map.mp h; exact φa_ne_φb A B s hq x e.symm

omit [DecidableEq α] in
theorem φb_not_mem_map_φa {l : List σ₁} (hl : ∀ x ∈ l, x ∈ A.states) (q : σ₂) :
    φb A B s q ∉ l.map (φa A s) :=
  fun h => by obtain ⟨x, hx, e⟩ := List.mem_map.mp h; exact φa_ne_φb A B s (hl x hx) q e

def loaded (t0 : Tbl Nat α) : Tbl Nat α :=
  loadPure B.states (φb A B s) B.trans (loadPure A.states (φa A s) A.trans t0)

variable {A B s}

theorem ext_loaded (hA : A.WF) (hB : B.WF) {T : Nat → Prop} (hTa : ∀ q ∈ A.states, T (φa A s q))
    (hTb : ∀ q ∈ B.states, T (φb A B s q)) (t0 : Tbl Nat α) :
    Tbl.Ext (SymOk (sunion A.syms B.syms)) T t0 (loaded A B s t0) :=
  (ext_loadPure hA (fun _ h => mem_sunion.mpr (Or.inl h)) hTa t0).trans
    (ext_loadPure hB (fun _ h => mem_sunion.mpr (Or.inr h)) hTb _)

theorem keys_b_loaded (hA : A.WF) {t0 : Tbl Nat α} (hk : ∀ q ∈ B.states, φb A B s q ∈ akeys t0) :
    ∀ q ∈ B.states, φb A B s q ∈ akeys (loadPure A.states (φa A s) A.trans t0) :=
  fun q hq => (ext_loadPure hA (T := fun _ => True) (fun _ h => h) (fun _ _ => trivial) t0).keys _
    (hk q hq)

theorem mem_tgt_loaded_a (hA : Tbl.Dict A.trans) {q : σ₁} (hq : q ∈ A.states) {t0 : Tbl Nat α}
    {a : Option α} (h0 : Tbl.tgt t0 (φa A s q) a = []) (p : Nat) :
    p ∈ Tbl.tgt (loaded A B s t0) (φa A s q) a ↔ ∃ x ∈ A.targets q a, φa A s x = p := by
  unfold loaded
  rw [tgt_loadPure_other fun q' _ => (φa_ne_φb A B s hq q').symm]
  exact mem_tgt_loadPure_state hA (φa_inj A s) hq h0 p

theorem mem_tgt_loaded_b (hB : Tbl.Dict B.trans) {q : σ₂} (hq : q ∈ B.states) {t0 : Tbl Nat α}
    {a : Option α} (h0 : Tbl.tgt t0 (φb A B s q) a = []) (p : Nat) :
    p ∈ Tbl.tgt (loaded A B s t0) (φb A B s q) a ↔ ∃ x ∈ B.targets q a, φb A B s x = p :=
  mem_tgt_loadPure_state hB (φb_inj A B s) hq
    ((tgt_loadPure_other (fun _ hq' => φa_ne_φb A B s hq' q) a _ _).trans h0) p

theorem tgt_loaded_lt {k : Nat} (hk : k < s) (t0 : Tbl Nat α) (a : Option α) :
    Tbl.tgt (loaded A B s t0) k a = Tbl.tgt t0 k a := by
  unfold loaded
  rw [tgt_loadPure_other fun q _ => Nat.ne_of_gt (Nat.lt_of_lt_of_le hk (le_φb A B s q)),
    tgt_loadPure_other fun q _ => Nat.ne_of_gt (Nat.lt_of_lt_of_le hk (le_φa A s q))]

end twoLoads

section union
variable (A : NFA σ₁ α) (B : NFA σ₂ α)

def unionStates : List Nat :=
  dedup (avals (stateMap A.states 1) ++ avals (stateMap B.states (1 + A.states.length)) ++ [0])

/-- `new_transitions` of `union` before the two loads: an empty row per new state, and the ε-row
of the new initial state `0`. -/
def unionInit : Tbl Nat α :=
  ainsert 0 [(none, dedup [φa A 1 A.init, φb A B 1 B.init])] (Tbl.emptyRows (unionStates A B))

/-- The record `union` passes to the constructor. -/
def unionRaw : NFA Nat α :=
  { states := unionStates A B, syms := sunion A.syms B.syms, init := 0,
    finals := dedup (A.finals.map (φa A 1) ++ B.finals.map (φb A B 1)),
    trans := loaded A B 1 (unionInit A B) }

omit [DecidableEq σ₂] [DecidableEq α] in
theorem φa_mem_unionStates {q : σ₁} (hq : q ∈ A.states) : φa A 1 q ∈ unionStates A B :=
  mem_dedup.mpr (List.mem_append_left _ (List.mem_append_left _ (avals_stateMap_mem A.states 1 hq)))

omit [DecidableEq σ₁] [DecidableEq α] in
theorem φb_mem_unionStates {q : σ₂} (hq : q ∈ B.states) : φb A B 1 q ∈ unionStates A B :=
  mem_dedup.mpr (List.mem_append_left _ (List.mem_append_right _ (avals_stateMap_mem B.states _ hq)))

omit [DecidableEq σ₁] [DecidableEq σ₂] [DecidableEq α] in
theorem zero_mem_unionStates : 0 ∈ unionStates A B :=
  mem_dedup.mpr (List.mem_append_right _ List.mem_cons_self)

omit [DecidableEq α] in
theorem mem_akeys_unionInit {k : Nat} (h : k ∈ unionStates A B) : k ∈ akeys (unionInit A B : Tbl Nat α) :=
  mem_akeys_ainsert.mpr (Or.inr (Tbl.mem_akeys_emptyRows.mpr h))

theorem union_eq (hA : A.WF) (hB : B.WF) : union A B = create (unionRaw A B) := by
  have hka : ∀ q ∈ A.states, φa A 1 q ∈ akeys (unionInit A B : Tbl Nat α) :=
    fun q hq => mem_akeys_unionInit A B (φa_mem_unionStates A B hq)
  have hkb := keys_b_loaded hA fun q hq => mem_akeys_unionInit A B (φb_mem_unionStates A B hq)
  unfold union
  simp only [getStateMaps]
  rw [lookupE_mapSpec (mapSpec_a A 1) hA.initOk, res_ok_bind,
    lookupE_mapSpec (mapSpec_b A B 1) hB.initOk, res_ok_bind,
    load_eq hA (mapSpec_a A 1), res_ok_bind, load_eq hB (mapSpec_b A B 1), res_ok_bind,
    mapM_lookupE_mapSpec (mapSpec_a A 1) hA.finalsOk, res_ok_bind,
    mapM_lookupE_mapSpec (mapSpec_b A B 1) hB.finalsOk, res_ok_bind]
  · rfl
  · exact hkb
  · exact hka

theorem unionInit_tgt_pos {k : Nat} (hk : 0 < k) (a : Option α) : Tbl.tgt (unionInit A B) k a = [] := by
  unfold unionInit
  rw [Tbl.tgt_ainsert_ne _ (Nat.ne_of_gt hk)]
  exact Tbl.tgt_emptyRows _ _ _

theorem unionRaw_mem_targets_zero (a : Option α) (p : Nat) :
    p ∈ (unionRaw A B).targets 0 a ↔ a = none ∧ (p = φa A 1 A.init ∨ p = φb A B 1 B.init) := by
  rw [targets_eq_tgt]
  show p ∈ Tbl.tgt (loaded A B 1 (unionInit A B)) 0 a ↔ _
  rw [tgt_loaded_lt Nat.zero_lt_one, unionInit, Tbl.mem_tgt_ainsert_epsRow, mem_dedup]
  simp

theorem unionRaw_targets_a (hA : A.Valid) {q : σ₁} (hq : q ∈ A.states) (a : Option α) (p : Nat) :
    p ∈ (unionRaw A B).targets (φa A 1 q) a ↔ ∃ t ∈ A.targets q a, φa A 1 t = p :=
  mem_tgt_loaded_a hA.dict hq (unionInit_tgt_pos A B (le_φa A 1 q) a) p

theorem unionRaw_targets_b (hB : B.Valid) {q : σ₂} (hq : q ∈ B.states) (a : Option α) (p : Nat) :
    p ∈ (unionRaw A B).targets (φb A B 1 q) a ↔ ∃ t ∈ B.targets q a, φb A B 1 t = p :=
  mem_tgt_loaded_b hB.dict hq (unionInit_tgt_pos A B (le_φb A B 1 q) a) p

theorem unionRaw_final_a (hA : A.WF) {q : σ₁} (hq : q ∈ A.states) :
    φa A 1 q ∈ (unionRaw A B).finals ↔ q ∈ A.finals := by
  show _ ∈ dedup _ ↔ _
  rw [mem_dedup, List.mem_append, mem_map_φa A 1 hA.finalsOk]
  exact or_iff_left (φa_not_mem_map_φb A B 1 hq)

theorem unionRaw_final_b (hA : A.WF) (hB : B.WF) {q : σ₂} :
    φb A B 1 q ∈ (unionRaw A B).finals ↔ q ∈ B.finals := by
  show _ ∈ dedup _ ↔ _
  rw [mem_dedup, List.mem_append, mem_map_φb A B 1 hB.finalsOk]
  exact or_iff_right (φb_not_mem_map_φa A B 1 hA.finalsOk q)

theorem zero_not_mem_unionRaw_finals : 0 ∉ (unionRaw A B).finals := by
  show ¬ _ ∈ dedup _
  rw [mem_dedup, List.mem_append, List.mem_map, List.mem_map]
  rintro (⟨q, _, e⟩ | ⟨q, _, e⟩)
  · exact Nat.ne_of_gt (le_φa A 1 q) e
  · exact Nat.ne_of_gt (le_φb A B 1 q) e

theorem unionRaw_valid (hA : A.Valid) (hB : B.Valid) : (unionRaw A B).Valid := by
  have he : Tbl.Ext (SymOk (sunion A.syms B.syms)) (· ∈ unionStates A B)
      (Tbl.emptyRows (unionStates A B)) (unionRaw A B).trans := by
    refine (Tbl.Ext.ainsert _ 0 (row := [(none, dedup [φa A 1 A.init, φb A B 1 B.init])])
      (List.pairwise_singleton _ _) ?_).trans
      (ext_loaded hA.wf hB.wf (fun _ => φa_mem_unionStates A B) (fun _ => φb_mem_unionStates A B) _)
    intro e he
    rw [List.mem_singleton.mp he]
    refine ⟨symOk_none _, fun p hp => ?_⟩
    rcases List.mem_cons.mp (mem_dedup.mp hp) with rfl | hp
    · exact φa_mem_unionStates A B hA.wf.initOk
    · exact List.mem_singleton.mp hp ▸ φb_mem_unionStates A B hB.wf.initOk
  refine Valid.of_ext he (Tbl.dict_emptyRows (nodup_dedup _)) (Tbl.ok_emptyRows _)
    (zero_mem_unionStates A B)
    (he.keys _ (Tbl.mem_akeys_emptyRows.mpr (zero_mem_unionStates A B))) ?_
  intro k hk
  rcases List.mem_append.mp (mem_dedup.mp hk) with h | h
  · obtain ⟨q, hq, rfl⟩ := List.mem_map.mp h
    exact φa_mem_unionStates A B (hA.wf.finalsOk q hq)
  · obtain ⟨q, hq, rfl⟩ := List.mem_map.mp h
    exact φb_mem_unionStates A B (hB.wf.finalsOk q hq)

end union

section concat
variable (A : NFA σ₁ α) (B : NFA σ₂ α)

def concatStates : List Nat :=
  dedup (avals (stateMap A.states 0) ++ avals (stateMap B.states (0 + A.states.length)))

/-- `new_transitions` before the bridging ε-moves. -/
def concatLoaded : Tbl Nat α := loaded A B 0 (Tbl.emptyRows (concatStates A B))

/-- The record `concatenate` passes to the constructor. -/
def concatRaw : NFA Nat α :=
  { states := concatStates A B, syms := sunion A.syms B.syms, init := φa A 0 A.init,
    finals := dedup (B.finals.map (φb A B 0)), trans :=
      (A.finals.map (φa A 0)).foldl (fun t k => Tbl.addTargets t k none [φb A B 0 B.init])
        (concatLoaded A B) }

omit [DecidableEq σ₂] [DecidableEq α] in
theorem φa_mem_concatStates {q : σ₁} (hq : q ∈ A.states) : φa A 0 q ∈ concatStates A B :=
  mem_dedup.mpr (List.mem_append_left _ (avals_stateMap_mem A.states 0 hq))

omit [DecidableEq σ₁] [DecidableEq α] in
theorem φb_mem_concatStates {q : σ₂} (hq : q ∈ B.states) : φb A B 0 q ∈ concatStates A B :=
  mem_dedup.mpr (List.mem_append_right _ (avals_stateMap_mem B.states _ hq))

theorem ext_concatLoaded (hA : A.WF) (hB : B.WF) :
    Tbl.Ext (SymOk (sunion A.syms B.syms)) (· ∈ concatStates A B)
      (Tbl.emptyRows (concatStates A B)) (concatLoaded A B) :=
  ext_loaded hA hB (fun _ => φa_mem_concatStates A B) (fun _ => φb_mem_concatStates A B) _

/-- The bridging loop `for state in self.final_states: …setdefault("", set()).add(…)` never
raises while every image of a state of `A` has a row. -/
theorem bridge_eq (hA : A.WF) (hB : B.WF) (t : Tbl Nat α) (hk : ∀ q ∈ A.states, φa A 0 q ∈ akeys t) :
    A.finals.foldlM (fun t q => do
        let ka ← lookupE q (stateMap A.states 0)
        let _ ← lookupE ka t
        let ib ← lookupE B.init (stateMap B.states (0 + A.states.length))
        pure (Tbl.addTargets t ka none [ib])) t =
      .ok ((A.finals.map (φa A 0)).foldl (fun t k => Tbl.addTargets t k none [φb A B 0 B.init]) t) := by
  rw [List.foldl_map]
  refine (foldlM_ok_of_inv (fun t => ∀ q ∈ A.states, φa A 0 q ∈ akeys t) hk ?_).1
  intro t ht q hq
  obtain ⟨row, hrow⟩ := exists_alookup (ht q (hA.finalsOk q hq))
  rw [lookupE_mapSpec (mapSpec_a A 0) (hA.finalsOk q hq), res_ok_bind, lookupE_of_alookup hrow,
    res_ok_bind, lookupE_mapSpec (mapSpec_b A B 0) hB.initOk, res_ok_bind]
  exact ⟨rfl, fun q' hq' => Tbl.mem_akeys_addTargets.mpr (Or.inr (ht q' hq'))⟩

theorem concatenate_eq (hA : A.WF) (hB : B.WF) : concatenate A B = create (concatRaw A B) := by
  have hk0 : ∀ k ∈ concatStates A B, k ∈ akeys (Tbl.emptyRows (concatStates A B) : Tbl Nat α) :=
    fun k hk => Tbl.mem_akeys_emptyRows.mpr hk
  have hka : ∀ q ∈ A.states, φa A 0 q ∈ akeys _ := fun q hq => hk0 _ (φa_mem_concatStates A B hq)
  have hkb := keys_b_loaded hA fun q hq => hk0 _ (φb_mem_concatStates A B hq)
  have hkt : ∀ q ∈ A.states, φa A 0 q ∈ akeys (concatLoaded A B : Tbl Nat α) :=
    fun q hq => (ext_concatLoaded A B hA hB).keys _ (hka q hq)
  unfold concatenate
  simp only [getStateMaps]
  rw [load_eq hA (mapSpec_a A 0), res_ok_bind, load_eq hB (mapSpec_b A B 0), res_ok_bind,
    bridge_eq A B hA hB, res_ok_bind, mapM_lookupE_mapSpec (mapSpec_b A B 0) hB.finalsOk, res_ok_bind,
    lookupE_mapSpec (mapSpec_a A 0) hA.initOk, res_ok_bind]
  · rfl
  · exact hkt
  · exact hkb
  · exact hka

theorem concatRaw_targets_a (hA : A.Valid) {q : σ₁} (hq : q ∈ A.states) (a : Option α) (p : Nat) :
    p ∈ (concatRaw A B).targets (φa A 0 q) a ↔
      (∃ t ∈ A.targets q a, φa A 0 t = p) ∨ (a = none ∧ q ∈ A.finals ∧ p = φb A B 0 B.init) := by
  rw [targets_eq_tgt]
  show p ∈ Tbl.tgt (List.foldl _ (concatLoaded A B) _) _ _ ↔ _
  rw [Tbl.mem_tgt_foldl_addTargets, concatLoaded, mem_tgt_loaded_a hA.dict hq (Tbl.tgt_emptyRows _ _ _),
    mem_map_φa A 0 hA.wf.finalsOk]
  exact or_congr_right and_left_comm

theorem concatRaw_targets_b (hA : A.WF) (hB : B.Valid) {q : σ₂} (hq : q ∈ B.states) (a : Option α)
    (p : Nat) :
    p ∈ (concatRaw A B).targets (φb A B 0 q) a ↔ ∃ t ∈ B.targets q a, φb A B 0 t = p := by
  rw [targets_eq_tgt]
  show p ∈ Tbl.tgt (List.foldl _ (concatLoaded A B) _) _ _ ↔ _
  rw [Tbl.mem_tgt_foldl_addTargets, concatLoaded, mem_tgt_loaded_b hB.dict hq (Tbl.tgt_emptyRows _ _ _)]
  exact or_iff_left fun h => φb_not_mem_map_φa A B 0 hA.finalsOk q h.1

theorem concatRaw_final_a {q : σ₁} (hq : q ∈ A.states) : φa A 0 q ∉ (concatRaw A B).finals :=
  fun h => φa_not_mem_map_φb A B 0 hq (mem_dedup.mp h)

theorem concatRaw_final_b (hB : B.WF) {q : σ₂} :
    φb A B 0 q ∈ (concatRaw A B).finals ↔ q ∈ B.finals :=
  mem_dedup.trans (mem_map_φb A B 0 hB.finalsOk)

theorem concatRaw_valid (hA : A.Valid) (hB : B.Valid) : (concatRaw A B).Valid := by
  have he := (ext_concatLoaded A B hA.wf hB.wf).trans
    (Tbl.Ext.foldl_addTargets (symOk_none _) (φb_mem_concatStates A B hB.wf.initOk)
      (A.finals.map (φa A 0)) _)
  refine Valid.of_ext he (Tbl.dict_emptyRows (nodup_dedup _)) (Tbl.ok_emptyRows _)
    (φa_mem_concatStates A B hA.wf.initOk)
    (he.keys _ (Tbl.mem_akeys_emptyRows.mpr (φa_mem_concatStates A B hA.wf.initOk))) ?_
  intro k hk
  obtain ⟨q, hq, rfl⟩ := List.mem_map.mp (mem_dedup.mp hk)
  exact φb_mem_concatStates A B (hB.wf.finalsOk q hq)

end concat

end NFA
end AV
