/-
Proofs/Expr.lean — vocabulary for compositions of the C04 operations (core only): the invariant
`Sem` that every operation preserves; expression trees `DFAExpr`, evaluated with the model of the
code under `retain_names=False` (so that every intermediate result lives in `DFA Nat α`), with their
denotation on verdicts; and `akeys M.trans = M.states` for the results of `_minify`, which is what
renaming by discovery index asks of its operand.
-/
import AutomataVerif.Proofs.MinCompose
import AutomataVerif.Model.DFAComplement

namespace AV
namespace C04
open DFA

variable {σ α : Type} [DecidableEq σ] [DecidableEq α]

/-- `d` is a valid duplicate-free DFA over the alphabet `Sg` with verdict function `L`. -/
structure Sem (d : DFA σ α) (Sg : List α) (L : List α → Bool) : Prop where
  valid : d.validate = .ok ()
  pyShape : d.PyShape
  syms : ∀ a, a ∈ d.syms ↔ a ∈ Sg
  lang : ∀ w, d.accepts w = L w

theorem Sem.wf {d : DFA σ α} {Sg : List α} {L : List α → Bool} (h : Sem d Sg L) : d.WF :=
  (DFA.validate_eq_ok d).mp h.valid

namespace Result
variable {τ : Type} [DecidableEq τ] {S : List α} {R : DFA τ α} {L L' : List α → Bool}

omit [DecidableEq σ] in
theorem sem {Sg : List α} (r : Result S R L) (hS : ∀ a, a ∈ S ↔ a ∈ Sg) (hl : ∀ w, L w = L' w) :
    Sem R Sg L' :=
  ⟨r.valid, r.pyShape, fun a => r.syms ▸ hS a, fun w => (r.lang w).trans (hl w)⟩

/-- `retain_names=False`: renaming by discovery index keeps everything. -/
theorem renumber (r : Result S R L) (hk : akeys R.trans = R.states) : Result S R.renumber L := by
  have hinj := renumber_injOn R fun k h => hk ▸ h
  rw [renumber_eq_rename]
  exact ⟨rename_valid _ r.valid, rename_pyShape _ r.wf r.pyShape hinj, r.syms,
    fun w => (rename_accepts _ r.wf hinj.sep w).trans (r.lang w)⟩

end Result

theorem AllReached.renumber {τ : Type} [DecidableEq τ] {R : DFA τ α} (t : AllReached R) (wf : R.WF) :
    AllReached R.renumber :=
  ⟨by rw [renumber_eq_rename, rename_keys, t.1]; rfl,
    rename_reach _ wf (renumber_sep R) t.2⟩

theorem Sem.result {d : DFA σ α} {Sg : List α} {L : List α → Bool} (h : Sem d Sg L) :
    Result d.syms d L :=
  ⟨h.valid, h.pyShape, rfl, h.lang⟩

theorem Sem.symsEq {A B : DFA σ α} {Sg : List α}
    {LA LB : List α → Bool} (hA : Sem A Sg LA) (hB : Sem B Sg LB) : A.symsEq B = true :=
  (symsEq_iff A B).mpr fun a => (hA.syms a).trans (hB.syms a).symm

/-- Model of `_get_trap_state_id` for natural-number names: some name outside the given
states.  (The code uses the first of `-1, -2, …`; only freshness matters, and results are
compared with the code up to isomorphism.) -/
def freshNat (l : List Nat) : Nat := l.foldl max 0 + 1

theorem freshNat_not_mem (l : List Nat) : freshNat l ∉ l := by
  intro h
  have := (le_foldl_max_iff l 0 _).mpr (Or.inr ⟨_, h, Nat.le_refl _⟩)
  unfold freshNat at this
  omega

theorem minifyCore_keys {σ : Type} [DecidableEq σ] (kept : List σ) (syms : List α)
    (trans : List (σ × List (α × σ))) (init : σ) (finals : List σ) (pick : List Nat → Nat) :
    akeys (minifyCore kept syms trans init finals pick).trans =
      (minifyCore kept syms trans init finals pick).states := by
  unfold minifyCore
  simp only []
  split
  · rfl
  · simp [akeys, List.map_map, Function.comp_def]

theorem binopMin_keys {op : BinOp} {A B : DFA σ α} {pick : List Nat → Nat} {M : DFA (MinName (PState σ)) α}
    (h : A.binopMin op B pick = .ok M) : akeys M.trans = M.states := by
  unfold binopMin at h
  split at h
  · cases h
  · cases h; exact minifyCore_keys _ _ _ _ _ _

theorem complementMinFull_keys {d : DFA σ α} {trap : σ} {pick : List Nat → Nat} {M : DFA (MinName σ) α}
    (h : d.complementMinFull trap pick = .ok M) : akeys M.trans = M.states := by
  unfold complementMinFull at h
  split at h
  · cases h; exact minifyCore_keys _ _ _ _ _ _
  · cases h

theorem toPartialMin_keys (d : DFA σ α) (pick : List Nat → Nat) :
    akeys (d.toPartialMin pick).trans = (d.toPartialMin pick).states :=
  minifyCore_keys _ _ _ _ _ _

/-- Finite expression trees over the C04 operations; the flags are the `minify` option of
the node (`retain_names=False` throughout, so that every intermediate result is renamed
into `DFA Nat α`). -/
inductive DFAExpr (α : Type)
  | leaf (d : DFA Nat α)
  | binop (op : BinOp) (minify : Bool) (l r : DFAExpr α)
  | compl (minify : Bool) (e : DFAExpr α)
  | toPartial (minify : Bool) (e : DFAExpr α)
  | toComplete (e : DFAExpr α)

namespace DFAExpr

abbrev union (l r : DFAExpr α) (minify : Bool := false) : DFAExpr α := .binop .union minify l r
abbrev inter (l r : DFAExpr α) (minify : Bool := false) : DFAExpr α := .binop .inter minify l r
abbrev diff (l r : DFAExpr α) (minify : Bool := false) : DFAExpr α := .binop .diff minify l r
abbrev symm (l r : DFAExpr α) (minify : Bool := false) : DFAExpr α := .binop .symm minify l r

/-- `.ok` results are renamed by discovery index (`retain_names=False`). -/
def renumberRes {S : Type} [DecidableEq S] : Res (DFA S α) → Res (DFA Nat α)
  | .ok R => .ok R.renumber
  | .error e => .error e

/-- Evaluation with the model of the code (`retain_names=False`); `trapOf states` is the
trap name `_get_trap_state_id` picks, `pick` the arbitrary `set.pop()` of `_minify`.  For a
minified result the code's names are `enumerate(blocks)`, here the index in the state list:
the same DFA up to an injective renaming. -/
def eval (trapOf : List Nat → Nat) (pick : List Nat → Nat) : DFAExpr α → Res (DFA Nat α)
  | leaf d => .ok d
  | binop op m l r =>
    match eval trapOf pick l, eval trapOf pick r with
    | .ok A, .ok B =>
      (match m with
       | false => renumberRes (A.binopPlain op B)
       | true => renumberRes (A.binopMin op B pick))
    | .error e, _ => .error e
    | .ok _, .error e => .error e
  | compl m e =>
    match eval trapOf pick e with
    | .ok A =>
      (match m with
       | false => A.complementFull (trapOf A.states)
       | true => renumberRes (A.complementMinFull (trapOf A.states) pick))
    | .error x => .error x
  | toPartial m e =>
    match eval trapOf pick e with
    | .ok A =>
      (match m with
       | false => .ok A.toPartialPlain
       | true => .ok (A.toPartialMin pick).renumber)
    | .error x => .error x
  | toComplete e =>
    match eval trapOf pick e with
    | .ok A => A.toComplete (trapOf A.states) false
    | .error x => .error x

/-- The set expression denoted by a tree, on verdicts; complement is relative to `Sg*`. -/
def denote (Sg : List α) : DFAExpr α → List α → Bool
  | leaf d, w => d.accepts w
  | binop op _ l r, w => op.fin (denote Sg l w) (denote Sg r w)
  | compl _ e, w => (w.all fun a => decide (a ∈ Sg)) && !denote Sg e w
  | toPartial _ e, w => denote Sg e w
  | toComplete e, w => denote Sg e w

def LeavesOk (Sg : List α) : DFAExpr α → Prop
  | leaf d => d.validate = .ok () ∧ d.PyShape ∧ ∀ a, a ∈ d.syms ↔ a ∈ Sg
  | binop _ _ l r => LeavesOk Sg l ∧ LeavesOk Sg r
  | compl _ e => LeavesOk Sg e
  | toPartial _ e => LeavesOk Sg e
  | toComplete e => LeavesOk Sg e

def usesMinify : DFAExpr α → Bool
  | leaf _ => false
  | binop _ m l r => m || usesMinify l || usesMinify r
  | compl m e => m || usesMinify e
  | toPartial m e => m || usesMinify e
  | toComplete e => usesMinify e

def size : DFAExpr α → Nat
  | leaf _ => 0
  | binop _ _ l r => size l + size r + 1
  | compl _ e => size e + 1
  | toPartial _ e => size e + 1
  | toComplete e => size e + 1

end DFAExpr

end C04
end AV
