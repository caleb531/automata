/-
Proofs/CtorPrefix.lean — from_prefix (C15): the chain, the error-state rules, both forms.
Core only.
-/
import AutomataVerif.Proofs.CtorSubseq

namespace AV.Ctor

variable {α : Type} [DecidableEq α]

theorem alookup_fillRow (syms : List α) (err : Int) (row : List (α × Int)) (a : α) :
    alookup a (fillRow syms err row) =
      match alookup a row with
      | some x => some x
      | none => if a ∈ syms then some err else none := by
  unfold fillRow
  induction syms generalizing row with
  | nil => cases h : alookup a row <;> simp [h]
  | cons b t ih =>
    rw [List.foldl_cons, ih, alookup_asetdefault]
    cases h : alookup a row with
    | some x => rfl
    | none =>
      by_cases hb : b = a
      · subst hb; simp
      · have : ¬ a = b := fun e => hb e.symm
        simp [hb, this]

theorem mem_akeys_fillRow (syms : List α) (err : Int) (row : List (α × Int)) (a : α) :
    a ∈ akeys (fillRow syms err row) ↔ a ∈ akeys row ∨ a ∈ syms := by
  rw [← alookup_isSome_iff, ← alookup_isSome_iff, alookup_fillRow]
  cases h : alookup a row with
  | some x => simp
  | none => by_cases h2 : a ∈ syms <;> simp [h2]

theorem mem_avals_fillRow (syms : List α) (err : Int) (row : List (α × Int)) (t : Int)
    (h : t ∈ avals (fillRow syms err row)) : t ∈ avals row ∨ t = err := by
  unfold fillRow at h
  induction syms generalizing row with
  | nil => exact Or.inl h
  | cons b s ih =>
    rw [List.foldl_cons] at h
    refine (ih _ h).elim (fun h1 => ?_) Or.inr
    unfold asetdefault at h1
    split at h1
    · exact Or.inl h1
    · rw [avals, List.map_append, List.mem_append] at h1
      exact h1.imp id List.mem_singleton.mp

section pref
variable (syms p : List α)

def chainRow (i : Nat) : List (α × Int) :=
  match p[i]? with
  | some c => [(c, nat i + 1)]
  | none => rowOf syms fun _ => nat i

def chainTable : List (Int × List (α × Int)) :=
  ainsert (nat p.length) (rowOf syms fun _ => nat p.length) (chainRows p)

omit [DecidableEq α] in
theorem chainTable_eq :
    chainTable syms p = tableOf (List.range (p.length + 1)) nat (chainRow syms p) := by
  unfold chainTable chainRows
  rw [zipIdx_ladder (fun c i => [(c, nat i + 1)]) p (chainRow syms p), ainsert_ladder]
  · rw [chainRow, List.getElem?_eq_none (Nat.le_refl _)]
  · intro i hi; rw [chainRow, List.getElem?_eq_getElem hi]

set_option linter.unusedSectionVars false in
theorem chain_lookup_neg (k : Int) (hk : k < 0) : alookup k (chainTable syms p) = none := by
  rw [alookup_eq_none_iff, chainTable_eq]
  exact neg_not_mem_ladder hk _ _

/-- Abstract (partial) transition of the chain: follow the prefix, loop at its end. -/
def prefStep (i : Nat) (a : α) : Option Nat :=
  if i < p.length then (if p[i]? = some a then some (i + 1) else none)
  else if a ∈ syms then some i else none

theorem lookup_chainRow (i : Nat) (a : α) :
    alookup a (chainRow syms p i) = (prefStep syms p i a).map nat := by
  unfold chainRow prefStep
  by_cases h : i < p.length
  · rw [List.getElem?_eq_getElem h, if_pos h, alookup_cons, alookup_nil]
    by_cases h2 : p[i] = a <;> simp [h2]
  · rw [List.getElem?_eq_none (Nat.le_of_not_lt h), if_neg h, alookup_rowOf]
    split <;> rfl

theorem prefStep_le (i : Nat) (hi : i ≤ p.length) (a : α) (j : Nat) (h : prefStep syms p i a = some j) :
    j ≤ p.length := by
  unfold prefStep at h
  split at h
  · next hlt => split at h <;> cases h; exact hlt
  · split at h <;> cases h; exact hi

theorem prefStep_climb (i : Nat) (hi : i < p.length) : prefStep syms p i p[i] = some (i + 1) := by
  rw [prefStep, if_pos hi, if_pos (List.getElem?_eq_getElem hi)]

omit [DecidableEq α] in
theorem keys_chainRow (hp : Over syms p) (i : Nat) (a : α) (ha : a ∈ akeys (chainRow syms p i)) :
    a ∈ syms := by
  unfold chainRow at ha
  cases h : p[i]? with
  | none => rw [h, akeys_rowOf] at ha; exact ha
  | some c =>
    rw [h] at ha
    rw [List.mem_singleton.mp ha]
    exact hp c (List.mem_of_getElem? h)

omit [DecidableEq α] in
theorem vals_chainRow (i : Nat) (hi : i ≤ p.length) (t : Int) (ht : t ∈ avals (chainRow syms p i)) :
    ∃ j, j ≤ p.length ∧ t = nat j := by
  unfold chainRow at ht
  cases h : p[i]? with
  | none =>
    rw [h] at ht
    exact ⟨i, hi, eq_of_mem_avals_rowOf_const ht⟩
  | some c =>
    rw [h] at ht
    obtain ⟨hlt, _⟩ := List.getElem?_eq_some_iff.mp h
    exact ⟨i + 1, hlt, (List.mem_singleton.mp ht).trans (nat_succ i)⟩

theorem pref_runO_le (w : List α) (i : Nat) (hi : i ≤ p.length) (j : Nat)
    (h : runO (prefStep syms p) (some i) w = some j) : j ≤ p.length := by
  induction w generalizing i with
  | nil => cases h; exact hi
  | cons a w ih =>
    rw [runO_cons, Option.bind_some] at h
    cases h2 : prefStep syms p i a with
    | none => rw [h2, runO_none] at h; cases h
    | some k => rw [h2] at h; exact ih k (prefStep_le syms p i hi a k h2) h

theorem pref_runO (w : List α) (i : Nat) (hi : i ≤ p.length) :
    runO (prefStep syms p) (some i) w = some p.length ↔
      p.drop i <+: w ∧ Over syms (w.drop (p.length - i)) := by
  induction w generalizing i with
  | nil =>
    rw [runO_nil, Option.some.injEq, List.prefix_nil, List.drop_eq_nil_iff, List.drop_nil]
    exact ⟨fun e => ⟨e ▸ Nat.le_refl _, over_nil _⟩, fun h => Nat.le_antisymm hi h.1⟩
  | cons a w ih =>
    rw [runO_cons, Option.bind_some]
    by_cases h : i < p.length
    · have e : p.length - i = (p.length - (i + 1)) + 1 := by omega
      rw [List.drop_eq_getElem_cons h, e, List.drop_succ_cons, List.cons_prefix_cons, and_assoc]
      by_cases h2 : p[i] = a
      · rw [← h2, prefStep_climb syms p i h, ih (i + 1) h, and_iff_right rfl]
      · have hs : prefStep syms p i a = none := by
          rw [prefStep, if_pos h, if_neg (by rw [List.getElem?_eq_getElem h]; exact fun e => h2 (Option.some.inj e))]
        rw [hs, runO_none]
        exact ⟨fun e => (nomatch e), fun h3 => absurd h3.1 h2⟩
    · have hi' : i = p.length := Nat.le_antisymm hi (Nat.le_of_not_lt h)
      subst hi'
      have := ih p.length (Nat.le_refl _)
      rw [Nat.sub_self, List.drop_length, List.drop_zero] at this ⊢
      rw [prefStep, if_neg h, over_cons]
      by_cases h2 : a ∈ syms
      · rw [if_pos h2, this]
        exact ⟨fun h3 => ⟨List.nil_prefix, h2, h3.2⟩, fun h3 => ⟨List.nil_prefix, h3.2.2⟩⟩
      · rw [if_neg h2, runO_none]
        exact ⟨fun e => (nomatch e), fun h3 => absurd h3.2.1 h2⟩

theorem pref_runO_over (w : List α) (hw : Over syms w) :
    runO (prefStep syms p) (some 0) w = some p.length ↔ p <+: w := by
  rw [pref_runO syms p w 0 (Nat.zero_le _), List.drop_zero]
  exact and_iff_left (hw.mono (List.drop_subset _ w))

/-- The partial form (`as_partial` and `contains`): the chain without an error state. -/
def prefPartialDFA : DFA Int α :=
  tableDFA syms (List.range (p.length + 1)) nat (chainRow syms p) 0 [nat p.length]
    ((tableOf (List.range (p.length + 1)) nat (chainRow syms p)).any fun kv =>
      kv.2.length != syms.length)

theorem fromPrefix_eq_partial : fromPrefix syms p true true = build (prefPartialDFA syms p) := by
  unfold fromPrefix
  rw [show prefixTable syms p (!true || !true) = _ from chainTable_eq syms p]
  rfl

omit [DecidableEq α] in
theorem prefPartial_states (q : Int) :
    q ∈ (prefPartialDFA syms p).states ↔ ∃ i, i ≤ p.length ∧ q = nat i :=
  mem_tableDFA_states.trans
    ⟨fun ⟨i, hi, e⟩ => ⟨i, Nat.le_of_lt_succ (List.mem_range.mp hi), e⟩,
      fun ⟨i, hi, e⟩ => ⟨i, List.mem_range.mpr (Nat.lt_succ_of_le hi), e⟩⟩

theorem prefPartial_simulates :
    Simulates (prefPartialDFA syms p) (Option.map nat) (stepO (prefStep syms p))
      (fun s => ∀ i, s = some i → i ≤ p.length) (· = some p.length) where
  step s hs a _ := by
    cases s with
    | none => exact ⟨rfl, fun _ e => (nomatch e)⟩
    | some i =>
      refine ⟨?_, prefStep_le syms p i (hs i rfl) a⟩
      exact ((prefPartialDFA syms p).step?_of_row (alookup_tableOf _ (fun _ _ => nat_inj.mp)
        (List.mem_range.mpr (Nat.lt_succ_of_le (hs i rfl)))) a).trans (lookup_chainRow syms p i a)
  final s _ := by
    cases s with
    | none => exact ⟨fun e => (nomatch e), fun e => (nomatch e)⟩
    | some i =>
      show decide (nat i ∈ [nat p.length]) = true ↔ _
      rw [decide_eq_true_iff, List.mem_singleton, nat_inj, Option.some.injEq]

omit [DecidableEq α] in
theorem prefPartialDFA_wf (hp : Over syms p) : (prefPartialDFA syms p).WF := by
  have hrow : ∀ kv ∈ (prefPartialDFA syms p).trans, ∃ i, i ≤ p.length ∧
      kv = (nat i, chainRow syms p i) := fun kv hkv =>
    let ⟨i, hi, e⟩ := mem_tableOf.mp hkv
    ⟨i, Nat.le_of_lt_succ (List.mem_range.mp hi), e.symm⟩
  refine
    { rows := fun q hq => hq
      complete := ?_
      symsOk := ?_
      tgtOk := ?_
      initOk := (prefPartial_states syms p 0).mpr ⟨0, Nat.zero_le _, rfl⟩
      finalsOk := fun q hq =>
        (prefPartial_states syms p q).mpr ⟨p.length, Nat.le_refl _, List.mem_singleton.mp hq⟩ }
  · intro hflag kv hkv a ha
    obtain ⟨i, hi, rfl⟩ := hrow kv hkv
    -- the flag says every row has as many entries as the alphabet
    have hlen : (chainRow syms p i).length = syms.length := by
      have := List.any_eq_false.mp hflag _ hkv
      simpa using this
    have ha' : a ∈ syms := ha
    unfold chainRow at hlen ⊢
    cases h : p[i]? with
    | none => rw [akeys_rowOf]; exact ha'
    | some c =>
      -- a one-entry row is complete only over the one-symbol alphabet `{c}`
      rw [h] at hlen
      obtain ⟨x, hx⟩ := List.length_eq_one_iff.mp hlen.symm
      have hc : c ∈ syms := hp _ (List.mem_of_getElem? h)
      rw [hx, List.mem_singleton] at ha' hc
      rw [ha', ← hc]
      exact List.mem_singleton.mpr rfl
  · intro kv hkv a ha
    obtain ⟨i, hi, rfl⟩ := hrow kv hkv
    exact keys_chainRow syms p hp i a ha
  · intro kv hkv t ht
    obtain ⟨i, hi, rfl⟩ := hrow kv hkv
    exact (prefPartial_states syms p t).mpr (vals_chainRow syms p i hi t ht)

theorem prefPartialDFA_accepts (hp : Over syms p) (w : List α) :
    (prefPartialDFA syms p).accepts w = true ↔ Over syms w ∧ p <+: w := by
  rw [(prefPartial_simulates syms p).accepts (prefPartialDFA_wf syms p hp) (k0 := some 0) rfl
    fun _ e => Option.some.inj e ▸ Nat.zero_le _]
  exact and_congr_right (pref_runO_over syms p w)

theorem pref_minimalO (hp : Over syms p) :
    MinimalO syms (stepO (prefStep syms p))
      (fun s => ∃ i, i ≤ p.length ∧ s = some i) (· = some p.length) (some 0) ∧
      ∀ i, i ≤ p.length → ∃ w, Over syms w ∧ runO (prefStep syms p) (some i) w = some p.length :=
  MinimalO.pattern some hp (p <+: ·) (pref_runO_over syms p) (prefStep_climb syms p)
    fun _ h => h.length_le

theorem prefPartialDFA_minimal (hp : Over syms p) :
    MinimalPartialShape (prefPartialDFA syms p) :=
  (prefPartial_simulates syms p).minimalPartial (fun q => (prefPartial_states syms p q).mp)
    (nodup_tableDFA_states (fun _ _ => nat_inj.mp) List.nodup_range) rfl (Nat.zero_le _)
    (pref_minimalO syms p hp).1 (pref_minimalO syms p hp).2

/-- Names of the complete form: rung `i`, or the error state `-1`. -/
def prefName : Option Nat → Int
  | some i => nat i
  | none => -1

theorem prefName_inj (a b : Option Nat) (h : prefName a = prefName b) : a = b := by
  cases a with
  | none =>
    cases b with
    | none => rfl
    | some j => have := nat_nonneg j; simp only [prefName] at h; omega
  | some i =>
    cases b with
    | none => have := nat_nonneg i; simp only [prefName] at h; omega
    | some j => rw [nat_inj.mp h]

/-- The rungs in the order of the chain, then the error state. -/
def prefKeys : List (Option Nat) := (List.range (p.length + 1)).map some ++ [none]

omit [DecidableEq α] in
theorem some_mem_prefKeys {i : Nat} : some i ∈ prefKeys p ↔ i ≤ p.length := by
  simp [prefKeys, Nat.lt_succ_iff]

omit [DecidableEq α] in
theorem none_mem_prefKeys : none ∈ prefKeys p := by simp [prefKeys]

def prefCompleteRow : Option Nat → List (α × Int)
  | some i => fillRow syms (-1) (chainRow syms p i)
  | none => rowOf syms fun _ => (-1 : Int)

theorem prefixTable_complete :
    prefixTable syms p true = tableOf (prefKeys p) prefName (prefCompleteRow syms p) := by
  show ainsert (-1) (rowOf syms fun _ => (-1 : Int))
    ((chainTable syms p).map fun kv => (kv.1, fillRow syms (-1) kv.2)) = _
  rw [chainTable_eq, tableOf_map_val, ainsert_of_not_mem, prefKeys, tableOf, tableOf, List.map_append,
    List.map_map]
  · rfl
  · exact neg_not_mem_ladder (by decide) _ _

/-- The complete form (`not as_partial or not contains`): every missing transition goes to `-1`. -/
def prefCompleteDFA (contains : Bool) : DFA Int α :=
  flagDFA syms (prefKeys p) prefName (prefCompleteRow syms p) (some 0) (some p.length) contains
    ((tableOf (prefKeys p) prefName (prefCompleteRow syms p)).any fun kv =>
      kv.2.length != syms.length)

theorem fromPrefix_eq_complete (contains asPartial : Bool) (h : (!asPartial || !contains) = true) :
    fromPrefix syms p contains asPartial = build (prefCompleteDFA syms p contains) := by
  unfold fromPrefix
  rw [h, prefixTable_complete]
  rfl

theorem fromPrefix_eq (contains asPartial : Bool) :
    (contains = true ∧ asPartial = true ∧
      fromPrefix syms p contains asPartial = build (prefPartialDFA syms p)) ∨
    fromPrefix syms p contains asPartial = build (prefCompleteDFA syms p contains) := by
  by_cases h : (!asPartial || !contains) = true
  · exact Or.inr (fromPrefix_eq_complete syms p contains asPartial h)
  · have h1 : asPartial = true := by cases asPartial <;> simp_all
    have h2 : contains = true := by cases contains <;> simp_all
    subst h1 h2
    exact Or.inl ⟨rfl, rfl, fromPrefix_eq_partial syms p⟩

theorem prefComplete_sim (hp : Over syms p) :
    Sim syms (prefKeys p) prefName (prefCompleteRow syms p)
      (stepO (prefStep syms p)) where
  inj := prefName_inj
  keys s hs a := by
    cases s with
    | none => rw [prefCompleteRow, akeys_rowOf]
    | some i =>
      rw [prefCompleteRow, mem_akeys_fillRow]
      exact ⟨fun h => h.elim (keys_chainRow syms p hp i a) id, Or.inr⟩
  vals s hs t ht := by
    have hnone : ∃ k' ∈ prefKeys p, (-1 : Int) = prefName k' :=
      ⟨none, none_mem_prefKeys p, rfl⟩
    cases s with
    | none =>
      rw [prefCompleteRow] at ht
      rw [eq_of_mem_avals_rowOf_const ht]
      exact hnone
    | some i =>
      rcases mem_avals_fillRow syms (-1) _ t ht with h | rfl
      · obtain ⟨j, hj, rfl⟩ := vals_chainRow syms p i ((some_mem_prefKeys p).mp hs) t h
        exact ⟨some j, (some_mem_prefKeys p).mpr hj, rfl⟩
      · exact hnone
  step s hs a ha := by
    cases s with
    | none => rw [prefCompleteRow, alookup_rowOf, if_pos ha]; rfl
    | some i =>
      rw [prefCompleteRow, alookup_fillRow, lookup_chainRow, stepO_some]
      cases prefStep syms p i a with
      | none => simp [ha, prefName]
      | some j => rfl

omit [DecidableEq α] in
theorem prefComplete_key0 : some 0 ∈ prefKeys p :=
  (some_mem_prefKeys p).mpr (Nat.zero_le _)

omit [DecidableEq α] in
theorem prefComplete_keyTop : some p.length ∈ prefKeys p :=
  (some_mem_prefKeys p).mpr (Nat.le_refl _)

/-- The complete form is minimal when the prefix is non-empty and some symbol of the alphabet
differs from its first character (the error state must be reachable). -/
theorem prefCompleteDFA_minimal (hp : Over syms p) (contains : Bool)
    (b : α) (hb : b ∈ syms) (hb0 : p[0]? ≠ some b) (hne : p ≠ []) :
    MinimalShape (prefCompleteDFA syms p contains) := by
  have h := prefComplete_sim syms p hp
  have hnd : (prefKeys p).Nodup := by
    rw [prefKeys, List.nodup_append]
    refine ⟨nodup_map_of_inj_on List.nodup_range fun _ _ _ _ => Option.some.inj,
      List.pairwise_singleton _ _, fun s hs t ht e => ?_⟩
    obtain ⟨i, _, rfl⟩ := List.mem_map.mp hs
    rw [List.mem_singleton.mp ht] at e
    cases e
  have m := (pref_minimalO syms p hp).1.trap (fun e => nomatch e) (pref_minimalO syms p hp).2
    ⟨[b], by simp [hb], by
      show prefStep syms p 0 b = none
      rw [prefStep, if_pos (List.length_pos_iff.mpr hne), if_neg hb0]⟩
  exact h.minimal_flag hnd (prefComplete_key0 p) contains _ (fun _ hs _ e => (some_mem_prefKeys p).mp (e ▸ hs)) m

end pref

end AV.Ctor
