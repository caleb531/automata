/-
Proofs/Read.lean — the transition tables as the readers see them, and the readers (core only).
What a row, a step and the node set of `_get_digraph` (hence the import of Model/DFAOps) consist of;
under well-formedness rows and steps stay inside the declared states and alphabet, the fallible
look-ups never raise, the stepwise readers are `scanl` of the step functions and only words over
the alphabet are accepted.  For any definition, valid or not, both readers are acceptance along
paths of `Proofs/EpsPath`, and the λ-closure of an NFA is reachability along its λ-moves.
-/
import AutomataVerif.Proofs.Validate
import AutomataVerif.Proofs.EpsPath
import AutomataVerif.Model.DFAOps

namespace AV

variable {σ α : Type} [DecidableEq σ] [DecidableEq α]

namespace DFA

omit [DecidableEq α] in
theorem row?_some_of_mem {d : DFA σ α} (wf : d.WF) {q : σ} (hq : q ∈ d.states) :
    ∃ r, d.row? q = some r :=
  exists_alookup (wf.rows q hq)

theorem step?_of_row (d : DFA σ α) {q : σ} {r : List (α × σ)} (h : d.row? q = some r) (a : α) :
    d.step? (some q) a = alookup a r := by
  rw [step?, row, h, Option.getD_some]

omit [DecidableEq α] in
theorem row_of_lookup {d : DFA σ α} {q : σ} {r : List (α × σ)} (h : d.row? q = some r) :
    d.row q = r := by
  rw [row, h, Option.getD_some]

omit [DecidableEq α] in
theorem row_of_mem {d : DFA σ α} (hk : (akeys d.trans).Nodup) {q : σ} {r : List (α × σ)}
    (h : (q, r) ∈ d.trans) : d.row q = r :=
  row_of_lookup (alookup_of_mem_nodup hk h)

theorem step?_some_iff {d : DFA σ α} {q q' : σ} {a : α} :
    d.step? (some q) a = some q' ↔ ∃ r, d.row? q = some r ∧ alookup a r = some q' := by
  rw [step?, row]
  cases d.row? q <;> simp

section
omit [DecidableEq α]

theorem row_mem_trans {d : DFA σ α} {q : σ} {e : α × σ} (h : e ∈ d.row q) :
    (q, d.row q) ∈ d.trans :=
  mem_of_mem_getD_alookup h

theorem succStates_row (d : DFA σ α) {q t : σ} (h : t ∈ d.succStates q) : (q, d.row q) ∈ d.trans :=
  let ⟨_, he, _⟩ := List.mem_map.mp h
  row_mem_trans he

/-- The nodes of `_get_digraph`: what is declared, what has a row, what a row points to. -/
theorem mem_graphNodes {d : DFA σ α} {q : σ} :
    q ∈ d.graphNodes ↔ q ∈ d.states ∨ q ∈ akeys d.trans ∨ ∃ kv ∈ d.trans, q ∈ avals kv.2 := by
  unfold graphNodes
  rw [mem_dedup, List.mem_append, List.mem_append, List.mem_flatMap, or_assoc]

theorem states_sub_graphNodes (d : DFA σ α) {q : σ} (h : q ∈ d.states) : q ∈ d.graphNodes :=
  mem_graphNodes.mpr (.inl h)

theorem keys_sub_graphNodes (d : DFA σ α) {q : σ} (h : q ∈ akeys d.trans) : q ∈ d.graphNodes :=
  mem_graphNodes.mpr (.inr (.inl h))

theorem succStates_sub_graphNodes (d : DFA σ α) {u v : σ} (h : v ∈ d.succStates u) :
    v ∈ d.graphNodes :=
  mem_graphNodes.mpr (.inr (.inr ⟨(u, d.row u), succStates_row d h, h⟩))

/-- `hr`: the rows are dicts (no key twice); so is the empty row that stands for a missing one. -/
theorem nodup_row {d : DFA σ α} (hr : ∀ kv ∈ d.trans, (akeys kv.2).Nodup) (q : σ) :
    (akeys (d.row q)).Nodup :=
  getD_alookup_inv (I := fun r => (akeys r).Nodup) List.nodup_nil hr q

theorem row_entry {d : DFA σ α} (wf : d.WF) {q : σ} {e : α × σ} (he : e ∈ d.row q) :
    e.1 ∈ d.syms ∧ e.2 ∈ d.states :=
  ⟨wf.symsOk _ (row_mem_trans he) _ (List.mem_map_of_mem he),
    wf.tgtOk _ (row_mem_trans he) _ (List.mem_map_of_mem he)⟩

end

/-- A step of the reader is an entry of the row, once rows are dicts (the DFA twin of
`NFA.mem_targets_iff_row`). -/
theorem step?_iff_mem_row {d : DFA σ α} (hr : ∀ kv ∈ d.trans, (akeys kv.2).Nodup) {q t : σ} {a : α} :
    d.step? (some q) a = some t ↔ (a, t) ∈ d.row q :=
  ⟨alookup_some_mem, alookup_of_mem_nodup (nodup_row hr q)⟩

/-- The edges of the transition digraph, `transitions[q].values()` (`succStates`, `rowSucc`), are
the steps. -/
theorem mem_avals_row_iff {d : DFA σ α} (hr : ∀ kv ∈ d.trans, (akeys kv.2).Nodup) {q t : σ} :
    t ∈ avals (d.row q) ↔ ∃ a, d.step? (some q) a = some t :=
  List.mem_map.trans ⟨fun ⟨e, he, ht⟩ => ⟨e.1, (step?_iff_mem_row hr).mpr (ht ▸ he)⟩,
    fun ⟨a, ha⟩ => ⟨(a, t), (step?_iff_mem_row hr).mp ha, rfl⟩⟩

theorem step?_mem_graphNodes (d : DFA σ α) (x : Option σ) (c : α) {t : σ}
    (h : d.step? x c = some t) : t ∈ d.graphNodes := by
  cases x with
  | none => cases h
  | some q => exact succStates_sub_graphNodes d (alookup_some_val_mem (k := c) h)

/-- On a well-formed DFA `transitions[current_state]` never raises. -/
theorem stepE_eq {d : DFA σ α} (wf : d.WF) {q : σ} (hq : q ∈ d.states) (a : α) :
    d.stepE (some q) a = .ok (d.step? (some q) a) := by
  obtain ⟨r, hr⟩ := row?_some_of_mem wf hq
  simp only [stepE, step?, row, hr, Option.getD_some]

theorem stepE_none (d : DFA σ α) (a : α) : d.stepE none a = .ok (d.step? none a) := rfl

theorem step?_mem {d : DFA σ α} (wf : d.WF) {q q' : σ} {a : α}
    (h : d.step? (some q) a = some q') : q' ∈ d.states :=
  (row_entry wf (alookup_some_mem h)).2

theorem step?_foreign {d : DFA σ α} (wf : d.WF) (s : Option σ) {a : α} (ha : a ∉ d.syms) :
    d.step? s a = none := by
  cases s with
  | none => rfl
  | some q =>
    exact Option.eq_none_iff_forall_ne_some.mpr fun q' h => ha (row_entry wf (alookup_some_mem h)).1

/-- Every alphabet symbol is a key of every row (what `allow_partial=False` demands). -/
def IsComplete (d : DFA σ α) : Prop := ∀ kv ∈ d.trans, ∀ a ∈ d.syms, a ∈ akeys kv.2

theorem step?_of_isComplete {d : DFA σ α} (wf : d.WF) (hc : d.IsComplete) {q : σ}
    (hq : q ∈ d.states) {a : α} (ha : a ∈ d.syms) :
    ∃ q', d.step? (some q) a = some q' ∧ q' ∈ d.states := by
  obtain ⟨r, hr⟩ := row?_some_of_mem wf hq
  obtain ⟨q', hq'⟩ := exists_alookup (hc (q, r) (alookup_some_mem hr) a ha)
  have hs := step?_some_iff.mpr ⟨r, hr, hq'⟩
  exact ⟨q', hs, step?_mem wf hs⟩

@[simp] theorem run_nil (d : DFA σ α) (s : Option σ) : d.run s [] = s := rfl
@[simp] theorem run_cons (d : DFA σ α) (s : Option σ) (a : α) (w : List α) :
    d.run s (a :: w) = d.run (d.step? s a) w := rfl

theorem run_append (d : DFA σ α) (s : Option σ) (u v : List α) :
    d.run s (u ++ v) = d.run (d.run s u) v :=
  List.foldl_append

theorem accepts_append (d : DFA σ α) (u v : List α) :
    d.accepts (u ++ v) = d.isFinal (d.run (d.run (some d.init) u) v) := by
  unfold accepts; rw [run_append]

@[simp] theorem run_none (d : DFA σ α) (w : List α) : d.run none w = none := by
  induction w with
  | nil => rfl
  | cons a w ih => exact ih

set_option linter.unusedSectionVars false in
theorem isFinal_none (d : DFA σ α) : d.isFinal none = false := rfl

omit [DecidableEq α] in
theorem isFinal_iff (d : DFA σ α) (s : Option σ) :
    d.isFinal s = true ↔ ∃ q ∈ d.finals, s = some q := by
  cases s with
  | none => exact ⟨(nomatch ·), fun ⟨_, _, h⟩ => nomatch h⟩
  | some q =>
    exact decide_eq_true_iff.trans ⟨fun h => ⟨q, h, rfl⟩, fun ⟨_, hq, h⟩ => Option.some.inj h ▸ hq⟩

theorem run_some_sub {d : DFA σ α} {X : List α}
    (hX : ∀ (s : Option σ) (a : α), a ∉ X → d.step? s a = none) {s : Option σ} {w : List α} {q : σ}
    (h : d.run s w = some q) : ∀ a ∈ w, a ∈ X := by
  induction w generalizing s with
  | nil => exact fun a ha => nomatch ha
  | cons b w ih =>
    rw [run_cons] at h
    intro a ha
    rcases List.mem_cons.mp ha with hab | haw
    · subst hab
      refine Classical.byContradiction fun hns => ?_
      rw [hX s a hns, run_none] at h
      cases h
    · exact ih h a haw

theorem syms_of_run_some {d : DFA σ α} (wf : d.WF) {s : Option σ} {w : List α} {q : σ}
    (h : d.run s w = some q) : ∀ a ∈ w, a ∈ d.syms :=
  run_some_sub (fun s _ ha => step?_foreign wf s ha) h

theorem accepts_over {d : DFA σ α} (wf : d.WF) {w : List α} (h : d.accepts w = true) :
    ∀ c ∈ w, c ∈ d.syms :=
  let ⟨_, _, hq⟩ := (isFinal_iff d _).mp h
  syms_of_run_some wf hq

theorem accepts_eq_false {d : DFA σ α} (wf : d.WF) {w : List α} (h : ¬ ∀ a ∈ w, a ∈ d.syms) :
    d.accepts w = false :=
  Bool.eq_false_iff.mpr fun ha => h (accepts_over wf ha)

/-- Acceptance need only be characterised on the words over the alphabet. -/
theorem accepts_iff_over {d : DFA σ α} (wf : d.WF) {w : List α} {P : Prop}
    (h : (∀ a ∈ w, a ∈ d.syms) → (d.accepts w = true ↔ P)) :
    d.accepts w = true ↔ (∀ a ∈ w, a ∈ d.syms) ∧ P :=
  ⟨fun ha => ⟨accepts_over wf ha, (h (accepts_over wf ha)).mp ha⟩, fun ⟨hw, hp⟩ => (h hw).mpr hp⟩

/-- The configurations a run can be in: the sink or a declared state.  Invariant of the readers
(`good_step`), under which `transitions[current_state]` does not raise (`stepE_good`). -/
def Good (d : DFA σ α) : Option σ → Prop
  | none => True
  | some q => q ∈ d.states

theorem good_step {d : DFA σ α} (wf : d.WF) (s : Option σ) (a : α) : d.Good (d.step? s a) := by
  cases s with
  | none => trivial
  | some q =>
    cases h : d.step? (some q) a with
    | none => trivial
    | some q' => exact step?_mem wf h

theorem good_run {d : DFA σ α} (wf : d.WF) {s : Option σ} (hs : d.Good s) (w : List α) :
    d.Good (d.run s w) :=
  List.foldlRecOn w d.step? hs fun s _ a _ => good_step wf s a

/-- **Simulation.**  Two valid DFAs over the same alphabet have the same language if some relation
between their configurations (the sink `none` among them) holds initially, is kept by every step
on a letter of the alphabet and forces equal verdicts; the configuration of the first may be
assumed `Good`.  Letters outside the alphabet need no case: they kill both runs.  (Every run here,
`implRun`, `mrun`, `NFA.runFrom` too, is a `foldl`, so `List.foldl_rel` is the induction on the
word for every pair of them.) -/
theorem accepts_eq_of_rel {τ : Type} [DecidableEq τ] {d : DFA σ α} {e : DFA τ α} (wd : d.WF)
    (we : e.WF) (hsyms : e.syms = d.syms) {R : Option σ → Option τ → Prop}
    (step : ∀ s t, d.Good s → R s t → ∀ a ∈ d.syms, R (d.step? s a) (e.step? t a))
    (final : ∀ s t, d.Good s → R s t → e.isFinal t = d.isFinal s)
    (h0 : R (some d.init) (some e.init)) (w : List α) : e.accepts w = d.accepts w := by
  by_cases hw : ∀ a ∈ w, a ∈ d.syms
  · have h0' : d.Good (some d.init) ∧ R (some d.init) (some e.init) := ⟨wd.initOk, h0⟩
    have h := List.foldl_rel (r := fun s t => d.Good s ∧ R s t) h0'
      fun a ha s t hst => ⟨good_step wd s a, step s t hst.1 hst.2 a (hw a ha)⟩
    exact final _ _ h.1 h.2
  · rw [accepts_eq_false wd hw, accepts_eq_false we (hsyms ▸ hw)]

theorem run_over {d : DFA σ α} (wf : d.WF) (hc : d.IsComplete) {q : σ} (hq : q ∈ d.states)
    {w : List α} (hw : ∀ a ∈ w, a ∈ d.syms) :
    ∃ q', d.run (some q) w = some q' ∧ q' ∈ d.states := by
  induction w generalizing q with
  | nil => exact ⟨q, rfl, hq⟩
  | cons a w ih =>
    obtain ⟨ha, hw⟩ := List.forall_mem_cons.mp hw
    obtain ⟨q', hs, hq'⟩ := step?_of_isComplete wf hc hq ha
    rw [run_cons, hs]
    exact ih hq' hw

theorem stepE_good {d : DFA σ α} (wf : d.WF) {s : Option σ} (hs : d.Good s) (a : α) :
    d.stepE s a = .ok (d.step? s a) := by
  cases s with
  | none => rfl
  | some q => exact stepE_eq wf hs a

theorem readAux_eq {d : DFA σ α} (wf : d.WF) (ign : Bool) :
    ∀ (w : List α) (s : Option σ), d.Good s →
      d.readAux ign s w =
        ((List.scanl d.step? s w).tail,
         rejectUnless (ign || d.isFinal (d.run s w))) := by
  intro w
  induction w with
  | nil => intro s _; rfl
  | cons a w ih =>
    intro s hs
    rw [readAux, stepE_good wf hs]
    simp only
    rw [ih _ (good_step wf _ a), List.scanl_cons, List.tail_cons, cons_tail_scanl, run_cons]

/-- The moves of a DFA definition as a relation of the path calculus of `Proofs/EpsPath`: no silent
move, and `q —c→ t` when the table sends `q` on `c` to `t`. -/
def rel (d : DFA σ α) (q : σ) (a : Option α) (t : σ) : Prop :=
  ∃ c, a = some c ∧ d.step? (some q) c = some t

theorem not_rel_none {d : DFA σ α} {q t : σ} : ¬ d.rel q none t :=
  fun ⟨_, hc, _⟩ => nomatch hc

theorem run_eq_some_iff_path {d : DFA σ α} {w : List α} {q t : σ} :
    d.run (some q) w = some t ↔ Rx.Path d.rel q w t := by
  induction w generalizing q with
  | nil =>
    refine ⟨fun h => Option.some.inj h ▸ Rx.Path.nil q, fun h => ?_⟩
    cases h with
    | nil => rfl
    | eps hs _ => exact absurd hs not_rel_none
  | cons a w ih =>
    rw [run_cons]
    constructor
    · intro h
      cases hs : d.step? (some q) a with
      | none => rw [hs, run_none] at h; cases h
      | some m => exact Rx.Path.sym ⟨a, rfl, hs⟩ (ih.mp (hs ▸ h))
    · intro h
      cases h with
      | eps hs _ => exact absurd hs not_rel_none
      | sym hs hp =>
        obtain ⟨_, hc, hs⟩ := hs
        cases hc
        rw [hs]
        exact ih.mpr hp

theorem accepts_iff_acc (d : DFA σ α) (w : List α) :
    d.accepts w = true ↔ Rx.Acc d.rel (· ∈ d.finals) d.init w :=
  (isFinal_iff d _).trans (exists_congr fun _ => and_congr_right fun _ => run_eq_some_iff_path)

end DFA

namespace NFA

omit [DecidableEq α] in
theorem row_eq (n : NFA σ α) (q : σ) : n.row q = (alookup q n.trans).getD [] := rfl

omit [DecidableEq α] in
theorem row_mem_trans {n : NFA σ α} {q : σ} {e : Option α × List σ} (h : e ∈ n.row q) :
    (q, n.row q) ∈ n.trans :=
  mem_of_mem_getD_alookup h

omit [DecidableEq α] in
theorem row_entry {n : NFA σ α} (wf : n.WF) {q : σ} {e : Option α × List σ} (he : e ∈ n.row q) :
    (∀ a, e.1 = some a → a ∈ n.syms) ∧ ∀ t ∈ e.2, t ∈ n.states :=
  ⟨fun a ha => wf.symsOk _ (row_mem_trans he) a (ha ▸ List.mem_map_of_mem he),
    wf.tgtOk _ (row_mem_trans he) _ (List.mem_map_of_mem he)⟩

theorem mem_targets {n : NFA σ α} {q t : σ} {a : Option α} :
    t ∈ n.targets q a ↔ ∃ ts, alookup a (n.row q) = some ts ∧ t ∈ ts :=
  mem_getD_nil_iff

theorem mem_targets_iff_row {n : NFA σ α} (hr : ∀ kv ∈ n.trans, (akeys kv.2).Nodup) {q t : σ}
    {a : Option α} : t ∈ n.targets q a ↔ ∃ ts, (a, ts) ∈ n.row q ∧ t ∈ ts := by
  rw [mem_targets]
  exact exists_congr fun ts => and_congr_left fun _ =>
    ⟨alookup_some_mem, fun he => alookup_of_mem_nodup (hr _ (row_mem_trans he)) he⟩

theorem targets_mem_states {n : NFA σ α} (wf : n.WF) {q t : σ} {a : Option α}
    (h : t ∈ n.targets q a) : t ∈ n.states := by
  obtain ⟨ts, hts, ht⟩ := mem_targets.mp h
  exact (row_entry wf (alookup_some_mem hts)).2 t ht

theorem targets_foreign {n : NFA σ α} (wf : n.WF) (q : σ) {a : α} (ha : a ∉ n.syms) :
    n.targets q (some a) = [] := by
  refine List.eq_nil_iff_forall_not_mem.mpr fun t ht => ?_
  obtain ⟨ts, hts, _⟩ := mem_targets.mp ht
  exact ha ((row_entry wf (alookup_some_mem hts)).1 a rfl)

theorem targets_sym {n : NFA σ α} (wf : n.WF) {q p : σ} {a : α} (h : p ∈ n.targets q (some a)) :
    a ∈ n.syms :=
  Decidable.byContradiction fun ha => List.not_mem_nil (targets_foreign wf q ha ▸ h)

theorem targets_mem_nodes (n : NFA σ α) {u v : σ} {a : Option α} (h : v ∈ n.targets u a) :
    v ∈ n.nodes := by
  obtain ⟨ts, hts, hv⟩ := mem_targets.mp h
  have he := alookup_some_mem hts
  exact mem_dedup.mpr (List.mem_append_right _ (List.mem_flatMap.mpr ⟨_, row_mem_trans he,
    List.mem_flatMap.mpr ⟨_, he, hv⟩⟩))

omit [DecidableEq α] in
theorem states_sub_nodes (n : NFA σ α) {q : σ} (h : q ∈ n.states) : q ∈ n.nodes :=
  mem_dedup.mpr (List.mem_append_left _ (List.mem_append_left _ h))

theorem closure_eq_singleton (n : NFA σ α) {q : σ} (h : n.epsSucc q = []) : n.closure q = [q] := by
  have hd : dedup [q] = [q] := rfl
  unfold closure bfs
  simp only [hd, bfsAux, h, List.filter_nil]
  cases n.nodes.length <;> rfl

/-- No hypothesis on `q`: a name that is not a node of the λ-graph has no row, hence no λ-move. -/
theorem mem_closure_iff (n : NFA σ α) {q p : σ} : p ∈ n.closure q ↔ Reach n.epsSucc q p := by
  by_cases hq : q ∈ n.nodes
  · unfold closure
    rw [mem_bfs_iff n.epsSucc (univ := n.nodes) (srcs := [q])
      (fun s hs => List.mem_singleton.mp hs ▸ hq) (fun u _ v hv => targets_mem_nodes n hv)]
    simp only [List.mem_singleton, exists_eq_left]
  · have hs : n.epsSucc q = [] := by
      have hr : n.row? q = none := alookup_eq_none_iff.mpr fun h =>
        hq (mem_dedup.mpr (List.mem_append_left _ (List.mem_append_right _ h)))
      rw [epsSucc, targets, row, hr]
      rfl
    rw [closure_eq_singleton n hs, List.mem_singleton]
    refine ⟨fun e => e ▸ Reach.refl p, fun h => ?_⟩
    induction h with
    | refl => rfl
    | tail _ hc ih => rw [ih, hs] at hc; cases hc

theorem closure_self (n : NFA σ α) (q : σ) : q ∈ n.closure q :=
  (mem_closure_iff n).mpr (Reach.refl q)

theorem closure_trans {n : NFA σ α} {q r p : σ} (hr : r ∈ n.closure q) (hp : p ∈ n.closure r) :
    p ∈ n.closure q :=
  (mem_closure_iff n).mpr (((mem_closure_iff n).mp hr).trans ((mem_closure_iff n).mp hp))

theorem closure_sub_states {n : NFA σ α} (wf : n.WF) {q p : σ} (hq : q ∈ n.states)
    (h : p ∈ n.closure q) : p ∈ n.states := by
  rw [mem_closure_iff] at h
  induction h with
  | refl => exact hq
  | tail _ hc _ => exact targets_mem_states wf hc

theorem mem_nextStates (n : NFA σ α) (cur : List σ) (a : α) (p : σ) :
    p ∈ n.nextStates cur a ↔ ∃ q ∈ cur, ∃ t ∈ n.targets q (some a), p ∈ n.closure t := by
  unfold nextStates
  rw [mem_foldl_iff (P := fun q => ∃ t ∈ n.targets q (some a), p ∈ n.closure t) fun acc q =>
    mem_foldl_iff (P := fun t => p ∈ n.closure t) (fun _ _ => mem_sunion) _ acc]
  simp only [List.not_mem_nil, false_or]

theorem nextStates_sub_states {n : NFA σ α} (wf : n.WF) (cur : List σ) (a : α) {p : σ}
    (h : p ∈ n.nextStates cur a) : p ∈ n.states := by
  obtain ⟨q, _, t, ht, hp⟩ := (mem_nextStates n cur a p).mp h
  exact closure_sub_states wf (targets_mem_states wf ht) hp

theorem nextStates_foreign {n : NFA σ α} (wf : n.WF) (cur : List σ) {a : α} (ha : a ∉ n.syms) :
    n.nextStates cur a = [] := by
  refine List.eq_nil_iff_forall_not_mem.mpr fun p hp => ?_
  obtain ⟨q, _, t, ht, _⟩ := (mem_nextStates n cur a p).mp hp
  rw [targets_foreign wf q ha] at ht
  cases ht

/-- `lambda_closures[q]` has the declared states as its keys. -/
theorem closureE_eq {n : NFA σ α} {q : σ} (hq : q ∈ n.states) : n.closureE q = .ok (n.closure q) :=
  if_pos hq

/-- On a well-formed NFA `lambda_closures[end_state]` never raises: the fallible
step function agrees with the total one. -/
theorem nextStatesE_eq {n : NFA σ α} (wf : n.WF) (cur : List σ) (a : α) :
    n.nextStatesE cur a = .ok (n.nextStates cur a) := by
  unfold nextStatesE nextStates
  refine foldlM_eq_ok (fun acc q _ => ?_) []
  rw [targets, row]
  cases hr : n.row? q with
  | none => rfl
  | some r =>
    refine foldlM_eq_ok (fun acc t ht => ?_) acc
    have : t ∈ n.states :=
      targets_mem_states wf (q := q) (a := some a) (by rw [targets, row, hr]; exact ht)
    rw [closureE_eq this]
    rfl

theorem runFrom_empty (n : NFA σ α) (w : List α) : n.runFrom [] w = [] := by
  induction w with
  | nil => rfl
  | cons a w ih => exact ih

theorem runFrom_cons (n : NFA σ α) (S : List σ) (a : α) (w : List α) :
    n.runFrom S (a :: w) = n.runFrom (n.nextStates S a) w := rfl

theorem runFrom_append (n : NFA σ α) (S : List σ) (u v : List α) :
    n.runFrom S (u ++ v) = n.runFrom (n.runFrom S u) v :=
  List.foldl_append

theorem runFrom_snoc (n : NFA σ α) (S : List σ) (w : List α) (a : α) :
    n.runFrom S (w ++ [a]) = n.nextStates (n.runFrom S w) a :=
  runFrom_append n S w [a]

theorem runFrom_sub_states {n : NFA σ α} (wf : n.WF) {S : List σ} (hS : ∀ q ∈ S, q ∈ n.states)
    (w : List α) : ∀ q ∈ n.runFrom S w, q ∈ n.states :=
  List.foldlRecOn (motive := fun S => ∀ q ∈ S, q ∈ n.states) w n.nextStates hS
    fun S _ a _ _ hq => nextStates_sub_states wf S a hq

/-- Configurations are lists read as sets: the reader does not tell apart two with the same
members. -/
def SetEq (l₁ l₂ : List σ) : Prop := ∀ x, x ∈ l₁ ↔ x ∈ l₂

theorem nextStates_congr (n : NFA σ α) {S T : List σ} (h : SetEq S T) (a : α) :
    SetEq (n.nextStates S a) (n.nextStates T a) := fun p => by
  simp only [mem_nextStates, h _]

theorem runFrom_congr (n : NFA σ α) {S T : List σ} (h : SetEq S T) (w : List α) :
    SetEq (n.runFrom S w) (n.runFrom T w) :=
  List.foldl_rel (r := SetEq) h fun a _ _ _ h => nextStates_congr n h a

omit [DecidableEq α] in
theorem anyFinal_iff (n : NFA σ α) (S : List σ) :
    n.anyFinal S = true ↔ ∃ q ∈ S, q ∈ n.finals := by
  simp [anyFinal, List.any_eq_true]

omit [DecidableEq α] in
theorem anyFinal_congr (n : NFA σ α) {S T : List σ} (h : SetEq S T) :
    n.anyFinal S = n.anyFinal T := by
  rw [Bool.eq_iff_iff, anyFinal_iff, anyFinal_iff]
  exact exists_congr fun q => and_congr_left fun _ => h q

theorem readAux_eq {n : NFA σ α} (wf : n.WF) :
    ∀ (w : List α) (cur : List σ),
      n.readAux cur w =
        ((List.scanl n.nextStates cur w).tail,
         rejectUnless (n.anyFinal (n.runFrom cur w))) := by
  intro w
  induction w with
  | nil => intro cur; rfl
  | cons a w ih =>
    intro cur
    rw [readAux, nextStatesE_eq wf]
    simp only
    rw [ih, List.scanl_cons, List.tail_cons, cons_tail_scanl]
    rfl

section paths
open Rx

/-- The moves of an NFA definition as a relation: its reading in the path calculus of
`Proofs/EpsPath`. -/
def rel (n : NFA σ α) (q : σ) (a : Option α) (t : σ) : Prop := t ∈ n.targets q a

theorem reach_iff_path (n : NFA σ α) {q p : σ} : Reach n.epsSucc q p ↔ Path n.rel q [] p := by
  constructor
  · intro h
    induction h with
    | refl => exact Path.nil _
    | tail _ hc ih => exact ih.snoc_eps hc
  · intro h
    generalize hw : ([] : List α) = w at h
    induction h with
    | nil => exact Reach.refl _
    | eps hs _ ih => exact Reach.head hs (ih hw)
    | sym _ _ _ => cases hw

theorem mem_closure_iff_path (n : NFA σ α) {q p : σ} : p ∈ n.closure q ↔ Path n.rel q [] p :=
  (mem_closure_iff n).trans (reach_iff_path n)

theorem mem_runFrom_iff {n : NFA σ α} {i : σ} (w : List α) :
    ∀ (u : List α) (cur : List σ), (∀ p, p ∈ cur ↔ Path n.rel i u p) →
      ∀ p, p ∈ n.runFrom cur w ↔ Path n.rel i (u ++ w) p := by
  induction w with
  | nil => intro u cur h p; rw [List.append_nil]; exact h p
  | cons a w ih =>
    intro u cur h p
    rw [List.append_cons]
    refine ih (u ++ [a]) (n.nextStates cur a) (fun p => ?_) p
    rw [mem_nextStates]
    constructor
    · rintro ⟨q, hq, t, ht, hp⟩
      simpa using (((h q).mp hq).snoc_sym ht).trans ((mem_closure_iff_path n).mp hp)
    · intro hp
      obtain ⟨m, h1, h2⟩ := hp.split_append
      obtain ⟨p1, p2, h3, h4, h5⟩ := h2.split_cons
      exact ⟨p1, (h p1).mpr (by simpa using h1.trans h3), p2, h4, (mem_closure_iff_path n).mpr h5⟩

theorem mem_run_iff (n : NFA σ α) (w : List α) (p : σ) :
    p ∈ n.runFrom (n.closure n.init) w ↔ Path n.rel n.init w p :=
  mem_runFrom_iff w [] _ (fun _ => mem_closure_iff_path n) p

theorem accepts_iff_acc (n : NFA σ α) (w : List α) :
    n.accepts w = true ↔ Acc n.rel (· ∈ n.finals) n.init w := by
  unfold accepts anyFinal
  simp only [List.any_eq_true, decide_eq_true_eq]
  exact exists_congr fun p => and_comm.trans <| and_congr_right' <| mem_run_iff n w p

end paths

/-- An accepted word is over the alphabet: a foreign symbol empties the configuration. -/
theorem accepts_over {n : NFA σ α} (wf : n.WF) {w : List α} (h : n.accepts w = true) :
    ∀ a ∈ w, a ∈ n.syms := fun a ha => Decidable.byContradiction fun hna => by
  obtain ⟨u, v, rfl⟩ := List.append_of_mem ha
  rw [accepts, runFrom_append, runFrom_cons, nextStates_foreign wf _ hna, runFrom_empty] at h
  cases h

theorem accepts_eq_false {n : NFA σ α} (wf : n.WF) {w : List α} (h : ¬ ∀ a ∈ w, a ∈ n.syms) :
    n.accepts w = false :=
  Bool.eq_false_iff.mpr fun ha => h (accepts_over wf ha)

end NFA
end AV
