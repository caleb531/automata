/-
Proofs/ValidateAll.lean — `validate = ok ↔ WF` for GNFA, DPDA, NPDA, DTM, NTM, MNTM (core only).
-/
import AutomataVerif.Proofs.Validate
import AutomataVerif.Model.ValidateAll

namespace AV.VA
open AV

/-- `decide` on `validate … = .ok ()` / `= .error …` for concrete definitions goes through this. -/
instance instDecidableEqResUnit : DecidableEq (Res Unit) := fun a b =>
  match a, b with
  | .ok (), .ok () => isTrue rfl
  | .error e, .error e' =>
    if h : e = e' then isTrue (by rw [h]) else isFalse (fun h' => h (by cases h'; rfl))
  | .ok _, .error _ => isFalse (fun h => by cases h)
  | .error _, .ok _ => isFalse (fun h => by cases h)

@[simp] theorem subsetB_eq_true {β : Type} [DecidableEq β] {l r : List β} :
    subsetB l r = true ↔ ∀ x ∈ l, x ∈ r := by
  simp [subsetB]

theorem subsetB_eq_false {β : Type} [DecidableEq β] {l r : List β} :
    subsetB l r = false ↔ ∃ x ∈ l, x ∉ r := by
  rw [← Bool.not_eq_true, subsetB_eq_true]; simp

variable {σ α γ : Type} [DecidableEq σ] [DecidableEq α] [DecidableEq γ]

namespace GNFA

/-- A well-formed label: `None`, or a string over the input symbols and `* | ( ) ?` (or the
empty string) that the regex validator accepts. -/
def LabelOk (g : GNFA σ α) : Option (GLabel α) → Prop
  | none => True
  | some l => ((∀ c ∈ l.chars, g.charOk c = true) ∨ l.chars = []) ∧ l.verdict = .valid

omit [DecidableEq σ] in
theorem validateLabel_eq_ok (g : GNFA σ α) (l : Option (GLabel α)) :
    g.validateLabel l = .ok () ↔ g.LabelOk l := by
  cases l with
  | none => exact ⟨fun _ => trivial, fun _ => rfl⟩
  | some l =>
    rw [validateLabel, LabelOk, ← List.all_eq_true, ← List.isEmpty_iff]
    cases l.chars.all g.charOk <;> cases l.chars.isEmpty <;> cases l.verdict <;> simp

omit [DecidableEq α] in
theorem entersInit_congr (g : GNFA σ α) {paths paths' : List (σ × Option (GLabel α))}
    (h : alookup g.init paths' = alookup g.init paths) : g.entersInit paths' = g.entersInit paths := by
  unfold entersInit
  rw [h]

structure WF (g : GNFA σ α) : Prop where
  initOk : g.init ∈ g.states
  finalOk : g.final ∈ g.states
  distinct : g.init ≠ g.final
  rows : ∀ q ∈ g.states, q = g.final ∨ q ∈ akeys g.trans
  labelsOk : ∀ kv ∈ g.trans, ∀ l ∈ avals kv.2, g.LabelOk l
  finalRowEmpty : ∀ kv ∈ g.trans, kv.1 = g.final → kv.2 = []
  complete : ∀ kv ∈ g.trans, kv.1 ≠ g.final → ∀ q ∈ g.states, q ∈ akeys kv.2 ∨ q = g.init
  tgtOk : ∀ kv ∈ g.trans, ∀ q ∈ akeys kv.2, q ∈ g.states
  noEnter : ∀ kv ∈ g.trans, g.entersInit kv.2 = false
  initRow : g.init ∈ akeys g.trans ∨ g.states.length ≤ 1

omit [DecidableEq α] in
theorem validateEndStates_eq_ok (g : GNFA σ α) (start : σ) (paths : List (σ × Option (GLabel α))) :
    g.validateEndStates start paths = .ok () ↔
      (start = g.final → paths = []) ∧
      (start ≠ g.final → ∀ q ∈ g.states, q ∈ akeys paths ∨ q = g.init) ∧
      (∀ q ∈ akeys paths, q ∈ g.states) := by
  unfold validateEndStates rowComplete
  by_cases hs : start = g.final
  · simp only [hs, if_true, Res.andThen_eq_ok, guardE_eq_ok, List.isEmpty_iff, firstErr_eq_ok,
      decide_eq_true_eq, forall_const, ne_eq, not_true_eq_false, false_implies, true_and]
  · simp only [hs, if_false, Res.andThen_eq_ok, guardE_eq_ok, List.all_eq_true, Bool.or_eq_true,
      ahas_iff, decide_eq_true_eq, firstErr_eq_ok, false_implies, ne_eq, not_false_eq_true,
      forall_const, true_and]

theorem validate_eq_ok (g : GNFA σ α) : g.validate = .ok () ↔ g.WF := by
  unfold validate
  simp only [Res.andThen_eq_ok, firstErr_eq_ok, guardE_eq_ok, validateLabel_eq_ok,
    validateEndStates_eq_ok, ahas_iff, decide_eq_true_eq, Bool.or_eq_true, Bool.not_eq_true']
  constructor
  · rintro ⟨h1, h2, h3, h4, h5, h6⟩
    exact ⟨h1, h2, h3, h4, fun kv hkv => (h5 kv hkv).1, fun kv hkv => (h5 kv hkv).2.1.1,
      fun kv hkv => (h5 kv hkv).2.1.2.1, fun kv hkv => (h5 kv hkv).2.1.2.2,
      fun kv hkv => (h5 kv hkv).2.2, h6⟩
  · intro wf
    exact ⟨wf.initOk, wf.finalOk, wf.distinct, wf.rows,
      fun kv hkv => ⟨wf.labelsOk kv hkv, ⟨wf.finalRowEmpty kv hkv, wf.complete kv hkv, wf.tgtOk kv hkv⟩,
        wf.noEnter kv hkv⟩, wf.initRow⟩

end GNFA

structure PdaTailWF (states : List σ) (stackSyms : List γ) (init : σ) (initStack : γ)
    (finals : List σ) (mode : String) : Prop where
  initOk : init ∈ states
  initStackOk : initStack ∈ stackSyms
  finalsOk : ∀ q ∈ finals, q ∈ states
  modeOk : mode ∈ Gen.Validate.pdaAcceptanceModes

theorem pdaValidateTail_eq_ok (states : List σ) (stackSyms : List γ) (init : σ) (initStack : γ)
    (finals : List σ) (mode : String) :
    pdaValidateTail states stackSyms init initStack finals mode = .ok () ↔
      PdaTailWF states stackSyms init initStack finals mode := by
  unfold pdaValidateTail
  simp only [Res.andThen_eq_ok, guardE_eq_ok, decide_eq_true_eq, subsetB_eq_true]
  exact ⟨fun ⟨a, b, c, d⟩ => ⟨a, b, c, d⟩, fun h => ⟨h.initOk, h.initStackOk, h.finalsOk, h.modeOk⟩⟩

theorem pdaInputSymOk_eq_ok (syms : List α) (a : Option α) :
    pdaInputSymOk syms a = .ok () ↔ ∀ x, a = some x → x ∈ syms := by
  cases a with
  | none => exact ⟨fun _ _ h => (nomatch h), fun _ => rfl⟩
  | some x => simp only [pdaInputSymOk, guardE_eq_ok, decide_eq_true_eq, Option.some.injEq, forall_eq']

namespace DPDA

/-- Determinism of one row: no stack symbol has both a λ-move and a move on an input symbol. -/
def RowDet (paths : List (Option α × List (γ × (σ × List γ)))) : Prop :=
  ∀ e ∈ paths, ∀ a, e.1 = some a → ∀ g ∈ akeys e.2, g ∉ akeys (lamRow paths)

omit [DecidableEq σ] in
theorem lambdaSiblingsOk_eq_ok (paths : List (Option α × List (γ × (σ × List γ)))) :
    lambdaSiblingsOk paths = .ok () ↔ RowDet paths := by
  unfold lambdaSiblingsOk RowDet
  rw [firstErr_eq_ok]
  refine forall₂_congr fun e _ => ?_
  cases e.1 with
  | none => exact ⟨fun _ _ h => (nomatch h), fun _ => rfl⟩
  | some a =>
    simp only [firstErr_eq_ok, guardE_eq_ok, Bool.not_eq_true', ahas_eq_false, Option.some.injEq,
      forall_eq']

omit [DecidableEq σ] [DecidableEq γ] in
theorem rowDet_of_no_lambda (paths : List (Option α × List (γ × (σ × List γ))))
    (h : ¬ ∃ e ∈ paths, e.1 = none ∧ e.2 ≠ []) : RowDet paths := by
  have hl : lamRow paths = [] := by
    unfold lamRow
    cases hlk : alookup none paths with
    | none => rfl
    | some row =>
      exact Classical.byContradiction fun hr => h ⟨(none, row), alookup_some_mem hlk, rfl, hr⟩
  intro e _ a _ g _
  rw [hl]
  exact List.not_mem_nil

structure WF (d : DPDA σ α γ) : Prop where
  symsOk : ∀ kv ∈ d.trans, ∀ e ∈ kv.2, ∀ a, e.1 = some a → a ∈ d.syms
  stackOk : ∀ kv ∈ d.trans, ∀ e ∈ kv.2, ∀ g ∈ akeys e.2, g ∈ d.stackSyms
  det : ∀ kv ∈ d.trans, RowDet kv.2
  tail : PdaTailWF d.states d.stackSyms d.init d.initStack d.finals d.mode

omit [DecidableEq σ] in
theorem validateRow_eq_ok (d : DPDA σ α γ) (paths : List (Option α × List (γ × (σ × List γ)))) :
    d.validateRow paths = .ok () ↔
      (∀ e ∈ paths, ∀ a, e.1 = some a → a ∈ d.syms) ∧
      (∀ e ∈ paths, ∀ g ∈ akeys e.2, g ∈ d.stackSyms) ∧
      RowDet paths := by
  unfold validateRow
  simp only [firstErr_eq_ok, Res.andThen_eq_ok, pdaInputSymOk_eq_ok, guardE_eq_ok, decide_eq_true_eq]
  constructor
  · intro h
    refine ⟨fun e he => (h e he).1, fun e he g hg => ((h e he).2 g hg).2, ?_⟩
    by_cases hex : ∃ e ∈ paths, e.1 = none ∧ e.2 ≠ []
    · obtain ⟨e, he, hnone, hne⟩ := hex
      obtain ⟨⟨g, v⟩, t, hcons⟩ := List.exists_cons_of_ne_nil hne
      have := ((h e he).2 g (by rw [hcons]; exact List.mem_cons_self)).1
      rw [hnone] at this
      exact (lambdaSiblingsOk_eq_ok paths).mp this
    · exact rowDet_of_no_lambda paths hex
  · rintro ⟨h1, h2, h3⟩ e he
    refine ⟨h1 e he, fun g hg => ⟨?_, h2 e he g hg⟩⟩
    cases e.1 with
    | some a => rfl
    | none => exact (lambdaSiblingsOk_eq_ok paths).mpr h3

theorem validate_eq_ok (d : DPDA σ α γ) : d.validate = .ok () ↔ d.WF := by
  unfold validate
  simp only [Res.andThen_eq_ok, firstErr_eq_ok, validateRow_eq_ok, pdaValidateTail_eq_ok]
  constructor
  · rintro ⟨h1, h2⟩
    exact ⟨fun kv hkv => (h1 kv hkv).1, fun kv hkv => (h1 kv hkv).2.1, fun kv hkv => (h1 kv hkv).2.2, h2⟩
  · intro wf
    exact ⟨fun kv hkv => ⟨wf.symsOk kv hkv, wf.stackOk kv hkv, wf.det kv hkv⟩, wf.tail⟩

end DPDA

namespace NPDA

structure WF (d : NPDA σ α γ) : Prop where
  symsOk : ∀ kv ∈ d.trans, ∀ e ∈ kv.2, ∀ a, e.1 = some a → a ∈ d.syms
  stackOk : ∀ kv ∈ d.trans, ∀ e ∈ kv.2, ∀ g ∈ akeys e.2, g ∈ d.stackSyms
  tail : PdaTailWF d.states d.stackSyms d.init d.initStack d.finals d.mode

omit [DecidableEq σ] in
theorem validateRow_eq_ok (d : NPDA σ α γ) (paths : List (Option α × List (γ × List (σ × List γ)))) :
    d.validateRow paths = .ok () ↔
      (∀ e ∈ paths, ∀ a, e.1 = some a → a ∈ d.syms) ∧
      (∀ e ∈ paths, ∀ g ∈ akeys e.2, g ∈ d.stackSyms) := by
  unfold validateRow
  simp only [firstErr_eq_ok, Res.andThen_eq_ok, pdaInputSymOk_eq_ok, guardE_eq_ok, decide_eq_true_eq]
  exact ⟨fun h => ⟨fun e he => (h e he).1, fun e he => (h e he).2⟩, fun h e he => ⟨h.1 e he, h.2 e he⟩⟩

theorem validate_eq_ok (d : NPDA σ α γ) : d.validate = .ok () ↔ d.WF := by
  unfold validate
  simp only [Res.andThen_eq_ok, firstErr_eq_ok, validateRow_eq_ok, pdaValidateTail_eq_ok]
  constructor
  · rintro ⟨h1, h2⟩
    exact ⟨fun kv hkv => (h1 kv hkv).1, fun kv hkv => (h1 kv hkv).2, h2⟩
  · intro wf
    exact ⟨fun kv hkv => ⟨wf.symsOk kv hkv, wf.stackOk kv hkv⟩, wf.tail⟩

end NPDA

structure TmHeadWF (syms tapeSyms : List γ) (blank : γ) : Prop where
  subset : ∀ a ∈ syms, a ∈ tapeSyms
  proper : ∃ s ∈ tapeSyms, s ∉ syms
  blankOk : blank ∈ tapeSyms

theorem tmValidateHead_eq_ok (syms tapeSyms : List γ) (blank : γ) :
    tmValidateHead syms tapeSyms blank = .ok () ↔ TmHeadWF syms tapeSyms blank := by
  unfold tmValidateHead
  simp only [Res.andThen_eq_ok, guardE_eq_ok, Bool.and_eq_true, subsetB_eq_true, Bool.not_eq_true',
    subsetB_eq_false, decide_eq_true_eq]
  exact ⟨fun ⟨⟨a, b⟩, c⟩ => ⟨a, b, c⟩, fun h => ⟨⟨h.subset, h.proper⟩, h.blankOk⟩⟩

def TmResultOk (states : List σ) (tapeSyms : List γ) (dirs : List String) (r : TMResult σ γ) : Prop :=
  r.1 ∈ states ∧ r.2.1 ∈ tapeSyms ∧ r.2.2 ∈ dirs

theorem tmValidateResult_eq_ok (states : List σ) (tapeSyms : List γ) (dirs : List String)
    (r : TMResult σ γ) :
    tmValidateResult states tapeSyms dirs r = .ok () ↔ TmResultOk states tapeSyms dirs r := by
  unfold tmValidateResult TmResultOk
  simp only [Res.andThen_eq_ok, guardE_eq_ok, decide_eq_true_eq]

/-- `keys`: the states that have a row. -/
structure TmTailWF (states keys : List σ) (init : σ) (finals : List σ) : Prop where
  initOk : init ∈ states
  initRow : init ∈ keys ∨ states.length ≤ 1
  initNotFinal : init ∉ finals
  finalsOk : ∀ q ∈ finals, q ∈ states
  finalsNoRow : ∀ f ∈ finals, f ∉ keys

theorem tmValidateTail_eq_ok (states keys : List σ) (init : σ) (finals : List σ) :
    tmValidateTail states keys init finals = .ok () ↔ TmTailWF states keys init finals := by
  unfold tmValidateTail
  simp only [Res.andThen_eq_ok, guardE_eq_ok, firstErr_eq_ok, decide_eq_true_eq, Bool.or_eq_true,
    subsetB_eq_true]
  exact ⟨fun ⟨a, b, c, d, e⟩ => ⟨a, b, c, d, e⟩,
    fun h => ⟨h.initOk, h.initRow, h.initNotFinal, h.finalsOk, h.finalsNoRow⟩⟩

namespace DTM

structure WF (d : DTM σ γ) : Prop where
  head : TmHeadWF d.syms d.tapeSyms d.blank
  keysOk : ∀ kv ∈ d.trans, kv.1 ∈ d.states
  readOk : ∀ kv ∈ d.trans, ∀ s ∈ akeys kv.2, s ∈ d.tapeSyms
  resultsOk : ∀ kv ∈ d.trans, ∀ r ∈ avals kv.2,
    TmResultOk d.states d.tapeSyms Gen.Validate.dtmDirections r
  tail : TmTailWF d.states (akeys d.trans) d.init d.finals

theorem validate_eq_ok (d : DTM σ γ) : d.validate = .ok () ↔ d.WF := by
  unfold validate validateRow
  simp only [Res.andThen_eq_ok, firstErr_eq_ok, guardE_eq_ok, decide_eq_true_eq,
    tmValidateHead_eq_ok, tmValidateResult_eq_ok, tmValidateTail_eq_ok]
  constructor
  · rintro ⟨h1, h2, h3⟩
    exact ⟨h1, fun kv hkv => (h2 kv hkv).1, fun kv hkv => (h2 kv hkv).2.1,
      fun kv hkv => (h2 kv hkv).2.2, h3⟩
  · intro wf
    exact ⟨wf.head, fun kv hkv => ⟨wf.keysOk kv hkv, wf.readOk kv hkv, wf.resultsOk kv hkv⟩, wf.tail⟩

end DTM

namespace NTM

structure WF (d : NTM σ γ) : Prop where
  head : TmHeadWF d.syms d.tapeSyms d.blank
  keysOk : ∀ kv ∈ d.trans, kv.1 ∈ d.states
  readOk : ∀ kv ∈ d.trans, ∀ s ∈ akeys kv.2, s ∈ d.tapeSyms
  resultsOk : ∀ kv ∈ d.trans, ∀ rs ∈ avals kv.2, ∀ r ∈ rs,
    TmResultOk d.states d.tapeSyms Gen.Validate.ntmDirections r
  tail : TmTailWF d.states (akeys d.trans) d.init d.finals

theorem validate_eq_ok (d : NTM σ γ) : d.validate = .ok () ↔ d.WF := by
  unfold validate validateRow
  simp only [Res.andThen_eq_ok, firstErr_eq_ok, guardE_eq_ok, decide_eq_true_eq,
    tmValidateHead_eq_ok, tmValidateResult_eq_ok, tmValidateTail_eq_ok]
  constructor
  · rintro ⟨h1, h2, h3⟩
    exact ⟨h1, fun kv hkv => (h2 kv hkv).1, fun kv hkv => (h2 kv hkv).2.1,
      fun kv hkv => (h2 kv hkv).2.2, h3⟩
  · intro wf
    exact ⟨wf.head, fun kv hkv => ⟨wf.keysOk kv hkv, wf.readOk kv hkv, wf.resultsOk kv hkv⟩, wf.tail⟩

end NTM

namespace MNTM

/-- `resultsOk` speaks about every *move* of every result, as the code does: a result without
moves is only caught by the tape-count rule. -/
structure WF (d : MNTM σ γ) : Prop where
  head : TmHeadWF d.syms d.tapeSyms d.blank
  keysOk : ∀ kv ∈ d.trans, kv.1 ∈ d.states
  readOk : ∀ kv ∈ d.trans, ∀ rd ∈ akeys kv.2, ∀ s ∈ rd, s ∈ d.tapeSyms
  resultsOk : ∀ kv ∈ d.trans, ∀ rs ∈ avals kv.2, ∀ r ∈ rs, ∀ mv ∈ r.2,
    TmResultOk d.states d.tapeSyms Gen.Validate.ntmDirections (r.1, mv.1, mv.2)
  tail : TmTailWF d.states (akeys d.trans) d.init d.finals
  readCount : ∀ kv ∈ d.trans, ∀ e ∈ kv.2, (e.1.length : Int) = d.nTapes
  moveCount : ∀ kv ∈ d.trans, ∀ e ∈ kv.2, ∀ r ∈ e.2, (r.2.length : Int) = d.nTapes

omit [DecidableEq σ] [DecidableEq γ] in
theorem validateTapes_eq_ok (d : MNTM σ γ) :
    d.validateTapes = .ok () ↔
      (∀ kv ∈ d.trans, ∀ e ∈ kv.2, (e.1.length : Int) = d.nTapes) ∧
      (∀ kv ∈ d.trans, ∀ e ∈ kv.2, ∀ r ∈ e.2, (r.2.length : Int) = d.nTapes) := by
  unfold validateTapes
  simp only [firstErr_eq_ok, Res.andThen_eq_ok, guardE_eq_ok, decide_eq_true_eq]
  exact ⟨fun h => ⟨fun kv hkv e he => (h kv hkv e he).1, fun kv hkv e he => (h kv hkv e he).2⟩,
    fun h kv hkv e he => ⟨h.1 kv hkv e he, h.2 kv hkv e he⟩⟩

theorem validate_eq_ok (d : MNTM σ γ) : d.validate = .ok () ↔ d.WF := by
  unfold validate validateRow
  simp only [Res.andThen_eq_ok, firstErr_eq_ok, guardE_eq_ok, decide_eq_true_eq,
    tmValidateHead_eq_ok, tmValidateResult_eq_ok, tmValidateTail_eq_ok, validateTapes_eq_ok,
    List.mem_flatMap, id]
  constructor
  · rintro ⟨h1, h2, h3, h4, h5⟩
    exact ⟨h1, fun kv hkv => (h2 kv hkv).1,
      fun kv hkv rd hrd s hs => (h2 kv hkv).2.1 s ⟨rd, hrd, hs⟩,
      fun kv hkv => (h2 kv hkv).2.2, h3, h4, h5⟩
  · intro wf
    refine ⟨wf.head, fun kv hkv => ⟨wf.keysOk kv hkv, ?_, wf.resultsOk kv hkv⟩, wf.tail,
      wf.readCount, wf.moveCount⟩
    rintro s ⟨rd, hrd, hs⟩
    exact wf.readOk kv hkv rd hrd s hs

end MNTM

end AV.VA
