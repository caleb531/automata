/-
Proofs/RxRows.lean — properties of the rows of a builder's transition dict that every operation
preserves.  Two are needed: every row has pairwise distinct symbols (it is a Python dict; used
where the code iterates `row.items()`, in `shuffle_product`), and every symbol of a row comes
from a given set (`SymsIn`, for validity).  Both are "every row satisfies `P`" for a `P` that holds
of `{"": ts}` and survives adding an ε-target and renaming targets, and that is all the
operations other than the two products need.  Core only.
-/
import AutomataVerif.Proofs.RxAList

namespace AV.Rx

variable {α : Type}

def AllRows (P : Row α → Prop) (T : Trans α) : Prop := ∀ kv ∈ T, P kv.2

namespace AllRows
variable {P : Row α → Prop}

theorem ainsert {T : Trans α} (h : AllRows P T) {k : Nat} {row : Row α} (hr : P row) :
    AllRows P (ainsert k row T) := fun kv hkv =>
  (mem_ainsert hkv).elim (fun e => e ▸ hr) (h kv)

theorem aupdate {T1 T2 : Trans α} (h1 : AllRows P T1) (h2 : AllRows P T2) :
    AllRows P (aupdate T1 T2) := by
  induction T2 generalizing T1 with
  | nil => exact h1
  | cons kv t ih =>
    exact ih (h1.ainsert (h2 kv List.mem_cons_self)) (fun x hx => h2 x (List.mem_cons_of_mem _ hx))

variable [DecidableEq α] in
theorem addEdgesE {T T' : Trans α} {srcs : List Nat} {a : Option α} {t : Nat}
    (hP : ∀ row, P row → P (addTarget a t row)) (h : AllRows P T)
    (e : addEdgesE T srcs a t = .ok T') : AllRows P T' := by
  refine foldlM_inv (AllRows P) h (fun T h s _ T1 e1 => ?_) e
  unfold Rx.addEdgeE at e1
  cases hrow : alookup s T with
  | none => rw [hrow] at e1; cases e1
  | some row =>
    rw [hrow] at e1
    cases e1
    exact h.ainsert (hP _ (h _ (alookup_some_mem hrow)))

theorem copyTrans {T : Trans α} (hP : ∀ f row, P row → P (renameRow f row)) (h : AllRows P T)
    (f : Nat → Nat) : AllRows P (Builder.copyTrans f T) := by
  intro kv hkv
  obtain ⟨kv0, hkv0, rfl⟩ := List.mem_map.mp hkv
  exact hP f _ (h kv0 hkv0)

theorem mapTable {ι : Type} (L : List ι) (nm : ι → Nat) (rowOf : ι → Row α)
    (h : ∀ x ∈ L, P (rowOf x)) : AllRows P (L.map fun x => (nm x, rowOf x)) := by
  intro kv hkv
  obtain ⟨x, hx, rfl⟩ := List.mem_map.mp hkv
  exact h x hx

theorem row {b : Builder α} (h : AllRows P b.trans) (hnil : P []) (p : Nat) : P (b.row p) :=
  getD_alookup_inv hnil h p

end AllRows

variable [DecidableEq α]

structure RowInv (P : Row α → Prop) : Prop where
  epsRow : ∀ ts, P [(none, ts)]
  addEps : ∀ t row, P row → P (addTarget none t row)
  rename : ∀ f row, P row → P (renameRow f row)

namespace RowInv
open Builder
variable {P : Row α → Prop}

theorem union (hP : RowInv P) {b1 b2 : Builder α} (h1 : AllRows P b1.trans)
    (h2 : AllRows P b2.trans) (c : Nat) : AllRows P (b1.union b2 c).1.trans :=
  (h1.aupdate h2).ainsert (hP.epsRow _)

theorem repeatStep (hP : RowInv P) {b : Builder α} (hb : AllRows P b.trans) {lo i : Nat}
    {st st' : RepState α} (h : AllRows P st.T) (e : repeatStep b lo st i = .ok st') :
    AllRows P st'.T := by
  unfold Builder.repeatStep at e
  simp only at e
  cases hT : addEdgesE (aupdate st.T (copyTrans (b.copyName st.ctr) b.trans)) st.prevFinals none
      (b.copyName st.ctr b.init) with
  | error x => simp [hT] at e
  | ok T =>
    simp only [hT] at e
    cases e
    exact (h.aupdate (hb.copyTrans hP.rename _)).addEdgesE (hP.addEps _) hT

end RowInv

def RowsNodup (T : Trans α) : Prop := AllRows (fun row => (akeys row).Nodup) T

theorem rowInv_nodup : RowInv (fun row : Row α => (akeys row).Nodup) where
  epsRow _ := by simp [akeys]
  addEps _ _ h := nodup_akeys_ainsert h
  rename f row h := (akeys_renameRow f row).symm ▸ h

def SymsIn (S : α → Prop) (T : Trans α) : Prop :=
  AllRows (fun row => ∀ x, some x ∈ akeys row → S x) T

omit [DecidableEq α] in
theorem SymsIn.mono {S S' : α → Prop} {T : Trans α} (h : SymsIn S T) (hs : ∀ x, S x → S' x) :
    SymsIn S' T := fun kv hkv x hx => hs x (h kv hkv x hx)

theorem rowInv_syms (S : α → Prop) : RowInv (fun row : Row α => ∀ x, some x ∈ akeys row → S x) where
  epsRow ts x hx := by simp [akeys] at hx
  addEps t row h x hx := (mem_akeys_ainsert.mp hx).elim (fun e => nomatch e) (h x)
  rename f row h := (akeys_renameRow f row).symm ▸ h

namespace Builder

omit [DecidableEq α] in
theorem symsIn_row {S : α → Prop} {b : Builder α} (h : SymsIn S b.trans) (p : Nat) (x : α)
    (hx : some x ∈ akeys (b.row p)) : S x :=
  AllRows.row h (by simp [akeys]) p x hx

end Builder
end AV.Rx
