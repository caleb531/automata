/-
Proofs/Query.lean — the DP tables of `count_words_of_length` / `words_of_length`
(Model/DFAQuery.lean) against the language of the DFA (core only).
-/
import AutomataVerif.Proofs.Read
import AutomataVerif.Proofs.Sort

namespace AV

namespace DFA
variable {σ α : Type} [DecidableEq σ] [DecidableEq α]

/-- The association lists of the definition represent Python dicts: keys are unique. -/
structure IsDict (d : DFA σ α) : Prop where
  transKeys : (akeys d.trans).Nodup
  rowKeys : ∀ kv ∈ d.trans, (akeys kv.2).Nodup

/-- The key is injective on the alphabet (it defines an *ordering* of the symbols). -/
def KeyInj (d : DFA σ α) (key : α → Int) : Prop :=
  ∀ a ∈ d.syms, ∀ b ∈ d.syms, key a = key b → a = b

def acceptsFrom (d : DFA σ α) (q : σ) (w : List α) : Bool := d.isFinal (d.run (some q) w)

theorem accepts_eq_acceptsFrom (d : DFA σ α) (w : List α) : d.accepts w = d.acceptsFrom d.init w := rfl

section
omit [DecidableEq α]

theorem row_keys_nodup {d : DFA σ α} (hd : d.IsDict) (q : σ) : (akeys (d.row q)).Nodup :=
  nodup_row hd.rowKeys q

theorem row_keys_syms {d : DFA σ α} (wf : d.WF) {q : σ} {a : α} (ha : a ∈ akeys (d.row q)) :
    a ∈ d.syms :=
  let ⟨_, he, e⟩ := List.mem_map.mp ha
  e ▸ (row_entry wf he).1

theorem row_vals_states {d : DFA σ α} (wf : d.WF) {q t : σ} (ht : t ∈ avals (d.row q)) :
    t ∈ d.states :=
  let ⟨_, he, e⟩ := List.mem_map.mp ht
  e ▸ (row_entry wf he).2

theorem cget_countLevel_zero (d : DFA σ α) (q : σ) :
    cget (d.countLevel 0) q = if q ∈ d.finals then 1 else 0 := by
  unfold cget
  rw [countLevel, countLevel0, alookup_tabulate _ (fun _ => 1)]
  split <;> rfl

theorem cget_countLevel_succ (d : DFA σ α) (k : Nat) (q : σ) :
    cget (d.countLevel (k + 1)) q =
      if q ∈ d.states then ((avals (d.row q)).map (cget (d.countLevel k))).sum else 0 := by
  unfold cget
  rw [countLevel, countNext, alookup_tabulate]
  split <;> rfl

end

theorem mem_row_lookup {d : DFA σ α} (hd : d.IsDict) {q : σ} {e : α × σ} (he : e ∈ d.row q) :
    d.step? (some q) e.1 = some e.2 :=
  (step?_iff_mem_row hd.rowKeys).mpr he

theorem wget_wordLevel_zero (d : DFA σ α) (key : α → Int) (q : σ) :
    wget (d.wordLevel key 0) q = if q ∈ d.finals then [[]] else [] := by
  unfold wget
  rw [wordLevel, wordLevel0, alookup_tabulate _ (fun _ => ([[]] : List (List α)))]
  split <;> rfl

theorem wget_wordLevel_succ (d : DFA σ α) (key : α → Int) (k : Nat) (q : σ) :
    wget (d.wordLevel key (k + 1)) q =
      if q ∈ d.states then
        (sortedKeys key (d.row q)).flatMap fun a =>
          match alookup a (d.row q) with
          | some t => (wget (d.wordLevel key k) t).map (a :: ·)
          | none => []
      else [] := by
  unfold wget
  rw [wordLevel, wordNext, alookup_tabulate]
  split <;> rfl

theorem acceptsFrom_nil (d : DFA σ α) (q : σ) : d.acceptsFrom q [] = true ↔ q ∈ d.finals := by
  simp [acceptsFrom, isFinal]

theorem acceptsFrom_cons (d : DFA σ α) (q : σ) (a : α) (w : List α) :
    d.acceptsFrom q (a :: w) = true ↔
      ∃ t, d.step? (some q) a = some t ∧ d.acceptsFrom t w = true := by
  unfold acceptsFrom
  rw [run_cons]
  cases d.step? (some q) a with
  | none => rw [run_none]; exact ⟨fun h => Bool.noConfusion h, fun ⟨_, h, _⟩ => nomatch h⟩
  | some t => exact ⟨fun h => ⟨t, rfl, h⟩, fun ⟨_, h, h'⟩ => Option.some.inj h ▸ h'⟩

theorem mem_wordLevel {d : DFA σ α} (wf : d.WF) (key : α → Int) :
    ∀ (k : Nat) (q : σ) (w : List α), q ∈ d.states →
      (w ∈ wget (d.wordLevel key k) q ↔ w.length = k ∧ d.acceptsFrom q w = true) := by
  intro k
  induction k with
  | zero =>
    intro q w _
    rw [wget_wordLevel_zero]
    constructor
    · intro h
      by_cases hq : q ∈ d.finals
      · rw [if_pos hq, List.mem_singleton] at h
        subst h
        exact ⟨rfl, (acceptsFrom_nil d q).mpr hq⟩
      · rw [if_neg hq] at h; cases h
    · rintro ⟨hl, ha⟩
      obtain rfl := List.eq_nil_of_length_eq_zero hl
      rw [if_pos ((acceptsFrom_nil d q).mp ha)]
      exact List.mem_singleton_self _
  | succ k ih =>
    intro q w hq
    rw [wget_wordLevel_succ]
    simp only [hq, if_true, List.mem_flatMap]
    constructor
    · rintro ⟨a, _, hw⟩
      cases hl : alookup a (d.row q) with
      | none => simp [hl] at hw
      | some t =>
        simp only [hl, List.mem_map] at hw
        obtain ⟨w', hw', rfl⟩ := hw
        have := (ih t w' (step?_mem wf hl)).mp hw'
        exact ⟨by simp [this.1], (acceptsFrom_cons d q a w').mpr ⟨t, hl, this.2⟩⟩
    · rintro ⟨hl, ha⟩
      cases w with
      | nil => simp at hl
      | cons a w' =>
        obtain ⟨t, hs, ha'⟩ := (acceptsFrom_cons d q a w').mp ha
        have hlk : alookup a (d.row q) = some t := hs
        refine ⟨a, mem_sortBy.mpr (alookup_some_key_mem hlk), ?_⟩
        simp only [hlk, List.mem_map]
        exact ⟨w', (ih t w' (step?_mem wf hs)).mpr
          ⟨by simpa using hl, ha'⟩, rfl⟩

/-- Python's order on strings (by code point, here through `key`): lexicographic, a proper
prefix is smaller. -/
def lexLt (key : α → Int) : List α → List α → Prop := List.Lex fun a b => key a < key b

theorem sorted_wordLevel {d : DFA σ α} (wf : d.WF) (hd : d.IsDict) (key : α → Int)
    (hk : d.KeyInj key) :
    ∀ (k : Nat) (q : σ), (wget (d.wordLevel key k) q).Pairwise (lexLt key) := by
  intro k
  induction k with
  | zero =>
    intro q
    rw [wget_wordLevel_zero]
    split <;> simp
  | succ k ih =>
    intro q
    rw [wget_wordLevel_succ]
    split
    · rw [List.pairwise_flatMap]
      constructor
      · intro a _
        cases alookup a (d.row q) with
        | none => simp
        | some t =>
          simp only
          rw [List.pairwise_map]
          exact (ih t).imp fun h => List.Lex.cons h
      · have hstrict := sortBy_strict key (akeys (d.row q)) (row_keys_nodup hd q)
          (fun a ha b hb => hk a (row_keys_syms wf ha) b (row_keys_syms wf hb))
        refine hstrict.imp ?_
        intro a b hab x hx y hy
        cases hla : alookup a (d.row q) with
        | none => simp [hla] at hx
        | some t =>
          cases hlb : alookup b (d.row q) with
          | none => simp [hlb] at hy
          | some t' =>
            simp only [hla, List.mem_map] at hx
            simp only [hlb, List.mem_map] at hy
            obtain ⟨x', _, rfl⟩ := hx
            obtain ⟨y', _, rfl⟩ := hy
            exact List.Lex.rel hab
    · exact List.Pairwise.nil

omit [DecidableEq α] in
theorem lexLt_irrefl (key : α → Int) (w : List α) : ¬ lexLt key w w :=
  List.lex_irrefl (fun a => Int.lt_irrefl (key a)) w

theorem nodup_wordLevel {d : DFA σ α} (wf : d.WF) (hd : d.IsDict) (key : α → Int)
    (hk : d.KeyInj key) (k : Nat) (q : σ) : (wget (d.wordLevel key k) q).Nodup := by
  have := sorted_wordLevel wf hd key hk k q
  exact this.imp fun {a b} h hab => by subst hab; exact lexLt_irrefl key a h

omit [DecidableEq σ] in
theorem sum_vals_eq_sum_keys {row : List (α × σ)} (hnd : (akeys row).Nodup) (f : σ → Nat) :
    ((avals row).map f).sum =
      ((akeys row).map fun a => match alookup a row with
        | some t => f t
        | none => 0).sum := by
  induction row with
  | nil => rfl
  | cons e t ih =>
    obtain ⟨a, s⟩ := e
    simp only [akeys, List.map_cons, List.nodup_cons] at hnd
    simp only [avals, akeys, List.map_cons, List.sum_cons, alookup_cons, if_true]
    have ih' := ih hnd.2
    simp only [avals, akeys] at ih'
    rw [ih']
    congr 1
    apply congrArg
    apply List.map_congr_left
    intro b hb
    have : a ≠ b := by
      intro h; subst h; exact hnd.1 hb
    simp [this]

theorem cget_countLevel_eq_length {d : DFA σ α} (hd : d.IsDict) (key : α → Int) :
    ∀ (k : Nat) (q : σ), cget (d.countLevel k) q = (wget (d.wordLevel key k) q).length := by
  intro k
  induction k with
  | zero =>
    intro q
    rw [cget_countLevel_zero, wget_wordLevel_zero]
    split <;> rfl
  | succ k ih =>
    intro q
    rw [cget_countLevel_succ, wget_wordLevel_succ]
    split
    · rw [List.length_flatMap]
      have hfun : cget (d.countLevel k) = fun t => (wget (d.wordLevel key k) t).length := funext ih
      rw [hfun, sum_vals_eq_sum_keys (row_keys_nodup hd q)]
      have hperm := (sortBy_perm (fun a b => decide (key a < key b)) (akeys (d.row q))).symm
      have := (hperm.map fun a => match alookup a (d.row q) with
        | some t => (wget (d.wordLevel key k) t).length
        | none => 0).sum_nat
      rw [this]
      unfold sortedKeys
      apply congrArg
      apply List.map_congr_left
      intro a _
      cases alookup a (d.row q) <;> simp
    · rfl

end DFA
end AV
