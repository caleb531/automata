/-
Proofs/RxGrammar.lean — the token-level grammar of the documented regular-expression syntax,
as a relation between trees and token lists (`G`).

  E → T | E bin T          bin ∈ { | & ^ }   (one level, left associative)
  T → F | T F              (juxtaposition, left associative)
  F → A | F post           post ∈ { * + ? {lo,hi} }
  A → symbol | . | ( ) | ( E )

Redundant parentheses are derivable (`A → ( E )` with any `E`), so several token lists denote
the same tree.  Blanks never reach the token level (the lexer drops them).  The classes of token
a phrase can begin (`FS`) and end (`FE`) with are all that the neighbouring-token tables of the
parser look at.  Core only.
-/
import AutomataVerif.Proofs.RxEval

namespace AV.Rx

variable {α : Type}

inductive Lvl
  | E | T | F | A
  deriving DecidableEq, Repr

/-- `G l e ts`: the token list `ts` (as produced by the lexer) is a level-`l` phrase of the
documented syntax whose abstract syntax tree is `e`.  One constructor per operator, not one per
class of operator: the tree constructor differs with the token. -/
inductive G : Lvl → Rx α → List (Tok α) → Prop
  | lit (a : α) : G .A (.lit a) [.str [a]]
  | wild : G .A .wildcard [.wildcard]
  | eps : G .A .eps [.lparen, .rparen]
  | paren {e : Rx α} {ts : List (Tok α)} : G .E e ts → G .A e (.lparen :: ts ++ [.rparen])
  | atom {e : Rx α} {ts : List (Tok α)} : G .A e ts → G .F e ts
  | star {e : Rx α} {ts : List (Tok α)} : G .F e ts → G .F (.star e) (ts ++ [.star])
  | plus {e : Rx α} {ts : List (Tok α)} : G .F e ts → G .F (.plus e) (ts ++ [.plus])
  | opt {e : Rx α} {ts : List (Tok α)} : G .F e ts → G .F (.opt e) (ts ++ [.opt])
  | quant {e : Rx α} {ts : List (Tok α)} (lo : Nat) (hi : Option Nat) :
      G .F e ts → G .F (.rep e lo hi) (ts ++ [.quant lo hi])
  | factor {e : Rx α} {ts : List (Tok α)} : G .F e ts → G .T e ts
  | cat {e f : Rx α} {ts us : List (Tok α)} : G .T e ts → G .F f us → G .T (.cat e f) (ts ++ us)
  | term {e : Rx α} {ts : List (Tok α)} : G .T e ts → G .E e ts
  | union {e f : Rx α} {ts us : List (Tok α)} :
      G .E e ts → G .T f us → G .E (.union e f) (ts ++ [.union] ++ us)
  | inter {e f : Rx α} {ts us : List (Tok α)} :
      G .E e ts → G .T f us → G .E (.inter e f) (ts ++ [.inter] ++ us)
  | shuffle {e f : Rx α} {ts us : List (Tok α)} :
      G .E e ts → G .T f us → G .E (.shuffle e f) (ts ++ [.shuffle] ++ us)

def InGrammar (ts : List (Tok α)) : Prop := ∃ e, G .E e ts

theorem G.toE {l : Lvl} {e : Rx α} {ts : List (Tok α)} (h : G l e ts) : G .E e ts := by
  cases l with
  | E => exact h
  | T => exact .term h
  | F => exact .term (.factor h)
  | A => exact .term (.factor (.atom h))

/-- A factor can start here. -/
def FS (b : Base) : Prop := b = .literal ∨ b = .lparen
/-- A factor can end here. -/
def FE (b : Base) : Prop := b = .literal ∨ b = .rparen ∨ b = .postfixOp

theorem G_start {l : Lvl} {e : Rx α} {ts : List (Tok α)} (h : G l e ts) :
    ∃ t r, ts = t :: r ∧ FS t.base := by
  induction h with
  | lit | wild => exact ⟨_, _, rfl, .inl (by simp)⟩
  | eps | paren => exact ⟨_, _, rfl, .inr (by simp)⟩
  | atom _ ih | factor _ ih | term _ ih => exact ih
  | star _ ih | plus _ ih | opt _ ih | quant _ _ _ ih | cat _ _ ih | union _ _ ih | inter _ _ ih
  | shuffle _ _ ih =>
    obtain ⟨t, r, rfl, h⟩ := ih
    exact ⟨t, _, rfl, h⟩

theorem G_end {l : Lvl} {e : Rx α} {ts : List (Tok α)} (h : G l e ts) :
    ∃ i t, ts = i ++ [t] ∧ FE t.base := by
  induction h with
  | lit | wild => exact ⟨[], _, rfl, .inl (by simp)⟩
  | eps => exact ⟨[.lparen], _, rfl, .inr (.inl (by simp))⟩
  | @paren _ ts => exact ⟨.lparen :: ts, _, rfl, .inr (.inl (by simp))⟩
  | atom _ ih | factor _ ih | term _ ih => exact ih
  | @star _ ts | @plus _ ts | @opt _ ts | @quant _ ts => exact ⟨ts, _, rfl, .inr (.inr (by simp))⟩
  | cat _ _ _ ih | union _ _ _ ih | inter _ _ _ ih | shuffle _ _ _ ih =>
    obtain ⟨i, t, rfl, h⟩ := ih
    exact ⟨_, t, (List.append_assoc ..).symm, h⟩

theorem G.ne_nil {l : Lvl} {e : Rx α} {ts : List (Tok α)} (h : G l e ts) : ts ≠ [] := by
  obtain ⟨t, r, rfl, _⟩ := G_start h
  exact List.cons_ne_nil t r

theorem G.post {f : Rx α} {F : List (Tok α)} {t : Tok α} (hF : G .F f F)
    (ht : t.base = .postfixOp) : ∃ f', G .F f' (F ++ [t]) := by
  cases t <;> simp at ht
  · exact ⟨_, .star hF⟩
  · exact ⟨_, .plus hF⟩
  · exact ⟨_, .opt hF⟩
  · exact ⟨_, .quant _ _ hF⟩

/-- An expression is a context around its last term, -/
theorem G.lastTerm {e : Rx α} {ts : List (Tok α)} (h : G .E e ts) :
    ∃ pre T f, ts = pre ++ T ∧ G .T f T ∧
      ∀ {f' : Rx α} {T' : List (Tok α)}, G .T f' T' → InGrammar (pre ++ T') := by
  cases h with
  | term hT => exact ⟨[], _, _, rfl, hT, fun h => ⟨_, .term h⟩⟩
  | union hE hT => exact ⟨_, _, _, rfl, hT, fun h => ⟨_, .union hE h⟩⟩
  | inter hE hT => exact ⟨_, _, _, rfl, hT, fun h => ⟨_, .inter hE h⟩⟩
  | shuffle hE hT => exact ⟨_, _, _, rfl, hT, fun h => ⟨_, .shuffle hE h⟩⟩

/-- and a term a context around its last factor. -/
theorem G.lastFactor {e : Rx α} {ts : List (Tok α)} (h : G .T e ts) :
    ∃ pre F f, ts = pre ++ F ∧ G .F f F ∧
      ∀ {f' : Rx α} {F' : List (Tok α)}, G .F f' F' → ∃ e', G .T e' (pre ++ F') := by
  cases h with
  | factor hF => exact ⟨[], _, _, rfl, hF, fun h => ⟨_, .factor h⟩⟩
  | cat hT hF => exact ⟨_, _, _, rfl, hF, fun h => ⟨_, .cat hT h⟩⟩

/-- A postfix operator after an expression applies to its last factor. -/
theorem InGrammar.post {ts : List (Tok α)} {t : Tok α} (h : InGrammar ts)
    (ht : t.base = .postfixOp) : InGrammar (ts ++ [t]) := by
  obtain ⟨e, h⟩ := h
  obtain ⟨pre, T, _, rfl, hT, k⟩ := h.lastTerm
  obtain ⟨pre', F, _, rfl, hF, k'⟩ := hT.lastFactor
  obtain ⟨_, hF'⟩ := hF.post ht
  obtain ⟨_, hT'⟩ := k' hF'
  simpa only [List.append_assoc] using k hT'

/-- A factor after an expression is juxtaposed to its last term. -/
theorem InGrammar.juxt {ts us : List (Tok α)} {f : Rx α} (h : InGrammar ts) (hF : G .F f us) :
    InGrammar (ts ++ us) := by
  obtain ⟨e, h⟩ := h
  obtain ⟨pre, T, _, rfl, hT, k⟩ := h.lastTerm
  simpa only [List.append_assoc] using k (.cat hT hF)

end AV.Rx
