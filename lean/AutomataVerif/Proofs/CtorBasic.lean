/-
Proofs/CtorBasic.lean — vocabulary shared by the proofs about the language constructors (C15):
the dict with one row per index (`tableOf`) and the ways the code produces one, minimality as
reachable / distinguishable / live states, and a DFA that steps as a function on indices does
(`Simulates`, for tables `Sim`); a partial function is a total one on `Option`, whose sink the
table leaves implicit or names as a trap.  Core only.
-/
import AutomataVerif.Proofs.Minimal
import AutomataVerif.Model.DfaCtor

namespace AV.Ctor

variable {α : Type} [DecidableEq α] {σ : Type} [DecidableEq σ]
variable {κ β : Type} [DecidableEq κ]

/-- `nat` is the cast `ℕ → ℤ` (unfold with this lemma before `omega`). -/
theorem nat_cast (i : Nat) : nat i = (i : Int) := rfl

@[simp] theorem nat_inj {i j : Nat} : nat i = nat j ↔ i = j := Int.ofNat_inj

@[simp] theorem nat_succ (i : Nat) : nat i + 1 = nat (i + 1) := rfl

@[simp] theorem nat_zero : nat 0 = 0 := rfl

theorem nat_nonneg (i : Nat) : 0 ≤ nat i := Int.natCast_nonneg i

theorem nat_toNat {z : Int} (h : 0 ≤ z) : nat z.toNat = z := Int.toNat_of_nonneg h

theorem exists_nat_of_bounds {r : Int} {n : Nat} (h0 : 0 ≤ r) (h1 : r < n) :
    ∃ k ∈ List.range n, r = nat k :=
  ⟨r.toNat, List.mem_range.mpr ((Int.toNat_lt h0).mpr h1), (nat_toNat h0).symm⟩

omit [DecidableEq α] in
theorem suffix_snoc_snoc {l₁ l₂ : List α} {x y : α} :
    l₁ ++ [x] <:+ l₂ ++ [y] ↔ l₁ <:+ l₂ ∧ x = y := by
  rw [← List.reverse_prefix, List.reverse_append, List.reverse_append]
  simp only [List.reverse_cons, List.reverse_nil, List.nil_append, List.singleton_append]
  rw [List.cons_prefix_cons, List.reverse_prefix, and_comm]

omit [DecidableEq α] in
theorem snoc_induction {P : List α → Prop} (h0 : P [])
    (hs : ∀ w a, P w → P (w ++ [a])) : ∀ w, P w := by
  intro w
  have : ∀ r : List α, P r.reverse := by
    intro r
    induction r with
    | nil => exact h0
    | cons a r ih => rw [List.reverse_cons]; exact hs _ _ ih
  rw [← List.reverse_reverse w]; exact this _

section tableOf
variable {ι : Type}

/-- The dict `{name(k): row(k) for k in ks}`.  For `ks = List.range n`, `name = nat` (states
`0 … n-1`, one row each) it is called a *ladder* of height `n` below, its indices *rungs*. -/
def tableOf (ks : List ι) (name : ι → κ) (row : ι → β) : List (κ × β) :=
  ks.map fun k => (name k, row k)

omit [DecidableEq κ] in
@[simp] theorem akeys_tableOf (ks : List ι) (name : ι → κ) (row : ι → β) :
    akeys (tableOf ks name row) = ks.map name := by
  simp only [akeys, tableOf, List.map_map, Function.comp_def]

omit [DecidableEq κ] in
theorem mem_tableOf {ks : List ι} {name : ι → κ} {row : ι → β} {e : κ × β} :
    e ∈ tableOf ks name row ↔ ∃ k ∈ ks, (name k, row k) = e := List.mem_map

theorem alookup_tableOf {ks : List ι} {name : ι → κ} (row : ι → β)
    (inj : ∀ k k', name k = name k' → k = k') {k : ι} (hk : k ∈ ks) :
    alookup (name k) (tableOf ks name row) = some (row k) :=
  alookup_map_of_inj name row ks k hk fun c _ e => inj c k e

omit [DecidableEq κ] in
theorem tableOf_congr {ks : List ι} {name : ι → κ} {row row' : ι → β}
    (h : ∀ k ∈ ks, row k = row' k) : tableOf ks name row = tableOf ks name row' :=
  List.map_congr_left fun k hk => by rw [h k hk]

omit [DecidableEq κ] in
theorem tableOf_map_val {γ : Type} (f : β → γ) (ks : List ι) (name : ι → κ) (row : ι → β) :
    (tableOf ks name row).map (fun kv => (kv.1, f kv.2)) = tableOf ks name fun k => f (row k) := by
  simp only [tableOf, List.map_map, Function.comp_def]

end tableOf

theorem snoc_ladder {n : Nat} {row : Nat → β} {v : β} (h : row n = v) :
    tableOf (List.range n) nat row ++ [(nat n, v)] = tableOf (List.range (n + 1)) nat row := by
  subst h
  rw [List.range_succ, tableOf, tableOf, List.map_append]
  rfl

theorem ainsert_ladder {n : Nat} {row : Nat → β} {v : β} (h : row n = v) :
    ainsert (nat n) v (tableOf (List.range n) nat row) = tableOf (List.range (n + 1)) nat row := by
  rw [ainsert_of_not_mem, snoc_ladder h]
  rw [akeys_tableOf, List.mem_map]
  rintro ⟨i, hi, e⟩
  exact Nat.lt_irrefl _ (nat_inj.mp e ▸ List.mem_range.mp hi)

omit [DecidableEq α] in
/-- `{i: g(char, i) for i, char in enumerate(p)}` is the dict with rows `0 … |p|-1`. -/
theorem zipIdx_ladder (g : α → Nat → β) (p : List α) (row : Nat → β)
    (h : ∀ i (hi : i < p.length), row i = g p[i] i) :
    (p.zipIdx.map fun ci => (nat ci.2, g ci.1 ci.2)) = tableOf (List.range p.length) nat row := by
  apply List.ext_getElem
  · simp [tableOf]
  · intro i h1 h2
    have hi : i < p.length := by simpa using h1
    simp [tableOf, h i hi]

omit [DecidableEq α] [DecidableEq σ] in
@[simp] theorem akeys_rowOf (syms : List α) (f : α → σ) : akeys (rowOf syms f) = syms :=
  akeys_tabulate syms f

omit [DecidableEq α] [DecidableEq σ] in
@[simp] theorem avals_rowOf (syms : List α) (f : α → σ) : avals (rowOf syms f) = syms.map f := by
  unfold avals rowOf; simp [List.map_map, Function.comp_def]

omit [DecidableEq α] [DecidableEq σ] in
theorem eq_of_mem_avals_rowOf_const {syms : List α} {c t : σ}
    (h : t ∈ avals (rowOf syms fun _ => c)) : t = c := by
  rw [avals_rowOf] at h
  obtain ⟨_, _, rfl⟩ := List.mem_map.mp h
  rfl

omit [DecidableEq σ] in
theorem alookup_rowOf (syms : List α) (f : α → σ) (a : α) :
    alookup a (rowOf syms f) = if a ∈ syms then some (f a) else none :=
  alookup_tabulate syms f a

omit [DecidableEq α] in
/-- `must_be_suffix` selects between "ends with" and "contains". -/
theorem KMP.occurs_of_suffix {p w : List α} (sf : Bool) (h : p <:+ w) :
    if sf then p <:+ w else p <:+: w := by
  cases sf
  · exact h.isInfix
  · exact h

omit [DecidableEq α] in
theorem KMP.infix_of_occurs {p w : List α} {sf : Bool} (h : if sf then p <:+ w else p <:+: w) :
    p <:+: w := by
  cases sf
  · exact h
  · exact h.isInfix

/-- The value of a result that is known to be `.ok`.  Here, not with the KMP proofs, because
`rowOfM_ok` below states the rows of the KMP and of the Aho–Corasick table with it. -/
def KMP.getOk (r : Res Int) : Int :=
  match r with
  | .ok v => v
  | .error _ => 0

omit [DecidableEq α] in
theorem rowOfM_ok (f : α → Res Int) (syms : List α) (h : ∀ a ∈ syms, ∃ v, f a = .ok v) :
    rowOfM f syms = .ok (rowOf syms fun a => KMP.getOk (f a)) := by
  induction syms with
  | nil => rfl
  | cons a t ih =>
    obtain ⟨v, hv⟩ := h a (List.mem_cons_self)
    unfold rowOfM
    rw [hv, ih fun b hb => h b (List.mem_cons_of_mem _ hb)]
    simp only [rowOf, List.map_cons, hv, KMP.getOk]

theorem alookup_asetdefault (k k' : κ) (v : β) (d : List (κ × β)) :
    alookup k' (asetdefault k v d) =
      match alookup k' d with
      | some x => some x
      | none => if k = k' then some v else none := by
  unfold asetdefault
  by_cases hk : ahas k d = true
  · rw [if_pos hk]
    cases h : alookup k' d with
    | some x => rfl
    | none =>
      by_cases e : k = k'
      · subst e; unfold ahas at hk; simp [h] at hk
      · simp [e]
  · rw [if_neg hk, alookup_append_or, alookup_cons]
    cases alookup k' d <;> rfl

theorem nodup_akeys_asetdefault {k : κ} {v : β} {d : List (κ × β)} (h : (akeys d).Nodup) :
    (akeys (asetdefault k v d)).Nodup := by
  unfold asetdefault
  split
  · exact h
  · rename_i hk
    exact nodup_akeys_snoc (fun hm => hk (ahas_iff.mpr hm)) h

theorem neg_not_mem_ladder {k : Int} (hk : k < 0) (n : Nat) (row : Nat → β) :
    k ∉ akeys (tableOf (List.range n) nat row) := by
  rw [akeys_tableOf, List.mem_map]
  rintro ⟨j, _, rfl⟩
  exact Int.not_lt.mpr (nat_nonneg j) hk

section
variable [DecidableEq β]
set_option linter.unusedSectionVars false in
theorem alookup_rangeMap_neg (f : Nat → β) (n : Nat) (k : Int) (hk : k < 0) :
    alookup k ((List.range n).map fun j => (nat j, f j)) = none :=
  alookup_eq_none_iff.mpr (neg_not_mem_ladder hk n f)
end

theorem mem_sdiff {s t : List σ} {q : σ} : q ∈ sdiff s t ↔ q ∈ s ∧ q ∉ t := by
  unfold sdiff; simp

/-- `final_states = {top} if contains else states - {top}`. -/
def flagFinals (S : List σ) (top : σ) (c : Bool) : List σ := if c then [top] else sdiff S [top]

theorem mem_flagFinals {S : List σ} {top q : σ} (c : Bool) (hq : q ∈ S) :
    q ∈ flagFinals S top c ↔ (q = top ↔ c = true) := by
  cases c <;> simp [flagFinals, mem_sdiff, hq]

theorem flagFinals_subset {S : List σ} {top : σ} (htop : top ∈ S) (c : Bool) :
    ∀ q ∈ flagFinals S top c, q ∈ S := by
  intro q hq
  cases c
  · exact (mem_sdiff.mp hq).1
  · rw [List.mem_singleton.mp hq]; exact htop

theorem build_eq (d : DFA σ α) :
    build d = match d.validate with | .ok _ => .ok d | .error e => .error e := by
  unfold build DFA.mk'
  cases d.validate <;> simp

theorem build_ok_of_wf {d : DFA σ α} (wf : d.WF) : build d = .ok d := by
  rw [build_eq, (DFA.validate_eq_ok d).mpr wf]

theorem build_ok_iff {d d' : DFA σ α} : build d = .ok d' ↔ d' = d ∧ d.WF := by
  rw [build_eq]
  cases h : d.validate with
  | error e =>
    simp only [reduceCtorEq, false_iff, not_and]
    intro _ wf
    rw [(DFA.validate_eq_ok d).mpr wf] at h
    cases h
  | ok u =>
    have wf : d.WF := (DFA.validate_eq_ok d).mp (by rw [h])
    simp only [Except.ok.injEq]
    constructor
    · intro e; exact ⟨e.symm, wf⟩
    · intro e; exact e.1.symm

omit [DecidableEq α] [DecidableEq σ] in
theorem wf_of_table (d : DFA σ α) (hst : ∀ q, q ∈ d.states ↔ q ∈ akeys d.trans)
    (hkeys : ∀ kv ∈ d.trans, ∀ a, a ∈ akeys kv.2 ↔ a ∈ d.syms)
    (htgt : ∀ kv ∈ d.trans, ∀ q ∈ avals kv.2, q ∈ d.states)
    (hinit : d.init ∈ d.states) (hfin : ∀ q ∈ d.finals, q ∈ d.states) : d.WF :=
  { rows := fun q hq => (hst q).mp hq
    complete := fun _ kv hkv a ha => (hkeys kv hkv a).mpr ha
    symsOk := fun kv hkv a ha => (hkeys kv hkv a).mp ha
    tgtOk := htgt
    initOk := hinit
    finalsOk := hfin }

omit [DecidableEq α] in
theorem wf_of_lookup (d : DFA σ α) (hnd : (akeys d.trans).Nodup)
    (hst : ∀ q, q ∈ d.states ↔ q ∈ akeys d.trans)
    (hrow : ∀ q ∈ akeys d.trans, ∃ row, alookup q d.trans = some row ∧
      (∀ a, a ∈ akeys row ↔ a ∈ d.syms) ∧ ∀ t ∈ avals row, t ∈ d.states)
    (hinit : d.init ∈ d.states) (hfin : ∀ q ∈ d.finals, q ∈ d.states) : d.WF := by
  have key : ∀ kv ∈ d.trans, (∀ a, a ∈ akeys kv.2 ↔ a ∈ d.syms) ∧ ∀ t ∈ avals kv.2, t ∈ d.states := by
    intro kv hkv
    obtain ⟨row, hl, h1, h2⟩ := hrow kv.1 (List.mem_map.mpr ⟨kv, hkv, rfl⟩)
    rw [Option.some.inj ((alookup_of_mem_nodup hnd hkv).symm.trans hl)]
    exact ⟨h1, h2⟩
  exact wf_of_table d hst (fun kv hkv => (key kv hkv).1) (fun kv hkv => (key kv hkv).2) hinit hfin

/-- `w ∈ Σ*`. -/
def Over (syms : List α) (w : List α) : Prop := ∀ a ∈ w, a ∈ syms

section
omit [DecidableEq α]

@[simp] theorem over_nil (syms : List α) : Over syms [] := by simp [Over]

@[simp] theorem over_cons {syms : List α} {a : α} {w : List α} :
    Over syms (a :: w) ↔ a ∈ syms ∧ Over syms w := List.forall_mem_cons

@[simp] theorem over_append {syms : List α} {u v : List α} :
    Over syms (u ++ v) ↔ Over syms u ∧ Over syms v := List.forall_mem_append

theorem over_replicate {syms : List α} {a : α} (ha : a ∈ syms) (n : Nat) :
    Over syms (List.replicate n a) := by
  intro b hb; rw [List.eq_of_mem_replicate hb]; exact ha

theorem Over.mono {syms w v : List α} (hw : Over syms w) (h : v ⊆ w) : Over syms v :=
  fun a ha => hw a (h ha)

end

instance (syms w : List α) : Decidable (Over syms w) := by unfold Over; infer_instance

/-- The run of a partial transition function `δ` (`none` = the implicit sink). -/
def runO {κ : Type} (δ : κ → α → Option κ) (q : Option κ) (w : List α) : Option κ :=
  w.foldl (fun s a => s.bind fun x => δ x a) q

/-- The step of `runO`: a partial transition function as a total one on `Option`. -/
def stepO {κ : Type} (δ : κ → α → Option κ) (s : Option κ) (a : α) : Option κ :=
  s.bind fun x => δ x a

omit [DecidableEq α] in
@[simp] theorem stepO_some {κ : Type} (δ : κ → α → Option κ) (x : κ) (a : α) :
    stepO δ (some x) a = δ x a := rfl

set_option linter.unusedSectionVars false in
@[simp] theorem runO_nil {κ : Type} (δ : κ → α → Option κ) (q : Option κ) : runO δ q [] = q := rfl

omit [DecidableEq α] in
@[simp] theorem runO_cons {κ : Type} (δ : κ → α → Option κ) (q : Option κ) (a : α) (w : List α) :
    runO δ q (a :: w) = runO δ (q.bind fun x => δ x a) w := rfl

omit [DecidableEq α] in
@[simp] theorem runO_none {κ : Type} (δ : κ → α → Option κ) (w : List α) : runO δ none w = none := by
  induction w with
  | nil => rfl
  | cons a w ih => simpa using ih

set_option linter.unusedSectionVars false in
theorem runO_append {κ : Type} (δ : κ → α → Option κ) (q : Option κ) (u v : List α) :
    runO δ q (u ++ v) = runO δ (runO δ q u) v := by
  simp [runO, List.foldl_append]

/-- `q` is reached from the initial state by a word over the alphabet. -/
def Reachable (d : DFA σ α) (q : σ) : Prop :=
  ∃ w, Over d.syms w ∧ d.run (some d.init) w = some q

/-- Some word over the alphabet is accepted from exactly one of `p`, `q`. -/
def Distinguishable (d : DFA σ α) (p q : σ) : Prop :=
  ∃ w, Over d.syms w ∧ d.isFinal (d.run (some p) w) ≠ d.isFinal (d.run (some q) w)

/-- Some word over the alphabet is accepted from `q` (`DFA.Live` of `Proofs/Minimal.lean` admits
any word). -/
def Live (d : DFA σ α) (q : σ) : Prop :=
  ∃ w, Over d.syms w ∧ d.isFinal (d.run (some q) w) = true

/-- The shape of a minimal complete DFA: no repeated state, every state reachable, any two
states distinguishable. -/
structure MinimalShape (d : DFA σ α) : Prop where
  nodup : d.states.Nodup
  reach : ∀ q ∈ d.states, Reachable d q
  dist : ∀ p ∈ d.states, ∀ q ∈ d.states, p ≠ q → Distinguishable d p q

/-- The shape of a minimal partial DFA: additionally every state is live (no trap state). -/
structure MinimalPartialShape (d : DFA σ α) : Prop extends MinimalShape d where
  live : ∀ q ∈ d.states, Live d q

/-! The same without the restriction to the alphabet: the form the counting lemmas of
`Proofs/Minimal.lean` take. -/

theorem MinimalShape.reach_word {d : DFA σ α} (h : MinimalShape d) :
    ∀ q ∈ d.states, ∃ w, d.run (some d.init) w = some q :=
  fun q hq => let ⟨w, _, hw⟩ := h.reach q hq; ⟨w, hw⟩

theorem MinimalShape.dist_word {d : DFA σ α} (h : MinimalShape d) :
    ∀ p ∈ d.states, ∀ q ∈ d.states, p ≠ q →
      ∃ w, d.isFinal (d.run (some p) w) ≠ d.isFinal (d.run (some q) w) :=
  fun p hp q hq hne => let ⟨w, _, hw⟩ := h.dist p hp q hq hne; ⟨w, hw⟩

theorem MinimalPartialShape.live_word {d : DFA σ α} (h : MinimalPartialShape d) :
    ∀ q ∈ d.states, ∃ w, d.isFinal (d.run (some q) w) = true :=
  fun q hq => let ⟨w, _, hw⟩ := h.live q hq; ⟨w, hw⟩

/-- The counting argument for a rival `d'` over the *same* alphabet: a DFA in minimal shape has no
more states than `d'`, provided `d'` is complete or every state of `d` is live.  The statements
of C15 let `d'` have a larger alphabet and cite the counting lemmas of `Proofs/Minimal.lean`. -/
theorem MinimalShape.length_le {σ' : Type} [DecidableEq σ'] {d : DFA σ α} (hm : MinimalShape d)
    (d' : DFA σ' α) (wf' : d'.WF) (hsyms : ∀ a, a ∈ d'.syms ↔ a ∈ d.syms)
    (hlang : ∀ w, d'.accepts w = d.accepts w)
    (hkind : d'.allowPartial = false ∨ ∀ q ∈ d.states, Live d q) :
    d.states.length ≤ d'.states.length := by
  rcases hkind with hc | hl
  · exact DFA.minimal_of_reachable_over d d' hm.nodup
      (fun q hq => let ⟨w, hw, hr⟩ := hm.reach q hq; ⟨w, fun a ha => (hsyms a).mpr (hw a ha), hr⟩)
      hm.dist_word wf' hc hlang _ fun _ h => h
  · have := DFA.minimal_of_reachable_distinguishable_partial d d' hm.nodup hm.reach_word
      hm.dist_word (MinimalPartialShape.live_word ⟨hm, hl⟩) wf' hlang
    exact Nat.le_trans this.1 this.2

section simulates
variable {ι : Type}

/-- On the indices satisfying `Inv` the DFA `d` steps as the function `δ` on indices does, index
`k` standing for `nameO k` (`none`: the implicit sink of a partial DFA, so that a partial
transition function is a total one on `Option`); `F` says which indices are final. -/
structure Simulates (d : DFA σ α) (nameO : ι → Option σ) (δ : ι → α → ι) (Inv F : ι → Prop) :
    Prop where
  step : ∀ k, Inv k → ∀ a ∈ d.syms, d.step? (nameO k) a = nameO (δ k a) ∧ Inv (δ k a)
  final : ∀ k, Inv k → (d.isFinal (nameO k) = true ↔ F k)

/-- What minimality of a DFA simulated by `δ` needs, said of `δ` alone: `St` are the indices that
name states, `k0` the initial one, `F` the final ones (`Simulates.minimal` draws `MinimalShape`
from it). -/
structure MinimalO (syms : List α) (δ : ι → α → ι) (St F : ι → Prop) (k0 : ι) : Prop where
  reach : ∀ k, St k → ∃ w, Over syms w ∧ w.foldl δ k0 = k
  dist : ∀ k, St k → ∀ k', St k' → k ≠ k' → ∃ w, Over syms w ∧
    ¬ (F (w.foldl δ k) ↔ F (w.foldl δ k'))

omit [DecidableEq α] in
theorem MinimalO.mono {syms : List α} {δ : ι → α → ι} {St St' F : ι → Prop} {k0 : ι}
    (m : MinimalO syms δ St' F k0) (hs : ∀ k, St k → St' k) : MinimalO syms δ St F k0 :=
  ⟨fun k hk => m.reach k (hs k hk), fun k hk k' hk' => m.dist k (hs k hk) k' (hs k' hk')⟩

omit [DecidableEq α] in
/-- Completion of a partial automaton with a trap (`none`): if every index is live and some word
falls off, the trap is reached and told apart from every index.  `fun s => ∃ k, Inv k ∧ s = some k`
are the states of the partial form, `fun s => ∀ k, s = some k → Inv k` those and `none`. -/
theorem MinimalO.trap {syms : List α} {δ : ι → α → Option ι} {Inv : ι → Prop}
    {F : Option ι → Prop} {k0 : ι}
    (m : MinimalO syms (stepO δ) (fun s => ∃ k, Inv k ∧ s = some k) F
      (some k0))
    (hF : ¬ F none) (live : ∀ k, Inv k → ∃ w, Over syms w ∧ F (runO δ (some k) w))
    (trap : ∃ w, Over syms w ∧ runO δ (some k0) w = none) :
    MinimalO syms (stepO δ) (fun s => ∀ k, s = some k → Inv k) F
      (some k0) := by
  have sink : ∀ w, ¬ F (runO δ none w) := fun w => by rwa [runO_none]
  refine ⟨fun s hs => ?_, fun s hs t ht hne => ?_⟩
  · cases s with
    | none => exact trap
    | some k => exact m.reach _ ⟨k, hs k rfl, rfl⟩
  · cases s with
    | none =>
      cases t with
      | none => exact absurd rfl hne
      | some k =>
        obtain ⟨w, hw, hl⟩ := live k (ht k rfl)
        exact ⟨w, hw, fun e => sink w (e.mpr hl)⟩
    | some k =>
      cases t with
      | none =>
        obtain ⟨w, hw, hl⟩ := live k (hs k rfl)
        exact ⟨w, hw, fun e => sink w (e.mp hl)⟩
      | some k' => exact m.dist _ ⟨k, hs k rfl, rfl⟩ _ ⟨k', ht k' rfl, rfl⟩ hne

omit [DecidableEq α] in
/-- A ladder that follows a pattern `p` (rung `i` climbs on `p[i]`, so is reached by `p[:i]`) and
reaches the top exactly on the words of `L`, none of which is shorter than `p`: `p[j:]` leads to
the top from rung `j` and from no lower rung, since `p[:i] ++ p[j:]` is too short. -/
theorem MinimalO.pattern {syms p : List α} {δ : ι → α → ι} (rung : Nat → ι) (hp : Over syms p)
    (L : List α → Prop) (hL : ∀ w, Over syms w → (w.foldl δ (rung 0) = rung p.length ↔ L w))
    (climb : ∀ i (hi : i < p.length), δ (rung i) p[i] = rung (i + 1))
    (len : ∀ w, L w → p.length ≤ w.length) :
    MinimalO syms δ (fun k => ∃ i, i ≤ p.length ∧ k = rung i) (· = rung p.length) (rung 0) ∧
      ∀ i, i ≤ p.length → ∃ w, Over syms w ∧ w.foldl δ (rung i) = rung p.length := by
  have take : ∀ i, i ≤ p.length → (p.take i).foldl δ (rung 0) = rung i := fun i => by
    induction i with
    | zero => exact fun _ => rfl
    | succ i ih =>
      intro hi
      rw [List.take_succ_eq_append_getElem hi, List.foldl_append, ih (Nat.le_of_lt hi)]
      exact climb i hi
  have self : L p := (hL p hp).mp (by
    have := take p.length (Nat.le_refl _)
    rwa [List.take_length] at this)
  have acc : ∀ i j, i ≤ p.length → ((p.drop j).foldl δ (rung i) = rung p.length ↔
      L (p.take i ++ p.drop j)) := fun i j hi => by
    rw [← hL _ (over_append.mpr ⟨hp.mono (List.take_subset i p), hp.mono (List.drop_subset j p)⟩), List.foldl_append, take i hi]
  have top : ∀ j, j ≤ p.length → (p.drop j).foldl δ (rung j) = rung p.length := fun j hj =>
    (acc j j hj).mpr (by rwa [List.take_append_drop])
  have key : ∀ i j, i < j → j ≤ p.length → ∃ w, Over syms w ∧
      ¬ (w.foldl δ (rung i) = rung p.length ↔ w.foldl δ (rung j) = rung p.length) :=
    fun i j hij hj => ⟨p.drop j, hp.mono (List.drop_subset j p), fun e => by
      have := len _ ((acc i j (by omega)).mp (e.mpr (top j hj)))
      rw [List.length_append, List.length_take_of_le (by omega), List.length_drop] at this
      omega⟩
  refine ⟨⟨?_, ?_⟩, fun i hi => ⟨p.drop i, hp.mono (List.drop_subset i p), top i hi⟩⟩
  · rintro _ ⟨i, hi, rfl⟩
    exact ⟨p.take i, hp.mono (List.take_subset i p), take i hi⟩
  · rintro _ ⟨i, hi, rfl⟩ _ ⟨j, hj, rfl⟩ hne
    rcases Nat.lt_or_gt_of_ne (fun e => hne (e ▸ rfl) : i ≠ j) with l | l
    · exact key i j l hj
    · exact let ⟨w, hw, hd⟩ := key j i l hi; ⟨w, hw, fun e => hd e.symm⟩

namespace Simulates
variable {d : DFA σ α} {nameO : ι → Option σ} {δ : ι → α → ι} {Inv F : ι → Prop}
variable (h : Simulates d nameO δ Inv F)
include h

theorem run {w : List α} (hw : Over d.syms w) : ∀ {k : ι}, Inv k →
    d.run (nameO k) w = nameO (w.foldl δ k) ∧ Inv (w.foldl δ k) :=
  fun hk => List.foldl_rel (r := fun s k => s = nameO k ∧ Inv k) ⟨rfl, hk⟩
    fun a ha _ k e => e.1 ▸ h.step k e.2 a (hw a ha)

theorem isFinal_run {k : ι} (hk : Inv k) {w : List α} (hw : Over d.syms w) :
    d.isFinal (d.run (nameO k) w) = true ↔ F (w.foldl δ k) := by
  obtain ⟨e, hi⟩ := h.run hw hk
  rw [e, h.final _ hi]

theorem accepts (wf : d.WF) {k0 : ι} (h0 : nameO k0 = some d.init) (hk0 : Inv k0) (w : List α) :
    d.accepts w = true ↔ Over d.syms w ∧ F (w.foldl δ k0) :=
  DFA.accepts_iff_over wf fun hw => by rw [DFA.accepts, ← h0, h.isFinal_run hk0 hw]

variable {St : ι → Prop} (hSt : ∀ k, St k → Inv k)
  (cover : ∀ q ∈ d.states, ∃ k, St k ∧ nameO k = some q) (hnd : d.states.Nodup) {k0 : ι}
  (h0 : nameO k0 = some d.init) (hk0 : Inv k0) (m : MinimalO d.syms δ St F k0)
include hSt cover hnd h0 hk0 m

theorem minimal : MinimalShape d where
  nodup := hnd
  reach q hq := by
    obtain ⟨k, hk, e⟩ := cover q hq
    obtain ⟨w, hw, rfl⟩ := m.reach k hk
    exact ⟨w, hw, by rw [← h0, (h.run hw hk0).1, e]⟩
  dist p hp q hq hne := by
    obtain ⟨k, hk, ek⟩ := cover p hp
    obtain ⟨k', hk', ek'⟩ := cover q hq
    obtain ⟨w, hw, hd⟩ := m.dist k hk k' hk' fun e => hne (Option.some.inj (by rw [← ek, ← ek', e]))
    exact ⟨w, hw, fun e => hd (by
      rw [← h.isFinal_run (hSt k hk) hw, ← h.isFinal_run (hSt k' hk') hw, ek, ek', e])⟩

end Simulates

/-- The partial form: `some k` stands for the state `name k`, `none` for the implicit sink. -/
theorem Simulates.minimalPartial {d : DFA σ α} {name : ι → σ} {δ : ι → α → Option ι}
    {Inv : ι → Prop} {F : Option ι → Prop}
    (h : Simulates d (Option.map name) (stepO δ)
      (fun s => ∀ k, s = some k → Inv k) F)
    (cover : ∀ q ∈ d.states, ∃ k, Inv k ∧ q = name k) (hnd : d.states.Nodup) {k0 : ι}
    (h0 : d.init = name k0) (hk0 : Inv k0)
    (m : MinimalO d.syms (stepO δ) (fun s => ∃ k, Inv k ∧ s = some k) F
      (some k0))
    (live : ∀ k, Inv k → ∃ w, Over d.syms w ∧ F (runO δ (some k) w)) : MinimalPartialShape d :=
  have hSt : ∀ s, (∃ k, Inv k ∧ s = some k) → ∀ k, s = some k → Inv k :=
    fun _ ⟨_, hk, e⟩ _ e' => Option.some.inj (e.symm.trans e') ▸ hk
  have cover' : ∀ q ∈ d.states, ∃ s, (∃ k, Inv k ∧ s = some k) ∧ s.map name = some q :=
    fun q hq => let ⟨k, hk, e⟩ := cover q hq; ⟨some k, ⟨k, hk, rfl⟩, e ▸ rfl⟩
  have h0' : (some k0).map name = some d.init := h0 ▸ rfl
  have hk0' : ∀ k, some k0 = some k → Inv k := fun _ e => Option.some.inj e ▸ hk0
  { toMinimalShape := h.minimal hSt cover' hnd h0' hk0' m
    live := fun q hq => by
      obtain ⟨k, hk, rfl⟩ := cover q hq
      obtain ⟨w, hw, hl⟩ := live k hk
      exact ⟨w, hw, (h.isFinal_run (hSt _ ⟨k, hk, rfl⟩) hw).mpr hl⟩ }

end simulates

section sim
variable {ι : Type}

/-- The DFA `cls(states=set(table), transitions=table, …)` for `table = tableOf ks name row`. -/
def tableDFA (syms : List α) (ks : List ι) (name : ι → σ) (row : ι → List (α × σ)) (k0 : ι)
    (fin : List σ) (ap : Bool := false) : DFA σ α :=
  { states := akeys (tableOf ks name row), syms := syms, trans := tableOf ks name row,
    init := name k0, finals := fin, allowPartial := ap }

/-- `tableDFA` with `final_states = {top} if contains else states - {top}`. -/
def flagDFA (syms : List α) (ks : List ι) (name : ι → σ) (row : ι → List (α × σ)) (k0 top : ι)
    (contains : Bool) (ap : Bool := false) : DFA σ α :=
  tableDFA syms ks name row k0 (flagFinals (akeys (tableOf ks name row)) (name top) contains) ap

/-- The table a constructor assembles, `tableOf ks name row` (index `k` names the state `name k`,
whose row is `row k`), tabulates the transition function `δ` on indices.  Obtained by `Sim.ofRowOf`
or `Sim.ofLadder`; used through `Sim.builds` / `Sim.builds_flag` (validity and language of the
constructor call, Props/C15.lean), `Sim.total` and `Sim.minimal`. -/
structure Sim (syms : List α) (ks : List ι) (name : ι → σ) (row : ι → List (α × σ))
    (δ : ι → α → ι) : Prop where
  inj : ∀ k k', name k = name k' → k = k'
  keys : ∀ k ∈ ks, ∀ a, a ∈ akeys (row k) ↔ a ∈ syms
  vals : ∀ k ∈ ks, ∀ t ∈ avals (row k), ∃ k' ∈ ks, t = name k'
  step : ∀ k ∈ ks, ∀ a ∈ syms, alookup a (row k) = some (name (δ k a))

variable {syms : List α} {ks : List ι} {name : ι → σ} {row : ι → List (α × σ)} {δ : ι → α → ι}

omit [DecidableEq σ] in
/-- Rows that are comprehensions `{a: f(k, a) for a in input_symbols}`. -/
theorem Sim.ofRowOf (inj : ∀ k k', name k = name k' → k = k') (f : ι → α → σ)
    (h : ∀ k ∈ ks, ∀ a ∈ syms, f k a = name (δ k a) ∧ δ k a ∈ ks) :
    Sim syms ks name (fun k => rowOf syms (f k)) δ where
  inj := inj
  keys k _ a := by rw [akeys_rowOf]
  vals k hk t ht := by
    rw [avals_rowOf] at ht
    obtain ⟨a, ha, rfl⟩ := List.mem_map.mp ht
    exact ⟨_, (h k hk a ha).2, (h k hk a ha).1⟩
  step k hk a ha := by rw [alookup_rowOf, if_pos ha, (h k hk a ha).1]

omit [DecidableEq α] [DecidableEq σ] in
theorem mem_tableDFA_states {q : σ} {k0 : ι} {fin : List σ} {ap : Bool} :
    q ∈ (tableDFA syms ks name row k0 fin ap).states ↔ ∃ k ∈ ks, q = name k := by
  show q ∈ akeys (tableOf ks name row) ↔ _
  rw [akeys_tableOf, List.mem_map]
  exact ⟨fun ⟨k, hk, e⟩ => ⟨k, hk, e.symm⟩, fun ⟨k, hk, e⟩ => ⟨k, hk, e.symm⟩⟩

omit [DecidableEq α] [DecidableEq σ] in
theorem nodup_tableDFA_states (inj : ∀ k k', name k = name k' → k = k') (hnd : ks.Nodup) {k0 : ι}
    {fin : List σ} {ap : Bool} : (tableDFA syms ks name row k0 fin ap).states.Nodup := by
  show (akeys (tableOf ks name row)).Nodup
  rw [akeys_tableOf]
  exact nodup_map_of_inj_on hnd fun a _ b _ => inj a b

omit [DecidableEq α] [DecidableEq σ] in
theorem length_ladder_states {n : Nat} {k0 : Nat} {name : Nat → σ} {row : Nat → List (α × σ)}
    {fin : List σ} {ap : Bool} :
    (tableDFA syms (List.range n) name row k0 fin ap).states.length = n := by
  show (akeys (tableOf _ _ _)).length = _
  rw [akeys_tableOf, List.length_map, List.length_range]

omit [DecidableEq α] in
theorem flagFinals_tableOf_names {top : ι} (htop : top ∈ ks) (c : Bool) :
    ∀ q ∈ flagFinals (akeys (tableOf ks name row)) (name top) c, ∃ k ∈ ks, q = name k := by
  intro q hq
  have := flagFinals_subset (by rw [akeys_tableOf]; exact List.mem_map.mpr ⟨top, htop, rfl⟩) c q hq
  rw [akeys_tableOf] at this
  obtain ⟨k, hk, e⟩ := List.mem_map.mp this
  exact ⟨k, hk, e.symm⟩

namespace Sim
variable (h : Sim syms ks name row δ)
include h

omit [DecidableEq σ] in
theorem mem_step {k : ι} (hk : k ∈ ks) {a : α} (ha : a ∈ syms) : δ k a ∈ ks := by
  obtain ⟨k', hk', e⟩ := h.vals k hk _ (alookup_some_val_mem (h.step k hk a ha))
  rwa [h.inj _ _ e]

omit [DecidableEq σ] in
theorem wf {k0 : ι} (hk0 : k0 ∈ ks) {fin : List σ} (hfin : ∀ q ∈ fin, ∃ k ∈ ks, q = name k)
    (ap : Bool := false) : (tableDFA syms ks name row k0 fin ap).WF := by
  refine wf_of_table _ (fun q => Iff.rfl) ?_ ?_ (mem_tableDFA_states.mpr ⟨k0, hk0, rfl⟩)
    fun q hq => mem_tableDFA_states.mpr (hfin q hq)
  · rintro kv hkv a
    obtain ⟨k, hk, rfl⟩ := mem_tableOf.mp hkv
    exact h.keys k hk a
  · rintro kv hkv q hq
    obtain ⟨k, hk, rfl⟩ := mem_tableOf.mp hkv
    exact mem_tableDFA_states.mpr (h.vals k hk q hq)

theorem step? {k : ι} (hk : k ∈ ks) {a : α} (ha : a ∈ syms) (k0 : ι) (fin : List σ) (ap : Bool) :
    (tableDFA syms ks name row k0 fin ap).step? (some (name k)) a = some (name (δ k a)) :=
  ((tableDFA syms ks name row k0 fin ap).step?_of_row (alookup_tableOf row h.inj hk) a).trans
    (h.step k hk a ha)

/-- Every state of the table has a successor on every symbol. -/
theorem total (k0 : ι) (fin : List σ) (ap : Bool) :
    ∀ q ∈ (tableDFA syms ks name row k0 fin ap).states, ∀ a ∈ syms,
      ∃ q' ∈ (tableDFA syms ks name row k0 fin ap).states,
        (tableDFA syms ks name row k0 fin ap).step? (some q) a = some q' := by
  intro q hq a ha
  obtain ⟨k, hk, rfl⟩ := mem_tableDFA_states.mp hq
  exact ⟨_, mem_tableDFA_states.mpr ⟨_, h.mem_step hk ha, rfl⟩, h.step? hk ha _ _ _⟩

theorem simulates (k0 : ι) (fin : List σ) (ap : Bool) :
    Simulates (tableDFA syms ks name row k0 fin ap) (fun k => some (name k)) δ (· ∈ ks)
      (name · ∈ fin) where
  step _ hk _ ha := ⟨h.step? hk ha k0 fin ap, h.mem_step hk ha⟩
  final _ _ := decide_eq_true_iff

theorem run {k : ι} (hk : k ∈ ks) {w : List α} (hw : Over syms w) (k0 : ι) (fin : List σ)
    (ap : Bool) :
    (tableDFA syms ks name row k0 fin ap).run (some (name k)) w = some (name (w.foldl δ k)) ∧
      w.foldl δ k ∈ ks :=
  (h.simulates k0 fin ap).run hw hk

omit [DecidableEq σ] in
theorem mem_fold {k : ι} (hk : k ∈ ks) {w : List α} (hw : Over syms w) : w.foldl δ k ∈ ks :=
  List.foldlRecOn w δ hk fun _ hk a ha => h.mem_step hk (hw a ha)

theorem mem_flagFinals {k top : ι} (hk : k ∈ ks) (c : Bool) :
    name k ∈ flagFinals (akeys (tableOf ks name row)) (name top) c ↔ (k = top ↔ c = true) := by
  rw [Ctor.mem_flagFinals c (by rw [akeys_tableOf]; exact List.mem_map.mpr ⟨k, hk, rfl⟩)]
  exact iff_congr ⟨h.inj _ _, congrArg name⟩ Iff.rfl

theorem flag_iff {k k' top : ι} (hk : k ∈ ks) (hk' : k' ∈ ks) (c : Bool) :
    (name k ∈ flagFinals (akeys (tableOf ks name row)) (name top) c ↔
      name k' ∈ flagFinals (akeys (tableOf ks name row)) (name top) c) ↔ (k = top ↔ k' = top) := by
  rw [h.mem_flagFinals hk, h.mem_flagFinals hk']
  cases c
  · rw [iff_false_right Bool.false_ne_true, iff_false_right Bool.false_ne_true]
    exact ⟨fun h => ⟨fun a => Classical.byContradiction fun nb => h.mpr nb a,
        fun b => Classical.byContradiction fun na => h.mp na b⟩,
      fun h => ⟨fun na b => na (h.mpr b), fun nb a => nb (h.mp a)⟩⟩
  · rw [iff_true_right rfl, iff_true_right rfl]

theorem accepts {k0 : ι} (hk0 : k0 ∈ ks) {fin : List σ}
    (hfin : ∀ q ∈ fin, ∃ k ∈ ks, q = name k) (ap : Bool) (w : List α) :
    (tableDFA syms ks name row k0 fin ap).accepts w = true ↔
      Over syms w ∧ name (w.foldl δ k0) ∈ fin :=
  (h.simulates k0 fin ap).accepts (h.wf hk0 hfin ap) rfl hk0 w

theorem minimal (hnd : ks.Nodup) {k0 : ι} (hk0 : k0 ∈ ks) {fin : List σ} (ap : Bool)
    {St : ι → Prop} (hSt : ∀ k ∈ ks, St k) (m : MinimalO syms δ St (name · ∈ fin) k0) :
    MinimalShape (tableDFA syms ks name row k0 fin ap) :=
  (h.simulates k0 fin ap).minimal (fun _ => id)
    (fun _ hq => let ⟨k, hk, e⟩ := mem_tableDFA_states.mp hq; ⟨k, hk, e ▸ rfl⟩)
    (nodup_tableDFA_states h.inj hnd) rfl hk0 (m.mono hSt)

end Sim

theorem Sim.minimal_flag (h : Sim syms ks name row δ) (hnd : ks.Nodup) {k0 top : ι} (hk0 : k0 ∈ ks)
    (c ap : Bool) {St : ι → Prop} (hSt : ∀ k ∈ ks, St k) (m : MinimalO syms δ St (· = top) k0) :
    MinimalShape (flagDFA syms ks name row k0 top c ap) :=
  h.minimal hnd hk0 ap (fun _ => id) ⟨fun k hk => m.reach k (hSt k hk), fun k hk k' hk' hne =>
    let ⟨w, hw, hd⟩ := m.dist k (hSt k hk) k' (hSt k' hk') hne
    ⟨w, hw, by rwa [h.flag_iff (h.mem_fold hk hw) (h.mem_fold hk' hw)]⟩⟩

/-- What `Sim.ofLadder` asks of a row `r` of a ladder of height `n` that steps by `δi`. -/
def LadderRow (syms : List α) (n : Nat) (r : List (α × Int)) (δi : α → Nat) : Prop :=
  (∀ a, a ∈ akeys r ↔ a ∈ syms) ∧ (∀ t ∈ avals r, ∃ j < n, t = nat j) ∧
    ∀ a ∈ syms, alookup a r = some (nat (δi a))

theorem LadderRow.const {n j : Nat} (hj : j < n) {δi : α → Nat} (hδ : ∀ a, δi a = j) :
    LadderRow syms n (rowOf syms fun _ => nat j) δi :=
  ⟨fun a => by rw [akeys_rowOf], fun _ ht => ⟨j, hj, eq_of_mem_avals_rowOf_const ht⟩,
    fun a ha => by rw [alookup_rowOf, if_pos ha, hδ]⟩

theorem LadderRow.ainsert {n j' : Nat} {c : α} {r : List (α × Int)} {δi δi' : α → Nat}
    (h : LadderRow syms n r δi) (hc : c ∈ syms) (hj' : j' < n)
    (hδ : ∀ a, δi' a = if c = a then j' else δi a) :
    LadderRow syms n (ainsert c (nat j') r) δi' := by
  refine ⟨fun a => ?_, fun t ht => ?_, fun a ha => ?_⟩
  · rw [mem_akeys_ainsert, h.1]
    exact ⟨fun e => e.elim (fun e => e ▸ hc) id, Or.inr⟩
  · exact (mem_avals_ainsert ht).elim (fun e => ⟨j', hj', e⟩) (h.2.1 t)
  · rw [alookup_ainsert, hδ]
    split
    · rfl
    · exact h.2.2 a ha

theorem Sim.ofLadder {n : Nat} {row : Nat → List (α × Int)} {δ : Nat → α → Nat}
    (h : ∀ i < n, LadderRow syms n (row i) (δ i)) : Sim syms (List.range n) nat row δ where
  inj _ _ := nat_inj.mp
  keys i hi := (h i (List.mem_range.mp hi)).1
  vals i hi t ht :=
    let ⟨j, hj, e⟩ := (h i (List.mem_range.mp hi)).2.1 t ht
    ⟨j, List.mem_range.mpr hj, e⟩
  step i hi := (h i (List.mem_range.mp hi)).2.2

theorem dist_of_lt {n : Nat} {P : Nat → Nat → Prop} (symm : ∀ i j, P i j → P j i)
    (h : ∀ i j, i < j → j < n → P i j) :
    ∀ i ∈ List.range n, ∀ j ∈ List.range n, i ≠ j → P i j := by
  intro i hi j hj hne
  rcases Nat.lt_or_gt_of_ne hne with l | l
  · exact h i j l (List.mem_range.mp hj)
  · exact symm _ _ (h j i l (List.mem_range.mp hi))

theorem Sim.minimal_ladder {n : Nat} {row : Nat → List (α × Int)} {δ : Nat → α → Nat}
    (h : Sim syms (List.range n) nat row δ) (hn : 0 < n) {fin : List Int}
    (reach : ∀ i < n, ∃ w, Over syms w ∧ w.foldl δ 0 = i)
    (dist : ∀ i j, i < j → j < n → ∃ w, Over syms w ∧
      ¬ (nat (w.foldl δ i) ∈ fin ↔ nat (w.foldl δ j) ∈ fin)) :
    MinimalShape (tableDFA syms (List.range n) nat row 0 fin) :=
  h.minimal List.nodup_range (List.mem_range.mpr hn) false (fun _ => id)
    ⟨fun i hi => reach i (List.mem_range.mp hi),
      dist_of_lt (fun _ _ ⟨w, hw, hd⟩ => ⟨w, hw, fun e => hd e.symm⟩) dist⟩

theorem Sim.minimal_pattern {p : List α} {row : Nat → List (α × Int)} {δ : Nat → α → Nat}
    (h : Sim syms (List.range (p.length + 1)) nat row δ) (hp : Over syms p) (c : Bool)
    (L : List α → Prop) (hL : ∀ w, Over syms w → (w.foldl δ 0 = p.length ↔ L w))
    (climb : ∀ i (hi : i < p.length), δ i p[i] = i + 1) (len : ∀ w, L w → p.length ≤ w.length) :
    MinimalShape (flagDFA syms (List.range (p.length + 1)) nat row 0 p.length c) :=
  h.minimal_flag List.nodup_range (List.mem_range.mpr (Nat.succ_pos _)) c false
    (fun i hi => ⟨i, Nat.le_of_lt_succ (List.mem_range.mp hi), rfl⟩)
    (MinimalO.pattern id hp L hL climb len).1

end sim

end AV.Ctor
