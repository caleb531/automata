/-
Proofs/CtorKMPSpec.lean — string combinatorics behind the KMP automaton (C15): borders of
prefixes of the pattern, "prefix of the pattern that is a suffix of the word", the longest
one, and how it moves when a symbol is appended.  Core only, no automaton here.
-/
import AutomataVerif.Proofs.CtorBasic

namespace AV.Ctor.KMP

variable {α : Type}

section spec
variable [DecidableEq α] (p : List α)

/-- `p[:k]` is a suffix of `p[:j]` (a border of the prefix of length `j`; `k = j` allowed). -/
def Bd (j k : Nat) : Prop := k ≤ j ∧ j ≤ p.length ∧ p.take k <:+ p.take j

/-- `p[:k]` is a suffix of `w`. -/
def PS (w : List α) (k : Nat) : Prop := k ≤ p.length ∧ p.take k <:+ w

/-- `k` is the length of the longest prefix of `p` that is a suffix of `w`. -/
def IsLps (w : List α) (k : Nat) : Prop := PS p w k ∧ ∀ j, PS p w j → j ≤ k

set_option linter.unusedSectionVars false in
theorem IsLps.unique {w : List α} {i j : Nat} (h1 : IsLps p w i) (h2 : IsLps p w j) : i = j :=
  Nat.le_antisymm (h2.2 i h1.1) (h1.2 j h2.1)

omit [DecidableEq α]

theorem Bd.refl {j : Nat} (hj : j ≤ p.length) : Bd p j j := ⟨Nat.le_refl _, hj, List.suffix_refl _⟩

theorem Bd.zero {j : Nat} (hj : j ≤ p.length) : Bd p j 0 :=
  ⟨Nat.zero_le _, hj, by simp⟩

theorem Bd.trans {j k l : Nat} (h1 : Bd p j k) (h2 : Bd p k l) : Bd p j l :=
  ⟨Nat.le_trans h2.1 h1.1, h1.2.1, h2.2.2.trans h1.2.2⟩

theorem Bd.nest {j k l : Nat} (h1 : Bd p j k) (h2 : Bd p j l) (hlk : l ≤ k) : Bd p k l := by
  refine ⟨hlk, Nat.le_trans h1.1 h1.2.1, ?_⟩
  apply List.suffix_of_suffix_length_le h2.2.2 h1.2.2
  rw [List.length_take_of_le (Nat.le_trans h2.1 h2.2.1), List.length_take_of_le (Nat.le_trans h1.1 h1.2.1)]
  exact hlk

theorem Bd.succ_iff {j k : Nat} (hj : j < p.length) (hk : k ≤ j) :
    Bd p (j + 1) (k + 1) ↔ Bd p j k ∧ p[k]? = p[j]? := by
  have hk' : k < p.length := by omega
  unfold Bd
  rw [List.take_succ_eq_append_getElem hk', List.take_succ_eq_append_getElem hj, suffix_snoc_snoc,
    List.getElem?_eq_getElem hk', List.getElem?_eq_getElem hj]
  constructor
  · rintro ⟨_, _, h1, h2⟩; exact ⟨⟨hk, by omega, h1⟩, by rw [h2]⟩
  · rintro ⟨⟨_, _, h1⟩, h2⟩; exact ⟨by omega, hj, h1, Option.some.inj h2⟩

theorem PS.zero (w : List α) : PS p w 0 := ⟨Nat.zero_le _, by simp⟩

theorem PS.bd {w : List α} {j k : Nat} (h1 : PS p w j) (h2 : PS p w k) (hkj : k ≤ j) : Bd p j k := by
  refine ⟨hkj, h1.1, ?_⟩
  apply List.suffix_of_suffix_length_le h2.2 h1.2
  rw [List.length_take_of_le h2.1, List.length_take_of_le h1.1]
  exact hkj

theorem Bd.ps {w : List α} {j k : Nat} (h1 : Bd p j k) (h2 : PS p w j) : PS p w k :=
  ⟨Nat.le_trans h1.1 h1.2.1, h1.2.2.trans h2.2⟩

theorem PS.snoc_iff (w : List α) (a : α) (k : Nat) :
    PS p (w ++ [a]) (k + 1) ↔ PS p w k ∧ p[k]? = some a := by
  unfold PS
  by_cases hk : k < p.length
  · rw [List.take_succ_eq_append_getElem hk, suffix_snoc_snoc, List.getElem?_eq_getElem hk]
    constructor
    · rintro ⟨_, h1, h2⟩; exact ⟨⟨by omega, h1⟩, by rw [h2]⟩
    · rintro ⟨⟨_, h1⟩, h2⟩; exact ⟨by omega, h1, Option.some.inj h2⟩
  · rw [List.getElem?_eq_none (by omega)]
    constructor
    · rintro ⟨h, _⟩; omega
    · rintro ⟨_, h⟩; cases h

theorem IsLps.nil : IsLps p [] 0 := by
  refine ⟨PS.zero p [], ?_⟩
  intro j hj
  have := hj.2.length_le
  rw [List.length_take_of_le hj.1] at this
  simpa using this

theorem IsLps.full_iff {w : List α} {i : Nat} (h : IsLps p w i) : i = p.length ↔ p <:+ w := by
  constructor
  · intro e
    have := h.1.2
    rw [e, List.take_length] at this
    exact this
  · intro hs
    have : PS p w p.length := ⟨Nat.le_refl _, by rw [List.take_length]; exact hs⟩
    have := h.2 _ this
    have := h.1.1
    omega

/-- Outcome of the failure-link search from rung `j` for symbol `a`, as the code encodes it:
`-1` when no border of `p[:j]` (including `j` itself) is followed by `a`, the longest such
border otherwise. -/
def Best (j : Nat) (a : α) (r : Int) : Prop :=
  (r = -1 ∧ ∀ k, Bd p j k → p[k]? ≠ some a) ∨
  (∃ k, r = nat k ∧ Bd p j k ∧ p[k]? = some a ∧ ∀ k', Bd p j k' → p[k']? = some a → k' ≤ k)

/-- **Transition lemma.**  If the prefixes of `p` (shorter than `p`) that are suffixes of `w`
are exactly the borders of `p[:j]`, the longest prefix of `p` that is a suffix of `w ++ [a]`
has length `r + 1` where `r` is the outcome of the search from `j`. -/
theorem lps_snoc {w : List α} {a : α} {j : Nat} {r : Int}
    (hset : ∀ k, k < p.length → (PS p w k ↔ Bd p j k)) (hb : Best p j a r) :
    IsLps p (w ++ [a]) (r + 1).toNat := by
  have key : ∀ k, PS p (w ++ [a]) (k + 1) ↔ Bd p j k ∧ p[k]? = some a := fun k => by
    rw [PS.snoc_iff]
    exact and_congr_left fun h2 => hset k (List.getElem?_eq_some_iff.mp h2).1
  rcases hb with ⟨rfl, hnone⟩ | ⟨k0, rfl, h1, h2, hmax⟩
  · refine ⟨PS.zero p _, ?_⟩
    intro j' hj'
    cases j' with
    | zero => exact Nat.zero_le _
    | succ k =>
      obtain ⟨h1, h2⟩ := (key k).mp hj'
      exact absurd h2 (hnone k h1)
  · have e : (nat k0 + 1).toNat = k0 + 1 := by rw [nat_cast]; omega
    rw [e]
    refine ⟨(key k0).mpr ⟨h1, h2⟩, ?_⟩
    intro j' hj'
    cases j' with
    | zero => exact Nat.zero_le _
    | succ k =>
      obtain ⟨h3, h4⟩ := (key k).mp hj'
      have := hmax k h3 h4
      omega

theorem lps_snoc_lt {w : List α} {a : α} {i : Nat} {r : Int}
    (h : IsLps p w i) (hb : Best p i a r) : IsLps p (w ++ [a]) (r + 1).toNat :=
  lps_snoc p (fun k _ => ⟨fun h1 => h.1.bd p h1 (h.2 k h1), fun h1 => h1.ps p h.1⟩) hb

/-- The longest proper border of `p[:i]`. -/
def WeakB (i b : Nat) : Prop := b < i ∧ Bd p i b ∧ ∀ k, k < i → Bd p i k → k ≤ b

theorem WeakB.bd_iff {i b k : Nat} (hw : WeakB p i b) : k < i ∧ Bd p i k ↔ Bd p b k :=
  ⟨fun ⟨hk, hbk⟩ => hw.2.1.nest p hbk (hw.2.2 k hk hbk),
    fun h => ⟨Nat.lt_of_le_of_lt h.1 hw.1, hw.2.1.trans p h⟩⟩

/-- From the accepting state of the suffix automaton (`i = |p|`): the search starts at the
longest proper border of `p`. -/
theorem lps_snoc_full {w : List α} {a : α} {b : Nat} {r : Int}
    (h : IsLps p w p.length) (hw : WeakB p p.length b) (hb : Best p b a r) :
    IsLps p (w ++ [a]) (r + 1).toNat := by
  refine lps_snoc p (fun k hk => ?_) hb
  rw [← hw.bd_iff]
  exact ⟨fun h1 => ⟨hk, h.1.bd p h1 (Nat.le_of_lt hk)⟩, fun h1 => h1.2.ps p h.1⟩

/-- Strong failure link of rung `i < |p|`: the longest proper border of `p[:i]` that is *not*
followed by `p[i]`, `-1` if there is none. -/
def Strong (i : Nat) (t : Int) : Prop :=
  (t = -1 ∧ ∀ k, k < i → Bd p i k → p[k]? = p[i]?) ∨
  (∃ k, t = nat k ∧ k < i ∧ Bd p i k ∧ p[k]? ≠ p[i]? ∧
    ∀ k', k' < i → Bd p i k' → k < k' → p[k']? = p[i]?)

theorem Strong.ge {i : Nat} {t : Int} (h : Strong p i t) : -1 ≤ t := by
  rcases h with ⟨rfl, _⟩ | ⟨k, rfl, _⟩
  · omega
  · have := nat_nonneg k; omega

/-- One step of the search: at rung `j` with `p[j] ≠ a`, the answer is the answer from the
strong failure link of `j`. -/
theorem Best.of_strong {j : Nat} {a : α} {t : Int} (hj : j < p.length) (hne : p[j]? ≠ some a)
    (hs : Strong p j t) :
    (t = -1 → Best p j a (-1)) ∧
    (∀ k r, t = nat k → Best p k a r → Best p j a r) := by
  have hjj : p[j]? = some p[j] := List.getElem?_eq_getElem hj
  constructor
  · intro e
    rcases hs with ⟨_, hall⟩ | ⟨k, e2, _⟩
    · left
      refine ⟨rfl, ?_⟩
      intro k hk
      by_cases h : k = j
      · rw [h]; exact hne
      · have : k < j := by have := hk.1; omega
        rw [hall k this hk]; exact hne
    · rw [e] at e2; have := nat_nonneg k; omega
  · intro k r e hbest
    rcases hs with ⟨e2, _⟩ | ⟨k1, e2, hk1, hbd, hneq, hall⟩
    · rw [e] at e2; have := nat_nonneg k; omega
    · have : k1 = k := by rw [e] at e2; exact (nat_inj.mp e2).symm
      subst this
      -- every border of j followed by `a` is a border of k1
      have hdown : ∀ k', Bd p j k' → p[k']? = some a → Bd p k1 k' := by
        intro k' hk' ha
        have h1 : k' ≠ j := by intro e3; rw [e3] at ha; exact hne ha
        have h2 : k' < j := by have := hk'.1; omega
        have h3 : k' ≤ k1 := by
          apply Classical.byContradiction; intro h4
          have := hall k' h2 hk' (by omega)
          rw [this] at ha; exact hne ha
        exact hbd.nest p hk' h3
      rcases hbest with ⟨rfl, hnone⟩ | ⟨k0, rfl, h1, h2, hmax⟩
      · left
        refine ⟨rfl, ?_⟩
        intro k' hk' ha
        exact hnone k' (hdown k' hk' ha) ha
      · right
        exact ⟨k0, rfl, hbd.trans p h1, h2, fun k' hk' ha => hmax k' (hdown k' hk' ha) ha⟩

theorem Best.here {j : Nat} {a : α} (hj : j ≤ p.length) (h : p[j]? = some a) : Best p j a (nat j) := by
  right
  exact ⟨j, rfl, Bd.refl p hj, h, fun k' hk' _ => hk'.1⟩

/-- The candidate after position `i`: the longest proper border of `p[:i+1]` is one more than
the outcome of the search for `p[i]` from the longest proper border of `p[:i]`. -/
theorem WeakB.step {i b : Nat} {r : Int} (hw : WeakB p i b) (hi : i < p.length)
    (hb : Best p b p[i] r) : ∃ c, r + 1 = nat c ∧ WeakB p (i + 1) c := by
  have hii : p[i]? = some p[i] := List.getElem?_eq_getElem hi
  -- a proper border of `p[:i+1]` is `0` or extends a border of `p[:b]` followed by `p[i]`
  have down : ∀ k, k + 1 < i + 1 → Bd p (i + 1) (k + 1) → Bd p b k ∧ p[k]? = some p[i] :=
    fun k hk hbk =>
      have hk := Nat.lt_of_succ_lt_succ hk
      have ⟨h1, h2⟩ := (Bd.succ_iff p hi (Nat.le_of_lt hk)).mp hbk
      ⟨hw.bd_iff.mp ⟨hk, h1⟩, h2.trans hii⟩
  rcases hb with ⟨rfl, hnone⟩ | ⟨k0, rfl, h1, h2, hmx⟩
  · refine ⟨0, rfl, Nat.succ_pos i, Bd.zero p hi, fun k hk hbk => ?_⟩
    cases k with
    | zero => exact Nat.le_refl 0
    | succ k => exact absurd (down k hk hbk).2 (hnone k (down k hk hbk).1)
  · have ⟨hk0, hbd0⟩ := hw.bd_iff.mpr h1
    refine ⟨k0 + 1, nat_succ k0, Nat.succ_lt_succ hk0,
      (Bd.succ_iff p hi (Nat.le_of_lt hk0)).mpr ⟨hbd0, h2.trans hii.symm⟩, fun k hk hbk => ?_⟩
    cases k with
    | zero => exact Nat.zero_le _
    | succ k => exact Nat.succ_le_succ (hmx k (down k hk hbk).1 (down k hk hbk).2)

/-- Where the longest proper border `b` of `p[:i]` is followed by `p[i]` as well, the strong
link of `i` is that of `b`. -/
theorem Strong.copy {i b : Nat} {t : Int} (hw : WeakB p i b) (hpbi : p[b]? = p[i]?)
    (hs : Strong p b t) : Strong p i t := by
  -- proper borders of `p[:i]` are `b` and the proper borders of `p[:b]`
  have split : ∀ k, k < i → Bd p i k → k = b ∨ (k < b ∧ Bd p b k) := fun k hk hbk =>
    have h := hw.bd_iff.mp ⟨hk, hbk⟩
    (Nat.eq_or_lt_of_le h.1).imp id fun hlt => ⟨hlt, h⟩
  rcases hs with ⟨e, hall⟩ | ⟨k0, e, hk0, hbd0, hne0, hall⟩
  · refine Or.inl ⟨e, fun k hk hbk => ?_⟩
    rcases split k hk hbk with h | ⟨h1, h2⟩
    · rw [h]; exact hpbi
    · rw [hall k h1 h2]; exact hpbi
  · refine Or.inr ⟨k0, e, Nat.lt_trans hk0 hw.1, hw.2.1.trans p hbd0, hpbi ▸ hne0,
      fun k' hk' hbk' hlt => ?_⟩
    rcases split k' hk' hbk' with h | ⟨h1, h2⟩
    · rw [h]; exact hpbi
    · rw [hall k' h1 h2 hlt]; exact hpbi

/-- Where it is not, the strong link of `i` is `b` itself. -/
theorem Strong.of_weak {i b : Nat} (hw : WeakB p i b) (hne : p[b]? ≠ p[i]?) :
    Strong p i (nat b) :=
  Or.inr ⟨b, rfl, hw.1, hw.2.1, hne, fun k' hk' hbk' hlt =>
    absurd (hw.2.2 k' hk' hbk') (Nat.not_le_of_lt hlt)⟩

end spec

end AV.Ctor.KMP
