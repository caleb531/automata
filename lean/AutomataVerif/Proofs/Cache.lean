/-
Proofs/Cache.lean — the cached instance (Model/DFACache.lean) refines the stateless
reference: invariant, preservation by every call and agreement of the answers (`step_sim`), hence
along every history (`history_sim`); what a call that opens a generator leaves behind (`opened`).
Core only.
-/
import AutomataVerif.Model.DFACache
import AutomataVerif.Proofs.MinLen
import AutomataVerif.Proofs.Random

namespace AV
namespace DFA

variable {σ α : Type} [DecidableEq σ] [DecidableEq α]

def CoherentCount (d : DFA σ α) (cache : List (List (σ × Nat))) : Prop :=
  cache = (List.range cache.length).map d.countLevel

def CoherentWord (d : DFA σ α) (key : α → Int) (cache : List (List (σ × List (List α)))) : Prop :=
  cache = (List.range cache.length).map (d.wordLevel key)

/-- `_populate_…_cache_up_to_len(k)` for either cache: `ext`, `next` are `extendCount`,
`nextCountLevel` or `extendWord`, `nextWordLevel`. -/
theorem grow_levels {β : Type} (lvl : Nat → β) (next : List β → β) (ext : Nat → List β → List β)
    (h0 : ∀ c, ext 0 c = c) (hs : ∀ m c, ext (m + 1) c = ext m (c ++ [next c]))
    (hn : ∀ n, next ((List.range n).map lvl) = lvl n) {cache : List β}
    (hc : cache = (List.range cache.length).map lvl) (k : Nat) :
    ext (k + 1 - cache.length) cache = (List.range (ext (k + 1 - cache.length) cache).length).map lvl ∧
      ∀ r ≤ k, (ext (k + 1 - cache.length) cache)[r]? = some (lvl r) := by
  have grow : ∀ m n, ext m ((List.range n).map lvl) = (List.range (n + m)).map lvl := by
    intro m
    induction m with
    | zero => intro n; exact h0 _
    | succ m ih =>
      intro n
      have : (List.range n).map lvl ++ [lvl n] = (List.range (n + 1)).map lvl := by
        rw [List.range_succ, List.map_append]; rfl
      rw [hs, hn, this, ih, Nat.add_right_comm, Nat.add_assoc]
  generalize cache.length = n at hc ⊢
  subst hc
  rw [grow, List.length_map, List.length_range]
  refine ⟨rfl, fun r hr => ?_⟩
  rw [List.getElem?_map, List.getElem?_range (by omega)]
  rfl

theorem getLast?_range_map {β : Type} (f : Nat → β) (n : Nat) :
    ((List.range (n + 1)).map f).getLast? = some (f n) := by
  rw [List.range_succ, List.map_append]
  simp

omit [DecidableEq α] in
theorem nextCountLevel_range (d : DFA σ α) (n : Nat) :
    d.nextCountLevel ((List.range n).map d.countLevel) = d.countLevel n := by
  cases n with
  | zero => rfl
  | succ n => unfold nextCountLevel; rw [getLast?_range_map]; rfl

theorem nextWordLevel_range (d : DFA σ α) (key : α → Int) (n : Nat) :
    d.nextWordLevel key ((List.range n).map (d.wordLevel key)) = d.wordLevel key n := by
  cases n with
  | zero => rfl
  | succ n => unfold nextWordLevel; rw [getLast?_range_map]; rfl

omit [DecidableEq α] in
theorem populateCount_spec {d : DFA σ α} {cache : List (List (σ × Nat))}
    (h : d.CoherentCount cache) (k : Nat) :
    d.CoherentCount (d.populateCount cache k) ∧
      ∀ r ≤ k, (d.populateCount cache k)[r]? = some (d.countLevel r) :=
  grow_levels d.countLevel d.nextCountLevel d.extendCount (fun _ => rfl) (fun _ _ => rfl)
    (nextCountLevel_range d) h k

theorem populateWord_spec {d : DFA σ α} {key : α → Int} {cache : List (List (σ × List (List α)))}
    (h : d.CoherentWord key cache) (k : Nat) :
    d.CoherentWord key (d.populateWord key cache k) ∧
      ∀ r ≤ k, (d.populateWord key cache k)[r]? = some (d.wordLevel key r) :=
  grow_levels (d.wordLevel key) (d.nextWordLevel key) (d.extendWord key) (fun _ => rfl)
    (fun _ _ => rfl) (nextWordLevel_range d key) h k

omit [DecidableEq α] in
theorem cacheCount_populateCount {d : DFA σ α} {cache : List (List (σ × Nat))}
    (h : d.CoherentCount cache) (k r : Nat) (hr : r ≤ k) (q : σ) :
    cacheCount (d.populateCount cache k) r q = cget (d.countLevel r) q := by
  unfold cacheCount
  rw [(populateCount_spec h k).2 r hr]
  rfl

theorem cacheWords_populateWord {d : DFA σ α} {key : α → Int} {cache : List (List (σ × List (List α)))}
    (h : d.CoherentWord key cache) (k : Nat) :
    cacheWords (d.populateWord key cache k) k d.init = d.wordsOfLength key k := by
  unfold cacheWords
  rw [(populateWord_spec h k).2 k (Nat.le_refl k)]
  rfl

structure MemoOK (d : DFA σ α) (m : Memo σ) : Prop where
  digraph : ∀ g, m.digraph = some g → g = d.digraph
  isempty : ∀ b, m.isempty = some b → b = d.isEmpty
  isfinite : ∀ b, m.isfinite = some b → d.isFinite = .ok b
  cardinality : ∀ n, m.cardinality = some n → d.cardinality = .ok n
  minLen : ∀ n, m.minLen = some n → d.minimumWordLength = .ok n
  maxLen : ∀ n, m.maxLen = some n → d.maximumWordLength = .ok n

/-- The coherence invariant of an instance: every populated cache level is the table of that
level, every memoised value is the value computed from the definition. -/
structure CacheInv (d : DFA σ α) (key : α → Int) (s : Inst σ α) : Prop where
  counts : d.CoherentCount s.counts
  words : d.CoherentWord key s.words
  memo : d.MemoOK s.memo

theorem cacheInv_fresh (d : DFA σ α) (key : α → Int) : d.CacheInv key (Inst.fresh : Inst σ α) :=
  ⟨rfl, rfl, ⟨fun _ => (nomatch ·), fun _ => (nomatch ·), fun _ => (nomatch ·), fun _ => (nomatch ·),
    fun _ => (nomatch ·), fun _ => (nomatch ·)⟩⟩

/-- The form of the statement about every cached method: called on the instance `s` it returned
`r` = (instance afterwards, value), and `v` is what the stateless function computes.  Nested calls
are chained with `CallSpec.after`, a write to a memo table is `CallSpec.store`, and `CallSpec.sim`
gives the conclusion of `step_sim`. -/
structure CallSpec {β : Type} (d : DFA σ α) (key : α → Int) (s : Inst σ α) (r : Inst σ α × β) (v : β) :
    Prop where
  inv : d.CacheInv key r.1
  gens : r.1.gens = s.gens
  val : r.2 = v

theorem CallSpec.refl {β : Type} {d : DFA σ α} {key : α → Int} {s : Inst σ α} (h : d.CacheInv key s)
    (v : β) : CallSpec d key s (s, v) v := ⟨h, rfl, rfl⟩

theorem CallSpec.after {β γ : Type} {d : DFA σ α} {key : α → Int} {s : Inst σ α} {r1 : Inst σ α × β}
    {v1 : β} (h1 : CallSpec d key s r1 v1) {r2 : Inst σ α × γ} {v2 : γ}
    (h2 : CallSpec d key r1.1 r2 v2) : CallSpec d key s r2 v2 :=
  ⟨h2.inv, h2.gens.trans h1.gens, h2.val⟩

theorem CallSpec.store {β γ : Type} {d : DFA σ α} {key : α → Int} {s : Inst σ α} {r : Inst σ α × β}
    {v : β} (h : CallSpec d key s r v) {m : Memo σ} (hm : d.MemoOK m) (w : γ) :
    CallSpec d key s ({ r.1 with memo := m }, w) w :=
  ⟨⟨h.inv.counts, h.inv.words, hm⟩, h.gens, rfl⟩

theorem cDigraph_spec {d : DFA σ α} {key : α → Int} {s : Inst σ α} (h : d.CacheInv key s) :
    CallSpec d key s (d.cDigraph s) d.digraph := by
  unfold cDigraph
  cases hg : s.memo.digraph with
  | some g => exact ⟨h, rfl, h.memo.digraph g hg⟩
  | none =>
    refine (CallSpec.refl h ()).store ?_ _
    exact { h.memo with digraph := fun _ e => (Option.some.inj e).symm }

theorem cIsEmpty_spec {d : DFA σ α} {key : α → Int} {s : Inst σ α} (h : d.CacheInv key s) :
    CallSpec d key s (d.cIsEmpty s) d.isEmpty := by
  unfold cIsEmpty
  cases hg : s.memo.isempty with
  | some b => exact ⟨h, rfl, h.memo.isempty b hg⟩
  | none =>
    refine (CallSpec.refl h ()).store ?_ _
    exact { h.memo with isempty := fun _ e => (Option.some.inj e).symm }

theorem cMinLen_spec {d : DFA σ α} {key : α → Int} {s : Inst σ α} (h : d.CacheInv key s) :
    CallSpec d key s (d.cMinLen s) d.minimumWordLength := by
  unfold cMinLen
  cases hg : s.memo.minLen with
  | some m => exact ⟨h, rfl, (h.memo.minLen m hg).symm⟩
  | none =>
    cases hm : d.minimumWordLength with
    | error e => exact .refl h _
    | ok m =>
      refine (CallSpec.refl h ()).store ?_ _
      exact { h.memo with minLen := fun _ e => hm.trans (congrArg _ (Option.some.inj e)) }

theorem cMaxLen_spec {d : DFA σ α} {key : α → Int} {s : Inst σ α} (h : d.CacheInv key s) :
    CallSpec d key s (d.cMaxLen s) d.maximumWordLength := by
  unfold cMaxLen maximumWordLength
  cases hg : s.memo.maxLen with
  | some m => exact ⟨h, rfl, (h.memo.maxLen m hg).symm⟩
  | none =>
    have h1 := cIsEmpty_spec h
    simp only
    rw [h1.val]
    cases he : d.isEmpty with
    | true => exact ⟨h1.inv, h1.gens, rfl⟩
    | false =>
      have h2 := h1.after (cDigraph_spec h1.inv)
      simp only
      rw [h2.val]
      refine h2.store ?_ _
      refine { h2.inv.memo with maxLen := fun _ e => ?_ }
      rw [maximumWordLength, he, ← Option.some.inj e]

theorem cIsFinite_spec {d : DFA σ α} {key : α → Int} {s : Inst σ α} (h : d.CacheInv key s) :
    CallSpec d key s (d.cIsFinite s) d.isFinite := by
  unfold cIsFinite isFinite
  cases hg : s.memo.isfinite with
  | some b => exact ⟨h, rfl, (h.memo.isfinite b hg).symm⟩
  | none =>
    have h1 := cMaxLen_spec h
    simp only
    rw [h1.val]
    cases hc : isFiniteCore d.maximumWordLength with
    | error e => exact ⟨h1.inv, h1.gens, rfl⟩
    | ok b =>
      refine h1.store ?_ _
      exact { h1.inv.memo with isfinite := fun _ e => hc.trans (congrArg _ (Option.some.inj e)) }

theorem cCountWords_spec {d : DFA σ α} {key : α → Int} {s : Inst σ α} (h : d.CacheInv key s) (k : Nat) :
    CallSpec d key s (d.cCountWords s k) (d.countWordsOfLength k) :=
  ⟨⟨(populateCount_spec h.counts k).1, h.words, h.memo⟩, rfl,
    cacheCount_populateCount h.counts k k (Nat.le_refl k) d.init⟩

theorem cSumCounts_spec {d : DFA σ α} {key : α → Int} (js : List Nat) :
    ∀ {s : Inst σ α} (acc : Nat), d.CacheInv key s →
      CallSpec d key s (d.cSumCounts js s acc) (acc + (js.map d.countWordsOfLength).sum) := by
  induction js with
  | nil => intro s acc h; exact .refl h _
  | cons j js ih =>
    intro s acc h
    have h1 := cCountWords_spec h j
    unfold cSumCounts
    rw [List.map_cons, List.sum_cons, ← Nat.add_assoc, ← h1.val]
    exact h1.after (ih _ h1.inv)

theorem cCardinality_spec {d : DFA σ α} {key : α → Int} {s : Inst σ α} (h : d.CacheInv key s) :
    CallSpec d key s (d.cCardinality s) d.cardinality := by
  unfold cCardinality cardinality
  cases hg : s.memo.cardinality with
  | some n => exact ⟨h, rfl, (h.memo.cardinality n hg).symm⟩
  | none =>
    have h1 := cMinLen_spec h
    simp only
    rw [h1.val]
    cases hm : d.minimumWordLength with
    | error e =>
      -- `minimum_word_length()` raises nothing else
      obtain rfl := minimumWordLength_error hm
      refine h1.store ?_ _
      refine { h1.inv.memo with cardinality := fun _ e => ?_ }
      rw [cardinality, hm, ← Option.some.inj e]
    | ok i =>
      have h2 := h1.after (cMaxLen_spec h1.inv)
      simp only
      rw [h2.val]
      cases hx : d.maximumWordLength with
      | error e => exact ⟨h2.inv, h2.gens, rfl⟩
      | ok lim =>
        cases lim with
        | none => exact ⟨h2.inv, h2.gens, rfl⟩
        | some limit =>
          have h3 := h2.after (cSumCounts_spec (key := key) (List.range' i (limit + 1 - i)) 0 h2.inv)
          simp only
          rw [h3.val, Nat.zero_add]
          refine h3.store ?_ _
          refine { h3.inv.memo with cardinality := fun _ e => ?_ }
          rw [cardinality, hm, hx, ← Option.some.inj e]

theorem cIterAdvance_spec {d : DFA σ α} {key : α → Int} (fuel : Nat) :
    ∀ {s : Inst σ α} (i : Nat) (limit : Option Nat) (rest : List (List α)), d.CacheInv key s →
      CallSpec d key s (d.cIterAdvance key fuel s i limit rest) (d.pIterAdvance key fuel i limit rest) := by
  induction fuel with
  | zero =>
    intro s i limit rest h
    cases rest <;> exact .refl h _
  | succ fuel ih =>
    intro s i limit rest h
    cases rest with
    | cons w rest => exact .refl h _
    | nil =>
      unfold cIterAdvance pIterAdvance
      cases hc : iterCond limit i with
      | false => exact .refl h _
      | true =>
        simp only
        rw [cacheWords_populateWord h.words]
        have h1 := ih (s := { s with words := d.populateWord key s.words i }) (i + 1) limit
          (d.wordsOfLength key i) ⟨h.counts, (populateWord_spec h.words i).1, h.memo⟩
        exact ⟨h1.inv, h1.gens, h1.val⟩

theorem cSuccStart_spec {d : DFA σ α} {key : α → Int} {s : Inst σ α} (h : d.CacheInv key s)
    (reverse : Bool) :
    CallSpec d key s (d.cSuccStart s reverse) (d.finiteGuard reverse, d.digraph) := by
  cases reverse with
  | false =>
    have h2 := cDigraph_spec h
    exact ⟨h2.inv, h2.gens, congrArg (Prod.mk _) h2.val⟩
  | true =>
    have h1 := cIsFinite_spec h
    unfold cSuccStart finiteGuard
    simp only
    rw [h1.val]
    cases hf : d.isFinite with
    | error e => exact ⟨h1.inv, h1.gens, rfl⟩
    | ok b =>
      cases b with
      | false => exact ⟨h1.inv, h1.gens, rfl⟩
      | true =>
        have h2 := h1.after (cDigraph_spec h1.inv)
        exact ⟨h2.inv, h2.gens, congrArg (Prod.mk _) h2.val⟩

theorem cGenNext_spec {d : DFA σ α} {key : α → Int} {s : Inst σ α} (h : d.CacheInv key s) (fuel : Nat)
    (g : Gen σ α) : CallSpec d key s (d.cGenNext key s fuel g) (d.pGenNext key fuel g) := by
  cases g with
  | wordsNew k =>
    unfold cGenNext pGenNext
    simp only
    rw [cacheWords_populateWord h.words]
    have hinv : d.CacheInv key { s with words := d.populateWord key s.words k } :=
      ⟨h.counts, (populateWord_spec h.words k).1, h.memo⟩
    cases d.wordsOfLength key k <;> exact ⟨hinv, rfl, rfl⟩
  | wordsRun rest => cases rest <;> exact .refl h _
  | iterNew =>
    unfold cGenNext pGenNext
    have h1 := cIsEmpty_spec h
    simp only
    rw [h1.val]
    cases d.isEmpty with
    | true => exact ⟨h1.inv, h1.gens, rfl⟩
    | false =>
      have h2 := h1.after (cMinLen_spec h1.inv)
      simp only
      rw [h2.val]
      cases d.minimumWordLength with
      | error e => exact ⟨h2.inv, h2.gens, rfl⟩
      | ok i =>
        have h3 := h2.after (cMaxLen_spec h2.inv)
        simp only
        rw [h3.val]
        cases d.maximumWordLength with
        | error e => exact ⟨h3.inv, h3.gens, rfl⟩
        | ok limit => exact h3.after (cIterAdvance_spec fuel i limit [] h3.inv)
  | iterRun i limit rest => exact cIterAdvance_spec fuel i limit rest h
  | succNew skey input o =>
    have h1 := cSuccStart_spec h o.reverse
    unfold cGenNext pGenNext
    simp only
    rw [h1.val]
    cases d.succSetup (d.finiteGuard o.reverse) d.digraph skey input o <;>
      exact ⟨h1.inv, h1.gens, rfl⟩
  | succRun o c st => exact .refl h _
  | raising e => exact .refl h _
  | done => exact .refl h _

theorem CallSpec.sim {β : Type} {d : DFA σ α} {key : α → Int} {s : Inst σ α} {r : Inst σ α × β} {v : β}
    (h : CallSpec d key s r v) (f : β → Ans α) :
    d.CacheInv key r.1 ∧ (s.gens, f v) = (r.1.gens, f r.2) :=
  ⟨h.inv, by rw [h.gens, h.val]⟩

theorem step_sim {d : DFA σ α} {key : α → Int} (ext : Ext σ) {s : Inst σ α}
    (h : d.CacheInv key s) (q : Query α) :
    d.CacheInv key (d.step key ext s q).1 ∧
      d.stepPure key ext s.gens q = ((d.step key ext s q).1.gens, (d.step key ext s q).2) := by
  cases q with
  | accepts w => exact ⟨h, rfl⟩
  | count k => exact (cCountWords_spec h k).sim .nat
  | wordsOpen k => exact ⟨⟨h.counts, h.words, h.memo⟩, rfl⟩
  | iterOpen => exact ⟨⟨h.counts, h.words, h.memo⟩, rfl⟩
  | next hd fuel =>
    simp only [step, stepPure]
    cases hg : s.gens[hd]? with
    | none => exact ⟨h, rfl⟩
    | some g =>
      have h1 := cGenNext_spec h fuel g
      exact ⟨⟨h1.inv.counts, h1.inv.words, h1.inv.memo⟩, by simp only; rw [← h1.val, h1.gens]⟩
  | cardinality => exact (cCardinality_spec h).sim (ansOfRes .nat)
  | len => exact (cCardinality_spec h).sim (ansOfRes .nat)
  | minLen => exact (cMinLen_spec h).sim (ansOfRes .nat)
  | maxLen => exact (cMaxLen_spec h).sim (ansOfRes .optNat)
  | isEmpty => exact (cIsEmpty_spec h).sim .bool
  | isFinite => exact (cIsFinite_spec h).sim (ansOfRes .bool)
  | randomWord k cs =>
    refine ⟨⟨(populateCount_spec h.counts k).1, h.words, h.memo⟩, ?_⟩
    have : d.randomWordCore (cacheCount (d.populateCount s.counts k)) k cs = d.randomWord k cs :=
      randomWordCore_congr d k cs fun r hr => funext (cacheCount_populateCount h.counts k r hr)
    simp only [step, stepPure, this]
  | succs skey input o n fuel =>
    cases n with
    | zero => exact ⟨h, rfl⟩
    | succ n =>
      exact (cSuccStart_spec h o.reverse).sim fun r =>
        let out := takeYields (n + 1) (d.successorsCore r.1 r.2 skey input o fuel)
        .words out.1 out.2
  | first skey input o fuel =>
    exact (cSuccStart_spec h o.reverse).sim fun r =>
      .firstWord (firstOf (d.successorsCore r.1 r.2 skey input o fuel))
  | succOpen skey input o => exact ⟨⟨h.counts, h.words, h.memo⟩, rfl⟩
  | clearCache => exact ⟨⟨rfl, rfl, h.memo⟩, rfl⟩
  | minify tag =>
    simp only [step, stepPure]
    cases d.allowPartial with
    | false => exact ⟨h, rfl⟩
    | true => exact (cDigraph_spec h).sim fun g => .opaque (ext.viaGraph tag g)
  | toPartial tag => exact (cDigraph_spec h).sim fun g => .opaque (ext.viaGraph tag g)
  | other tag => exact ⟨h, rfl⟩

theorem history_sim (d : DFA σ α) (key : α → Int) (ext : Ext σ) (qs : List (Query α)) :
    ∀ (s : Inst σ α), d.CacheInv key s →
      d.CacheInv key (d.afterHistory key ext s qs) ∧
        d.runHistory key ext s qs = d.runPure key ext s.gens qs := by
  induction qs with
  | nil => exact fun s h => ⟨h, rfl⟩
  | cons q qs ih =>
    intro s h
    have hs := step_sim ext h q
    have h2 := ih _ hs.1
    refine ⟨h2.1, ?_⟩
    simp only [runHistory, runPure]
    rw [hs.2, h2.2]

/-- What a call that opens a generator (`words_of_length(k)`, `iter(dfa)`, `successors(…)`) leaves
behind: a coherent instance with the new generator in the next free slot. -/
theorem opened {d : DFA σ α} {key : α → Int} (ext : Ext σ) {s : Inst σ α} (hs : d.CacheInv key s)
    {q : Query α} {g : Gen σ α} (hq : (d.stepPure key ext s.gens q).1 = s.gens ++ [g]) :
    d.CacheInv key (d.step key ext s q).1 ∧ (d.step key ext s q).1.gens[s.gens.length]? = some g := by
  have h := step_sim ext hs q
  refine ⟨h.1, ?_⟩
  rw [← show (d.stepPure key ext s.gens q).1 = (d.step key ext s q).1.gens from congrArg Prod.fst h.2, hq]
  exact List.getElem?_concat_length

end DFA
end AV
