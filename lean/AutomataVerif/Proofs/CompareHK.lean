/-
Proofs/CompareHK.lean — the Hopcroft–Karp loop of Model/DFACompare.lean (`hkLoop`, `hkSymbol`,
with the path-following `ufFind`) is the generic loop `HKG.loop` run with the policy "the first
root survives".  `uf` is the list of merges, newest first: an entry `(c, p)` says that root
`c` was attached below root `p`.
-/
import AutomataVerif.Proofs.HK
import AutomataVerif.Model.DFACompare

namespace AV
namespace HK

variable {X α : Type} [DecidableEq X]

/-- Specification of `find`: replay the merges from the oldest to the newest. -/
def rep : List (X × X) → X → X
  | [], x => x
  | (c, p) :: uf, x => if rep uf x = c then p else rep uf x

/-- Well-formed merge history: each entry attaches a root `c` to a different root `p`. -/
inductive UFok : List (X × X) → Prop
  | nil : UFok []
  | cons {c p : X} {uf : List (X × X)} : UFok uf → alookup c uf = none → alookup p uf = none →
      c ≠ p → UFok ((c, p) :: uf)

theorem UFok.no_self {uf : List (X × X)} (h : UFok uf) :
    ∀ x q, alookup x uf = some q → q ≠ x := by
  induction h with
  | nil => intro x q hq; simp at hq
  | @cons c p uf _ _ _ hcp ih =>
    intro x q hq
    rw [alookup_cons] at hq
    split at hq
    · rename_i hcx; cases hq; subst hcx; exact fun e => hcp e.symm
    · exact ih x q hq

/-- One merge on top of a history: following parents in `(c, p) :: uf` is following them in `uf`
and then taking the one new link `c ↦ p` — the recursion equation that makes `ufFind` compute `rep`.
`hns`: no link is a self-loop, so `ufFind`'s test `p = x` never stops the walk early. -/
theorem ufFind_cons {uf : List (X × X)} {c p : X} (hc : alookup c uf = none)
    (hp : alookup p uf = none) (hcp : c ≠ p) (hns : ∀ x q, alookup x uf = some q → q ≠ x) :
    ∀ (f : Nat) (x : X), alookup (ufFind uf f x) uf = none →
      ufFind ((c, p) :: uf) (f + 1) x = if ufFind uf f x = c then p else ufFind uf f x := by
  have hpc : p ≠ c := fun e => hcp e.symm
  have rootp : ∀ g, ufFind ((c, p) :: uf) g p = p := by
    intro g
    cases g with
    | zero => rfl
    | succ g => simp [ufFind, alookup_cons, hcp, hp]
  intro f
  induction f with
  | zero =>
    intro x hx
    simp only [ufFind] at hx ⊢
    by_cases hcx : c = x
    · subst hcx; simp [alookup_cons, hpc]
    · have hxc : ¬ x = c := fun e => hcx e.symm
      simp [alookup_cons, hcx, hx, hxc]
  | succ f ih =>
    intro x hx
    cases hl : alookup x uf with
    | none =>
      have e1 : ufFind uf (f + 1) x = x := by simp [ufFind, hl]
      rw [e1]
      by_cases hcx : c = x
      · subst hcx
        have : ufFind ((c, p) :: uf) (f + 1 + 1) c = ufFind ((c, p) :: uf) (f + 1) p := by
          simp [ufFind, alookup_cons, hpc]
        rw [this, rootp]; simp
      · have hxc : ¬ x = c := fun e => hcx e.symm
        simp [ufFind, alookup_cons, hcx, hl, hxc]
    | some q =>
      have hqx : q ≠ x := hns x q hl
      have hcx : ¬ c = x := by
        intro e; subst e; rw [hc] at hl; cases hl
      have e1 : ufFind uf (f + 1) x = ufFind uf f q := by simp [ufFind, hl, hqx]
      rw [e1] at hx ⊢
      have : ufFind ((c, p) :: uf) (f + 1 + 1) x = ufFind ((c, p) :: uf) (f + 1) q := by
        simp [ufFind, alookup_cons, hcx, hl, hqx]
      rw [this]
      exact ih q hx

theorem ufFind_eq_rep {uf : List (X × X)} (h : UFok uf) :
    ∀ (f : Nat) (x : X), uf.length ≤ f →
      ufFind uf f x = rep uf x ∧ alookup (rep uf x) uf = none := by
  induction h with
  | nil =>
    intro f x _
    refine ⟨?_, rfl⟩
    cases f <;> simp [ufFind, rep]
  | @cons c p uf hok hc hp hcp ih =>
    intro f x hf
    cases f with
    | zero => simp at hf
    | succ f =>
      have hf' : uf.length ≤ f := by simpa using hf
      obtain ⟨e, hroot⟩ := ih f x hf'
      have := ufFind_cons hc hp hcp hok.no_self f x (by rw [e]; exact hroot)
      rw [this, e]
      refine ⟨rfl, ?_⟩
      simp only [rep]
      by_cases hr : rep uf x = c
      · simp [hr, alookup_cons, hcp, hp]
      · have : ¬ c = rep uf x := fun e => hr e.symm
        simp [hr, alookup_cons, this, hroot]

theorem rep_root {uf : List (X × X)} (h : UFok uf) (x : X) : alookup (rep uf x) uf = none :=
  (ufFind_eq_rep h uf.length x (Nat.le_refl _)).2

theorem rep_of_root {uf : List (X × X)} {r : X} (hr : alookup r uf = none) : rep uf r = r := by
  induction uf with
  | nil => rfl
  | cons e uf ih =>
    obtain ⟨c, p⟩ := e
    rw [alookup_cons] at hr
    split at hr
    · cases hr
    · rename_i hcr
      have hrc : ¬ r = c := fun e => hcr e.symm
      simp [rep, ih hr, hrc]

/-- The root map with the same representatives (`find_toUF`). -/
def toUF : List (X × X) → HKG.UF X
  | [] => ⟨[]⟩
  | (c, p) :: uf => (toUF uf).link p c

theorem find_toUF {uf : List (X × X)} (h : UFok uf) : ∀ x, (toUF uf).find x = rep uf x := by
  induction h with
  | nil => exact fun _ => rfl
  | @cons c p uf _ hc _ _ ih =>
    intro x
    show ((toUF uf).link p c).find x = _
    rw [HKG.UF.find_link _ p c (by rw [ih, rep_of_root hc]) x, ih x]
    rfl

/-- The linking direction of `hkSymbol`: the representative of the first successor survives. -/
def firstWins : HKG.UF X → X → X → Bool := fun _ _ _ => true

variable {step : X → α → X} {fin : X → Bool} {syms : List α}

theorem hkSymbol_sim (qa qb : X) (a : α) {acc : List (X × X) × List (X × X)} (hok : UFok acc.1) :
    UFok (hkSymbol step qa qb acc a).1 ∧
    HKG.stepSym step firstWins qa qb (toUF acc.1, acc.2) a =
      (toUF (hkSymbol step qa qb acc a).1, (hkSymbol step qa qb acc a).2) := by
  obtain ⟨e1, hr1⟩ := ufFind_eq_rep hok (acc.1.length + 1) (step qa a) (Nat.le_succ _)
  obtain ⟨e2, hr2⟩ := ufFind_eq_rep hok (acc.1.length + 1) (step qb a) (Nat.le_succ _)
  rw [HKG.stepSym_eq]
  simp only [hkSymbol, e1, e2, find_toUF hok]
  split
  · exact ⟨hok, rfl⟩
  · rename_i hne
    exact ⟨UFok.cons hok hr2 hr1 fun e => hne e.symm, rfl⟩

theorem hkFold_sim (qa qb : X) (l : List α) (acc : List (X × X) × List (X × X)) (hok : UFok acc.1) :
    UFok (l.foldl (hkSymbol step qa qb) acc).1 ∧
    l.foldl (HKG.stepSym step firstWins qa qb) (toUF acc.1, acc.2) =
      (toUF (l.foldl (hkSymbol step qa qb) acc).1, (l.foldl (hkSymbol step qa qb) acc).2) :=
  List.foldl_rel (r := fun x (acc : List (X × X) × List (X × X)) =>
      UFok acc.1 ∧ x = (toUF acc.1, acc.2)) ⟨hok, rfl⟩
    fun a _ _ _ ⟨hok, e⟩ => let ⟨h1, h2⟩ := hkSymbol_sim (step := step) qa qb a hok; ⟨h1, e ▸ h2⟩

theorem hkLoop_eq_loop : ∀ (f : Nat) (uf stack : List (X × X)), UFok uf →
    hkLoop step fin syms f uf stack =
      (HKG.loop step fin syms firstWins f (toUF uf) stack).getD true := by
  intro f
  induction f with
  | zero => exact fun _ _ _ => rfl
  | succ f ih =>
    intro uf stack hok
    cases stack with
    | nil => rfl
    | cons e stack =>
      obtain ⟨qa, qb⟩ := e
      obtain ⟨hok', e⟩ := hkFold_sim (step := step) qa qb syms (uf, stack) hok
      simp only [hkLoop, HKG.loop, e]
      split
      · rfl
      · exact ih _ _ hok'

theorem hkLoop_eq_run {x y : X} (hxy : x ≠ y) (f : Nat) :
    hkLoop step fin syms f [(y, x)] [(x, y)] =
      (HKG.run step fin syms firstWins f x y).getD true := by
  rw [hkLoop_eq_loop f _ _ (UFok.cons UFok.nil rfl rfl fun e => hxy e.symm)]
  simp only [HKG.run, if_neg hxy]
  rfl

theorem hkLoop_iff {U : List X} (hU : ∀ x ∈ U, ∀ a ∈ syms, step x a ∈ U) {x y : X}
    (hx : x ∈ U) (hy : y ∈ U) (hxy : x ≠ y) {f : Nat} (hf : U.length + 2 ≤ f) :
    hkLoop step fin syms f [(y, x)] [(x, y)] = true ↔ HKG.LangEq step fin syms x y := by
  rw [hkLoop_eq_run hxy]
  cases hr : HKG.run step fin syms firstWins f x y with
  | none => exact absurd hr (HKG.run_ne_none step fin syms firstWins U hU x y hx hy f hf)
  | some v => exact HKG.run_iff step fin syms firstWins f x y v hr

end HK
end AV
