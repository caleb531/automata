/-
Proofs/MinifyCorrect.lean — `_minify` applied to a source that describes a DFA `d`:
language, validity, minimality, names (core only).

`MinifyCall` / `MinifyCoreOk` are the contract between a caller of `_minify` and `_minify` itself;
`minifyCoreOk_of_call` discharges it for every call and pop order; `quotHyp_of_call` is where the
quotient (Proofs/MinQuotient.lean) meets `hopcroft_nerode` (Proofs/Hopcroft.lean).

`MinSource d kept finals` says that the arguments `(kept, d.syms, d.trans, d.init, finals)`
handed to `_minify` satisfy the callers' guarantees and that the refinement system has, from
every kept state, the right language of that state in `d`.  Every kept set in use is a `Kept`
set of the DFA described (Proofs/MinPrepass.lean), which `Kept.source` turns into a source: the
pre-pass of `minify` and of `to_partial`, the reachable states for `complement` (describing
`complementPlain c`), and all states of a DFA built by `_expand_dfa`.
-/
import AutomataVerif.Proofs.Complete
import AutomataVerif.Proofs.MinPrepass
import AutomataVerif.Proofs.MinQuotient
import AutomataVerif.Proofs.Hopcroft

namespace AV

namespace C04
open DFA
variable {σ α : Type} [DecidableEq σ] [DecidableEq α]

/-- What the caller of `_minify` must guarantee. -/
structure MinifyCall (kept : List σ) (syms : List α) (trans : List (σ × List (α × σ))) (init : σ)
    (finals : List σ) : Prop where
  minHyp : MinHyp kept syms trans init finals
  rows_nodup : ∀ q r, alookup q trans = some r → (akeys r).Nodup
  reach : ∀ q ∈ kept, ∃ w, mrun kept trans (some init) w = some q

/-- What `_minify` guarantees in return. -/
structure MinifyCoreOk (kept : List σ) (syms : List α) (trans : List (σ × List (α × σ))) (init : σ)
    (finals : List σ) (pick : List Nat → Nat) : Prop where
  valid : (minifyCore kept syms trans init finals pick).validate = .ok ()
  pyShape : (minifyCore kept syms trans init finals pick).PyShape
  accepts : ∀ w, (minifyCore kept syms trans init finals pick).accepts w =
    mfin finals (mrun kept trans (some init) w)

end C04

namespace DFA

variable {σ τ α : Type} [DecidableEq σ] [DecidableEq τ] [DecidableEq α]

section call
variable {kept : List σ} {syms : List α} {trans : List (σ × List (α × σ))} {init : σ}
  {finals : List σ} (h : C04.MinifyCall kept syms trans init finals) (pick : List Nat → Nat)
include h

/-- The loop meets the quotient: the partition `hopcroft` computes is one the quotient lemmas
accept. -/
theorem quotHyp_of_call :
    QuotHyp kept syms trans init finals (hopcroft kept syms trans finals pick) :=
  QuotHyp.of_hopcroft h.minHyp h.rows_nodup (hopcroft_nerode h.minHyp pick)

theorem _root_.AV.C04.minifyCoreOk_of_call : C04.MinifyCoreOk kept syms trans init finals pick := by
  have H := quotHyp_of_call h pick
  refine ⟨(validate_eq_ok _).mpr ?_, ?_, minifyCore_accepts h.minHyp h.rows_nodup ⟨H.part, H.same⟩⟩ <;>
    rw [minifyCore_eq]
  · exact quotOf_wf H h.reach
  · exact quotOf_pyShape H

end call

/-- The arguments `(kept, d.syms, d.trans, d.init, finals)` of `_minify` describe `d`. -/
structure MinSource (d : DFA σ α) (kept finals : List σ) : Prop where
  hyp : MinHyp kept d.syms d.trans d.init finals
  rows_nodup : ∀ q r, alookup q d.trans = some r → (akeys r).Nodup
  reach : ∀ q ∈ kept, ∃ w, mrun kept d.trans (some d.init) w = some q
  lang : ∀ q ∈ kept, ∀ w,
    mfin finals (mrun kept d.trans (some q) w) = d.isFinal (d.run (some q) w)

section source
variable {d : DFA σ α} {kept finals : List σ} (S : MinSource d kept finals)
  (pick : List Nat → Nat)
include S

theorem _root_.AV.C04.minifyCall_of_source : C04.MinifyCall kept d.syms d.trans d.init finals :=
  ⟨S.hyp, S.rows_nodup, S.reach⟩

theorem MinSource.ok : C04.MinifyCoreOk kept d.syms d.trans d.init finals pick :=
  C04.minifyCoreOk_of_call (C04.minifyCall_of_source S) pick

theorem MinSource.quotHyp :
    QuotHyp kept d.syms d.trans d.init finals (hopcroft kept d.syms d.trans finals pick) :=
  quotHyp_of_call (C04.minifyCall_of_source S) pick

theorem MinSource.equiv_iff {q q' : σ} (hq : q ∈ kept) (hq' : q' ∈ kept) :
    MEquiv kept d.trans finals (some q) (some q') ↔
      ∀ w, d.isFinal (d.run (some q) w) = d.isFinal (d.run (some q') w) :=
  forall_congr' fun w => by rw [S.lang q hq, S.lang q' hq']

theorem MinSource.equiv_trap_iff {q : σ} (hq : q ∈ kept) :
    MEquiv kept d.trans finals (some q) none ↔ ¬ d.Live q := by
  unfold MEquiv Live
  constructor
  · rintro h ⟨w, hw⟩
    have := h w
    rw [S.lang q hq, hw, mfin_mrun_none] at this
    cases this
  · intro h w
    rw [S.lang q hq, mfin_mrun_none]
    cases hf : d.isFinal (d.run (some q) w) with
    | false => rfl
    | true => exact absurd ⟨w, hf⟩ h

theorem MinSource.sys_accepts (w : List α) :
    mfin finals (mrun kept d.trans (some d.init) w) = d.accepts w :=
  S.lang d.init S.hyp.init_mem w

theorem MinSource.accepts (w : List α) :
    (minifyCore kept d.syms d.trans d.init finals pick).accepts w = d.accepts w := by
  rw [(S.ok pick).accepts]
  exact S.sys_accepts w

theorem MinSource.valid : (minifyCore kept d.syms d.trans d.init finals pick).validate = .ok () :=
  (S.ok pick).valid

theorem MinSource.wf : (minifyCore kept d.syms d.trans d.init finals pick).WF :=
  (validate_eq_ok _).mp (S.valid pick)

theorem MinSource.pyShape : (minifyCore kept d.syms d.trans d.init finals pick).PyShape :=
  (S.ok pick).pyShape

omit S in
theorem minifyCore_syms (kept : List σ) (syms : List α) (trans : List (σ × List (α × σ)))
    (init : σ) (finals : List σ) (pick : List Nat → Nat) :
    (minifyCore kept syms trans init finals pick).syms = syms := by
  rw [minifyCore_eq]; exact quotOf_syms

theorem MinSource.reachable :
    ∀ n ∈ (minifyCore kept d.syms d.trans d.init finals pick).states,
      ∃ w, (minifyCore kept d.syms d.trans d.init finals pick).run
        (some (minifyCore kept d.syms d.trans d.init finals pick).init) w = some n := by
  rw [minifyCore_eq]; exact quotOf_reachable (S.quotHyp pick) S.reach

theorem MinSource.distinguishable :
    ∀ n ∈ (minifyCore kept d.syms d.trans d.init finals pick).states,
    ∀ n' ∈ (minifyCore kept d.syms d.trans d.init finals pick).states, n ≠ n' →
      ∃ w, (minifyCore kept d.syms d.trans d.init finals pick).isFinal
          ((minifyCore kept d.syms d.trans d.init finals pick).run (some n) w) ≠
        (minifyCore kept d.syms d.trans d.init finals pick).isFinal
          ((minifyCore kept d.syms d.trans d.init finals pick).run (some n') w) := by
  rw [minifyCore_eq]; exact quotOf_distinguishable (S.quotHyp pick)

theorem MinSource.live
    (hp : (minifyCore kept d.syms d.trans d.init finals pick).allowPartial = true) :
    ∀ n ∈ (minifyCore kept d.syms d.trans d.init finals pick).states,
      (minifyCore kept d.syms d.trans d.init finals pick).Live n := by
  rw [minifyCore_eq] at hp ⊢; exact quotOf_live (S.quotHyp pick) hp

theorem MinSource.complete_of_noTrap (hnt : needTrap kept d.syms d.trans = false) :
    (minifyCore kept d.syms d.trans d.init finals pick).allowPartial = false := by
  rw [minifyCore_eq]; exact quotOf_complete_of_noTrap (S.quotHyp pick) hnt

theorem MinSource.size_le :
    (minifyCore kept d.syms d.trans d.init finals pick).states.length ≤ kept.length := by
  rw [minifyCore_eq]; exact quotOf_size_le (S.quotHyp pick)

theorem MinSource.minimal_complete
    (B : DFA τ α) (wfB : B.WF) (hBc : B.allowPartial = false) (hsyms : ∀ a ∈ d.syms, a ∈ B.syms)
    (hlang : ∀ w, B.accepts w = d.accepts w) (L : List τ) (hL : ∀ t ∈ B.states, t ∈ L) :
    (minifyCore kept d.syms d.trans d.init finals pick).states.length ≤ L.length :=
  minimal_of_reachable_distinguishable_complete'' _ B (S.pyShape pick).states_nodup
    (S.reachable pick) (S.distinguishable pick)
    (fun s _ ha => step?_foreign (S.wf pick) s fun h =>
      ha (hsyms _ (minifyCore_syms kept d.syms d.trans d.init finals pick ▸ h)))
    wfB hBc (fun w => by rw [hlang, S.accepts pick]) L hL

theorem MinSource.minimal_partial
    (hp : (minifyCore kept d.syms d.trans d.init finals pick).allowPartial = true)
    (B : DFA τ α) (wfB : B.WF) (hlang : ∀ w, B.accepts w = d.accepts w) :
    (minifyCore kept d.syms d.trans d.init finals pick).states.length ≤ B.liveStates.length :=
  (minimal_of_reachable_distinguishable_partial _ B (S.pyShape pick).states_nodup
    (S.reachable pick) (S.distinguishable pick) (S.live pick hp) wfB
    (fun w => by rw [hlang, S.accepts pick])).1

/-- Names: a state is `zero` only if it is the only state and the language is empty;
otherwise it is `blk l` where `l` is non-empty and is exactly the set of kept states with
the right language of any of its members. -/
theorem MinSource.names :
    ∀ n ∈ (minifyCore kept d.syms d.trans d.init finals pick).states,
      (n = MinName.zero ∧
        (minifyCore kept d.syms d.trans d.init finals pick).states = [MinName.zero] ∧
        ∀ w, d.accepts w = false) ∨
      ∃ l, n = MinName.blk l ∧ l ≠ [] ∧ (∀ q ∈ l, q ∈ kept) ∧
        ∀ q ∈ l, ∀ q' ∈ kept,
          (q' ∈ l ↔ ∀ w, d.isFinal (d.run (some q) w) = d.isFinal (d.run (some q') w)) := by
  intro n hn
  rw [minifyCore_eq] at hn ⊢
  rcases quotOf_names (S.quotHyp pick) n hn with ⟨h1, h2, h3⟩ | ⟨l, h1, h2, h3, h4⟩
  · refine Or.inl ⟨h1, h2, fun w => ?_⟩
    have := h3 d.init S.hyp.init_mem w
    rwa [mfin_mrun_none, S.sys_accepts] at this
  · refine Or.inr ⟨l, h1, h2, h3, fun q hq q' hq' => ?_⟩
    rw [h4 q hq q' hq', S.equiv_iff (h3 q hq) hq']

theorem MinSource.disjoint {l l' : List σ}
    (hl : MinName.blk l ∈ (minifyCore kept d.syms d.trans d.init finals pick).states)
    (hl' : MinName.blk l' ∈ (minifyCore kept d.syms d.trans d.init finals pick).states) {q : σ}
    (hq : q ∈ l) (hq' : q ∈ l') : l = l' := by
  rw [minifyCore_eq] at hl hl'
  exact quotOf_disjoint (S.quotHyp pick) hl hl' hq hq'

theorem MinSource.cover {q : σ} (hq : q ∈ kept) (hl : d.Live q) :
    ∃ l, MinName.blk l ∈ (minifyCore kept d.syms d.trans d.init finals pick).states ∧ q ∈ l := by
  rw [minifyCore_eq]
  exact quotOf_cover (S.quotHyp pick) hq fun _ he => (S.equiv_trap_iff hq).mp he hl

theorem MinSource.cover_noTrap {q : σ} (hq : q ∈ kept) (hnt : needTrap kept d.syms d.trans = false) :
    ∃ l, MinName.blk l ∈ (minifyCore kept d.syms d.trans d.init finals pick).states ∧ q ∈ l := by
  rw [minifyCore_eq]
  refine quotOf_cover (S.quotHyp pick) hq fun hU => ?_
  rw [mem_muniverse_none, hnt] at hU
  cases hU

end source

theorem Kept.source {d : DFA σ α} {K fin : List σ} (h : Kept d K) (wf : d.WF) (ps : d.PyShape)
    (hfin : ∀ q, q ∈ fin ↔ q ∈ K ∧ q ∈ d.finals) : MinSource d K fin where
  hyp := h.minHyp wf ps.syms_nodup fun q hq => ((hfin q).mp hq).1
  rows_nodup := fun q r hr => ps.rows_nodup (q, r) (alookup_some_mem hr)
  reach := h.reach ps.rows_nodup
  lang := fun _ hq w =>
    right_lang_of_dead h.dead (fun q hq => by rw [hfin]; exact and_iff_right hq) hq w

/-- The form in which `minify` and `to_partial` compute `reachable_final_states`. -/
theorem Kept.source_filter {d : DFA σ α} {K : List σ} (h : Kept d K) (wf : d.WF) (ps : d.PyShape) :
    MinSource d K (d.finals.filter fun q => decide (q ∈ K)) :=
  h.source wf ps fun q => by rw [List.mem_filter, decide_eq_true_eq, and_comm]

theorem minify_source {d : DFA σ α} (wf : d.WF) (ps : d.PyShape) :
    MinSource d d.minifyKept d.minifyFinals :=
  (kept_minifyKept wf).source_filter wf ps

theorem minify_eq (d : DFA σ α) (pick : List Nat → Nat) :
    d.minify pick = minifyCore d.minifyKept d.syms d.trans d.init d.minifyFinals pick := rfl

/-- On a complete table no reachable state misses a move, so no trap is needed. -/
theorem noTrap_accessible {d : DFA σ α} (wf : d.WF) (hc : d.IsComplete) :
    needTrap d.accessible d.syms d.trans = false := by
  rw [needTrap_eq_false_iff]
  intro q hq a ha
  obtain ⟨t, ht, _⟩ := step?_of_isComplete wf hc ((kept_accessible wf).sub q hq) ha
  exact ⟨t, (mdelta_of_step? ht).trans (if_pos (accessible_step wf hq ht))⟩

theorem minify_noTrap_of_complete {d : DFA σ α} (wf : d.WF) (hc : d.allowPartial = false) :
    needTrap d.minifyKept d.syms d.trans = false := by
  rw [minifyKept_of_complete hc]
  exact noTrap_accessible wf (wf.complete hc)

theorem minify_size_le {d : DFA σ α} (wf : d.WF) (ps : d.PyShape) (pick : List Nat → Nat) :
    (d.minify pick).states.length ≤ d.states.length :=
  Nat.le_trans ((minify_source wf ps).size_le pick)
    (List.Nodup.length_le_of_subset (kept_minifyKept wf).nodup (kept_minifyKept wf).sub)

/-- All states of a DFA whose states are all reachable may be kept: nothing is pruned. -/
theorem kept_states {d : DFA σ α} (wf : d.WF) (hnd : d.states.Nodup)
    (hreach : ∀ q ∈ d.states, ∃ w, d.run (some d.init) w = some q) : Kept d d.states where
  nodup := hnd
  init_mem := wf.initOk
  sub := fun _ h => h
  reach := fun _ q hq => let ⟨w, hw⟩ := hreach q hq; ⟨w, (mrun_states wf _ w).trans hw⟩
  dead := fun _ _ _ _ hs ht => absurd (step?_mem wf hs) ht

/-- A valid Python-shaped DFA all of whose states are reachable, handed to `_minify` with
`kept = states` (what `_expand_dfa(..., minify=True)` does). -/
theorem minSource_of_trim {d : DFA σ α} (wf : d.WF) (ps : d.PyShape)
    (hreach : ∀ q ∈ d.states, ∃ w, d.run (some d.init) w = some q) :
    MinSource d d.states d.finals :=
  (kept_states wf ps.states_nodup hreach).source wf ps fun q =>
    ⟨fun h => ⟨wf.finalsOk q h, h⟩, And.right⟩

/-- On a complete table (whatever its flag says) the reachable states, with the non-final ones
among them as final states, describe `complementPlain c`, whose table and initial state are those
of `c`. -/
theorem complementPlain_source {c : DFA σ α} (wf : c.WF) (hc : c.IsComplete) (ps : c.PyShape) :
    MinSource c.complementPlain c.accessible (c.accessible.filter fun q => decide (q ∉ c.finals)) := by
  have wf' := C04.complementPlain_wf wf hc
  have K : Kept c.complementPlain c.accessible := kept_accessible wf'
  refine K.source wf' (C04.complementPlain_pyShape ps) fun q => ?_
  show q ∈ List.filter _ _ ↔ q ∈ c.accessible ∧ q ∈ List.filter _ c.states
  rw [List.mem_filter, List.mem_filter]
  exact ⟨fun h => ⟨h.1, K.sub q h.1, h.2⟩, fun h => ⟨h.1, h.2.2⟩⟩

set_option linter.unusedSectionVars false in
theorem complementPlain_wf {c : DFA σ α} (wf : c.WF) (hc : c.allowPartial = false) :
    c.complementPlain.WF :=
  C04.complementPlain_wf wf (wf.complete hc)

/-- The arguments of `complement(minify=True)` (called on a complete table) describe
`complementPlain c`. -/
theorem complementMin_source {c : DFA σ α} (wf : c.WF) (hc : c.allowPartial = false)
    (ps : c.PyShape) :
    MinSource c.complementPlain c.complementPlain.minifyKept
      (c.complementPlain.minifyKept.filter fun q => decide (q ∉ c.finals)) := by
  -- `complementPlain c` is declared complete and has the table of `c`
  rw [show c.complementPlain.minifyKept = c.accessible from minifyKept_of_complete rfl]
  exact complementPlain_source wf (wf.complete hc) ps

theorem complementMin_eq (c : DFA σ α) (pick : List Nat → Nat) :
    c.complementMin pick =
      minifyCore c.complementPlain.minifyKept c.complementPlain.syms c.complementPlain.trans
        c.complementPlain.init
        (c.complementPlain.minifyKept.filter fun q => decide (q ∉ c.finals)) pick := rfl

/-- `to_partial(minify=True)` is `minify` of the same table flagged partial. -/
theorem toPartialMin_eq (d : DFA σ α) (pick : List Nat → Nat) :
    d.toPartialMin pick = ({ d with allowPartial := true } : DFA σ α).minify pick := by
  -- the definitions are unfolded first because `rfl` alone is slow: the unifier opens `minifyCore`
  simp only [toPartialMin, minify, minifyKept, if_true]
  rfl

end DFA
end AV
