/-
Proofs/NFAOpsLQ.lean — table-level specification of `NFA.left_quotient`
(Model/NFAOps.lean), given the specifications of the two `_eliminate_lambda` results (the
shared inner loop `quotientSync` is read in Proofs/NFAOpsRQ.lean).  Core only.
-/
import AutomataVerif.Proofs.NFAOpsRQ

open AV.AL

namespace AV
namespace NFA
open AV.NFAElim

namespace LQ

variable {σ₁ σ₂ α : Type} [DecidableEq σ₁] [DecidableEq σ₂] [DecidableEq α]

/-- Body of `for (qa, qb) in product(ra, rb)`. -/
def step1 (syms : List α) (ta : Tbl σ₁ α) (tb : Tbl σ₂ α) (fb : List σ₂)
    (t : Tbl (σ₁ × σ₂ × Bool) α) (p : σ₁ × σ₂) : Tbl (σ₁ × σ₂ × Bool) α :=
  if p.2 ∈ fb then
    Tbl.addTargets (quotientSync syms ta tb false (Tbl.touch t (p.1, p.2, false)) p.1 p.2)
      (p.1, p.2, false) none [(p.1, p.2, true)]
  else quotientSync syms ta tb false (Tbl.touch t (p.1, p.2, false)) p.1 p.2

/-- The ε-moves loop 1 gives to `(c.1, c.2, false)`. -/
def Edge1 (syms : List α) (ta : Tbl σ₁ α) (tb : Tbl σ₂ α) (fb : List σ₂) (c : σ₁ × σ₂)
    (p : σ₁ × σ₂ × Bool) : Prop :=
  (∃ a ∈ syms, ∃ pa ∈ Tbl.tgt ta c.1 (some a), ∃ pb ∈ Tbl.tgt tb c.2 (some a), p = (pa, pb, false)) ∨
  (c.2 ∈ fb ∧ p = (c.1, c.2, true))

theorem mem_tgt_step1 (syms : List α) (ta : Tbl σ₁ α) (tb : Tbl σ₂ α) (fb : List σ₂)
    (t : Tbl (σ₁ × σ₂ × Bool) α) (c : σ₁ × σ₂) (q : σ₁ × σ₂ × Bool) (a' : Option α)
    (p : σ₁ × σ₂ × Bool) :
    p ∈ Tbl.tgt (step1 syms ta tb fb t c) q a' ↔ p ∈ Tbl.tgt t q a' ∨
      (q = (c.1, c.2, false) ∧ a' = none ∧ Edge1 syms ta tb fb c p) := by
  unfold step1 Edge1
  split
  · rename_i hf
    rw [Tbl.mem_tgt_addTargets, mem_tgt_quotientSync, Tbl.tgt_touch, List.mem_singleton, or_assoc,
      ← and_or_left, ← and_or_left, and_iff_right hf]
  · rename_i hf
    rw [mem_tgt_quotientSync, Tbl.tgt_touch, or_iff_left fun h : _ ∧ _ => hf h.1]

theorem mem_tgt_loop1 (syms : List α) (ta : Tbl σ₁ α) (tb : Tbl σ₂ α) (fb : List σ₂)
    (l : List (σ₁ × σ₂)) (q : σ₁ × σ₂ × Bool) (a' : Option α) (p : σ₁ × σ₂ × Bool) :
    p ∈ Tbl.tgt (l.foldl (step1 syms ta tb fb) []) q a' ↔
      ∃ c ∈ l, q = (c.1, c.2, false) ∧ a' = none ∧ Edge1 syms ta tb fb c p :=
  (Tbl.mem_tgt_foldl _ _ (mem_tgt_step1 syms ta tb fb) l [] q a' p).trans
    (or_iff_right List.not_mem_nil)

theorem ext_step1 {S : Option α → Prop} {T : σ₁ × σ₂ × Bool → Prop}
    (syms : List α) (ta : Tbl σ₁ α) (tb : Tbl σ₂ α) (fb : List σ₂)
    (t : Tbl (σ₁ × σ₂ × Bool) α) (c : σ₁ × σ₂) (hS : S none)
    (hT : ∀ a, ∀ pa ∈ Tbl.tgt ta c.1 (some a), ∀ pb ∈ Tbl.tgt tb c.2 (some a), T (pa, pb, false))
    (hF : c.2 ∈ fb → T (c.1, c.2, true)) :
    Tbl.Ext S T t (step1 syms ta tb fb t c) ∧ (c.1, c.2, false) ∈ akeys (step1 syms ta tb fb t c) := by
  have e := ext_quotientSync syms ta tb false c.1 c.2 (Tbl.touch t (c.1, c.2, false)) hS hT
  have hk := e.keys _ (Tbl.mem_akeys_touch.mpr (Or.inl rfl))
  unfold step1
  split
  · rename_i hf
    have e' := Tbl.Ext.add (quotientSync syms ta tb false (Tbl.touch t (c.1, c.2, false)) c.1 c.2)
      (c.1, c.2, false) (xs := [(c.1, c.2, true)]) hS fun p hp => List.mem_singleton.mp hp ▸ hF hf
    exact ⟨((Tbl.Ext.touch t _).trans e).trans e', e'.keys _ hk⟩
  · exact ⟨(Tbl.Ext.touch t _).trans e, hk⟩

/-- Body of `for (qa, qb) in product(ra, fb)`. -/
def step2 (ta : Tbl σ₁ α) (t : Tbl (σ₁ × σ₂ × Bool) α) (p : σ₁ × σ₂) : Tbl (σ₁ × σ₂ × Bool) α :=
  match alookup p.1 ta with
  | some old => old.foldl (fun t e => Tbl.setTargets t (p.1, p.2, true) e.1
      (e.2.map fun q => (q, p.2, true))) (Tbl.touch t (p.1, p.2, true))
  | none => Tbl.touch t (p.1, p.2, true)

theorem step2_eq (ta : Tbl σ₁ α) (t : Tbl (σ₁ × σ₂ × Bool) α) (p : σ₁ × σ₂) :
    step2 ta t p = Tbl.setRow (p.1, p.2, true) (List.map fun q => (q, p.2, true))
      ((alookup p.1 ta).getD []) (Tbl.touch t (p.1, p.2, true)) := by
  unfold step2 Tbl.setRow
  cases alookup p.1 ta <;> rfl

/-- What the iteration for `c` makes of the reading of the row of `(c.1, c.2, true)`: a copy
of `ta`'s row of `c.1` (`d` is the former content, kept for the symbols that row does not have). -/
def row2 (ta : Tbl σ₁ α) (c : σ₁ × σ₂) (a : Option α) (d : List (σ₁ × σ₂ × Bool)) :
    List (σ₁ × σ₂ × Bool) :=
  ((alookup a ((alookup c.1 ta).getD [])).map (List.map fun e => (e, c.2, true))).getD d

theorem tgt_step2_ne (ta : Tbl σ₁ α) (t : Tbl (σ₁ × σ₂ × Bool) α) (c : σ₁ × σ₂)
    (x : σ₁ × σ₂ × Bool) (a : Option α) (h : x ≠ (c.1, c.2, true)) :
    Tbl.tgt (step2 ta t c) x a = Tbl.tgt t x a := by
  rw [step2_eq, Tbl.tgt_setRow_ne _ _ h, Tbl.tgt_touch]

theorem tgt_loop2 (ta : Tbl σ₁ α) (hd : Tbl.Dict ta) {c : σ₁ × σ₂} {l : List (σ₁ × σ₂)} (hc : c ∈ l)
    (t : Tbl (σ₁ × σ₂ × Bool) α) (a : Option α) :
    Tbl.tgt (l.foldl (step2 ta) t) (c.1, c.2, true) a = row2 ta c a (Tbl.tgt t (c.1, c.2, true) a) :=
  Tbl.tgt_foldl_self (step2 ta) (fun c => (c.1, c.2, true)) (row2 ta)
    (fun c c' e => Prod.ext (Prod.mk.inj e).1 (Prod.mk.inj (Prod.mk.inj e).2).1)
    (fun t c a => by rw [step2_eq, Tbl.tgt_setRow_self _ _ _ _ (Tbl.row_nodup hd c.1), Tbl.tgt_touch]; rfl)
    (tgt_step2_ne ta)
    (fun c a d => by unfold row2; cases alookup a ((alookup c.1 ta).getD []) <;> rfl) a l t hc

theorem tgt_loop2_false (ta : Tbl σ₁ α) (l : List (σ₁ × σ₂)) (t : Tbl (σ₁ × σ₂ × Bool) α) (qa : σ₁)
    (qb : σ₂) (a : Option α) : Tbl.tgt (l.foldl (step2 ta) t) (qa, qb, false) a = Tbl.tgt t (qa, qb, false) a :=
  Tbl.tgt_foldl_other (step2 ta) (fun c => (c.1, c.2, true)) (tgt_step2_ne ta) a l t
    fun _ _ e => nomatch (Prod.mk.inj (Prod.mk.inj e).2).2

theorem ext_step2 {S : Option α → Prop} {T : σ₁ × σ₂ × Bool → Prop}
    (ta : Tbl σ₁ α) (t : Tbl (σ₁ × σ₂ × Bool) α) (c : σ₁ × σ₂)
    (h : ∀ e ∈ (alookup c.1 ta).getD [], S e.1 ∧ ∀ p ∈ e.2, T (p, c.2, true)) :
    Tbl.Ext S T t (step2 ta t c) := by
  rw [step2_eq]
  refine (Tbl.Ext.touch t _).trans (Tbl.Ext.setRow _ _ _ _ fun e he => ⟨(h e he).1, fun p hp => ?_⟩)
  obtain ⟨x, hx, rfl⟩ := List.mem_map.mp hp
  exact (h e he).2 x hx

def lqStates (ra : List σ₁) (rb fb : List σ₂) : List (σ₁ × σ₂ × Bool) :=
  dedup (((lprod ra rb).map fun p => (p.1, p.2, false)) ++
         (lprod ra fb).map fun p => (p.1, p.2, true))

omit [DecidableEq α] in
theorem mem_lqStates_false {ra : List σ₁} {rb fb : List σ₂} {qa : σ₁} {qb : σ₂} (ha : qa ∈ ra)
    (hb : qb ∈ rb) : (qa, qb, false) ∈ lqStates ra rb fb :=
  mem_dedup.mpr (List.mem_append_left _ (mem_map_lprod_flag.mpr ⟨qa, ha, qb, hb, rfl⟩))

omit [DecidableEq α] in
theorem mem_lqStates_true {ra : List σ₁} {rb fb : List σ₂} {qa : σ₁} {qb : σ₂} (ha : qa ∈ ra)
    (hb : qb ∈ fb) : (qa, qb, true) ∈ lqStates ra rb fb :=
  mem_dedup.mpr (List.mem_append_right _ (mem_map_lprod_flag.mpr ⟨qa, ha, qb, hb, rfl⟩))

/-- The record `left_quotient` passes to the constructor. -/
def raw (A : NFA σ₁ α) (B : NFA σ₂ α) (ra : List σ₁) (ta : Tbl σ₁ α) (fa : List σ₁)
    (rb : List σ₂) (tb : Tbl σ₂ α) (fb : List σ₂) : NFA (σ₁ × σ₂ × Bool) α :=
  { states := lqStates ra rb fb, syms := sunion A.syms B.syms,
    trans := (lprod ra fb).foldl (step2 ta)
      ((lprod ra rb).foldl (step1 (sunion A.syms B.syms) ta tb fb) []),
    init := (A.init, B.init, false),
    finals := (lprod fa fb).map fun p => (p.1, p.2, true) }

theorem leftQuotient_eq (A : NFA σ₁ α) (B : NFA σ₂ α)
    (ra : List σ₁) (ta : Tbl σ₁ α) (fa : List σ₁) (rb : List σ₂) (tb : Tbl σ₂ α) (fb : List σ₂)
    (hca : NFAElim.core A = .ok (ra, ta, fa)) (hcb : NFAElim.core B = .ok (rb, tb, fb)) :
    leftQuotient A B = create (raw A B ra ta fa rb tb fb) := by
  unfold leftQuotient
  rw [hca, hcb]
  rfl

theorem raw_valid (A : NFA σ₁ α) (B : NFA σ₂ α)
    (ra : List σ₁) (ta : Tbl σ₁ α) (fa : List σ₁) (rb : List σ₂) (tb : Tbl σ₂ α) (fb : List σ₂)
    (sa : ElimSpec A ra ta fa) (sb : ElimSpec B rb tb fb) :
    (raw A B ra ta fa rb tb fb).Valid := by
  have e1 : ∀ c ∈ lprod ra rb, ∀ t,
      Tbl.Ext (SymOk (sunion A.syms B.syms)) (· ∈ lqStates ra rb fb) t
        (step1 (sunion A.syms B.syms) ta tb fb t c) ∧
      (c.1, c.2, false) ∈ akeys (step1 (sunion A.syms B.syms) ta tb fb t c) := fun c hc t =>
    ext_step1 _ ta tb fb t c (symOk_none _)
      (fun a pa hpa pb hpb => mem_lqStates_false
        (sa.closed _ (mem_lprod.mp hc).1 _ pa hpa) (sb.closed _ (mem_lprod.mp hc).2 _ pb hpb))
      (mem_lqStates_true (mem_lprod.mp hc).1)
  have e2 : ∀ c ∈ lprod ra fb, ∀ t,
      Tbl.Ext (SymOk (sunion A.syms B.syms)) (· ∈ lqStates ra rb fb) t (step2 ta t c) := fun c hc t =>
    ext_step2 ta t c fun e he =>
      ⟨fun x hx => mem_sunion.mpr (Or.inl ((sa.rowOk (mem_lprod.mp hc).1 e he).1 x hx)),
       fun p hp => mem_lqStates_true ((sa.rowOk (mem_lprod.mp hc).1 e he).2 p hp)
         (mem_lprod.mp hc).2⟩
  have hi := mem_lprod.mpr ⟨sa.init_mem, sb.init_mem⟩
  refine Valid.of_ext ((Tbl.Ext.foldl _ _ [] fun c hc t => (e1 c hc t).1).trans (Tbl.Ext.foldl _ _ _ e2))
    Tbl.dict_nil Tbl.ok_nil (mem_lqStates_false sa.init_mem sb.init_mem)
    ((Tbl.Ext.foldl _ _ _ e2).keys _
      (Tbl.Ext.mem_akeys_foldl _ (fun c => (c.1, c.2, false)) _ e1 (A.init, B.init) hi [])) ?_
  intro q hq
  obtain ⟨qa, ha, qb, hb, rfl⟩ := mem_map_lprod_flag.mp hq
  exact mem_lqStates_true ((sa.fin qa).mp ha).1 hb

end LQ

variable {σ₁ σ₂ α : Type} [DecidableEq σ₁] [DecidableEq σ₂] [DecidableEq α]

theorem leftQuotient_spec (A : NFA σ₁ α) (B : NFA σ₂ α)
    (ra : List σ₁) (ta : Tbl σ₁ α) (fa : List σ₁) (rb : List σ₂) (tb : Tbl σ₂ α) (fb : List σ₂)
    (hca : NFAElim.core A = .ok (ra, ta, fa)) (hcb : NFAElim.core B = .ok (rb, tb, fb))
    (sa : ElimSpec A ra ta fa) (sb : ElimSpec B rb tb fb) :
    ∃ R : NFA (σ₁ × σ₂ × Bool) α, leftQuotient A B = .ok R ∧ R.Valid ∧
      R.init = (A.init, B.init, false) ∧
      (∀ qa ∈ ra, ∀ qb ∈ rb, ∀ a t, t ∈ R.targets (qa, qb, false) a ↔
        (a = none ∧ ∃ c pa pb, pa ∈ Tbl.tgt ta qa (some c) ∧ pb ∈ Tbl.tgt tb qb (some c) ∧
          t = (pa, pb, false)) ∨ (a = none ∧ qb ∈ fb ∧ t = (qa, qb, true))) ∧
      (∀ qa ∈ ra, ∀ qb ∈ fb, ∀ a t, t ∈ R.targets (qa, qb, true) a ↔
        ∃ p, p ∈ Tbl.tgt ta qa a ∧ t = (p, qb, true)) ∧
      (∀ s, s ∈ R.finals ↔ ∃ qa ∈ fa, ∃ qb ∈ fb, s = (qa, qb, true)) := by
  have hv := LQ.raw_valid A B ra ta fa rb tb fb sa sb
  -- rows of `false` states are those of loop 1
  have hF : ∀ qa qb x t, t ∈ (LQ.raw A B ra ta fa rb tb fb).targets (qa, qb, false) x ↔
      ∃ c ∈ lprod ra rb, (qa, qb, false) = (c.1, c.2, false) ∧ x = none ∧
        LQ.Edge1 (sunion A.syms B.syms) ta tb fb c t := fun qa qb x t => by
    rw [targets_eq_tgt]
    show t ∈ Tbl.tgt (List.foldl (LQ.step2 ta) _ _) _ _ ↔ _
    rw [LQ.tgt_loop2_false]
    exact LQ.mem_tgt_loop1 _ ta tb fb _ _ x t
  -- rows of `true` states are copies of `ta`'s rows
  have hT : ∀ qa ∈ ra, ∀ qb ∈ fb, ∀ x,
      (LQ.raw A B ra ta fa rb tb fb).targets (qa, qb, true) x =
        (Tbl.tgt ta qa x).map fun e => (e, qb, true) := by
    intro qa hqa qb hqb x
    have h0 : Tbl.tgt ((lprod ra rb).foldl (LQ.step1 (sunion A.syms B.syms) ta tb fb) [])
        (qa, qb, true) x = [] :=
      List.eq_nil_iff_forall_not_mem.mpr fun p hp => by
        obtain ⟨c, _, e, _⟩ := (LQ.mem_tgt_loop1 _ ta tb fb _ _ x p).mp hp
        exact nomatch (Prod.mk.inj (Prod.mk.inj e).2).2
    rw [targets_eq_tgt]
    exact (LQ.tgt_loop2 ta sa.dict (mem_lprod.mpr ⟨hqa, hqb⟩) _ x).trans
      (h0 ▸ getD_map_map_nil _ _)
  refine ⟨LQ.raw A B ra ta fa rb tb fb,
    (LQ.leftQuotient_eq A B ra ta fa rb tb fb hca hcb).trans (create_eq_ok _ hv.wf), hv, rfl,
    fun qa hqa qb hqb a t => ?_, fun qa hqa qb hqb a t => ?_, fun s => ?_⟩
  · rw [hF]
    constructor
    · rintro ⟨⟨c1, c2⟩, _, hc, ha, h⟩
      obtain ⟨rfl, hc⟩ := Prod.mk.inj hc
      obtain ⟨rfl, _⟩ := Prod.mk.inj hc
      exact h.imp (fun ⟨c, _, pa, hpa, pb, hpb, h⟩ => ⟨ha, c, pa, pb, hpa, hpb, h⟩) fun h => ⟨ha, h⟩
    · intro h
      refine ⟨(qa, qb), mem_lprod.mpr ⟨hqa, hqb⟩, rfl, h.elim (·.1) (·.1), h.imp ?_ (·.2)⟩
      rintro ⟨_, c, pa, pb, hpa, hpb, h⟩
      exact ⟨c, mem_sunion.mpr (Or.inl (sa.tgt_sym hqa hpa)), pa, hpa, pb, hpb, h⟩
  · rw [hT qa hqa qb hqb, List.mem_map]
    exact ⟨fun ⟨p, hp, e⟩ => ⟨p, hp, e.symm⟩, fun ⟨p, hp, e⟩ => ⟨p, hp, e.symm⟩⟩
  · exact mem_map_lprod_flag

end NFA
end AV
