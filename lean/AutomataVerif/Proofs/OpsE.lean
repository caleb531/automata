/-
Proofs/OpsE.lean — lemmas for Props/C19g.lean and, through Proofs/ConvertE.lean, Props/C19h.lean:
the failing combinators of Model/DFAOpsE.lean (`optE`, `asub`, `mapE`, `foldlE`, `bfsAuxE`) succeed
and agree with their total counterparts when every read hits; rows of declared states; `PartitionRefinement` and the loops of `_minify`
under the loop invariant of Proofs/HopcroftLoop.lean.
-/
import AutomataVerif.Model.DFAOpsE
import AutomataVerif.Proofs.Query
import AutomataVerif.Proofs.MinRep
import AutomataVerif.Proofs.Hopcroft

namespace AV

theorem optE_some {β : Type} {o : Option β} {v : β} (h : o = some v) : optE o = .ok v := by
  subst h; rfl

theorem asub_of_lookup {κ β : Type} [DecidableEq κ] {k : κ} {d : List (κ × β)} {v : β}
    (h : alookup k d = some v) : asub k d = .ok v := optE_some h

theorem ok_ne_py {β : Type} {r : Res β} {v : β} (h : r = .ok v) (e : PyErr) :
    r ≠ .error (.py e) := by
  rw [h]; exact nofun

theorem bindE_ok {β γ : Type} {r : Res β} {v : β} (h : r = .ok v) (f : β → Res γ) :
    bindE r f = f v := by subst h; rfl

/-- The model's own loop combinators are the library ones on `Res = Except Exn`. -/
theorem mapE_eq_mapM {β γ : Type} (f : β → Res γ) (l : List β) : mapE f l = l.mapM f := by
  induction l with
  | nil => rfl
  | cons x t ih =>
    rw [mapE, List.mapM_cons, ih]
    cases f x with
    | error e => rfl
    | ok y => cases t.mapM f <;> rfl

theorem foldlE_eq_foldlM {β γ : Type} (f : γ → β → Res γ) (l : List β) :
    ∀ acc, foldlE f acc l = l.foldlM f acc := by
  induction l with
  | nil => exact fun _ => rfl
  | cons x t ih =>
    intro acc
    rw [foldlE, List.foldlM_cons]
    cases f acc x with
    | error e => rfl
    | ok acc' => exact ih acc'

theorem mapE_eq_ok {β γ : Type} (f : β → Res γ) (g : β → γ) (l : List β)
    (h : ∀ x ∈ l, f x = .ok (g x)) : mapE f l = .ok (l.map g) :=
  (mapE_eq_mapM f l).trans (mapM_ok f g l h)

theorem mapE_optE_eq_filterMap {β γ : Type} (f : β → Option γ) (l : List β)
    (h : ∀ x ∈ l, (f x).isSome = true) : mapE (fun x => optE (f x)) l = .ok (l.filterMap f) := by
  induction l with
  | nil => rfl
  | cons x t ih =>
    obtain ⟨v, hv⟩ := Option.isSome_iff_exists.mp (h x List.mem_cons_self)
    rw [mapE, ih fun y hy => h y (List.mem_cons_of_mem _ hy), hv, List.filterMap_cons_some hv]
    rfl

theorem foldlE_eq_ok {β γ : Type} (f : γ → β → Res γ) (g : γ → β → γ) (P : γ → Prop)
    (l : List β) (h : ∀ acc x, P acc → x ∈ l → f acc x = .ok (g acc x) ∧ P (g acc x))
    (acc : γ) (hP : P acc) : foldlE f acc l = .ok (l.foldl g acc) :=
  (foldlE_eq_foldlM f l acc).trans
    (foldlM_ok_of_inv P hP fun b hb x hx => h b x hb hx).1

theorem foldlE_eq_foldl {β γ : Type} {f : γ → β → Res γ} {g : γ → β → γ} {l : List β}
    (h : ∀ acc, ∀ x ∈ l, f acc x = .ok (g acc x)) (acc : γ) :
    foldlE f acc l = .ok (l.foldl g acc) :=
  (foldlE_eq_foldlM f l acc).trans (foldlM_eq_ok h acc)

theorem foldlE_cons_ok {β γ : Type} {f : γ → β → Res γ} {acc r : γ} {x : β} {t : List β}
    (h : foldlE f acc (x :: t) = .ok r) : ∃ acc', f acc x = .ok acc' ∧ foldlE f acc' t = .ok r := by
  rw [foldlE_eq_foldlM, List.foldlM_cons] at h
  obtain ⟨acc', h1, h2⟩ := bind_ok_inv h
  exact ⟨acc', h1, (foldlE_eq_foldlM f t acc').trans h2⟩

theorem bfsAuxE_eq_ok {σ : Type} [DecidableEq σ] (succE : σ → Res (List σ)) (succ : σ → List σ)
    (P : σ → Prop) (hs : ∀ q, P q → succE q = .ok (succ q)) (hc : ∀ q, P q → ∀ t ∈ succ q, P t) :
    ∀ (fuel : Nat) (work vis : List σ), (∀ q ∈ work, P q) →
      bfsAuxE succE fuel work vis = .ok (bfsAux succ fuel work vis) := by
  intro fuel
  induction fuel with
  | zero => intro _ _ _; rfl
  | succ fuel ih =>
    intro work vis hw
    cases work with
    | nil => rfl
    | cons q work =>
      have hq := hw q List.mem_cons_self
      rw [bfsAuxE, hs q hq, bfsAux]
      refine ih _ _ fun t ht => ?_
      rcases List.mem_append.mp ht with h | h
      · exact hw t (List.mem_cons_of_mem _ h)
      · exact hc q hq t (List.mem_filter.mp (mem_dedup.mp h)).1

namespace DFA
variable {σ α : Type} [DecidableEq σ]

theorem rowE_of_lookup {d : DFA σ α} {q : σ} {r : List (α × σ)} (hr : alookup q d.trans = some r) :
    d.rowE q = .ok r ∧ d.row q = r :=
  ⟨asub_of_lookup hr, row_of_lookup hr⟩

theorem rowE_eq {d : DFA σ α} (wf : d.WF) {q : σ} (hq : q ∈ d.states) : d.rowE q = .ok (d.row q) := by
  obtain ⟨r, hr⟩ := exists_alookup (wf.rows q hq)
  rw [(rowE_of_lookup hr).1, (rowE_of_lookup hr).2]

theorem rowSuccE_eq {d : DFA σ α} (wf : d.WF) {q : σ} (hq : q ∈ d.states) :
    d.rowSuccE q = .ok (avals (d.row q)) := by
  unfold rowSuccE; rw [rowE_eq wf hq]

variable [DecidableEq α]

omit [DecidableEq α] in
/-- `_bfs_states` over `self.transitions[state]` from the initial state never meets a missing
row. -/
theorem bfs_rows_eq {d : DFA σ α} (wf : d.WF) (fuel : Nat) :
    bfsAuxE d.rowSuccE fuel (dedup [d.init]) (dedup [d.init]) =
      .ok (bfsStates (fun q => d.row q) fuel d.init) :=
  bfsAuxE_eq_ok d.rowSuccE (fun q => avals (d.row q)) (fun q => q ∈ d.states)
    (fun _ hq => rowSuccE_eq wf hq) (fun _ _ _ ht => row_vals_states wf ht) fuel _ _ fun q hq => by
      rw [List.mem_singleton.mp (mem_dedup.mp hq)]
      exact wf.initOk

omit [DecidableEq α] in
theorem minifyKeptE_eq {d : DFA σ α} (wf : d.WF) : d.minifyKeptE = .ok d.minifyKept := by
  unfold minifyKeptE minifyKept
  split
  · rfl
  · exact bfs_rows_eq wf _

omit [DecidableEq α] in
theorem countLevelE_eq {d : DFA σ α} (wf : d.WF) (k : Nat) :
    d.countLevelE k = .ok (d.countLevel k) := by
  induction k with
  | zero => rfl
  | succ k ih =>
    rw [countLevelE, ih]
    exact mapE_eq_ok _ _ _ fun q hq => by rw [rowE_eq wf hq]

/-- `sorted_transition_symbols[state]`, `self.transitions[state]` hit for a declared state, and
`…[symbol]` hits because `symbol` was taken from the keys of that row. -/
theorem wordNextE_eq {d : DFA σ α} (wf : d.WF) (key : α → Int) (prev : List (σ × List (List α))) :
    d.wordNextE key prev = .ok (d.wordNext key prev) := by
  refine mapE_eq_ok _ _ _ fun q hq => ?_
  obtain ⟨r, hr⟩ := exists_alookup (wf.rows q hq)
  obtain ⟨hrowE, hrow⟩ := rowE_of_lookup hr
  have hst : asub q (d.sortedTable key) = .ok (sortedKeys key r) :=
    asub_of_lookup (by rw [sortedTable, alookup_map_val (sortedKeys key) q d.trans, hr]; rfl)
  rw [hst, hrowE, hrow]
  dsimp only
  rw [mapE_eq_ok _ (fun a => match alookup a r with
      | some t => (wget prev t).map (a :: ·)
      | none => [])]
  · rw [List.flatMap_def]
    rfl
  · intro a ha
    obtain ⟨t, ht⟩ := exists_alookup (mem_sortBy.mp ha)
    rw [asub_of_lookup ht, ht]

theorem wordLevelE_eq {d : DFA σ α} (wf : d.WF) (key : α → Int) (k : Nat) :
    d.wordLevelE key k = .ok (d.wordLevel key k) := by
  induction k with
  | zero => rfl
  | succ k ih =>
    rw [wordLevelE, ih]
    exact wordNextE_eq wf key _

namespace Part
variable {τ : Type} [DecidableEq τ]

omit [DecidableEq τ] in
theorem getE_eq {p : Part τ} {i : Nat} (h : i ∈ p.ids) : p.getE i = .ok (p.get i) := by
  obtain ⟨v, hv⟩ := exists_alookup h
  unfold getE get
  rw [asub_of_lookup hv, hv]; rfl

theorem refStepE_eq {S : List τ} {acc : Part τ × List (Nat × Nat)} {aid : Nat}
    (h : aid ∈ acc.1.ids) : refStepE S acc aid = .ok (refStep S acc aid) := by
  unfold refStepE refStep
  rw [getE_eq h]
  exact (apply_ite _ _ _ _).symm

theorem refStep_ids_sub (S : List τ) (acc : Part τ × List (Nat × Nat)) (aid : Nat) :
    ∀ i ∈ acc.1.ids, i ∈ (refStep S acc aid).1.ids := by
  intro i hi
  unfold refStep
  simp only
  split
  · obtain ⟨b, hb, rfl⟩ := List.mem_map.mp hi
    apply List.mem_map.mpr
    refine ⟨if b.1 = aid then (aid, _) else b,
      List.mem_append_left _ (List.mem_map.mpr ⟨b, hb, rfl⟩), ?_⟩
    split
    · rename_i h; exact h.symm
    · rfl
  · exact hi

/-- `refine(S)` on a well-formed partition of `U` with `S ⊆ U`: `self._partition[x]` and
`self._sets[Aid]` are always defined. -/
theorem refineE_eq {p : Part τ} {U : List τ} (h : p.WF U) {S : List τ} (hS : ∀ x ∈ S, x ∈ U) :
    p.refineE S = .ok (p.refine S) := by
  have hb : ∀ x ∈ S, (p.blockOf x).isSome = true := by
    intro x hx
    obtain ⟨i, hi, hxi⟩ := (h.cover x).mp (hS x hx)
    rw [h.blockOf_iff.mpr ⟨hi, hxi⟩]; rfl
  have he : p.blockOfE = fun x => optE (p.blockOf x) := rfl
  unfold refineE
  rw [he, mapE_optE_eq_filterMap _ S hb, refine_eq]
  simp only
  apply foldlE_eq_ok (refStepE S) (refStep S) (fun acc => ∀ i ∈ p.ids, i ∈ acc.1.ids)
  · intro acc aid hP haid
    have hid : aid ∈ p.ids := ((h.mem_hit_iff S).mp haid).1
    exact ⟨refStepE_eq (hP aid hid), fun i hi => refStep_ids_sub S acc aid i (hP i hi)⟩
  · intro i hi; exact hi

end Part

omit [DecidableEq σ] in
theorem wStepE_eq {r : Part (Option σ)} {W : List Nat} {pr : Nat × Nat}
    (h1 : pr.1 ∈ r.ids) (h2 : pr.2 ∈ r.ids) : wStepE r W pr = .ok (wStep r W pr) := by
  unfold wStepE wStep
  rw [Part.getE_eq h1, Part.getE_eq h2]
  by_cases h : pr.2 ∈ W
  · rw [if_pos h, if_pos h]
  · rw [if_neg h, if_neg h]
    exact (apply_ite _ _ _ _).symm

omit [DecidableEq α] in
/-- One symbol of the inner loop: `origin_dict[end_state]` is defined for every element of the
active block, and so are all reads inside `refine` and `get_set_by_id`. -/
theorem hopSymbolE_eq {U : List (Option σ)} {delta : Option σ → α → Option σ}
    {Sn : List (Option σ)} {acc : Part (Option σ) × List Nat} (a : α)
    (wf : acc.1.WF U) (hSn : ∀ x ∈ Sn, x ∈ U) :
    hopSymbolE U delta Sn acc a = .ok (hopSymbol U delta Sn acc a) := by
  unfold hopSymbolE
  rw [mapE_eq_ok _ (fun e => U.filter fun s => decide (delta s a = e)) Sn
    (by intro e he; apply asub_of_lookup; unfold backMap
        exact (alookup_tabulate U _ e).trans (if_pos (hSn e he)))]
  simp only
  have hX : (U.filter fun s => decide (s ∈ (Sn.map fun e => U.filter fun s => decide (delta s a = e)).flatten))
      = U.filter fun s => decide (delta s a ∈ Sn) := by
    apply List.filter_congr
    intro s hs
    simp only [List.mem_flatten, List.mem_map, decide_eq_decide]
    constructor
    · rintro ⟨l, ⟨e, he, rfl⟩, hl⟩
      have := (List.mem_filter.mp hl).2
      simp only [decide_eq_true_eq] at this
      rw [this]; exact he
    · intro h
      exact ⟨_, ⟨_, h, rfl⟩, List.mem_filter.mpr ⟨hs, by simp⟩⟩
  rw [hX, Part.refineE_eq wf (S := U.filter fun s => decide (delta s a ∈ Sn))
    (fun x hx => (List.mem_filter.mp hx).1)]
  simp only
  have hs := Part.refine_spec wf (U.filter fun s => decide (delta s a ∈ Sn))
  rw [foldlE_eq_foldl (g := wStep _) fun W pr hpr =>
    wStepE_eq (hs.mem_ids.mpr (Or.inr ⟨pr, hpr, rfl⟩))
      (hs.mem_ids.mpr (Or.inl (hs.out_spec pr hpr).2.1.1))]
  rfl

omit [DecidableEq α] in
/-- The inner `for` loop reads nothing but the partition, which stays well formed. -/
theorem innerFoldE_eq {U : List (Option σ)} {delta : Option σ → α → Option σ}
    {Sn : List (Option σ)} (hSn : ∀ x ∈ Sn, x ∈ U) (todo : List α)
    (acc : Part (Option σ) × List Nat) (wf : acc.1.WF U) :
    foldlE (hopSymbolE U delta Sn) acc todo = .ok (todo.foldl (hopSymbol U delta Sn) acc) :=
  foldlE_eq_ok _ _ (fun acc => acc.1.WF U) todo
    (fun _ a h _ => ⟨hopSymbolE_eq a h hSn, (Part.refine_spec h _).wf h⟩) acc wf

omit [DecidableEq α] in
theorem hopLoopE_succ_cons (U : List (Option σ)) (delta : Option σ → α → Option σ) (syms : List α)
    (pick : List Nat → Nat) (fuel : Nat) (p : Part (Option σ)) (w : Nat) (ws : List Nat) :
    hopLoopE U delta syms pick (fuel + 1) p (w :: ws) =
      match p.getE ((w :: ws).getD (pick (w :: ws) % (w :: ws).length) w) with
      | .error e => .error e
      | .ok active =>
        match foldlE (hopSymbolE U delta active)
            (p, (w :: ws).eraseIdx (pick (w :: ws) % (w :: ws).length)) syms with
        | .error e => .error e
        | .ok r => hopLoopE U delta syms pick fuel r.1 r.2 := rfl

/-- The `while processing:` loop: every popped id is the id of a block. -/
theorem hopLoopE_eq {U : List (Option σ)} {delta : Option σ → α → Option σ} {syms : List α}
    {E : Option σ → Option σ → Prop} {fin : Option σ → Bool}
    (hclosed : ∀ x ∈ U, ∀ a ∈ syms, delta x a ∈ U)
    (hE : ∀ x y a, E x y → E (delta x a) (delta y a))
    (pick : List Nat → Nat) : ∀ (fuel : Nat) (p : Part (Option σ)) (W : List Nat),
    Inv U delta syms E fin [] [] p W →
    hopLoopE U delta syms pick fuel p W = .ok (hopLoop U delta syms pick fuel p W) := by
  intro fuel
  induction fuel with
  | zero => intro p W _; rfl
  | succ fuel ih =>
    intro p W inv
    cases W with
    | nil => rfl
    | cons w ws =>
      rw [hopLoop_succ_cons, hopLoopE_succ_cons]
      obtain ⟨hid, h1, h2, _⟩ := pop_spec (w :: ws) w (pick (w :: ws) % (w :: ws).length)
        (Nat.mod_lt _ (Nat.succ_pos _))
      have hidp := inv.w_ids _ hid
      rw [Part.getE_eq hidp]
      simp only
      rw [innerFoldE_eq (fun x hx => (inv.wf.cover x).mpr ⟨_, hidp, hx⟩) syms _ inv.wf]
      simp only
      exact ih _ _ (innerFold_inv hclosed hE syms p _ (fun a ha => ha)
        (pop_inv inv hid h1 h2 (inv.w_nodup.eraseIdx _))).1.boundary

/-- **The refinement of `_minify` performs no failing read** under the preconditions the callers
guarantee (`MinHyp`), for every pop order, and computes the partition of the total model
`hopcroft`. -/
theorem hopcroftE_eq {kept : List σ} {syms : List α} {trans : List (σ × List (α × σ))} {init : σ}
    {finals : List σ} (h : MinHyp kept syms trans init finals) (pick : List Nat → Nat) :
    hopcroftE kept syms trans finals pick = .ok (hopcroft kept syms trans finals pick) := by
  unfold hopcroftE
  simp only
  rw [Part.refineE_eq (init_wf h.muniverse_ne_nil) h.finals_mem_muniverse, hopcroft_eq]
  simp only
  exact hopLoopE_eq (E := MEquiv kept trans finals) (fin := mfin finals)
    (fun x hx a ha => mdelta_closed hx ha) (fun x y a hxy => hxy.step a) pick _ _ _ (init_inv h)

omit [DecidableEq σ] [DecidableEq α] in
theorem renameRow_eq_qmap (f : σ → Option (MinName σ)) (row : List (α × σ)) :
    renameRow f row = qmap f row := by
  unfold renameRow qmap
  congr 1; funext e
  cases f e.2 <;> rfl

omit [DecidableEq α] in
/-- `back_map[initial_state]`, `back_map[acc]`, `next(iter(eq))`, `transitions[eq_class_rep]`
succeed as soon as the totalised reads of `quotOf` do not take their defaults. -/
theorem assembleE_eq (p : Part (Option σ)) (syms : List α) (trans : List (σ × List (α × σ)))
    (init : σ) (finals : List σ)
    (h1 : (goodBlocks p).isEmpty = false → (nameOfIn (goodBlocks p) init).isSome = true)
    (h2 : (goodBlocks p).isEmpty = false → ∀ f ∈ finals, (nameOfIn (goodBlocks p) f).isSome = true)
    (h3 : (goodBlocks p).isEmpty = false → ∀ b ∈ goodBlocks p,
      ∃ r row, (blockStates b.2).head? = some r ∧ alookup r trans = some row) :
    assembleE p syms trans init finals = .ok (quotOf p syms trans init finals) := by
  show assembleWithE (goodBlocks p) (nameOfIn (goodBlocks p)) syms trans init finals = _
  unfold assembleWithE quotOf
  cases hne : (goodBlocks p).isEmpty with
  | true => simp
  | false =>
    simp only [Bool.false_eq_true, if_false]
    obtain ⟨n, hn⟩ := Option.isSome_iff_exists.mp (h1 hne)
    rw [hn, mapE_optE_eq_filterMap _ finals (h2 hne),
      mapE_eq_ok _ (fun b => (bname b, qrow (goodBlocks p) trans b)) (goodBlocks p)]
    · rfl
    · intro b hb
      obtain ⟨r, row, hr, hrow⟩ := h3 hne b hb
      unfold blockRowE qrow
      rw [hr]
      simp only [asub_of_lookup hrow, hrow, bindE, renameRow_eq_qmap]
      rfl

/-- **`_minify` performs no failing read** on arguments that describe a DFA (`MinSource`: what
`minify`, `to_partial`, `complement`, the Boolean operations and `from_nfa` pass), and returns
the value of the total model `minifyCore`. -/
theorem minifyCoreE_eq {d : DFA σ α} {kept finals : List σ} (S : MinSource d kept finals)
    (pick : List Nat → Nat) :
    minifyCoreE kept d.syms d.trans d.init finals pick =
      .ok (minifyCore kept d.syms d.trans d.init finals pick) := by
  unfold minifyCoreE
  rw [hopcroftE_eq S.hyp pick, minifyCore_eq]
  simp only
  apply assembleE_eq
  · intro hne; exact (S.no_keyerror pick hne).1
  · intro hne; exact (S.no_keyerror pick hne).2.1
  · intro hne; exact (S.no_keyerror pick hne).2.2.1

end DFA

end AV
