/-
Proofs/Iter.lean — `__iter__` (Model/DFAQuery.lean `iterLoop`, `iterRun`): the words yielded by
the `while` loop are the word lists of consecutive lengths; a run that has finished does not
change with more fuel.  Core only.
-/
import AutomataVerif.Model.DFAQuery
import AutomataVerif.Proofs.Basic

namespace AV
namespace DFA

variable {σ α : Type} [DecidableEq σ] [DecidableEq α]

theorem iterCond_mono {limit : Option Nat} {i j : Nat} (h : iterCond limit j = true) (hij : i ≤ j) :
    iterCond limit i = true := by
  cases limit with
  | none => rfl
  | some l => simp only [iterCond, decide_eq_true_eq] at h ⊢; omega

theorem iterLoop_succ_true {d : DFA σ α} {key : α → Int} {limit : Option Nat} {i : Nat}
    (h : iterCond limit i = true) (n : Nat) :
    d.iterLoop key limit (n + 1) i =
      (d.wordsOfLength key i ++ (d.iterLoop key limit n (i + 1)).1, (d.iterLoop key limit n (i + 1)).2) := by
  rw [iterLoop]
  simp only [h]

theorem iterLoop_false {d : DFA σ α} {key : α → Int} {limit : Option Nat} {i : Nat}
    (h : iterCond limit i = false) (n : Nat) : d.iterLoop key limit n i = ([], true) := by
  cases n with
  | zero => simp [iterLoop, h]
  | succ n => rw [iterLoop]; simp only [h]

theorem iterLoop_stable (d : DFA σ α) (key : α → Int) (limit : Option Nat) :
    ∀ (n i : Nat), (d.iterLoop key limit n i).2 = true →
      ∀ k, d.iterLoop key limit (n + k) i = d.iterLoop key limit n i := by
  refine fun n i h => stable_of_step (cut := false) (fun i h f => ?_) (fun i => ?_) n i (by simp [h])
  · have hc : iterCond limit i = false := by simpa [iterLoop] using h
    rw [iterLoop_false hc, iterLoop_false hc]
  · cases hc : iterCond limit i with
    | false => exact .inl ⟨_, fun _ => iterLoop_false hc _⟩
    | true => exact .inr ⟨_, _, iterLoop_succ_true hc⟩

theorem iterLoop_spec (d : DFA σ α) (key : α → Int) (limit : Option Nat) :
    ∀ (n i : Nat), ∃ k, k ≤ n ∧
      (d.iterLoop key limit n i).1 = (List.range' i k).flatMap (d.wordsOfLength key) ∧
      ((d.iterLoop key limit n i).2 = !iterCond limit (i + k)) ∧
      (k < n → iterCond limit (i + k) = false) := by
  intro n
  induction n with
  | zero => exact fun i => ⟨0, Nat.le_refl _, rfl, rfl, (nomatch ·)⟩
  | succ n ih =>
    intro i
    cases hc : iterCond limit i with
    | false =>
      rw [iterLoop_false hc]
      exact ⟨0, Nat.zero_le _, rfl, by rw [Nat.add_zero, hc]; rfl, fun _ => hc⟩
    | true =>
      obtain ⟨k, hk, h1, h2, h3⟩ := ih (i + 1)
      rw [Nat.add_assoc, Nat.add_comm 1 k] at h2 h3
      rw [iterLoop_succ_true hc]
      exact ⟨k + 1, Nat.succ_le_succ hk, by rw [h1, List.range'_succ, List.flatMap_cons], h2,
        fun hlt => h3 (Nat.lt_of_succ_lt_succ hlt)⟩

theorem mem_levels_iff {d : DFA σ α} {key : α → Int} {i k : Nat} {w : List α} :
    w ∈ (List.range' i k).flatMap (d.wordsOfLength key) ↔
      ∃ j, i ≤ j ∧ j < i + k ∧ w ∈ d.wordsOfLength key j := by
  simp only [List.mem_flatMap, List.mem_range'_1]
  constructor
  · rintro ⟨j, ⟨h1, h2⟩, hw⟩; exact ⟨j, h1, h2, hw⟩
  · rintro ⟨j, h1, h2, hw⟩; exact ⟨j, ⟨h1, h2⟩, hw⟩

end DFA
end AV
