/-
Proofs/MinifySpec.lean — the interface between the two halves of the C05 proof:

* `hopcroft_nerode` (Proofs/Hopcroft.lean): the partition computed by the model of the
  `_minify` loop is a partition of the universe whose blocks are exactly the Nerode
  classes of the refinement system `(mdelta, mfin)`, for every pop order `pick`;
* the quotient construction (`minifyCore`: Proofs/MinQuotient.lean) is proved for any partition
  with that property; Proofs/MinifyCorrect.lean joins the two.
-/
import AutomataVerif.Proofs.Basic
import AutomataVerif.Model.DFAOps

namespace AV
namespace DFA
variable {σ α : Type} [DecidableEq σ] [DecidableEq α]

/-- Run of the refinement system (kept states ∪ trap `none`). -/
def mrun (kept : List σ) (trans : List (σ × List (α × σ))) (s : Option σ) (w : List α) : Option σ :=
  w.foldl (mdelta kept trans) s

/-- Finality in the refinement system (`reachable_final_states`; the trap is never final). -/
def mfin (finals : List σ) : Option σ → Bool
  | none => false
  | some q => decide (q ∈ finals)

/-- Myhill–Nerode equivalence of two elements of the refinement system. -/
def MEquiv (kept : List σ) (trans : List (σ × List (α × σ))) (finals : List σ) (x y : Option σ) : Prop :=
  ∀ w : List α, mfin finals (mrun kept trans x w) = mfin finals (mrun kept trans y w)

/-- Preconditions under which the code calls `_minify`. -/
structure MinHyp (kept : List σ) (syms : List α) (trans : List (σ × List (α × σ))) (init : σ)
    (finals : List σ) : Prop where
  kept_nodup : kept.Nodup
  syms_nodup : syms.Nodup
  init_mem : init ∈ kept
  finals_sub : ∀ q ∈ finals, q ∈ kept
  /-- every kept state has a row -/
  rows : ∀ q ∈ kept, q ∈ akeys trans
  /-- rows only mention alphabet symbols -/
  keys : ∀ q r, alookup q trans = some r → ∀ a ∈ akeys r, a ∈ syms

namespace Part
variable {τ : Type} [DecidableEq τ]

/-- `p` is a partition of the list-as-set `U` into non-empty, duplicate-free blocks with
distinct ids below the fresh counter. -/
structure IsPartitionOf (p : Part τ) (U : List τ) : Prop where
  ids_nodup : (p.blocks.map Prod.fst).Nodup
  ids_lt : ∀ b ∈ p.blocks, b.1 < p.next
  nonempty : ∀ b ∈ p.blocks, b.2 ≠ []
  block_nodup : ∀ b ∈ p.blocks, b.2.Nodup
  cover : ∀ x, x ∈ U ↔ ∃ b ∈ p.blocks, x ∈ b.2
  disjoint : ∀ b ∈ p.blocks, ∀ c ∈ p.blocks, ∀ x, x ∈ b.2 → x ∈ c.2 → b = c

/-- `x` and `y` lie in the same block. -/
def Same (p : Part τ) (x y : τ) : Prop := ∃ b ∈ p.blocks, x ∈ b.2 ∧ y ∈ b.2

end Part

/-- The statement proved in Proofs/Hopcroft.lean. -/
def HopcroftCorrect (kept : List σ) (syms : List α) (trans : List (σ × List (α × σ)))
    (finals : List σ) (pick : List Nat → Nat) : Prop :=
  (hopcroft kept syms trans finals pick).IsPartitionOf (muniverse kept syms trans) ∧
  ∀ x ∈ muniverse kept syms trans, ∀ y ∈ muniverse kept syms trans,
    ((hopcroft kept syms trans finals pick).Same x y ↔ MEquiv kept trans finals x y)

end DFA
end AV
