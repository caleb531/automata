/-
Proofs/CtorFLMain.lean — from_finite_language (C15): the `compress` loop and the main
loop over the sorted words, carrying the invariant and `SigsDistinct` together.  Core only.
-/
import AutomataVerif.Proofs.CtorFLCompress

namespace AV.Ctor.FL

variable {α : Type} [DecidableEq α]

theorem compressLoop_inv {added : List (List α)} {cur : List α} (hadd : added ≠ []) :
    ∀ (n i : Nat) (s : FLState α) (φ : List α → List α), n ≤ i → FLInv added cur i s φ → SigsDistinct s →
      ∃ s' φ', flCompressLoop cur n i s = .ok s' ∧ FLInv added cur (i - n) s' φ' ∧ SigsDistinct s' := by
  intro n
  induction n with
  | zero => intro i s φ _ inv hD; exact ⟨s, φ, rfl, inv, hD⟩
  | succ n ih =>
    intro i s φ hni inv hD
    obtain ⟨k, rfl⟩ : ∃ k, i = k + 1 := ⟨i - 1, by omega⟩
    obtain ⟨s1, φ1, h1, inv1, hD1⟩ := compressAt_inv inv hadd
    have hD1 := hD1 hD
    obtain ⟨s2, φ2, h2, inv2, hD2⟩ := ih k s1 φ1 (by omega) inv1 hD1
    refine ⟨s2, φ2, by simp only [flCompressLoop, h1, Nat.add_sub_cancel]; exact h2, ?_, hD2⟩
    rwa [Nat.add_sub_add_right]

theorem compress_inv {added : List (List α)} {cur : List α} (hadd : added ≠ []) (s : FLState α)
    (φ : List α → List α) (inv : FLInv added cur cur.length s φ) (hD : SigsDistinct s) (next : List α) :
    ∃ s' φ', flCompress s cur next = .ok s' ∧ FLInv added cur (lcpLen cur next) s' φ' ∧ SigsDistinct s' := by
  have := compressLoop_inv hadd (cur.length - lcpLen cur next) cur.length s φ (Nat.sub_le _ _) inv hD
  rwa [Nat.sub_sub_self (lcpLen_le_left cur next)] at this

section main
variable {lt : α → α → Bool} (ho : StrictTotal lt)
include ho

/-- Adding the next word of the sorted list after compressing against it (`added = []`: the first
word, which has no predecessor to be greater than). -/
theorem add_after_compress {added : List (List α)} {prev : List α} {s : FLState α}
    {φ : List α → List α} (hmax : ∀ w ∈ added, wordLe lt w prev) (next : List α)
    (hlt : wordLt lt prev next = true ∨ added = [])
    (inv : FLInv added prev (lcpLen prev next) s φ) (hD : SigsDistinct s) :
    (∃ φ', FLInv (added ++ [next]) next next.length (flAddWord s next) φ') ∧
      SigsDistinct (flAddWord s next) := by
  -- in a sorted list a word shares with the trie what it shares with its predecessor
  have hcommon : ∀ p, InTrie added p → p <+: next → p.length ≤ lcpLen prev next := by
    rintro p ⟨w, hw, hpw⟩ hpn
    rcases hlt with hlt | he
    · exact common_prefix_le (prefix_between ho (hmax w hw) (Or.inr hlt) hpw hpn) hpn
    · rw [he] at hw; cases hw
  have hk := take_lcpLen prev next
  have hfresh : ∀ q, q <+: next → lcpLen prev next < q.length → ¬ InTrie added q :=
    fun q hq hk hin => Nat.lt_irrefl _ (Nat.lt_of_lt_of_le hk (hcommon q hin hq))
  have hnew : ¬ InTrie added next := by
    rintro ⟨w, hw, hnw⟩
    rcases hlt with hlt | he
    · -- next ≤ w ≤ prev < next
      rcases wordLe_trans ho (prefix_wordLe ho hnw) (hmax w hw) with h2 | h2
      · rw [h2, wordLt_irrefl ho] at hlt; cases hlt
      · have := wordLt_trans ho hlt h2
        rw [wordLt_irrefl ho] at this; cases this
    · rw [he] at hw; cases hw
  refine ⟨add_inv inv next hk.symm (lcpLen_le_right prev next) hfresh hnew, ?_⟩
  unfold SigsDistinct
  rw [(flAddWord_effect s next).sigs]
  exact hD

/-- The main loop: all remaining words, then the final `compress(prev_word, "")`. -/
theorem flMain_inv : ∀ (rest : List (List α)) (added : List (List α)) (prev : List α) (s : FLState α)
    (φ : List α → List α), added ≠ [] → FLInv added prev prev.length s φ → SigsDistinct s →
    (∀ w ∈ added, wordLe lt w prev) → Increasing lt (prev :: rest) →
    ∃ s' φ' last, flMain rest prev s = .ok s' ∧ FLInv (added ++ rest) last 0 s' φ' ∧ SigsDistinct s' := by
  intro rest
  induction rest with
  | nil =>
    intro added prev s φ hadd inv hD _ _
    obtain ⟨s', φ', h1, inv', hD'⟩ := compress_inv hadd s φ inv hD []
    rw [lcpLen_nil_right] at inv'
    exact ⟨s', φ', prev, h1, by rwa [List.append_nil], hD'⟩
  | cons cur rest ih =>
    intro added prev s φ hadd inv hD hmax hinc
    obtain ⟨hprev, hinc'⟩ := List.pairwise_cons.mp hinc
    have hlt : wordLt lt prev cur = true := hprev cur (List.mem_cons_self ..)
    obtain ⟨s1, φ1, h1, inv1, hD1⟩ := compress_inv hadd s φ inv hD cur
    obtain ⟨⟨φ2, inv2⟩, hD2⟩ := add_after_compress ho hmax cur (Or.inl hlt) inv1 hD1
    obtain ⟨s3, φ3, last, h3, inv3, hD3⟩ := ih (added ++ [cur]) cur (flAddWord s1 cur) φ2
      (List.append_ne_nil_of_right_ne_nil _ (List.cons_ne_nil _ _)) inv2 hD2
      (fun w hw => by
        rcases List.mem_append.mp hw with h | h
        · exact wordLe_trans ho (hmax w h) (Or.inr hlt)
        · exact Or.inl (List.mem_singleton.mp h))
      hinc'
    refine ⟨s3, φ3, last, by simp only [flMain, h1]; exact h3, ?_, hD3⟩
    rwa [List.append_assoc] at inv3

theorem construction_inv (first : List α) (rest : List (List α)) (hinc : Increasing lt (first :: rest)) :
    ∃ s φ last, flMain rest first (flAddWord s0 first) = .ok s ∧ FLInv (first :: rest) last 0 s φ ∧
      SigsDistinct s := by
  have hinv0 : FLInv ([] : List (List α)) [] (lcpLen ([] : List α) first) s0 id := by
    rw [show lcpLen ([] : List α) first = 0 by cases first <;> rfl]; exact inv_init
  obtain ⟨⟨φ1, inv1⟩, hD1⟩ := add_after_compress ho (added := []) (fun w hw => nomatch hw) first (Or.inr rfl) hinv0
    (fun _ h1 => nomatch h1)
  exact flMain_inv ho rest [first] first (flAddWord s0 first) φ1 (List.cons_ne_nil _ _) inv1 hD1
    (fun w hw => Or.inl (List.mem_singleton.mp hw)) hinc

end main

end AV.Ctor.FL
