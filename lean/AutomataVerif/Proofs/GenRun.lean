/-
Proofs/GenRun.lean — generators observed through a budget of `next()` calls (`genRun`, `genStart` of
Model/TMDefs.lean): lock-step simulation of two of them, number of yields, stability once ended.  Then
generators that yield their own state (`LinGen`; the DTM and NTM readers are instances, the queue loop
of Proofs/QueueBFS.lean is not): k-th yield, return and raise in terms of the iterates of the successor
function, and the same read in a reference semantics given level by level.  Lean core only.
-/
import AutomataVerif.Model.TMDefs
import AutomataVerif.Proofs.Basic

namespace AV.TM

/-- One `next()` of two generators does the same: both return, both raise the same exception, or both
yield and suspend in states related by `R`.  Yields of different types are compared in a common type
`Z`: `f` says what a yield of the left generator stands for, `g` what one of the right does. -/
inductive ResumeRel {S S' Y Y' Z : Type} (R : S → S' → Prop) (f : Y → Z) (g : Y' → Z) :
    Resume S Y → Resume S' Y' → Prop
  | ret : ResumeRel R f g .ret .ret
  | raise (e : Exn) : ResumeRel R f g (.raise e) (.raise e)
  | yield {y : Y} {t : S} {y' : Y'} {t' : S'} (hy : f y = g y') (ht : R t t') :
      ResumeRel R f g (.yield y t) (.yield y' t')

/-- Generators whose `next()` agree in the sense of `ResumeRel` on `R`-related states are observed alike
from `R`-related states: same yields under `f` / `g`, same end, at every budget. -/
theorem genRun_sim {S S' Y Y' Z : Type} (r : S → Resume S Y) (r' : S' → Resume S' Y')
    (R : S → S' → Prop) (f : Y → Z) (g : Y' → Z)
    (h : ∀ s s', R s s' → ResumeRel R f g (r s) (r' s')) :
    ∀ (n : Nat) (s : S) (s' : S'), R s s' →
      (genRun r n s).1.map f = (genRun r' n s').1.map g ∧ (genRun r n s).2 = (genRun r' n s').2 := by
  intro n
  induction n with
  | zero => intro s s' _; simp [genRun]
  | succ n ih =>
    intro s s' hR
    have hh := h s s' hR
    simp only [genRun]
    generalize r s = x at hh ⊢
    generalize r' s' = x' at hh ⊢
    cases hh with
    | ret => simp
    | raise e => simp
    | yield hy ht =>
      obtain ⟨h1, h2⟩ := ih _ _ ht
      simp [hy, h1, h2]

theorem genStart_sim {S S' Y Y' Z : Type} (r : S → Resume S Y) (r' : S' → Resume S' Y')
    (R : S → S' → Prop) (f : Y → Z) (g : Y' → Z)
    (h : ∀ s s', R s s' → ResumeRel R f g (r s) (r' s')) {y : Y} {y' : Y'} {s : S} {s' : S'}
    (hy : f y = g y') (hs : R s s') (n : Nat) :
    (genStart r y s n).1.map f = (genStart r' y' s' n).1.map g ∧
      (genStart r y s n).2 = (genStart r' y' s' n).2 := by
  cases n with
  | zero => exact ⟨rfl, rfl⟩
  | succ n =>
    obtain ⟨h1, h2⟩ := genRun_sim r r' R f g h n s s' hs
    exact ⟨by simp only [genStart, List.map_cons, hy, h1], h2⟩

theorem genRun_length_le {S Y : Type} (resume : S → Resume S Y) (n : Nat) (s : S) :
    (genRun resume n s).1.length ≤ n := by
  induction n generalizing s with
  | zero => simp [genRun]
  | succ n ih =>
    simp only [genRun]
    cases resume s with
    | ret => simp
    | raise e => simp
    | yield y s' => simp only [List.length_cons]; have := ih s'; omega

theorem genRun_running_length {S Y : Type} (resume : S → Resume S Y) (n : Nat) (s : S)
    (h : (genRun resume n s).2 = .running) : (genRun resume n s).1.length = n := by
  induction n generalizing s with
  | zero => simp [genRun]
  | succ n ih =>
    simp only [genRun] at h ⊢
    cases hr : resume s with
    | ret => simp [hr] at h
    | raise e => simp [hr] at h
    | yield y s' => simp only [hr] at h ⊢; simp [ih s' h]

theorem genStart_running_length {S Y : Type} (resume : S → Resume S Y) (y0 : Y) (s0 : S) (n : Nat)
    (h : (genStart resume y0 s0 n).2 = .running) : (genStart resume y0 s0 n).1.length = n := by
  cases n with
  | zero => rfl
  | succ n => exact congrArg (· + 1) (genRun_running_length resume n s0 h)

/-- An ended observation stays as it is under one more unit of budget (`stable_of_step` at `1`).
The name is in `Q`, the namespace of the queue loops of Proofs/QueueBFS.lean, which read it. -/
theorem Q.genRun_mono {S Y : Type} (resume : S → Resume S Y) (n : Nat) (s : S)
    (h : (genRun resume n s).2 ≠ .running) :
    genRun resume (n + 1) s = genRun resume n s := by
  refine stable_of_step (loop := genRun resume) (fun _ h => absurd rfl h) (fun s => ?_) n s h 1
  cases hr : resume s with
  | ret => exact .inl ⟨([], .returned), fun _ => by simp only [genRun, hr]⟩
  | raise e => exact .inl ⟨([], .raised e), fun _ => by simp only [genRun, hr]⟩
  | yield y s' => exact .inr ⟨[y], s', fun _ => by simp only [genRun, hr, List.singleton_append]⟩

/-- A generator that yields its own state: `next()` returns at a final state, raises
`RejectionException` at a state without successor, and otherwise yields the successor and suspends
in it (`DTM.resume` on configurations, `NTM.resume` on levels). -/
structure LinGen {S : Type} (resume : S → Resume S S) (fin : S → Prop) (nxt : S → Option S) : Prop where
  ret : ∀ {s}, fin s → resume s = .ret
  stuck : ∀ {s}, ¬ fin s → nxt s = none → resume s = .raise (.lib .rejectionException)
  step : ∀ {s s'}, ¬ fin s → nxt s = some s' → resume s = .yield s' s'

namespace LinGen
variable {S : Type} {resume : S → Resume S S} {fin : S → Prop} {nxt : S → Option S}

/-- The `k`-th successor of a state, while there is one. -/
def iter (nxt : S → Option S) : Nat → S → Option S
  | 0, s => some s
  | k + 1, s => (nxt s).bind (iter nxt k)

/-- The side condition of every reading of a `LinGen` run: the generator gets as far as the `k`-th
successor of `s` only if it has not returned at an earlier one. -/
def NoFin (fin : S → Prop) (nxt : S → Option S) (s : S) (k : Nat) : Prop :=
  ∀ j, j < k → ∀ t, iter nxt j s = some t → ¬ fin t

theorem iter_succ_last (nxt : S → Option S) (k : Nat) (s : S) :
    iter nxt (k + 1) s = (iter nxt k s).bind nxt := by
  induction k generalizing s with
  | zero => simp [iter]
  | succ k ih =>
    rw [iter]
    cases h : nxt s with
    | none => simp [iter, h]
    | some s' => simp only [Option.bind_some, ih s']; simp [iter, h]

theorem noFin_succ (s : S) (k : Nat) :
    NoFin fin nxt s (k + 1) ↔ ¬ fin s ∧ ∀ s', nxt s = some s' → NoFin fin nxt s' k := by
  constructor
  · intro h
    refine ⟨h 0 (Nat.succ_pos _) s rfl, fun s' hs j hj t ht => h (j + 1) (Nat.succ_lt_succ hj) t ?_⟩
    simpa [iter, hs] using ht
  · rintro ⟨h0, h⟩ j hj t ht
    cases j with
    | zero => cases ht; exact h0
    | succ j =>
      cases hs : nxt s with
      | none => simp [iter, hs] at ht
      | some s' => exact h s' hs j (Nat.lt_of_succ_lt_succ hj) t (by simpa [iter, hs] using ht)

theorem iter_eq_none {k : Nat} {s : S} (h : iter nxt k s = none) :
    ∃ j, j < k ∧ ∃ t, iter nxt j s = some t ∧ nxt t = none := by
  induction k with
  | zero => cases h
  | succ k ih =>
    cases hk : iter nxt k s with
    | none => obtain ⟨j, hj, r⟩ := ih hk; exact ⟨j, Nat.lt_succ_of_lt hj, r⟩
    | some t => exact ⟨k, Nat.lt_succ_self k, t, hk, by simpa [iter_succ_last, hk] using h⟩

variable (H : LinGen resume fin nxt)
include H

theorem start_fin {s : S} (h : fin s) (n : Nat) : genStart resume s s (n + 2) = ([s], .returned) := by
  simp [genStart, genRun, H.ret h]

theorem start_stuck {s : S} (hf : ¬ fin s) (h : nxt s = none) (n : Nat) :
    genStart resume s s (n + 2) = ([s], .raised (.lib .rejectionException)) := by
  simp [genStart, genRun, H.stuck hf h]

theorem start_step {s s' : S} (hf : ¬ fin s) (h : nxt s = some s') (n : Nat) :
    genStart resume s s (n + 2) =
      (s :: (genStart resume s' s' (n + 1)).1, (genStart resume s' s' (n + 1)).2) := by
  simp [genStart, genRun, H.step hf h]

theorem yield_iff (n : Nat) (s : S) (k : Nat) (t : S) :
    (genStart resume s s n).1[k]? = some t ↔ k < n ∧ iter nxt k s = some t ∧ NoFin fin nxt s k := by
  cases n with
  | zero => simp [genStart]
  | succ n =>
    induction n generalizing s k with
    | zero =>
      cases k with
      | zero => simp [genStart, genRun, iter, NoFin]
      | succ k => simp [genStart, genRun]
    | succ n ih =>
      cases k with
      | zero => simp [genStart, iter, NoFin]
      | succ k =>
        rw [noFin_succ]
        by_cases hf : fin s
        · simp [H.start_fin hf, hf]
        · cases hs : nxt s with
          | none => simp [H.start_stuck hf hs, iter, hs]
          | some s' => simp [H.start_step hf hs, ih, iter, hs, hf]

theorem returned_iff (n : Nat) (s : S) :
    (genStart resume s s n).2 = .returned ↔
      ∃ k, k + 2 ≤ n ∧ (∃ t, iter nxt k s = some t ∧ fin t) ∧ NoFin fin nxt s k := by
  cases n with
  | zero => simp [genStart]
  | succ n =>
    induction n generalizing s with
    | zero => simp [genStart, genRun]
    | succ n ih =>
      by_cases hf : fin s
      · simp only [H.start_fin hf, true_iff]
        exact ⟨0, by omega, ⟨s, rfl, hf⟩, fun j hj => by omega⟩
      · rw [← Nat.or_exists_add_one]
        simp only [noFin_succ, hf, not_false_eq_true, true_and]
        cases hs : nxt s with
        | none => simp [H.start_stuck hf hs, iter, hs, hf]
        | some s' => simp [H.start_step hf hs, ih, iter, hs, hf]

theorem raised_iff (n : Nat) (s : S) (e : Exn) :
    (genStart resume s s n).2 = .raised e ↔
      e = .lib .rejectionException ∧
      ∃ k, k + 2 ≤ n ∧ (∃ t, iter nxt k s = some t ∧ ¬ fin t ∧ nxt t = none) ∧ NoFin fin nxt s k := by
  cases n with
  | zero => simp [genStart]
  | succ n =>
    induction n generalizing s with
    | zero => simp [genStart, genRun]
    | succ n ih =>
      by_cases hf : fin s
      · rw [← Nat.or_exists_add_one]
        simp [H.start_fin hf, hf, noFin_succ, iter]
      · rw [← Nat.or_exists_add_one]
        simp only [noFin_succ, hf, not_false_eq_true, true_and]
        cases hs : nxt s with
        | none => simp [H.start_stuck hf hs, iter, hs, hf, NoFin, eq_comm]
        | some s' => simp [H.start_step hf hs, ih, iter, hs, hf]

/-! A reference semantics for the states after `s`: `Lev k v` says that `v` is in the `k`-th level, and
that is what the `k`-th successor of `s` stands for under `view`. -/
section View
variable {V : Type} {view : S → V → Prop} {Lev : Nat → V → Prop} {s : S}
  (hlev : ∀ k v, Lev k v ↔ ∃ t, iter nxt k s = some t ∧ view t v)
include hlev

omit H in
theorem exists_iter_iff {p : S → Prop} {P : V → Prop} (hp : ∀ t, p t ↔ ∃ v, view t v ∧ P v) (k : Nat) :
    (∃ t, iter nxt k s = some t ∧ p t) ↔ ∃ v, Lev k v ∧ P v := by
  simp only [hlev, hp]
  constructor
  · rintro ⟨t, ht, v, hv, hP⟩; exact ⟨v, ⟨t, ht, hv⟩, hP⟩
  · rintro ⟨v, ⟨t, ht, hv⟩, hP⟩; exact ⟨t, ht, v, hv, hP⟩

omit H in
theorem noFin_iff {F : V → Prop} (hfin : ∀ t, fin t ↔ ∃ v, view t v ∧ F v) (k : Nat) :
    NoFin fin nxt s k ↔ ∀ j, j < k → ∀ v, Lev j v → ¬ F v := by
  simp only [NoFin, hlev, hfin]
  constructor
  · rintro h j hj v ⟨t, ht, hv⟩ hF; exact h j hj t ht ⟨v, hv, hF⟩
  · rintro h j hj t ht ⟨v, hv, hF⟩; exact h j hj v ⟨t, ht, hv⟩ hF

theorem yield_view {n k : Nat} {t : S} (h : (genStart resume s s n).1[k]? = some t) (v : V) :
    view t v ↔ Lev k v := by
  simp only [hlev, ((H.yield_iff n s k t).mp h).2.1, Option.some.injEq, exists_eq_left']

/-- `k + 2 ≤ n`: `k + 1` calls yield the states `0 … k`, the next one returns. -/
theorem returned_iff_view {F : V → Prop} (hfin : ∀ t, fin t ↔ ∃ v, view t v ∧ F v) (n : Nat) :
    (genStart resume s s n).2 = .returned ↔
      ∃ k, k + 2 ≤ n ∧ (∃ v, Lev k v ∧ F v) ∧ ∀ j, j < k → ∀ v, Lev j v → ¬ F v := by
  simp only [H.returned_iff, exists_iter_iff hlev hfin, noFin_iff hlev hfin]

theorem raised_iff_view {F P : V → Prop} (hfin : ∀ t, fin t ↔ ∃ v, view t v ∧ F v)
    (hp : ∀ t, ¬ fin t ∧ nxt t = none ↔ ∃ v, view t v ∧ P v) (n : Nat) (e : Exn) :
    (genStart resume s s n).2 = .raised e ↔
      e = .lib .rejectionException ∧
        ∃ k, k + 2 ≤ n ∧ (∃ v, Lev k v ∧ P v) ∧ ∀ j, j < k → ∀ v, Lev j v → ¬ F v := by
  simp only [H.raised_iff, exists_iter_iff hlev hp, noFin_iff hlev hfin]

/-- Views that are never empty (a state stands for one `v`): a `k`-th state is yielded iff level `k` is
inhabited and nothing final came before. -/
theorem yield_exists_iff_view_ne {F : V → Prop} (hfin : ∀ t, fin t ↔ ∃ v, view t v ∧ F v)
    (hne : ∀ t, ∃ v, view t v) (n k : Nat) :
    (∃ t, (genStart resume s s n).1[k]? = some t) ↔
      k < n ∧ (∃ v, Lev k v) ∧ ∀ j, j < k → ∀ v, Lev j v → ¬ F v := by
  simp only [H.yield_iff, exists_and_left, exists_and_right, noFin_iff hlev hfin, hlev]
  exact and_congr_right fun _ => and_congr_left fun _ =>
    ⟨fun ⟨t, ht⟩ => (hne t).imp fun v hv => ⟨t, ht, hv⟩, fun ⟨_, t, ht, _⟩ => ⟨t, ht⟩⟩

/-! Set-valued views (`hstuck`): a state stands for a set of `v`, and has no successor iff that set is
empty.  Then "stuck" is "some level is empty", and a level once empty stays so: the stored run ends at
the first empty level, the reference levels go on. -/

/-- A `k`-th state is yielded iff the budget allows it and no earlier level is empty or has a final
element (the `k`-th level itself may be empty: it is yielded, the next call raises). -/
theorem yield_exists_iff_view {F : V → Prop} (hfin : ∀ t, fin t ↔ ∃ v, view t v ∧ F v)
    (hstuck : ∀ t, nxt t = none ↔ ∀ v, ¬ view t v) (n k : Nat) :
    (∃ t, (genStart resume s s n).1[k]? = some t) ↔
      k < n ∧ (k = 0 ∨ ∃ v, Lev (k - 1) v) ∧ ∀ j, j < k → ∀ v, Lev j v → ¬ F v := by
  simp only [H.yield_iff, exists_and_left, exists_and_right, noFin_iff hlev hfin]
  refine and_congr_right fun _ => and_congr_left fun _ => ?_
  cases k with
  | zero => simp [iter]
  | succ k =>
    simp only [iter_succ_last, hlev, Nat.add_sub_cancel, Nat.succ_ne_zero, false_or]
    constructor
    · rintro ⟨t, ht⟩
      obtain ⟨t', ht', hn⟩ := Option.bind_eq_some_iff.mp ht
      obtain ⟨v, hv⟩ := Classical.not_forall_not.mp (mt (hstuck t').mpr (by simp [hn]))
      exact ⟨v, t', ht', hv⟩
    · rintro ⟨v, t', ht', hv⟩
      cases hn : nxt t' with
      | none => exact absurd hv ((hstuck t').mp hn v)
      | some t => exact ⟨t, by simp [ht', hn]⟩

theorem raised_iff_view_set {F : V → Prop} (hfin : ∀ t, fin t ↔ ∃ v, view t v ∧ F v)
    (hstuck : ∀ t, nxt t = none ↔ ∀ v, ¬ view t v) (n : Nat) (e : Exn) :
    (genStart resume s s n).2 = .raised e ↔
      e = .lib .rejectionException ∧
        ∃ k, k + 2 ≤ n ∧ (∀ v, ¬ Lev k v) ∧ ∀ j, j < k → ∀ v, Lev j v → ¬ F v := by
  simp only [H.raised_iff, noFin_iff hlev hfin]
  refine and_congr_right fun _ => ?_
  constructor
  · rintro ⟨k, hk, ⟨t, ht, _, hs⟩, hn⟩
    refine ⟨k, hk, fun v hv => ?_, hn⟩
    obtain ⟨t', ht', hv'⟩ := (hlev k v).mp hv
    rw [ht, Option.some.injEq] at ht'
    exact (hstuck t).mp hs v (ht' ▸ hv')
  · rintro ⟨k, hk, hemp, hn⟩
    -- level `k` is empty: its state has no successor, or the stored run ended before
    obtain ⟨j, hj, t, ht, hs⟩ : ∃ j, j ≤ k ∧ ∃ t, iter nxt j s = some t ∧ nxt t = none := by
      cases hL : iter nxt k s with
      | none =>
        obtain ⟨j, hj, r⟩ := iter_eq_none hL
        exact ⟨j, Nat.le_of_lt hj, r⟩
      | some t =>
        exact ⟨k, Nat.le_refl k, t, hL, (hstuck t).mpr fun v hv => hemp v ((hlev k v).mpr ⟨t, hL, hv⟩)⟩
    refine ⟨j, by omega, ⟨t, ht, fun hf => ?_, hs⟩, fun i hi => hn i (by omega)⟩
    obtain ⟨v, hv, _⟩ := (hfin t).mp hf
    exact (hstuck t).mp hs v hv

end View

/-- A generator on states and one on levels that does the same on singleton levels (a deterministic table
read as a nondeterministic one) end alike; `n + 1`: after the stuck state the second yields the empty
level and needs one more call to raise. -/
theorem singleton_end {r' : List S → Resume (List S) (List S)} {fin' : List S → Prop}
    {nxt' : List S → Option (List S)} (H' : LinGen r' fin' nxt') (hfin : ∀ s, fin' [s] ↔ fin s)
    (hnxt : ∀ s, nxt' [s] = some (nxt s).toList) (hnil : r' [] = .raise (.lib .rejectionException))
    (n : Nat) (c : S) :
    ((genRun resume n c).2 ≠ .running → (genRun r' (n + 1) [c]).2 = (genRun resume n c).2) ∧
    ((genRun r' n [c]).2 ≠ .running → (genRun resume n c).2 = (genRun r' n [c]).2) := by
  induction n generalizing c with
  | zero => exact ⟨fun h => absurd rfl h, fun h => absurd rfl h⟩
  | succ n ih =>
    by_cases hf : fin c
    · simp only [genRun, H.ret hf, H'.ret ((hfin c).mpr hf), implies_true, and_self]
    · have hstep := H'.step (mt (hfin c).mp hf) (hnxt c)
      cases hn : nxt c with
      | none =>
        simp only [genRun, hstep, hn, Option.toList_none, hnil, H.stuck hf hn]
        refine ⟨fun _ => trivial, fun h => ?_⟩
        cases n with
        | zero => exact absurd rfl h
        | succ n => simp only [genRun, hnil]
      | some c' =>
        simp only [genRun, hstep, hn, Option.toList_some, H.step hf hn]
        exact ih c'

end LinGen

end AV.TM
