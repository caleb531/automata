/-
Proofs/Product.lean — the lazy cross product `_cross_product` simulates both operands
(core only).  After any word the implicit product run is at `(run A w, run B w)` (a dead
side being `none`), or it has stopped and the stopping side's deadness makes the
final-state predicate false for that word and all its extensions.
-/
import AutomataVerif.Proofs.Expand
import AutomataVerif.Proofs.NFATable

namespace AV
namespace DFA

variable {σ α : Type} [DecidableEq σ] [DecidableEq α]

theorem step?_eq_sideRow (d : DFA σ α) (x : Option σ) (c : α) :
    d.step? x c = alookup c (d.sideRow x) := by
  cases x <;> rfl

theorem step?_none_of_not_has (d : DFA σ α) (x : Option σ) (c : α)
    (h : ahas c (d.sideRow x) = false) : d.step? x c = none := by
  rw [step?_eq_sideRow, alookup_eq_none_iff, ← ahas_iff, h]
  exact Bool.false_ne_true

/-- Whether `crossSucc` keeps the entry for symbol `c` (`crossSucc_eq`); used by the proofs only. -/
def crossKeep (A B : DFA σ α) (l r : Bool) (s : PState σ) (c : α) : Bool :=
  !(!l && !(ahas c (A.sideRow s.1))) && !(!r && !(ahas c (B.sideRow s.2)))

theorem crossSucc_eq (A B : DFA σ α) (l r : Bool) (s : PState σ) :
    A.crossSucc B l r s =
      ((sunion (akeys (A.sideRow s.1)) (akeys (B.sideRow s.2))).filter (crossKeep A B l r s)).map
        fun c => (c, (A.step? s.1 c, B.step? s.2 c)) := by
  rw [← filterMap_guard]
  unfold crossSucc crossKeep
  simp only [step?_eq_sideRow]
  congr 1
  funext c
  cases (!l && !ahas c (A.sideRow s.1)) <;> cases (!r && !ahas c (B.sideRow s.2)) <;> rfl

theorem alookup_crossSucc (A B : DFA σ α) (l r : Bool) (s : PState σ) (c : α) :
    alookup c (A.crossSucc B l r s) =
      if (ahas c (A.sideRow s.1) || ahas c (B.sideRow s.2)) && crossKeep A B l r s c
      then some (A.step? s.1 c, B.step? s.2 c) else none := by
  rw [crossSucc_eq, alookup_tabulate]
  simp only [List.mem_filter, mem_sunion, ← ahas_iff, Bool.and_eq_true, Bool.or_eq_true]

theorem akeys_crossSucc (A B : DFA σ α) (l r : Bool) (s : PState σ) :
    akeys (A.crossSucc B l r s) =
      (sunion (akeys (A.sideRow s.1)) (akeys (B.sideRow s.2))).filter (crossKeep A B l r s) := by
  rw [crossSucc_eq, akeys_tabulate]

theorem crossSucc_keys_nodup (A B : DFA σ α) (l r : Bool) (s : PState σ)
    (hA : (akeys (A.sideRow s.1)).Nodup) : (akeys (A.crossSucc B l r s)).Nodup := by
  rw [akeys_crossSucc]
  exact List.Nodup.sublist List.filter_sublist (nodup_sunion hA)

theorem crossSucc_keys_sub (A B : DFA σ α) (l r : Bool) (s : PState σ) {c : α}
    (h : c ∈ akeys (A.crossSucc B l r s)) :
    c ∈ akeys (A.sideRow s.1) ∨ c ∈ akeys (B.sideRow s.2) := by
  rw [akeys_crossSucc] at h
  exact mem_sunion.mp (List.mem_filter.mp h).1

theorem mem_crossSucc {A B : DFA σ α} {l r : Bool} {s : PState σ} {e : α × PState σ}
    (h : e ∈ A.crossSucc B l r s) : e.2 = (A.step? s.1 e.1, B.step? s.2 e.1) := by
  rw [crossSucc_eq] at h
  obtain ⟨c, _, rfl⟩ := List.mem_map.mp h
  rfl

/-- The product run has legitimately stopped: the final-state predicate can no longer hold. -/
def Dead (l r : Bool) (x y : Option σ) : Prop :=
  (l = false ∧ x = none) ∨ (r = false ∧ y = none) ∨ (x = none ∧ y = none)

theorem Dead.step {l r : Bool} {x y : Option σ} (A B : DFA σ α) (c : α) (h : Dead l r x y) :
    Dead l r (A.step? x c) (B.step? y c) := by
  rcases h with ⟨hl, hx⟩ | ⟨hr, hy⟩ | ⟨hx, hy⟩
  · subst hx; exact Or.inl ⟨hl, rfl⟩
  · subst hy; exact Or.inr (Or.inl ⟨hr, rfl⟩)
  · subst hx; subst hy; exact Or.inr (Or.inr ⟨rfl, rfl⟩)

theorem Dead.run {l r : Bool} {x y : Option σ} (A B : DFA σ α) (w : List α) (h : Dead l r x y) :
    Dead l r (A.run x w) (B.run y w) :=
  List.foldl_rel (r := Dead l r) h fun c _ _ _ h => h.step A B c

/-- An entry is dropped only if no side has the key or a side that is not relevant lacks it. -/
theorem dropped_cases {l r hA hB : Bool}
    (h : ((hA || hB) && (!(!l && !hA) && !(!r && !hB))) = false) :
    (l = false ∧ hA = false) ∨ (r = false ∧ hB = false) ∨ (hA = false ∧ hB = false) := by
  revert l r hA hB; decide

theorem implStep_cross (A B : DFA σ α) (l r : Bool) (x y : Option σ) (c : α) :
    implStep (A.crossSucc B l r) (some (x, y)) c = some (A.step? x c, B.step? y c) ∨
    (implStep (A.crossSucc B l r) (some (x, y)) c = none ∧ Dead l r (A.step? x c) (B.step? y c)) := by
  rw [implStep, alookup_crossSucc]
  split
  · exact Or.inl rfl
  · rename_i hk
    have hA := step?_none_of_not_has A x c
    have hB := step?_none_of_not_has B y c
    exact Or.inr ⟨rfl, (dropped_cases (Bool.eq_false_iff.mpr hk)).imp (And.imp_right hA)
      (Or.imp (And.imp_right hB) (And.imp hA hB))⟩

theorem cross_run (A B : DFA σ α) (l r : Bool) (w : List α) :
    ∀ (x y : Option σ),
      implRun (A.crossSucc B l r) (some (x, y)) w = some (A.run x w, B.run y w) ∨
      (implRun (A.crossSucc B l r) (some (x, y)) w = none ∧ Dead l r (A.run x w) (B.run y w)) := by
  induction w with
  | nil => intro x y; left; rfl
  | cons c w ih =>
    intro x y
    rw [implRun_cons, run_cons, run_cons]
    rcases implStep_cross A B l r x y c with h | ⟨h, hd⟩
    · rw [h]; exact ih _ _
    · rw [h]; right; exact ⟨implRun_none _ _, hd.run A B w⟩

omit [DecidableEq α] in
theorem BinOp.fin_dead (op : BinOp) (A B : DFA σ α) {x y : Option σ}
    (h : Dead op.lrel op.rrel x y) : op.fin (A.isFinal x) (B.isFinal y) = false := by
  rcases h with ⟨hl, hx⟩ | ⟨hr, hy⟩ | ⟨hx, hy⟩
  · subst hx; cases op <;> simp [BinOp.lrel] at hl <;> simp [BinOp.fin, isFinal]
  · subst hy; cases op <;> simp [BinOp.rrel] at hr <;> simp [BinOp.fin, isFinal]
  · subst hx; subst hy; cases op <;> simp [BinOp.fin, isFinal]

theorem cross_verdict (op : BinOp) (A B : DFA σ α) (w : List α) :
    (implRun (A.crossSucc B op.lrel op.rrel) (some (some A.init, some B.init)) w).any
        (fun t => op.fin (A.isFinalO t.1) (B.isFinalO t.2)) = op.fin (A.accepts w) (B.accepts w) := by
  rcases cross_run A B op.lrel op.rrel w (some A.init) (some B.init) with h | ⟨h, hd⟩
  · rw [h]; rfl
  · rw [h]; exact (BinOp.fin_dead op A B hd).symm

/-- The closed finite universe of the product BFS: `AL.lprod` of the two node lists, each with
`none` in front. -/
def prodUniv (A B : DFA σ α) : List (PState σ) :=
  (none :: A.graphNodes.map some).flatMap fun x => (none :: B.graphNodes.map some).map fun y => (x, y)

omit [DecidableEq σ] in
theorem mem_optNodes {l : List σ} {x : Option σ} :
    x ∈ none :: l.map some ↔ x = none ∨ ∃ q ∈ l, x = some q := by
  simp only [List.mem_cons, List.mem_map, eq_comm]

omit [DecidableEq α] in
theorem mem_prodUniv (A B : DFA σ α) (x y : Option σ) :
    (x, y) ∈ A.prodUniv B ↔
      (x = none ∨ ∃ q ∈ A.graphNodes, x = some q) ∧ (y = none ∨ ∃ q ∈ B.graphNodes, y = some q) :=
  AL.mem_lprod.trans (and_congr mem_optNodes mem_optNodes)

theorem step?_in_univ (d : DFA σ α) (x : Option σ) (c : α) :
    d.step? x c = none ∨ ∃ q ∈ d.graphNodes, d.step? x c = some q := by
  cases h : d.step? x c with
  | none => exact Or.inl rfl
  | some t => exact Or.inr ⟨t, step?_mem_graphNodes d x c h, rfl⟩

theorem crossSucc_closed (A B : DFA σ α) (l r : Bool) (s : PState σ) (e : α × PState σ)
    (h : e ∈ A.crossSucc B l r s) : e.2 ∈ A.prodUniv B := by
  rw [mem_crossSucc h, mem_prodUniv]
  exact ⟨step?_in_univ A s.1 e.1, step?_in_univ B s.2 e.1⟩

omit [DecidableEq α] in
theorem length_prodUniv (A B : DFA σ α) :
    (A.prodUniv B).length = (A.graphNodes.length + 1) * (B.graphNodes.length + 1) :=
  (AL.length_lprod _ _).trans (by simp only [List.length_cons, List.length_map])

end DFA
end AV
