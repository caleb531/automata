/-
Proofs/RxInter.lean — `NFARegexBuilder.intersection`: the lazy product explored by BFS.
Core only.
-/
import AutomataVerif.Proofs.RxShuffle

namespace AV.Rx

variable {α : Type} [DecidableEq α]

namespace Builder

theorem mem_transSyms {b : Builder α} {p : Nat} {x : α} {ts : List Nat}
    (h : alookup (some x) (b.row p) = some ts) : x ∈ transSyms b.trans := by
  have he := alookup_some_mem h
  unfold transSyms
  rw [mem_dedup, List.mem_flatMap]
  exact ⟨_, mem_of_mem_getD_alookup he, List.mem_filterMap.mpr ⟨(some x, ts), he, rfl⟩⟩

section row
variable (b1 b2 : Builder α) (syms : List α) (name : Nat × Nat → Nat) (p q : Nat)

/-- The body of the `for symbol in new_input_symbols` loop: a name for the function `interRow`
folds over the symbols (`interRow_eq` is `rfl`). -/
def interSymStep (r : Row α) (x : α) : Row α :=
  match alookup (some x) (b1.row p), alookup (some x) (b2.row q) with
  | some ts1, some ts2 =>
      addTargets (some x) (ts1.flatMap fun t1 => ts2.map fun t2 => name (t1, t2)) r
  | _, _ => r

/-- `x = row1.get(a); if x is not None: r.setdefault(a, set()).update(g(x))`, with `o` the `x`. -/
def addLookup (o : Option (List Nat)) (a : Option α) (g : List Nat → List Nat) (r : Row α) : Row α :=
  match o with
  | some ts => addTargets a (g ts) r
  | none => r

theorem interRow_eq :
    interRow b1 b2 syms name (p, q) =
      syms.foldl (interSymStep b1 b2 name p q)
        (addLookup (alookup none (b2.row q)) none (fun ts => ts.map fun t => name (p, t))
          (addLookup (alookup none (b1.row p)) none (fun ts => ts.map fun t => name (t, q)) [])) :=
  rfl

theorem interRow_ind {P : Row α → Prop} (h0 : P [])
    (hadd : ∀ a ts r, (∀ x, a = some x → some x ∈ akeys (b1.row p)) → P r →
      P (addTargets a ts r)) : P (interRow b1 b2 syms name (p, q)) := by
  have hfold : ∀ acc, P acc → P (syms.foldl (interSymStep b1 b2 name p q) acc) := by
    induction syms with
    | nil => exact fun _ h => h
    | cons x rest ih =>
      intro acc h
      refine ih _ ?_
      unfold interSymStep
      cases h1 : alookup (some x) (b1.row p) with
      | none => exact h
      | some ts1 =>
        cases alookup (some x) (b2.row q) with
        | none => exact h
        | some ts2 =>
          exact hadd _ _ _ (fun y e => Option.some.inj e ▸ alookup_some_key_mem h1) h
  have hnone : ∀ (o : Option (List Nat)) (g : List Nat → List Nat) (r : Row α), P r →
      P (addLookup o none g r) := by
    intro o g r h
    cases o with
    | none => exact h
    | some ts => exact hadd _ _ _ (fun _ e => nomatch e) h
  rw [interRow_eq]
  exact hfold _ (hnone _ _ _ (hnone _ _ _ h0))

theorem mem_addLookup (o : Option (List Nat)) (g : List Nat → List Nat) (a a' : Option α)
    (r : Row α) (t : Nat) :
    t ∈ (alookup a' (addLookup o a g r)).getD [] ↔
      t ∈ (alookup a' r).getD [] ∨ (a' = a ∧ ∃ ts, o = some ts ∧ t ∈ g ts) := by
  cases o <;> simp [addLookup, mem_row_addTargets]

theorem mem_interSymStep (r : Row α) (x : α) (a : Option α) (t : Nat) :
    t ∈ (alookup a (interSymStep b1 b2 name p q r x)).getD [] ↔
      t ∈ (alookup a r).getD [] ∨
      (a = some x ∧ ∃ p', p' ∈ b1.targets p (some x) ∧ ∃ q', q' ∈ b2.targets q (some x) ∧
        t = name (p', q')) := by
  unfold interSymStep targets
  cases alookup (some x) (b1.row p) <;> cases alookup (some x) (b2.row q) <;>
    simp [mem_row_addTargets, eq_comm (a := t)]

theorem mem_interRow (hs1 : ∀ x, x ∈ transSyms b1.trans → x ∈ syms) (a : Option α) (t : Nat) :
    t ∈ (alookup a (interRow b1 b2 syms name (p, q))).getD [] ↔
      ∃ pq', prodStep b1.step b2.step (p, q) a pq' ∧ t = name pq' := by
  rw [interRow_eq]
  refine (foldl_or (X := fun r : Row α => t ∈ (alookup a r).getD [])
    (fun r x => mem_interSymStep b1 b2 name p q r x a t) syms _).trans ?_
  rw [mem_addLookup, mem_addLookup]
  simp only [alookup_nil, Option.getD_none, List.not_mem_nil, false_or, List.mem_map]
  constructor
  · rintro ((⟨rfl, ts, hl, p', hp', rfl⟩ | ⟨rfl, ts, hl, q', hq', rfl⟩) |
      ⟨x, _, rfl, p', hp', q', hq', rfl⟩)
    · exact ⟨(p', q), Or.inl ⟨(targets_some_iff b1 p p' _).mpr ⟨ts, hl, hp'⟩, rfl⟩, rfl⟩
    · exact ⟨(p, q'), Or.inr ⟨rfl, (targets_some_iff b2 q q' _).mpr ⟨ts, hl, hq'⟩⟩, rfl⟩
    · exact ⟨(p', q'), ⟨hp', hq'⟩, rfl⟩
  · rintro ⟨⟨p', q'⟩, hstep, rfl⟩
    cases a with
    | none =>
      rcases hstep with ⟨h, rfl⟩ | ⟨rfl, h⟩
      · obtain ⟨ts, hl, hp'⟩ := (targets_some_iff b1 p p' _).mp h
        exact Or.inl (Or.inl ⟨rfl, ts, hl, p', hp', rfl⟩)
      · obtain ⟨ts, hl, hq'⟩ := (targets_some_iff b2 q q' _).mp h
        exact Or.inl (Or.inr ⟨rfl, ts, hl, q', hq', rfl⟩)
    | some x =>
      obtain ⟨ts, hl, _⟩ := (targets_some_iff b1 p p' _).mp hstep.1
      exact Or.inr ⟨x, hs1 x (mem_transSyms hl), rfl, p', hstep.1, q', hstep.2, rfl⟩

end row

section spec
variable {b1 b2 : Builder α} {l1 h1 l2 h2 : Nat}

/-- `new_input_symbols` of `intersection`: the symbols on the edges of either operand. -/
def inSyms (b1 b2 : Builder α) : List α := dedup (transSyms b1.trans ++ transSyms b2.trans)

/-- The pairs the BFS of `intersection` visits, in the order it names them. -/
def inReach (b1 b2 : Builder α) : List (Nat × Nat) :=
  bfs (prodSucc b1 b2 (inSyms b1 b2)) (pairUniverse b1 b2) [(b1.init, b2.init)]

theorem prodSucc_of_step {pq pq' : Nat × Nat} {a : Option α}
    (h : prodStep b1.step b2.step pq a pq') : pq' ∈ prodSucc b1 b2 (inSyms b1 b2) pq := by
  obtain ⟨p, q⟩ := pq
  obtain ⟨p', q'⟩ := pq'
  unfold prodSucc
  cases a with
  | none =>
    rcases h with ⟨h, rfl⟩ | ⟨rfl, h⟩
    · exact List.mem_append_left _ (List.mem_append_left _ (List.mem_map.mpr ⟨p', h, rfl⟩))
    · exact List.mem_append_left _ (List.mem_append_right _ (List.mem_map.mpr ⟨q', h, rfl⟩))
  | some x =>
    obtain ⟨ts1, e1, _⟩ := (targets_some_iff b1 p p' _).mp h.1
    exact List.mem_append_right _ (List.mem_flatMap.mpr
      ⟨x, mem_dedup.mpr (List.mem_append_left _ (mem_transSyms e1)),
        List.mem_flatMap.mpr ⟨p', h.1, List.mem_map.mpr ⟨q', h.2, rfl⟩⟩⟩)

theorem step_of_prodSucc {syms : List α} {pq pq' : Nat × Nat}
    (h : pq' ∈ prodSucc b1 b2 syms pq) : ∃ a, prodStep b1.step b2.step pq a pq' := by
  unfold prodSucc at h
  rcases List.mem_append.mp h with h | h
  · rcases List.mem_append.mp h with h | h
    · obtain ⟨t, ht, rfl⟩ := List.mem_map.mp h
      exact ⟨none, Or.inl ⟨ht, rfl⟩⟩
    · obtain ⟨t, ht, rfl⟩ := List.mem_map.mp h
      exact ⟨none, Or.inr ⟨rfl, ht⟩⟩
  · obtain ⟨x, _, hx⟩ := List.mem_flatMap.mp h
    obtain ⟨t1, ht1, hx2⟩ := List.mem_flatMap.mp hx
    obtain ⟨t2, ht2, rfl⟩ := List.mem_map.mp hx2
    exact ⟨some x, ht1, ht2⟩

theorem prodStep_keys (i1 : b1.Inv l1 h1) (i2 : b2.Inv l2 h2) {pq pq' : Nat × Nat} {a : Option α}
    (hk : pq ∈ pairUniverse b1 b2) (h : prodStep b1.step b2.step pq a pq') :
    pq' ∈ pairUniverse b1 b2 :=
  (mem_pairUniverse b1 b2 pq'.1 pq'.2).mpr (prodStep_closed i1.closed i2.closed
    ((mem_pairUniverse b1 b2 pq.1 pq.2).mp hk) h)

theorem universe_closed (i1 : b1.Inv l1 h1) (i2 : b2.Inv l2 h2) (syms : List α) :
    ∀ u ∈ pairUniverse b1 b2, ∀ v ∈ prodSucc b1 b2 syms u, v ∈ pairUniverse b1 b2 :=
  fun _ hu _ hv => (step_of_prodSucc hv).elim fun _ hstep => prodStep_keys i1 i2 hu hstep

theorem init_mem_universe (i1 : b1.Inv l1 h1) (i2 : b2.Inv l2 h2) :
    ∀ s ∈ [(b1.init, b2.init)], s ∈ pairUniverse b1 b2 := fun _ hs =>
  List.mem_singleton.mp hs ▸ (mem_pairUniverse b1 b2 _ _).mpr ⟨i1.initKey, i2.initKey⟩

theorem mem_inReach (i1 : b1.Inv l1 h1) (i2 : b2.Inv l2 h2) (v : Nat × Nat) :
    v ∈ inReach b1 b2 ↔ Reach (prodSucc b1 b2 (inSyms b1 b2)) (b1.init, b2.init) v := by
  unfold inReach
  rw [mem_bfs_iff _ (init_mem_universe i1 i2) (universe_closed i1 i2 _)]
  simp

theorem inReach_init (i1 : b1.Inv l1 h1) (i2 : b2.Inv l2 h2) :
    (b1.init, b2.init) ∈ inReach b1 b2 := (mem_inReach i1 i2 _).mpr (Reach.refl _)

theorem inReach_step (i1 : b1.Inv l1 h1) (i2 : b2.Inv l2 h2) {pq pq' : Nat × Nat} {a : Option α}
    (h : pq ∈ inReach b1 b2) (hs : prodStep b1.step b2.step pq a pq') : pq' ∈ inReach b1 b2 :=
  (mem_inReach i1 i2 _).mpr (Reach.tail ((mem_inReach i1 i2 _).mp h) (prodSucc_of_step hs))

theorem inReach_keys (i1 : b1.Inv l1 h1) (i2 : b2.Inv l2 h2) {pq : Nat × Nat}
    (h : pq ∈ inReach b1 b2) : pq.1 ∈ b1.keys ∧ pq.2 ∈ b2.keys :=
  (mem_pairUniverse b1 b2 pq.1 pq.2).mp (Reach.mem_of_closed (universe_closed i1 i2 _)
    ((mem_inReach i1 i2 _).mp h) (init_mem_universe i1 i2 _ (List.mem_singleton.mpr rfl)))

theorem intersection_named (i1 : b1.Inv l1 h1) (i2 : b2.Inv l2 h2) (c : Nat) :
    Named (b1.intersection b2 c).1 (inReach b1 b2) c
      (interRow b1 b2 (inSyms b1 b2) fun pq => c + (inReach b1 b2).idxOf pq)
      (prodStep b1.step b2.step) (fun pq => pq.1 ∈ b1.finals ∧ pq.2 ∈ b2.finals)
      (b1.init, b2.init) := by
  refine ⟨nodup_bfs _ (init_mem_universe i1 i2) (universe_closed i1 i2 _), rfl,
    fun pq _ a t => mem_interRow b1 b2 _ _ pq.1 pq.2
      (fun x hx => mem_dedup.mpr (List.mem_append_left _ hx)) a t,
    fun pq hpq a pq' => inReach_step i1 i2 hpq, rfl, inReach_init i1 i2, fun f => ?_⟩
  show f ∈ ((inReach b1 b2).filter fun pq =>
    decide (pq.1 ∈ b1.finals) && decide (pq.2 ∈ b2.finals)).map
      (fun pq => c + (inReach b1 b2).idxOf pq) ↔ _
  simp only [List.mem_map, List.mem_filter, Bool.and_eq_true, decide_eq_true_eq, and_assoc,
    eq_comm (a := f)]

theorem _root_.AV.Rx.Built.intersection {S : α → Prop} {L1 L2 : List α → Prop} {c0 c1 c : Nat}
    (g1 : Built S L1 c0 b1 c1) (g2 : Built S L2 c1 b2 c) :
    Built S (fun w => L1 w ∧ L2 w) c0 (b1.intersection b2 c).1 (b1.intersection b2 c).2 := by
  have i1 := g1.inv
  have i2 := g2.inv
  refine ((intersection_named i1 i2 c).built ?_
    (Nat.le_of_lt (Nat.lt_trans i1.lo_lt_hi i2.lo_lt_hi)) fun pq _ => ?_).congr fun w =>
      Acc.prod_iff.trans (and_congr (g1.lang w) (g2.lang w))
  · rintro pq _ (_ | x) h
    · exact h.elim (fun h => i1.noIntoInit _ _ h.1) (fun h => i2.noIntoInit _ _ h.2)
    · exact i1.noIntoInit _ _ h.1
  · exact interRow_ind b1 b2 _ _ pq.1 pq.2
      (P := fun r => (akeys r).Nodup ∧ ∀ x, some x ∈ akeys r → S x)
      ⟨List.nodup_nil, fun _ hx => nomatch hx⟩ fun a ts r ha h =>
        ⟨nodup_akeys_ainsert h.1, fun x hx => (mem_akeys_ainsert.mp hx).elim
          (fun e => symsIn_row g1.syms pq.1 x (ha x e.symm)) (h.2 x)⟩

end spec

end Builder
end AV.Rx
