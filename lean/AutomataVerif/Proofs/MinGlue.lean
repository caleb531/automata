/-
Proofs/MinGlue.lean — C05 composed with C04 (core only, no new mathematics): what
Proofs/MinifyCorrect.lean proves of `_minify` on a `MinSource` (valid, duplicate-free, the language
of the DFA described, for every pop order) is read for a `Result` (`Result.minify`: `minify=True`
keeps everything a result says), and `minifyGuarantee` states it for the contract of
Proofs/MinCompose.lean.
-/
import AutomataVerif.Proofs.Expr

namespace AV
namespace C04
open DFA

variable {σ α : Type} [DecidableEq σ] [DecidableEq α]

/-- `minify=True`: `_minify` on arguments that describe a result keeps everything. -/
theorem Result.minify {S : List α} {P : DFA σ α} {L : List α → Bool} {kept finals : List σ}
    (r : Result S P L) (M : MinSource P kept finals) (pick : List Nat → Nat) :
    Result S (minifyCore kept P.syms P.trans P.init finals pick) L :=
  ⟨M.valid pick, M.pyShape pick, (minifyCore_syms _ _ _ _ _ _).trans r.syms,
    fun w => (M.accepts pick w).trans (r.lang w)⟩

/-- `_expand_dfa(..., minify=True)`: `_minify` is handed the whole result. -/
theorem Result.minify_allReached {S : List α} {P : DFA σ α} {L : List α → Bool} (r : Result S P L)
    (t : AllReached P) (pick : List Nat → Nat) :
    Result S (minifyCore P.states P.syms P.trans P.init P.finals pick) L :=
  r.minify (r.minSource t) pick

theorem minifyGuarantee : MinifyGuarantee :=
  fun _ _ _ _ _ _ _ _ _ pick h => minifyCoreOk_of_call h pick

end C04
end AV
