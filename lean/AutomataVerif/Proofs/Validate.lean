/-
Proofs/Validate.lean — `validate = ok` ↔ declarative well-formedness, for DFA and NFA.
-/
import AutomataVerif.Proofs.Basic
import AutomataVerif.Model.DFA
import AutomataVerif.Model.NFA

namespace AV

variable {σ α : Type} [DecidableEq σ] [DecidableEq α]

namespace DFA

/-- Declarative well-formedness of a DFA definition: what `validate` checks. -/
structure WF (d : DFA σ α) : Prop where
  rows : ∀ q ∈ d.states, q ∈ akeys d.trans
  complete : d.allowPartial = false → ∀ kv ∈ d.trans, ∀ a ∈ d.syms, a ∈ akeys kv.2
  symsOk : ∀ kv ∈ d.trans, ∀ a ∈ akeys kv.2, a ∈ d.syms
  tgtOk : ∀ kv ∈ d.trans, ∀ q ∈ avals kv.2, q ∈ d.states
  initOk : d.init ∈ d.states
  finalsOk : ∀ q ∈ d.finals, q ∈ d.states

theorem validateRow_eq_ok (d : DFA σ α) (paths : List (α × σ)) :
    d.validateRow paths = .ok () ↔
      (d.allowPartial = false → ∀ a ∈ d.syms, a ∈ akeys paths) ∧
      (∀ a ∈ akeys paths, a ∈ d.syms) ∧ (∀ q ∈ avals paths, q ∈ d.states) := by
  unfold validateRow
  cases d.allowPartial <;>
    simp only [Res.andThen_eq_ok, firstErr_eq_ok, guardE_eq_ok, ahas_iff, decide_eq_true_eq,
      if_true, Bool.false_eq_true, if_false, true_and, true_implies, reduceCtorEq, false_implies]

theorem validate_eq_ok (d : DFA σ α) : d.validate = .ok () ↔ d.WF := by
  unfold validate validateStartStates
  simp only [Res.andThen_eq_ok, firstErr_eq_ok, validateRow_eq_ok, guardE_eq_ok, ahas_iff,
    decide_eq_true_eq, List.all_eq_true]
  constructor
  · rintro ⟨h1, h2, h3, h4⟩
    exact ⟨h1, fun hp kv hkv => (h2 kv hkv).1 hp, fun kv hkv => (h2 kv hkv).2.1,
      fun kv hkv => (h2 kv hkv).2.2, h3, h4⟩
  · intro wf
    exact ⟨wf.rows, fun kv hkv => ⟨fun hp => wf.complete hp kv hkv, wf.symsOk kv hkv, wf.tgtOk kv hkv⟩,
      wf.initOk, wf.finalsOk⟩

end DFA

namespace NFA

/-- Declarative well-formedness of an NFA definition: what `validate` checks. -/
structure WF (n : NFA σ α) : Prop where
  symsOk : ∀ kv ∈ n.trans, ∀ a, some a ∈ akeys kv.2 → a ∈ n.syms
  tgtOk : ∀ kv ∈ n.trans, ∀ ts ∈ avals kv.2, ∀ q ∈ ts, q ∈ n.states
  initOk : n.init ∈ n.states
  initRow : n.init ∈ akeys n.trans ∨ n.states.length ≤ 1
  finalsOk : ∀ q ∈ n.finals, q ∈ n.states

theorem validateRow_eq_ok (n : NFA σ α) (paths : List (Option α × List σ)) :
    n.validateRow paths = .ok () ↔
      (∀ a, some a ∈ akeys paths → a ∈ n.syms) ∧ (∀ ts ∈ avals paths, ∀ q ∈ ts, q ∈ n.states) := by
  unfold validateRow
  simp only [Res.andThen_eq_ok, firstErr_eq_ok, guardE_eq_ok, decide_eq_true_eq]
  constructor
  · rintro ⟨h1, h2⟩
    exact ⟨fun a ha => by simpa using h1 (some a) ha, h2⟩
  · rintro ⟨h1, h2⟩
    refine ⟨fun a ha => ?_, h2⟩
    cases a with
    | none => rfl
    | some a => simpa using h1 a ha

theorem validate_eq_ok (n : NFA σ α) : n.validate = .ok () ↔ n.WF := by
  unfold validate
  simp only [Res.andThen_eq_ok, firstErr_eq_ok, validateRow_eq_ok, guardE_eq_ok, ahas_iff,
    decide_eq_true_eq, List.all_eq_true, Bool.or_eq_true]
  constructor
  · rintro ⟨h1, h2, h3, h4⟩
    exact ⟨fun kv hkv => (h1 kv hkv).1, fun kv hkv => (h1 kv hkv).2, h2, h3, h4⟩
  · intro wf
    exact ⟨fun kv hkv => ⟨wf.symsOk kv hkv, wf.tgtOk kv hkv⟩, wf.initOk, wf.initRow, wf.finalsOk⟩

end NFA
end AV
