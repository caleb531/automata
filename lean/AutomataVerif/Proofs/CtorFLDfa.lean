/-
Proofs/CtorFLDfa.lean — from_finite_language (C15): from the final invariant to the
returned DFA, in partial form and in complete form (`_to_complete` with trap `0`, which is
`DFA.toCompleteCore` of the partial form: `toComplete_eq_core`): validity and language, and
invalidity when a word has a symbol outside the alphabet.  Core only.
-/
import AutomataVerif.Proofs.CtorFLMain
import AutomataVerif.Proofs.Complete

namespace AV.Ctor.FL

variable {α : Type} [DecidableEq α]

theorem alookup_map_key_none {κ κ' β γ : Type} [DecidableEq κ'] (f : κ → κ') (g : β → γ) (z : κ')
    (hz : ∀ a, f a ≠ z) (d : List (κ × β)) :
    alookup z (d.map fun kv => (f kv.1, g kv.2)) = none :=
  alookup_eq_none_iff.mpr fun h => by
    rw [akeys_map_key] at h
    obtain ⟨a, _, e⟩ := List.mem_map.mp h
    exact hz a e

theorem mergeRow_cons {σ : Type} (dflt : List (α × σ)) (e : α × σ) (rest : List (α × σ)) :
    mergeRow dflt (e :: rest) = mergeRow (ainsert e.1 e.2 dflt) rest := rfl

/-- `{**default, **row}` for a dict `row`: the row wins, the default fills the gaps. -/
theorem alookup_mergeRow {σ : Type} (a : α) :
    ∀ (row dflt : List (α × σ)), (akeys row).Nodup →
      alookup a (mergeRow dflt row) =
        match alookup a row with
        | some t => some t
        | none => alookup a dflt := by
  intro row
  induction row with
  | nil => intro dflt _; rfl
  | cons e rest ih =>
    intro dflt hnd
    obtain ⟨b, t⟩ := e
    have hnd' : b ∉ akeys rest ∧ (akeys rest).Nodup := by simpa [akeys] using hnd
    rw [mergeRow_cons, ih (ainsert b t dflt) hnd'.2, alookup_cons, alookup_ainsert]
    by_cases h : b = a
    · subst h
      rw [alookup_eq_none_iff.mpr hnd'.1]
      simp
    · simp only [h, if_false]

/-- `{**default, **lookup}` over a default with the keys `syms` is the row `fillRow` of
`DFA.toCompleteCore`. -/
theorem mergeRow_eq_map {σ : Type} (syms : List α) (hnd : syms.Nodup) (row : List (α × σ))
    (hrow : (akeys row).Nodup) (hk : ∀ a ∈ akeys row, a ∈ syms) (f : α → σ) :
    mergeRow (syms.map fun a => (a, f a)) row =
      syms.map fun a => (a, (alookup a row).getD (f a)) := by
  induction row generalizing f with
  | nil => rfl
  | cons e rest ih =>
    have hn := List.nodup_cons.mp hrow
    rw [mergeRow_cons, ainsert_tab f e.1 e.2 hnd (hk _ List.mem_cons_self),
      ih hn.2 (fun a ha => hk a (List.mem_cons_of_mem _ ha))]
    refine List.map_congr_left fun a _ => ?_
    show (a, _) = (a, (if e.1 = a then some e.2 else alookup a rest).getD (f a))
    by_cases h : a = e.1
    · subst h
      rw [if_pos rfl, if_pos rfl, alookup_eq_none_iff.mpr hn.1]; rfl
    · rw [if_neg h, if_neg (Ne.symm h)]

/-- The two models of `DFA._to_complete` (`Ctor.toComplete` of the constructors, `DFA.toCompleteCore`
of the operations) agree on a description whose rows are dicts over a duplicate-free alphabet. -/
theorem toComplete_eq_core {σ : Type} [DecidableEq σ] (d : DFA σ α) (trap : σ) (hs : d.syms.Nodup)
    (hrows : ∀ kv ∈ d.trans, (akeys kv.2).Nodup) (hk : ∀ kv ∈ d.trans, ∀ a ∈ akeys kv.2, a ∈ d.syms) :
    toComplete d.syms d.trans d.init d.finals trap = build (d.toCompleteCore trap) := by
  have : (d.trans.map fun kv => (kv.1, mergeRow (rowOf d.syms fun _ => trap) kv.2)) =
      d.filledTrans trap :=
    List.map_congr_left fun kv hkv => by
      rw [C04.fillRow_eq trap (hk kv hkv)]
      exact congrArg (Prod.mk kv.1) (mergeRow_eq_map d.syms hs kv.2 (hrows kv hkv) (hk kv hkv) _)
  unfold toComplete
  simp only [this]
  rfl

section final
variable {added : List (List α)} {last : List α} {s : FLState α} {φ : List α → List α}
variable (inv : FLInv added last 0 s φ) (hadd : added ≠ [])
include inv hadd

omit hadd in
theorem φ_root : φ [] = [] := inv.active 0 (Nat.le_refl _)

omit [DecidableEq α] inv in
theorem inTrie_root : InTrie added [] := by
  obtain ⟨w, hw⟩ := List.exists_mem_of_ne_nil added hadd
  exact ⟨w, hw, List.nil_prefix⟩

theorem root_key : ([] : List α) ∈ akeys s.trans := by
  have := inv.dom [] (inTrie_root hadd)
  rwa [φ_root inv] at this

open Classical in
theorem runO_root (w : List α) :
    runO (look s) (some []) w = if InTrie added w then some (φ w) else none := by
  have := runO_spec inv w [] (inTrie_root hadd)
  rwa [φ_root inv, List.nil_append] at this

theorem runO_keys (w : List α) (q : List α) (h : runO (look s) (some []) w = some q) :
    q ∈ akeys s.trans := by
  classical
  rw [runO_root inv hadd] at h
  by_cases hw : InTrie added w
  · rw [if_pos hw] at h
    exact Option.some.inj h ▸ inv.dom w hw
  · rw [if_neg hw] at h; cases h

theorem accFrom_root (w : List α) : accFrom s [] w = true ↔ w ∈ added := by
  have := accFrom_trie inv (inTrie_root hadd) w
  rwa [φ_root inv, List.nil_append] at this

omit hadd in
theorem look_target (q : List α) (a : α) (t : List α) (h : look s q a = some t) :
    q ∈ akeys s.trans ∧ t ∈ akeys s.trans ∧ ∃ w ∈ added, a ∈ w := by
  classical
  have hq : q ∈ akeys s.trans := key_of_look h
  obtain ⟨p, hp, rfl⟩ := inv.surj q hq
  rw [inv.step p a hp] at h
  by_cases h2 : InTrie added (p ++ [a])
  · rw [if_pos h2] at h
    obtain ⟨w, hw, t', rfl⟩ := h2
    exact ⟨hq, Option.some.inj h ▸ inv.dom _ ⟨_, hw, List.prefix_append _ _⟩, _, hw, by simp⟩
  · rw [if_neg h2] at h; cases h

omit hadd in
theorem look_of_mem {q : List α} {row : List (α × List α)} (hr : alookup q s.trans = some row)
    {e : α × List α} (he : e ∈ row) : look s q e.1 = some e.2 := by
  rw [look_of_row hr]
  exact alookup_of_mem_nodup (inv.rowsNodup q row hr) he

end final

omit [DecidableEq α] in
theorem pref_inj (a b : List α) (h : FLName.pref a = FLName.pref b) : a = b := by
  cases h; rfl

/-- The table with Python's names. -/
def flTrans (s : FLState α) : List (FLName α × List (α × FLName α)) :=
  s.trans.map fun kv => (FLName.pref kv.1, kv.2.map fun e => (e.1, FLName.pref e.2))

def flPartialDFA (syms : List α) (s : FLState α) : DFA (FLName α) α :=
  { states := akeys (flTrans s), syms := syms, trans := flTrans s, init := FLName.pref [],
    finals := s.finals.map FLName.pref, allowPartial := true }

theorem flTrans_lookup (s : FLState α) (q : List α) :
    alookup (FLName.pref q) (flTrans s) =
      (alookup q s.trans).map fun row => row.map fun e => (e.1, FLName.pref e.2) := by
  unfold flTrans
  exact alookup_map_key FLName.pref _ fun k _ => pref_inj k q

omit [DecidableEq α] in
theorem flTrans_keys (s : FLState α) (x : FLName α) :
    x ∈ akeys (flTrans s) ↔ ∃ q, q ∈ akeys s.trans ∧ x = FLName.pref q := by
  unfold flTrans
  rw [akeys_map_key]
  simp only [List.mem_map]
  constructor
  · rintro ⟨q, hq, rfl⟩; exact ⟨q, hq, rfl⟩
  · rintro ⟨q, hq, rfl⟩; exact ⟨q, hq, rfl⟩

theorem flPartial_step (syms : List α) (s : FLState α) (q : List α) (a : α) :
    (flPartialDFA syms s).step? (some (FLName.pref q)) a = (look s q a).map FLName.pref := by
  simp only [DFA.step?, DFA.row, DFA.row?, flPartialDFA]
  rw [flTrans_lookup]
  unfold look
  cases h : alookup q s.trans with
  | none => simp
  | some row =>
    simp only [Option.map_some, Option.getD_some, Option.bind_some]
    exact alookup_map_val FLName.pref a row

omit [DecidableEq α] in
theorem mem_map_pref {t : List α} {l : List (List α)} : FLName.pref t ∈ l.map FLName.pref ↔ t ∈ l :=
  mem_map_iff_of_inj fun y _ => pref_inj y t

omit [DecidableEq α] in
theorem flTrans_keysNodup {s : FLState α} (h : (akeys s.trans).Nodup) : (akeys (flTrans s)).Nodup := by
  unfold flTrans
  rw [akeys_map_key]
  exact nodup_map_of_inj_on h fun a _ b _ => pref_inj a b

section finalDfa
variable {added : List (List α)} {last : List α} {s : FLState α} {φ : List α → List α}
variable (syms : List α) (inv : FLInv added last 0 s φ) (hadd : added ≠ [])
variable (hover : ∀ w ∈ added, ∀ c ∈ w, c ∈ syms) (hsymsnd : syms.Nodup)
include inv hadd hover

theorem flPartial_wf : (flPartialDFA syms s).WF := by
  have hrows : ∀ kv ∈ flTrans s, ∃ q row, alookup q s.trans = some row ∧
      kv = (FLName.pref q, row.map fun e => (e.1, FLName.pref e.2)) := by
    intro kv hkv
    obtain ⟨kv0, h0, rfl⟩ := List.mem_map.mp hkv
    exact ⟨kv0.1, kv0.2, alookup_of_mem_nodup inv.keysNodup h0, rfl⟩
  refine
    { rows := fun q hq => hq
      complete := fun h => nomatch h
      symsOk := ?_
      tgtOk := ?_
      initOk := (flTrans_keys s _).mpr ⟨[], root_key inv hadd, rfl⟩
      finalsOk := ?_ }
  · intro kv hkv a ha
    obtain ⟨q, row, hr, rfl⟩ := hrows kv hkv
    rw [akeys_map_val] at ha
    obtain ⟨e, he, rfl⟩ := List.mem_map.mp ha
    obtain ⟨_, _, w, hw, haw⟩ := look_target inv q e.1 e.2 (look_of_mem inv hr he)
    exact hover w hw _ haw
  · intro kv hkv t ht
    obtain ⟨q, row, hr, rfl⟩ := hrows kv hkv
    obtain ⟨e', he', rfl⟩ := List.mem_map.mp ht
    obtain ⟨e, he, rfl⟩ := List.mem_map.mp he'
    obtain ⟨_, htk, _⟩ := look_target inv q e.1 e.2 (look_of_mem inv hr he)
    exact (flTrans_keys s _).mpr ⟨e.2, htk, rfl⟩
  · intro x hx
    obtain ⟨q, hq, rfl⟩ := List.mem_map.mp hx
    exact (flTrans_keys s _).mpr ⟨q, inv.finKeys q hq, rfl⟩

omit hadd hover in
theorem flPartial_simulates :
    Simulates (flPartialDFA syms s) (Option.map FLName.pref) (stepO (look s))
      (fun x => ∀ q, x = some q → q ∈ akeys s.trans) (finO s · = true) where
  step x _ a _ := by
    cases x with
    | none => exact ⟨rfl, fun _ e => (nomatch e)⟩
    | some q => exact ⟨flPartial_step syms s q a, fun t ht => (look_target inv q a t ht).2.1⟩
  final x _ := by
    cases x with
    | none => exact Iff.rfl
    | some q => exact (decide_eq_true_iff.trans mem_map_pref).trans decide_eq_true_iff.symm

theorem flPartial_accepts (w : List α) :
    (flPartialDFA syms s).accepts w = true ↔ Over syms w ∧ w ∈ added := by
  rw [(flPartial_simulates syms inv).accepts (flPartial_wf syms inv hadd hover) (k0 := some []) rfl
    fun _ e => Option.some.inj e ▸ root_key inv hadd]
  exact and_congr_right fun _ => accFrom_root inv hadd w

/-- Names of the complete form: a state of the table or the trap `0`. -/
def cName : Option (List α) → FLName α
  | some q => FLName.pref q
  | none => FLName.zero

def flCompleteTable : List (FLName α × List (α × FLName α)) :=
  ainsert FLName.zero (rowOf syms fun _ => FLName.zero)
    ((flTrans s).map fun kv => (kv.1, mergeRow (rowOf syms fun _ => FLName.zero) kv.2))

def flCompleteDFA : DFA (FLName α) α :=
  { states := akeys (flCompleteTable syms (s := s)), syms := syms, trans := flCompleteTable syms (s := s),
    init := FLName.pref [], finals := s.finals.map FLName.pref, allowPartial := false }

set_option linter.unusedSectionVars false in
theorem toComplete_eq :
    toComplete syms (flTrans s) (FLName.pref []) (s.finals.map FLName.pref) FLName.zero =
      build (flCompleteDFA syms (s := s)) := rfl

omit inv hadd hover in
theorem flComplete_keys (x : FLName α) :
    x ∈ akeys (flCompleteTable syms (s := s)) ↔ x = FLName.zero ∨ ∃ q, q ∈ akeys s.trans ∧ x = FLName.pref q := by
  unfold flCompleteTable
  rw [mem_akeys_ainsert, akeys_map_val, flTrans_keys]

omit inv hadd hover in
theorem flComplete_row (q : List α) (row : List (α × List α)) (hr : alookup q s.trans = some row) :
    alookup (FLName.pref q) (flCompleteTable syms (s := s)) =
      some (mergeRow (rowOf syms fun _ => FLName.zero) (row.map fun e => (e.1, FLName.pref e.2))) := by
  unfold flCompleteTable
  rw [alookup_ainsert]
  have : ¬ (FLName.zero : FLName α) = FLName.pref q := fun e => by cases e
  simp only [this, if_false]
  rw [alookup_map_val, flTrans_lookup, hr]
  rfl

omit hadd hover in
theorem flComplete_merged (q : List α) (row : List (α × List α)) (hr : alookup q s.trans = some row)
    (a : α) :
    alookup a (mergeRow (rowOf syms fun _ => FLName.zero) (row.map fun e => (e.1, FLName.pref e.2))) =
      match look s q a with
      | some t => some (FLName.pref t)
      | none => if a ∈ syms then some FLName.zero else none := by
  rw [alookup_mergeRow a _ _ (by rw [akeys_map_val]; exact inv.rowsNodup q row hr)]
  rw [alookup_map_val, alookup_rowOf, look_of_row hr]
  cases alookup a row <;> rfl

omit inv hadd hover in
theorem flComplete_zero_row :
    alookup FLName.zero (flCompleteTable syms (s := s)) = some (rowOf syms fun _ => FLName.zero) := by
  unfold flCompleteTable; rw [alookup_ainsert, if_pos rfl]

omit hadd hover in
theorem flComplete_keysNodup : (akeys (flCompleteTable syms (s := s))).Nodup := by
  unfold flCompleteTable
  refine nodup_akeys_ainsert ?_
  rw [akeys_map_val]
  exact flTrans_keysNodup inv.keysNodup

omit hadd hover in
theorem flComplete_step (x : Option (List α)) (hx : ∀ q, x = some q → q ∈ akeys s.trans) (a : α)
    (ha : a ∈ syms) :
    (flCompleteDFA syms (s := s)).step? (some (cName x)) a =
      some (cName (stepO (look s) x a)) := by
  cases x with
  | none =>
    rw [cName, (flCompleteDFA syms (s := s)).step?_of_row (flComplete_zero_row syms), alookup_rowOf,
      if_pos ha]
    rfl
  | some q =>
    obtain ⟨row, hr⟩ := exists_alookup (hx q rfl)
    rw [cName, (flCompleteDFA syms (s := s)).step?_of_row (flComplete_row syms q row hr),
      flComplete_merged syms inv q row hr a, stepO_some]
    cases look s q a with
    | none => rw [if_pos ha]; rfl
    | some t => rfl

include hsymsnd in
/-- The complete form is `to_complete` of the partial form. -/
theorem flComplete_eq_core :
    flCompleteDFA syms (s := s) = (flPartialDFA syms s).toCompleteCore FLName.zero := by
  have wf := flPartial_wf syms inv hadd hover
  have hrows : ∀ kv ∈ flTrans s, (akeys kv.2).Nodup := by
    intro kv hkv
    obtain ⟨kv0, h0, rfl⟩ := List.mem_map.mp hkv
    rw [akeys_map_val]
    exact inv.rowsNodup _ _ (alookup_of_mem_nodup inv.keysNodup h0)
  have h : build (flCompleteDFA syms (s := s)) =
      build ((flPartialDFA syms s).toCompleteCore FLName.zero) :=
    toComplete_eq_core (flPartialDFA syms s) FLName.zero hsymsnd hrows wf.symsOk
  rw [build_ok_of_wf (C04.toCompleteCore_wf (trap := FLName.zero) wf)] at h
  exact (build_ok_iff.mp h).1.symm

include hsymsnd in
theorem flComplete_wf : (flCompleteDFA syms (s := s)).WF :=
  flComplete_eq_core syms inv hadd hover hsymsnd ▸ C04.toCompleteCore_wf (flPartial_wf syms inv hadd hover)

omit hadd hover in
theorem flComplete_simulates :
    Simulates (flCompleteDFA syms (s := s)) (fun x => some (cName x))
      (stepO (look s)) (fun x => ∀ q, x = some q → q ∈ akeys s.trans)
      (finO s · = true) where
  step x hx a ha := by
    refine ⟨flComplete_step syms inv x hx a ha, fun q hq => ?_⟩
    cases x with
    | none => cases hq
    | some q0 => exact (look_target inv q0 a q hq).2.1
  final x _ := by
    cases x with
    | none => exact ⟨fun h => (by obtain ⟨_, _, e⟩ := List.mem_map.mp (of_decide_eq_true h); cases e),
        fun e => (nomatch e)⟩
    | some q => exact (decide_eq_true_iff.trans mem_map_pref).trans decide_eq_true_iff.symm

include hsymsnd in
theorem flComplete_accepts (w : List α) :
    (flCompleteDFA syms (s := s)).accepts w = true ↔ Over syms w ∧ w ∈ added := by
  rw [flComplete_eq_core syms inv hadd hover hsymsnd,
    C04.toCompleteCore_accepts (flPartial_wf syms inv hadd hover)
      (fun h => by obtain ⟨q, _, e⟩ := (flTrans_keys s _).mp h; cases e)]
  exact flPartial_accepts syms inv hadd hover w

end finalDfa

section foreign
variable {added : List (List α)} {last : List α} {s : FLState α} {φ : List α → List α}
variable (syms : List α) (inv : FLInv added last 0 s φ)
include inv

theorem exists_look_of_mem (w : List α) (hw : w ∈ added) (c : α) (hc : c ∈ w) :
    ∃ q t, look s q c = some t := by
  obtain ⟨u, v, rfl⟩ := List.append_of_mem hc
  have h1 : InTrie added u := ⟨_, hw, List.prefix_append u (c :: v)⟩
  have h2 : InTrie added (u ++ [c]) := ⟨_, hw, by
    rw [show u ++ c :: v = (u ++ [c]) ++ v by simp]; exact List.prefix_append _ _⟩
  refine ⟨φ u, φ (u ++ [c]), ?_⟩
  rw [inv.step u c h1, if_pos h2]

/-- A symbol of a word of the language that is outside the alphabet labels a transition. -/
theorem flPartial_not_wf (w : List α) (hw : w ∈ added) (c : α) (hc : c ∈ w) (hcs : c ∉ syms) :
    ¬ (flPartialDFA syms s).WF := by
  intro wf
  obtain ⟨q, t, hl⟩ := exists_look_of_mem inv w hw c hc
  have hstep : (flPartialDFA syms s).step? (some (FLName.pref q)) c = some (FLName.pref t) := by
    rw [flPartial_step, hl]; rfl
  rw [DFA.step?_foreign wf _ hcs] at hstep; cases hstep

theorem flComplete_not_wf (w : List α) (hw : w ∈ added) (c : α) (hc : c ∈ w) (hcs : c ∉ syms) :
    ¬ (flCompleteDFA syms (s := s)).WF := by
  intro wf
  obtain ⟨q, t, hl⟩ := exists_look_of_mem inv w hw c hc
  obtain ⟨row, hr⟩ := exists_alookup (key_of_look hl)
  have hstep : (flCompleteDFA syms (s := s)).step? (some (FLName.pref q)) c = some (FLName.pref t) := by
    rw [(flCompleteDFA syms (s := s)).step?_of_row (flComplete_row syms q row hr),
      flComplete_merged syms inv q row hr c, hl]
  rw [DFA.step?_foreign wf _ hcs] at hstep; cases hstep

end foreign

/-- What `from_finite_language` returns for a non-empty language: the DFA read off the final table,
which satisfies the invariant and has pairwise distinguishable registered states. -/
theorem fromFiniteLanguage_eq {lt : α → α → Bool} (ho : StrictTotal lt) (syms : List α)
    (lang : List (List α)) (asPartial : Bool) (hne : lang ≠ []) (hnd : lang.Nodup) :
    ∃ (added : List (List α)) (last : List α) (s : FLState α) (φ : List α → List α),
      (∀ w, w ∈ added ↔ w ∈ lang) ∧ added ≠ [] ∧ FLInv added last 0 s φ ∧ RegDist s ∧
      fromFiniteLanguage lt syms lang asPartial =
        if asPartial then build (flPartialDFA syms s) else build (flCompleteDFA syms (s := s)) := by
  have hinc := increasing_sortWords ho lang hnd
  have hmem := mem_sortWords (lt := lt) lang
  have hemp : lang.isEmpty = false := by
    cases lang with
    | nil => exact absurd rfl hne
    | cons a t => rfl
  cases hsort : sortWords lt lang with
  | nil =>
    obtain ⟨w, hw⟩ := List.exists_mem_of_ne_nil lang hne
    have := (hmem w).mpr hw
    rw [hsort] at this; cases this
  | cons first rest =>
    rw [hsort] at hinc hmem
    obtain ⟨s, φ, last, hmain, inv, hS⟩ := construction_inv ho first rest hinc
    refine ⟨first :: rest, last, s, φ, hmem, List.cons_ne_nil _ _, inv, regDist_of_sigs inv hS, ?_⟩
    unfold fromFiniteLanguage
    rw [hemp, hsort]
    simp only [Bool.false_eq_true, if_false]
    rw [show flMain rest first (flAddWord { trans := [], back := [([], [])], finals := [], sigs := [] } first)
      = .ok s from hmain]
    cases asPartial <;> rfl

end AV.Ctor.FL
