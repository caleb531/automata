/-
Proofs/MinGlueSubset.lean — `DFA.from_nfa` on the `Result` layer of C04: the subset construction
(Proofs/Subset.lean: the BFS of `_expand_dfa` over the subset automaton is exhaustive, its rows use
alphabet symbols only, its verdict is that of the NFA) makes `n.toDFA` a `Result` with all states
reached (`toDFA_result`); renaming and `_minify` are `Result.renumber` and
`Result.minify_allReached` (core only).
-/
import AutomataVerif.Proofs.Subset
import AutomataVerif.Proofs.MinGlue

namespace AV
namespace C07
open DFA

variable {σ α : Type} [DecidableEq σ] [DecidableEq α]

theorem toDFA_wf {n : NFA σ α} (wf : n.WF) : n.toDFA.WF :=
  C04.expand_wf n.subsetFinal n.syms (subset_expandHyp n (n.closure n.init))
    (fun u _ => subsetSucc_keys_sub wf u)

theorem toDFA_pyShape {n : NFA σ α} (ps : n.PyShape) : n.toDFA.PyShape :=
  C04.expand_pyShape n.subsetFinal n.syms (subset_expandHyp n (n.closure n.init)) ps.syms_nodup

/-- `DFA.from_nfa(n, retain_names=True, minify=False)`, all that is used of it. -/
theorem toDFA_result {n : NFA σ α} (wf : n.WF) (ps : n.PyShape) :
    C04.Result n.syms n.toDFA n.accepts ∧ C04.AllReached n.toDFA :=
  (C04.expand_result n.subsetFinal n.syms (subset_expandHyp n (n.closure n.init))
    (fun u _ => subsetSucc_keys_sub wf u) ps.syms_nodup).imp
    (·.congr fun w => subset_verdict wf ps w fun _ hq => NFA.closure_sub_states wf wf.initOk hq) id

/-- `DFA.from_nfa(n, minify=False)` has the language of `n` (the statement of `C07_from_nfa_lang`). -/
theorem toDFA_accepts {n : NFA σ α} (wf : n.WF) (ps : n.PyShape) (w : List α) :
    n.toDFA.accepts w = n.accepts w :=
  (toDFA_result wf ps).1.lang w

/-- The arguments with which `from_nfa(minify=True)` calls `_minify` — all states of the
subset DFA — are a source describing the subset DFA, unconditionally. -/
theorem toDFA_minSource {n : NFA σ α} (wf : n.WF) (ps : n.PyShape) :
    MinSource n.toDFA n.toDFA.states n.toDFA.finals :=
  let ⟨r, t⟩ := toDFA_result wf ps
  r.minSource t

/-- `DFA.from_nfa(n, retain_names=True, minify=True)`. -/
theorem toDFAMin_result {n : NFA σ α} (wf : n.WF) (ps : n.PyShape) (pick : List Nat → Nat) :
    C04.Result n.syms (n.toDFAMin pick) n.accepts :=
  let ⟨r, t⟩ := toDFA_result wf ps
  r.minify_allReached t pick

/-- `DFA.from_nfa(n)` with the default options `retain_names=False, minify=True`: `_minify` runs
on the renumbered table. -/
theorem toDFAMinRenum_result {n : NFA σ α} (wf : n.WF) (ps : n.PyShape) (pick : List Nat → Nat) :
    C04.Result n.syms (n.toDFAMinRenum pick) n.accepts :=
  let ⟨r, t⟩ := toDFA_result wf ps
  (r.renumber t.keys).minify_allReached (t.renumber r.wf) pick

/-- `_minify` as called by `from_nfa(minify=True)`: valid, duplicate-free, and accepts the
language of the refinement system it was given — for every pop order `pick`. -/
theorem toDFAMin_core {n : NFA σ α} (wf : n.WF) (ps : n.PyShape) (pick : List Nat → Nat) :
    (minifyCore n.toDFA.states n.toDFA.syms n.toDFA.trans n.toDFA.init n.toDFA.finals pick).validate
        = .ok () ∧
    (minifyCore n.toDFA.states n.toDFA.syms n.toDFA.trans n.toDFA.init n.toDFA.finals pick).PyShape ∧
    ∀ w, (minifyCore n.toDFA.states n.toDFA.syms n.toDFA.trans n.toDFA.init n.toDFA.finals
        pick).accepts w =
      mfin n.toDFA.finals (mrun n.toDFA.states n.toDFA.trans (some n.toDFA.init) w) :=
  have ok := (toDFA_minSource wf ps).ok pick
  ⟨ok.valid, ok.pyShape, ok.accepts⟩

/-- The arguments with which `from_nfa()` — default options `retain_names=False,
minify=True` — calls `_minify` (the renumbered table with all its states) are a source
describing the renumbered subset DFA. -/
theorem toDFA_renumber_minSource {n : NFA σ α} (wf : n.WF) (ps : n.PyShape) :
    MinSource n.toDFA.renumber n.toDFA.renumber.states n.toDFA.renumber.finals :=
  let ⟨r, t⟩ := toDFA_result wf ps
  (r.renumber t.keys).minSource (t.renumber r.wf)

/-- `_minify` as called by `from_nfa()` with the default options: valid, duplicate-free,
and with the language of the NFA — for every pop order `pick`. -/
theorem toDFAMinRenum_core {n : NFA σ α} (wf : n.WF) (ps : n.PyShape) (pick : List Nat → Nat) :
    (n.toDFAMinRenum pick).validate = .ok () ∧ (n.toDFAMinRenum pick).PyShape ∧
    ∀ w, (n.toDFAMinRenum pick).accepts w = n.accepts w :=
  let r := toDFAMinRenum_result wf ps pick
  ⟨r.valid, r.pyShape, r.lang⟩

end C07
end AV
