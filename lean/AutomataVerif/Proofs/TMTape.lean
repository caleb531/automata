/-
Proofs/TMTape.lean — how `write_symbol` / `move` act on the head-relative view of a `TMTape`
(both tape ends, all directions).  The view is `blankTape` of the stored cells read from the head
(`Tape.view_eq`), so the arithmetic on positions is done once, on `blankTape`.
-/
import AutomataVerif.Spec.TM
import Mathlib.Logic.Function.Basic
namespace AV.TM
variable {Γ : Type}

theorem blankTape_append_blank (c : List Γ) (b : Γ) (j : Int) : blankTape b (c ++ [b]) j = blankTape b c j := by
  unfold blankTape
  split
  · simp only [List.getD_eq_getElem?_getD, List.getElem?_append]
    split
    · rfl
    · rename_i hlt
      rw [List.getElem?_eq_none (Nat.le_of_not_lt hlt)]
      cases j.toNat - c.length <;> rfl
  · rfl

theorem blankTape_cons_blank (c : List Γ) (b : Γ) (j : Int) : blankTape b (b :: c) j = blankTape b c (j - 1) := by
  unfold blankTape
  rcases Int.lt_trichotomy j 0 with h | rfl | h
  · rw [if_neg (by omega), if_neg (by omega)]
  · rfl
  · rw [if_pos (by omega), if_pos (by omega), show j.toNat = (j - 1).toNat + 1 by omega]; rfl

theorem blankTape_set {c : List Γ} {p : Nat} (h : p < c.length) (s b : Γ) (j : Int) :
    blankTape b (c.set p s) j = if j = p then s else blankTape b c j := by
  unfold blankTape
  by_cases hj : j = p
  · subst hj; simp [List.getD_eq_getElem?_getD, h]
  · rw [if_neg hj]
    split
    · rw [List.getD_eq_getElem?_getD, List.getD_eq_getElem?_getD, List.getElem?_set_ne (by omega)]
    · rfl

namespace Tape

theorem view_def (t : Tape Γ) (i : Int) :
    t.view i = if 0 ≤ (t.pos : Int) + i then t.cells.getD ((t.pos : Int) + i).toNat t.blank
      else t.blank := rfl

theorem view_eq (t : Tape Γ) (i : Int) : t.view i = blankTape t.blank t.cells (t.pos + i) := rfl

@[simp] theorem init_blank (c : List Γ) (b : Γ) (p : Nat) : (init c b p).blank = b := rfl
@[simp] theorem init_pos (c : List Γ) (b : Γ) (p : Nat) : (init c b p).pos = p := rfl

theorem init_wf (c : List Γ) (b : Γ) (p : Nat) : (init c b p).WF := by
  unfold WF init
  simp only [List.length_append, List.length_replicate]
  omega

theorem init_of_lt {c : List Γ} {b : Γ} {p : Nat} (h : p < c.length) :
    init c b p = { cells := c, blank := b, pos := p } := by
  unfold init
  rw [show p + 1 - c.length = 0 by omega, List.replicate_zero, List.append_nil]

theorem init_blankTape (c : List Γ) (b : Γ) (p : Nat) :
    blankTape b (init c b p).cells = blankTape b c := by
  funext j
  unfold init
  generalize p + 1 - c.length = n
  induction n with
  | zero => simp
  | succ n ih => rw [List.replicate_succ', ← List.append_assoc, blankTape_append_blank, ih]

theorem init_view (w : List Γ) (b : Γ) : (init w b).view = blankTape b w := by
  funext i
  rw [view_eq, init_blank, init_pos, init_blankTape, Int.natCast_zero, Int.zero_add]

theorem read_eq_view (t : Tape Γ) : t.read = t.view 0 := by
  simp [view_def, read]

theorem wf_read {t : Tape Γ} (h : t.WF) : t.cells[t.pos]? = some t.read := by
  unfold read WF at *
  simp [List.getD_eq_getElem?_getD, List.getElem?_eq_getElem h]

@[simp] theorem write_blank (t : Tape Γ) (s : Γ) : (t.write s).blank = t.blank := rfl
@[simp] theorem write_pos (t : Tape Γ) (s : Γ) : (t.write s).pos = t.pos := rfl
theorem write_wf (t : Tape Γ) (s : Γ) : (t.write s).WF := init_wf _ _ _

theorem write_cells {t : Tape Γ} (h : t.WF) (s : Γ) : (t.write s).cells = t.cells.set t.pos s := by
  unfold write
  rw [init_of_lt (by rw [List.length_set]; exact h)]

theorem write_view {t : Tape Γ} (h : t.WF) (s : Γ) :
    (t.write s).view = Function.update t.view 0 s := by
  funext i
  rw [view_eq, write_blank, write_pos, write_cells h, blankTape_set h, Function.update_apply,
    view_eq]
  congr 1
  exact propext ⟨fun h => by omega, fun h => by omega⟩

@[simp] theorem move_blank (t : Tape Γ) (d : Dir) : (t.move d).blank = t.blank := rfl
theorem move_wf (t : Tape Γ) (d : Dir) : (t.move d).WF := init_wf _ _ _

/-- `move` in closed form (no padding by the constructor is ever needed). -/
theorem move_R {t : Tape Γ} (h : t.WF) :
    t.move .R = { cells := if t.pos + 1 = t.cells.length then t.cells ++ [t.blank] else t.cells,
                  blank := t.blank, pos := t.pos + 1 } := by
  unfold WF at h
  unfold move
  have e1 : ¬ ((t.pos : Int) + 1 = -1) := by omega
  have e2 : ((t.pos : Int) + 1).toNat = t.pos + 1 := by omega
  have e3 : ((t.pos : Int) + 1 = (t.cells.length : Int)) ↔ t.pos + 1 = t.cells.length := by omega
  simp only [e1, if_false, e2, e3]
  refine init_of_lt ?_
  split
  · rw [List.length_append, List.length_singleton]; omega
  · omega

theorem move_L_zero {t : Tape Γ} (h0 : t.pos = 0) :
    t.move .L = { cells := t.blank :: t.cells, blank := t.blank, pos := 0 } := by
  unfold move
  have e3 : ¬ ((0 : Int) = ((t.blank :: t.cells).length : Int)) := by simp; omega
  simp only [h0, Int.natCast_zero, Int.zero_sub, if_true, show ((-1 : Int) + 1) = 0 from rfl, e3,
    if_false, Int.toNat_zero]
  exact init_of_lt (Nat.succ_pos _)

theorem move_L_succ {t : Tape Γ} (h : t.WF) (h0 : t.pos ≠ 0) :
    t.move .L = { cells := t.cells, blank := t.blank, pos := t.pos - 1 } := by
  unfold WF at h
  unfold move
  have e1 : ¬ ((t.pos : Int) - 1 = -1) := by omega
  have e2 : ¬ ((t.pos : Int) - 1 = (t.cells.length : Int)) := by omega
  have e3 : ((t.pos : Int) - 1).toNat = t.pos - 1 := by omega
  simp only [e1, if_false, e2, e3]
  rw [init_of_lt (by omega)]

theorem move_stay {t : Tape Γ} (h : t.WF) {d : Dir} (hd : d = .N ∨ d = .bad) : t.move d = t := by
  unfold WF at h
  have e1 : ¬ ((t.pos : Int) = -1) := by omega
  have e2 : ¬ ((t.pos : Int) = (t.cells.length : Int)) := by omega
  rcases hd with rfl | rfl <;>
  · unfold move
    simp only [e1, if_false, e2, Int.toNat_natCast]
    rw [init_of_lt h]

theorem move_view {t : Tape Γ} (h : t.WF) (d : Dir) : (t.move d).view = shift d t.view := by
  funext i
  cases d with
  | N => rw [move_stay h (.inl rfl)]; rfl
  | bad => rw [move_stay h (.inr rfl)]; rfl
  | R =>
    simp only [move_R h, shift, view_eq]
    rw [show ((t.pos + 1 : Nat) : Int) + i = (t.pos : Int) + (i + 1) by omega]
    split
    · exact blankTape_append_blank ..
    · rfl
  | L =>
    by_cases h0 : t.pos = 0
    · simp only [move_L_zero h0, shift, view_eq, h0]
      rw [blankTape_cons_blank, Int.add_sub_assoc]
    · simp only [move_L_succ h h0, shift, view_eq]
      rw [show ((t.pos - 1 : Nat) : Int) + i = (t.pos : Int) + (i - 1) by omega]

theorem write_move_view {t : Tape Γ} (h : t.WF) (s : Γ) (d : Dir) :
    ((t.write s).move d).view = shift d (Function.update t.view 0 s) := by
  rw [move_view (write_wf t s), write_view h]

end Tape
end AV.TM
