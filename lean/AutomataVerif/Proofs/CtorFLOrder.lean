/-
Proofs/CtorFLOrder.lean — from_finite_language (C15): the lexicographic order used by
`sorted(language)` (the `sortBy` of Proofs/Sort.lean at that order), longest common prefixes, and
the fact the construction rests on: in a sorted list the words sharing a prefix are contiguous.
Core only.
-/
import AutomataVerif.Proofs.CtorBasic
import AutomataVerif.Proofs.Sort

namespace AV.Ctor.FL

variable {α : Type} [DecidableEq α]

/-- A strict total order on symbols, as a Boolean `<` (code points). -/
structure StrictTotal (lt : α → α → Bool) : Prop where
  irrefl : ∀ a, lt a a = false
  trans : ∀ a b c, lt a b = true → lt b c = true → lt a c = true
  total : ∀ a b, lt a b = true ∨ a = b ∨ lt b a = true

/-- The order of the driver (`Driver/DfaCtor.lean`: symbols are integers, the rank of the character). -/
theorem strictTotal_int : StrictTotal (fun a b : Int => decide (a < b)) :=
  ⟨fun a => decide_eq_false (Int.lt_irrefl a),
   fun _ _ _ h1 h2 => decide_eq_true (Int.lt_trans (of_decide_eq_true h1) (of_decide_eq_true h2)),
   fun a b => (Int.lt_trichotomy a b).imp decide_eq_true (Or.imp_right decide_eq_true)⟩

/-- The order of the examples of C15 (symbols are naturals). -/
theorem strictTotal_nat : StrictTotal (fun a b : Nat => decide (a < b)) :=
  ⟨fun a => decide_eq_false (Nat.lt_irrefl a),
   fun _ _ _ h1 h2 => decide_eq_true (Nat.lt_trans (of_decide_eq_true h1) (of_decide_eq_true h2)),
   fun a b => (Nat.lt_trichotomy a b).imp decide_eq_true (Or.imp_right decide_eq_true)⟩

section order
variable {lt : α → α → Bool} (ho : StrictTotal lt)
include ho

omit [DecidableEq α] in
theorem StrictTotal.asymm {a b : α} (h : lt a b = true) : lt b a = false := by
  cases h2 : lt b a with
  | false => rfl
  | true => have := ho.trans a b a h h2; rw [ho.irrefl] at this; cases this

omit [DecidableEq α] in
theorem wordLt_cons (a b : α) (u v : List α) :
    wordLt lt (a :: u) (b :: v) = true ↔ lt a b = true ∨ (a = b ∧ wordLt lt u v = true) := by
  show (if lt a b = true then true else if lt b a = true then false else wordLt lt u v) = true ↔ _
  by_cases h1 : lt a b = true
  · rw [if_pos h1]; exact ⟨fun _ => Or.inl h1, fun _ => rfl⟩
  · rw [if_neg h1]
    by_cases h2 : lt b a = true
    · rw [if_pos h2]
      refine ⟨fun e => (nomatch e), fun | .inl h => absurd h h1 | .inr ⟨e, _⟩ => ?_⟩
      rw [e, ho.irrefl] at h2; cases h2
    · rw [if_neg h2]
      have hab : a = b := (ho.total a b).resolve_left h1 |>.resolve_right h2
      exact ⟨fun h => Or.inr ⟨hab, h⟩, fun | .inl h => absurd h h1 | .inr ⟨_, h⟩ => h⟩

section
omit [DecidableEq α]

theorem wordLt_iff_lex (u v : List α) : wordLt lt u v = true ↔ List.Lex (lt · · = true) u v := by
  induction u generalizing v with
  | nil => cases v <;> simp [wordLt]
  | cons a u ih =>
    cases v with
    | nil => simp [wordLt]
    | cons b v => rw [wordLt_cons ho, List.cons_lex_cons_iff, ih]

theorem wordLt_irrefl (u : List α) : wordLt lt u u = false :=
  Bool.eq_false_iff.mpr fun h =>
    List.lex_irrefl (fun a => by rw [ho.irrefl]; exact Bool.noConfusion) u ((wordLt_iff_lex ho u u).mp h)

theorem wordLt_iff (u v : List α) :
    wordLt lt u v = true ↔
      (u <+: v ∧ u ≠ v) ∨ ∃ p a b s t, u = p ++ a :: s ∧ v = p ++ b :: t ∧ lt a b = true :=
  (wordLt_iff_lex ho u v).trans (lex_iff u v)

theorem wordLt_total (u v : List α) : wordLt lt u v = true ∨ u = v ∨ wordLt lt v u = true :=
  (lex_trichotomy ho.total u v).imp (wordLt_iff_lex ho u v).mpr (Or.imp_right (wordLt_iff_lex ho v u).mpr)

theorem wordLt_trans {u v w : List α} (h1 : wordLt lt u v = true) (h2 : wordLt lt v w = true) :
    wordLt lt u w = true :=
  (wordLt_iff_lex ho u w).mpr (List.lex_trans (fun h h' => ho.trans _ _ _ h h')
    ((wordLt_iff_lex ho u v).mp h1) ((wordLt_iff_lex ho v w).mp h2))

end

set_option linter.unusedSectionVars false in
theorem wordLt_asymm {u v : List α} (h : wordLt lt u v = true) : wordLt lt v u = false :=
  Bool.eq_false_iff.mpr fun h' => by
    have := wordLt_trans ho h h'
    rw [wordLt_irrefl ho] at this; cases this

def wordLe (lt : α → α → Bool) (u v : List α) : Prop := u = v ∨ wordLt lt u v = true

omit [DecidableEq α] in
theorem wordLe_cons (a b : α) (u v : List α) :
    wordLe lt (a :: u) (b :: v) ↔ lt a b = true ∨ (a = b ∧ wordLe lt u v) := by
  unfold wordLe
  rw [wordLt_cons ho, List.cons.injEq]
  constructor
  · rintro (⟨e1, e2⟩ | h | ⟨e, h⟩)
    · exact Or.inr ⟨e1, Or.inl e2⟩
    · exact Or.inl h
    · exact Or.inr ⟨e, Or.inr h⟩
  · rintro (h | ⟨e, h | h⟩)
    · exact Or.inr (Or.inl h)
    · exact Or.inl ⟨e, h⟩
    · exact Or.inr (Or.inr ⟨e, h⟩)

omit [DecidableEq α] in
theorem wordLe_trans {u v w : List α} (h1 : wordLe lt u v) (h2 : wordLe lt v w) : wordLe lt u w := by
  rcases h1 with rfl | h1
  · exact h2
  · rcases h2 with rfl | h2
    · exact Or.inr h1
    · exact Or.inr (wordLt_trans ho h1 h2)

set_option linter.unusedSectionVars false in
theorem wordLe_of_not_lt {u v : List α} (h : wordLt lt v u = false) : wordLe lt u v := by
  rcases wordLt_total ho u v with h1 | h1 | h1
  · exact Or.inr h1
  · exact Or.inl h1
  · rw [h1] at h; cases h

theorem prefix_wordLe {u v : List α} (h : u <+: v) : wordLe lt u v := by
  by_cases e : u = v
  · exact Or.inl e
  · exact Or.inr ((wordLt_iff_lex ho u v).mpr (lex_of_prefix h e))

omit [DecidableEq α] in
theorem prefix_between {q u v w : List α} (h1 : wordLe lt u v) (h2 : wordLe lt v w)
    (hu : q <+: u) (hw : q <+: w) : q <+: v := by
  induction q generalizing u v w with
  | nil => exact List.nil_prefix
  | cons a q ih =>
    obtain ⟨u', rfl⟩ : ∃ u', u = a :: u' := by
      obtain ⟨t, rfl⟩ := hu; exact ⟨q ++ t, rfl⟩
    obtain ⟨w', rfl⟩ : ∃ w', w = a :: w' := by
      obtain ⟨t, rfl⟩ := hw; exact ⟨q ++ t, rfl⟩
    cases v with
    | nil =>
      rcases h1 with h | h
      · cases h
      · cases h
    | cons b v =>
      -- the first symbol of v is squeezed between a and a
      rw [wordLe_cons ho] at h1 h2
      obtain ⟨rfl, h1'⟩ : a = b ∧ wordLe lt u' v := by
        rcases h1 with h1 | h1
        · rcases h2 with h2 | ⟨rfl, _⟩
          · rw [ho.asymm h1] at h2; cases h2
          · rw [ho.irrefl] at h1; cases h1
        · exact h1
      rcases h2 with h2 | ⟨_, h2⟩
      · rw [ho.irrefl] at h2; cases h2
      · exact List.cons_prefix_cons.mpr
          ⟨rfl, ih h1' h2 (List.cons_prefix_cons.mp hu).2 (List.cons_prefix_cons.mp hw).2⟩

omit [DecidableEq α] ho in
/-- `sorted(language)` is the insertion sort of Model/DFAQuery.lean for `wordLt`. -/
theorem sortWords_eq (l : List (List α)) : sortWords lt l = sortBy (wordLt lt) l := by
  have hins : ∀ w s, insertWord lt w s = insertBy (wordLt lt) w s := by
    intro w s
    induction s with
    | nil => rfl
    | cons v t ih => simp only [insertWord, insertBy, ih]
  unfold sortWords sortBy
  induction l with
  | nil => rfl
  | cons w t ih => rw [List.foldr_cons, List.foldr_cons, ih, hins]

omit [DecidableEq α] ho in
theorem mem_sortWords (l : List (List α)) (x : List α) : x ∈ sortWords lt l ↔ x ∈ l := by
  rw [sortWords_eq]; exact mem_sortBy

def Increasing (lt : α → α → Bool) (l : List (List α)) : Prop :=
  l.Pairwise fun u v => wordLt lt u v = true

omit [DecidableEq α] in
theorem increasing_sortWords (l : List (List α)) (hnd : l.Nodup) : Increasing lt (sortWords lt l) := by
  rw [sortWords_eq]
  exact sortBy_pairwise l hnd (fun _ _ _ => wordLt_trans ho)
    fun a _ b _ hne => (wordLt_total ho a b).elim Or.inl fun h => h.elim (absurd · hne) Or.inr

end order

/-- `lcpLen u v` is the largest `n` with `u[:n] = v[:n]`. -/
theorem le_lcpLen_iff (u v : List α) (n : Nat) :
    n ≤ lcpLen u v ↔ n ≤ u.length ∧ n ≤ v.length ∧ u.take n = v.take n := by
  induction u generalizing v n with
  | nil => cases n <;> simp [lcpLen]
  | cons a u ih =>
    cases v with
    | nil => cases n <;> simp [lcpLen]
    | cons b v =>
      cases n with
      | zero => simp
      | succ n =>
        by_cases e : a = b
        · subst e; simp [lcpLen, ih v n]
        · simp [lcpLen, e]

theorem lcpLen_le_left (u v : List α) : lcpLen u v ≤ u.length :=
  ((le_lcpLen_iff u v _).mp (Nat.le_refl _)).1

theorem lcpLen_le_right (u v : List α) : lcpLen u v ≤ v.length :=
  ((le_lcpLen_iff u v _).mp (Nat.le_refl _)).2.1

theorem take_lcpLen (u v : List α) : u.take (lcpLen u v) = v.take (lcpLen u v) :=
  ((le_lcpLen_iff u v _).mp (Nat.le_refl _)).2.2

theorem common_prefix_le {q u v : List α} (hu : q <+: u) (hv : q <+: v) : q.length ≤ lcpLen u v :=
  (le_lcpLen_iff u v _).mpr ⟨hu.length_le, hv.length_le,
    (List.prefix_iff_eq_take.mp hu).symm.trans (List.prefix_iff_eq_take.mp hv)⟩

theorem lcpLen_nil_right (u : List α) : lcpLen u [] = 0 := by cases u <;> rfl

end AV.Ctor.FL
