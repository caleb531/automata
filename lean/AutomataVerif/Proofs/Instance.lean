/-
Proofs/Instance.lean — copy / pickle round trip of the object model (core only).

Everything is proved for a class name whose regenerated tables satisfy `TablesOk`; `tablesOk_all`
establishes it for the eight classes by evaluation.  Under `TablesOk` a successful `cls(**kwargs)`
returns `built am cls bv`, a function of the values `bv` bound to the parameters (`classInit_eq`),
and `copy` of a built object is again a built object (`copy_built`).  `fz`, `boundVal`, `superVal`,
`built` are notions of these proofs (and of the C18 statements), not of Model/Instance.lean.
-/
import AutomataVerif.Proofs.Basic
import AutomataVerif.Proofs.Freeze
import AutomataVerif.Model.Instance

namespace AV.VA.Obj
open AV AV.VA

theorem resMapM_eq_mapM {β β' : Type} (f : β → Res β') (l : List β) : resMapM f l = l.mapM f := by
  induction l with
  | nil => rfl
  | cons x t ih =>
    rw [resMapM, List.mapM_cons, ih]
    cases f x with
    | error e => rfl
    | ok y => cases t.mapM f <;> rfl

theorem resMapM_ok_of_forall {β β' : Type} {f : β → Res β'} {g : β → β'} {l : List β}
    (h : ∀ x ∈ l, f x = .ok (g x)) : resMapM f l = .ok (l.map g) :=
  (resMapM_eq_mapM f l).trans (mapM_ok f g l h)

theorem resMapM_ok_inv {β β' : Type} {f : β → Res β'} {g : β → β'} {l : List β} {r : List β'}
    (hg : ∀ x ∈ l, ∀ y, f x = .ok y → y = g x) (h : resMapM f l = .ok r) : r = l.map g := by
  rw [resMapM_eq_mapM] at h
  induction l generalizing r with
  | nil => cases h; rfl
  | cons x t ih =>
    rw [List.mapM_cons] at h
    obtain ⟨y, hx, h⟩ := bind_ok_inv h
    obtain ⟨ys, ht, h⟩ := bind_ok_inv h
    cases h
    rw [List.map_cons, hg x List.mem_cons_self y hx,
      ih (fun z hz => hg z (List.mem_cons_of_mem _ hz)) ht]

theorem filterMap_eq_map_of {β β' : Type} {f : β → Option β'} {g : β → β'} {l : List β}
    (h : ∀ x ∈ l, f x = some (g x)) : l.filterMap f = l.map g := by
  induction l with
  | nil => rfl
  | cons x t ih =>
    rw [List.filterMap_cons, h x List.mem_cons_self, ih fun y hy => h y (List.mem_cons_of_mem _ hy),
      List.map_cons]

/-- What the round trip needs from the regenerated tables of one class: the public slots are the
`__init__` parameters (as sets), every public slot is handed to `Automaton.__init__`, and every
keyword handed on is a parameter or GNFA's derived `final_states`. -/
structure TablesOk (cls : String) : Prop where
  pub_sub_params : ∀ s ∈ publicSlots cls, s ∈ initParamsOf cls
  params_sub_pub : ∀ p ∈ initParamsOf cls, p ∈ publicSlots cls
  pub_sub_super : ∀ s ∈ publicSlots cls, s ∈ superKwOf cls
  super_ok : ∀ k ∈ superKwOf cls,
    k ∈ initParamsOf cls ∨ (k = "final_states" ∧ "final_state" ∈ initParamsOf cls)

instance (cls : String) : Decidable (TablesOk cls) :=
  decidable_of_iff
    ((∀ s ∈ publicSlots cls, s ∈ initParamsOf cls) ∧
      (∀ p ∈ initParamsOf cls, p ∈ publicSlots cls) ∧
      (∀ s ∈ publicSlots cls, s ∈ superKwOf cls) ∧
      ∀ k ∈ superKwOf cls,
        k ∈ initParamsOf cls ∨ (k = "final_states" ∧ "final_state" ∈ initParamsOf cls))
    ⟨fun h => ⟨h.1, h.2.1, h.2.2.1, h.2.2.2⟩, fun t => ⟨t.1, t.2, t.3, t.4⟩⟩

/-- The regenerated `__slots__` / `__init__` tables of all eight classes are consistent:
the public slots are exactly the constructor parameters and all of them reach
`Automaton.__init__`.  (Renaming a slot to start with `_`, dropping one, or adding an
`__init__` parameter without a slot makes this fail at `lake build`.) -/
theorem tablesOk_all : ∀ cls ∈ classes, TablesOk cls := by decide +kernel

def fz (allowMutable : Bool) (v : PyVal) : PyVal := if allowMutable then v else v.freeze

theorem storeKwargs_eq (am : Bool) (kw : List (String × PyVal)) :
    storeKwargs am kw = kw.map fun kv => (kv.1, fz am kv.2) := rfl

theorem storeKwargs_true (kw : List (String × PyVal)) : storeKwargs true kw = kw :=
  List.map_id' kw

theorem fz_fz_same (am : Bool) (v : PyVal) : fz am (fz am v) = fz am v := by
  cases am
  · exact PyVal.freeze_idem v
  · rfl

theorem norm_fz (am : Bool) (v : PyVal) : (fz am v).norm = v.norm := by
  cases am
  · exact PyVal.norm_freeze v
  · rfl

theorem absKw_storeKwargs (am : Bool) (kw : List (String × PyVal)) :
    absKw (storeKwargs am kw) = absKw kw := by
  simp only [absKw, storeKwargs_eq, List.map_map, Function.comp_def, norm_fz]

/-- The value bound to parameter `p` by `cls(**kwargs)`; a parameter that is not bound gets the junk
value `default`, and the call `cls(**kwargs)` fails (`bindArgs`). -/
def boundVal (cls : String) (kwargs : List (String × PyVal)) (p : String) : PyVal :=
  (bindVal cls kwargs p).getD default

theorem boundVal_of_alookup (cls : String) {kw : List (String × PyVal)} {p : String} {w : PyVal}
    (h : alookup p kw = some w) : boundVal cls kw p = w := by
  rw [boundVal, bindVal, h]
  rfl

theorem bindOne_eq (cls : String) (kwargs : List (String × PyVal)) (p : String) :
    bindOne cls kwargs p =
      if (bindVal cls kwargs p).isSome then .ok (p, boundVal cls kwargs p) else .error (.py .typeError) := by
  unfold bindOne boundVal
  cases bindVal cls kwargs p <;> rfl

theorem bindArgs_ok_inv {cls : String} {params : List String} {kwargs bound : List (String × PyVal)}
    (h : bindArgs cls params kwargs = .ok bound) :
    bound = params.map fun p => (p, boundVal cls kwargs p) := by
  unfold bindArgs at h
  split at h
  · refine resMapM_ok_inv (fun p _ y hy => ?_) h
    rw [bindOne_eq] at hy
    split at hy <;> cases hy
    rfl
  · cases h

theorem bindArgs_ok_of {cls : String} {params : List String} {kwargs : List (String × PyVal)}
    (hk : ∀ k ∈ akeys kwargs, k ∈ params) (hv : ∀ p ∈ params, (bindVal cls kwargs p).isSome = true) :
    bindArgs cls params kwargs = .ok (params.map fun p => (p, boundVal cls kwargs p)) := by
  unfold bindArgs
  rw [if_pos (by simpa using hk)]
  exact resMapM_ok_of_forall fun p hp => by rw [bindOne_eq, if_pos (hv p hp)]

/-- The value handed to `Automaton.__init__` under keyword `k`. -/
def superVal (params : List String) (bv : String → PyVal) (k : String) : PyVal :=
  if k ∈ params then bv k else .set [bv "final_state"]

theorem superArg_ok (params : List String) (bv : String → PyVal) (k : String)
    (hk : k ∈ params ∨ (k = "final_states" ∧ "final_state" ∈ params)) :
    superArg (params.map fun p => (p, bv p)) k = .ok (k, superVal params bv k) := by
  unfold superArg superVal
  rw [alookup_tabulate]
  by_cases hp : k ∈ params
  · simp only [if_pos hp]
  · obtain ⟨rfl, hf⟩ := hk.resolve_left hp
    simp only [if_neg hp, alookup_tabulate, if_pos hf, if_true]

theorem superArgs_ok {cls : String} (ht : TablesOk cls) {kwargs bound : List (String × PyVal)}
    (hb : bindArgs cls (initParamsOf cls) kwargs = .ok bound) :
    resMapM (superArg bound) (superKwOf cls) =
      .ok ((superKwOf cls).map fun k => (k, superVal (initParamsOf cls) (boundVal cls kwargs) k)) := by
  rw [bindArgs_ok_inv hb]
  exact resMapM_ok_of_forall fun k hk => superArg_ok _ _ k (ht.super_ok k hk)

/-- The object `cls(**kwargs)` returns when `bv` gives the values bound to the parameters. -/
def built (am : Bool) (cls : String) (bv : String → PyVal) : Inst where
  cls := cls
  attrs := ((superKwOf cls).map fun k => (k, fz am (superVal (initParamsOf cls) bv k))) ++ extraAttrs cls

theorem classInit_eq (am : Bool) {cls : String} (ht : TablesOk cls) (kwargs : List (String × PyVal)) :
    classInit am cls kwargs =
      match bindArgs cls (initParamsOf cls) kwargs with
      | .error e => .error e
      | .ok _ => .ok (built am cls (boundVal cls kwargs)) := by
  unfold classInit
  cases hb : bindArgs cls (initParamsOf cls) kwargs with
  | error e => rfl
  | ok bound =>
    simp only [superArgs_ok ht hb, storeKwargs_eq, List.map_map, Function.comp_def]
    rfl

theorem classInit_ok_inv {am : Bool} {cls : String} (ht : TablesOk cls)
    {kwargs : List (String × PyVal)} {a : Inst} (h : classInit am cls kwargs = .ok a) :
    a = built am cls (boundVal cls kwargs) := by
  rw [classInit_eq am ht] at h
  split at h <;> cases h
  rfl

theorem classInit_ok_of (am : Bool) {cls : String} (ht : TablesOk cls) {kwargs : List (String × PyVal)}
    (hk : ∀ k ∈ akeys kwargs, k ∈ initParamsOf cls)
    (hv : ∀ p ∈ initParamsOf cls, (bindVal cls kwargs p).isSome = true) :
    classInit am cls kwargs = .ok (built am cls (boundVal cls kwargs)) := by
  rw [classInit_eq am ht, bindArgs_ok_of hk hv]

theorem built_congr (am : Bool) {cls : String} (ht : TablesOk cls) {bv bv' : String → PyVal}
    (h : ∀ p ∈ initParamsOf cls, bv' p = bv p) : built am cls bv' = built am cls bv := by
  have hs : ∀ k ∈ superKwOf cls,
      superVal (initParamsOf cls) bv' k = superVal (initParamsOf cls) bv k := by
    intro k hk
    unfold superVal
    split
    · rw [h k ‹_›]
    · rw [h _ ((ht.super_ok k hk).resolve_left ‹_›).2]
  unfold built
  rw [List.map_congr_left fun k hk => by rw [hs k hk]]

theorem inputParameters_mk {cls : String} (ht : TablesOk cls) (w : String → PyVal)
    (ex : List (String × PyVal)) :
    inputParameters ⟨cls, ((superKwOf cls).map fun k => (k, w k)) ++ ex⟩ =
      .ok ((publicSlots cls).map fun s => (s, w s)) := by
  refine resMapM_ok_of_forall fun s hs => ?_
  unfold paramOf getattr
  rw [alookup_append_left ex (by rw [alookup_tabulate, if_pos (ht.pub_sub_super s hs)])]

theorem definitionOf_mk (cls : String) (w : String → PyVal) (ex : List (String × PyVal)) :
    definitionOf ⟨cls, ((superKwOf cls).map fun k => (k, w k)) ++ ex⟩ =
      (superKwOf cls).map fun k => (k, (w k).norm) := by
  refine filterMap_eq_map_of fun k hk => ?_
  rw [alookup_append_left ex (by rw [alookup_tabulate, if_pos hk])]
  rfl

theorem inputParameters_built {cls : String} (ht : TablesOk cls) (am : Bool) (bv : String → PyVal) :
    inputParameters (built am cls bv) = .ok ((publicSlots cls).map fun s => (s, fz am (bv s))) := by
  unfold built
  rw [inputParameters_mk ht]
  congr 1
  refine List.map_congr_left fun s hs => ?_
  rw [superVal, if_pos (ht.pub_sub_params s hs)]

theorem definitionOf_built (am : Bool) (cls : String) (bv : String → PyVal) :
    definitionOf (built am cls bv) =
      (superKwOf cls).map fun k => (k, (superVal (initParamsOf cls) bv k).norm) := by
  unfold built
  simp only [definitionOf_mk, norm_fz]

theorem definitionOf_built_fz (am0 am1 : Bool) (cls : String) (bv : String → PyVal) :
    definitionOf (built am1 cls fun s => fz am0 (bv s)) = definitionOf (built am0 cls bv) := by
  rw [definitionOf_built, definitionOf_built]
  refine List.map_congr_left fun k _ => ?_
  unfold superVal
  split <;> simp only [PyVal.norm, PyVal.normList, norm_fz]

theorem classInit_params {cls : String} (ht : TablesOk cls) (am : Bool) (w : String → PyVal) :
    classInit am cls ((publicSlots cls).map fun s => (s, w s)) = .ok (built am cls w) := by
  have hlook : ∀ p ∈ initParamsOf cls,
      alookup p ((publicSlots cls).map fun s => (s, w s)) = some (w p) :=
    fun p hp => by rw [alookup_tabulate, if_pos (ht.params_sub_pub p hp)]
  rw [classInit_ok_of am ht, built_congr am ht]
  · exact fun p hp => boundVal_of_alookup cls (hlook p hp)
  · intro k hk
    rw [akeys, List.map_map] at hk
    obtain ⟨s, hs, rfl⟩ := List.mem_map.mp hk
    exact ht.pub_sub_params s hs
  · intro p hp
    rw [bindVal, hlook p hp]
    rfl

theorem copy_built {cls : String} (ht : TablesOk cls) (am0 am1 : Bool) (bv : String → PyVal) :
    copy am1 (built am0 cls bv) = .ok (built am1 cls fun s => fz am0 (bv s)) := by
  unfold copy
  rw [inputParameters_built ht]
  exact classInit_params ht am1 _

theorem construct_kw (w : List (String × PyVal) → Res Unit) (av sv am : Bool)
    (kw : List (String × PyVal)) :
    construct absKw (storeKwargs false) w av sv am kw =
      if sv || av then
        (match w (absKw kw) with
         | .ok _ => .ok (storeKwargs am kw)
         | .error e => .error e)
      else .ok (storeKwargs am kw) := by
  have hst : (if am then kw else storeKwargs false kw) = storeKwargs am kw := by
    cases am
    · rfl
    · exact (storeKwargs_true kw).symm
  rw [construct_eq (absKw_storeKwargs false), hst]
  rfl

theorem classInitV_eq (v : String → List (String × PyVal) → Res Unit) (sv am : Bool) {cls : String}
    (ht : TablesOk cls) (kwargs : List (String × PyVal)) :
    classInitV v sv am cls kwargs =
      match classInit am cls kwargs with
      | .error e => .error e
      | .ok a =>
        if sv || alwaysValidates cls then
          (match v cls (definitionOf a) with
           | .ok _ => .ok a
           | .error e => .error e)
        else .ok a := by
  rw [classInit_eq am ht]
  unfold classInitV
  cases hb : bindArgs cls (initParamsOf cls) kwargs with
  | error e => rfl
  | ok bound =>
    simp only [superArgs_ok ht hb, construct_kw, storeKwargs_eq, List.map_map, Function.comp_def,
      definitionOf_built, absKw]
    cases sv || alwaysValidates cls
    · rfl
    · generalize v cls _ = r
      cases r <;> rfl

theorem classInitV_ok_inv {v : String → List (String × PyVal) → Res Unit} {sv am : Bool} {cls : String}
    (ht : TablesOk cls) {kwargs : List (String × PyVal)} {a : Inst}
    (h : classInitV v sv am cls kwargs = .ok a) :
    classInit am cls kwargs = .ok a ∧
      ((sv || alwaysValidates cls) = true → v cls (definitionOf a) = .ok ()) := by
  rw [classInitV_eq v sv am ht] at h
  split at h
  · cases h
  · split at h
    · split at h <;> cases h
      exact ⟨‹_›, fun _ => ‹_›⟩
    · cases h
      exact ⟨‹_›, fun hc => absurd hc ‹_›⟩

/-- The copy has the definition of the original (`definitionOf_built_fz`), so a validator that
accepts the original accepts it. -/
theorem copyV_built (v : String → List (String × PyVal) → Res Unit) {cls : String} (ht : TablesOk cls)
    (am0 sv1 am1 : Bool) (bv : String → PyVal)
    (hvalid : v cls (definitionOf (built am0 cls bv)) = .ok ()) :
    copyV v sv1 am1 (built am0 cls bv) = .ok (built am1 cls fun s => fz am0 (bv s)) := by
  unfold copyV
  rw [inputParameters_built ht]
  show classInitV v sv1 am1 cls _ = _
  rw [classInitV_eq v sv1 am1 ht, classInit_params ht am1]
  simp only [definitionOf_built_fz, hvalid]
  split <;> rfl

end AV.VA.Obj
