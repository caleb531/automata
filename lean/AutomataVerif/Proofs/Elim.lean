/-
Proofs/Elim.lean — `NFA._eliminate_lambda` / `eliminate_lambda` (model `NFA.eliminateLambda`), core
only.  One iteration of the `for state in self.states` loop rewrites the row of `state` by a function
of that row and touches no other row (`StepSpec`); the invariant `LoopInv` holds whatever the order
of the visits.  Pruning to the reachable states leaves a triple as `NFAElim.ElimSpec` describes, for
this model and for `NFAElim.core` (Proofs/NFAElimSpec) alike: `LoopInv.elimSpec`.
-/
import AutomataVerif.Proofs.Subset
import AutomataVerif.Proofs.NFAElimDefs

namespace AV
namespace C07

variable {σ α : Type} [DecidableEq σ] [DecidableEq α]

abbrev Row (σ α : Type) := List (Option α × List σ)
abbrev Table (σ α : Type) := List (σ × Row σ α)

/-- `transitions.get(q, {})`. -/
def rowOf (T : Table σ α) (q : σ) : Row σ α := (alookup q T).getD []

/-- `row.get(x, {})`. -/
def tgt (r : Row σ α) (x : Option α) : List σ := (alookup x r).getD []

omit [DecidableEq σ] in
theorem tgt_mem {r : Row σ α} {x : Option α} {t : σ} (ht : t ∈ tgt r x) :
    ∃ ts, (x, ts) ∈ r ∧ t ∈ ts :=
  ⟨_, mem_of_mem_getD_alookup ht, ht⟩

omit [DecidableEq α] in
theorem rowOf_of_mem {T : Table σ α} (hnd : (akeys T).Nodup) {kv : σ × Row σ α} (h : kv ∈ T) :
    rowOf T kv.1 = kv.2 := by
  unfold rowOf
  rw [alookup_of_mem_nodup hnd (k := kv.1) (v := kv.2) h]; rfl

/-- `lambda_closures[state] - {state}`. -/
def encl (n : NFA σ α) (q : σ) : List σ := (n.closure q).filter fun p => decide (p ≠ q)

theorem mem_encl (n : NFA σ α) (q p : σ) : p ∈ encl n q ↔ p ∈ n.closure q ∧ p ≠ q := by
  simp [encl, List.mem_filter]

/-- The body of `for input_symbol in self.input_symbols`, seen on the row of `q`. -/
def rowSym (n : NFA σ α) (q : σ) (row : Row σ α) (a : α) : Row σ α :=
  let nxt := n.nextStates (encl n q) a
  if nxt.isEmpty then row else ainsert (some a) (sunion (tgt row (some a)) nxt) row

def rowFold (n : NFA σ α) (q : σ) (as : List α) (row : Row σ α) : Row σ α :=
  as.foldl (rowSym n q) row

theorem rowSym_eq (n : NFA σ α) (q : σ) (row : Row σ α) (a : α) :
    rowSym n q row a = if (n.nextStates (encl n q) a).isEmpty then row
      else ainsert (some a) (sunion (tgt row (some a)) (n.nextStates (encl n q) a)) row := by rfl

/-- What one iteration of the outer loop does to the row of `q`. -/
def newRow (n : NFA σ α) (q : σ) (row : Row σ α) : Row σ α :=
  (rowFold n q n.syms row).filter fun e => e.1.isSome

/-- The same body seen on the whole table (as in the model). -/
def tabSym (n : NFA σ α) (q : σ) (tr : Table σ α) (a : α) : Table σ α :=
  let nxt := n.nextStates (encl n q) a
  if nxt.isEmpty then tr
  else
    let row := (alookup q tr).getD []
    let old := (alookup (some a) row).getD []
    ainsert q (ainsert (some a) (sunion old nxt) row) tr

/-- `new_transitions[state].pop("", None)` when the row exists. -/
def popEps (q : σ) (tr : Table σ α) : Table σ α :=
  match alookup q tr with
  | some row => ainsert q (row.filter fun e => e.1.isSome) tr
  | none => tr

/-- The update of `new_final_states` in one iteration. -/
def finStep (n : NFA σ α) (F : List σ) (q : σ) : List σ :=
  if F.any (fun p => decide (p ∈ encl n q)) then sinsert q F else F

theorem elimStep_eq (n : NFA σ α) (acc : Table σ α × List σ) (q : σ) :
    n.elimStep acc q = (popEps q (n.syms.foldl (tabSym n q) acc.1), finStep n acc.2 q) := by rfl

/-- "`tr'` is `tr` with the row of `q` replaced by `f (row of q)`", in the form in which it
composes. -/
structure StepSpec (q : σ) (f : Row σ α → Row σ α) (tr tr' : Table σ α) : Prop where
  row : rowOf tr' q = f (rowOf tr q)
  other : ∀ p, p ≠ q → alookup p tr' = alookup p tr
  nodup : (akeys tr).Nodup → (akeys tr').Nodup
  entries : ∀ kv ∈ tr', kv ∈ tr ∨ kv.1 = q
  keys : ∀ k ∈ akeys tr, k ∈ akeys tr'

section
omit [DecidableEq α]

theorem StepSpec.unchanged (q : σ) (f : Row σ α → Row σ α) (tr : Table σ α) (h : f (rowOf tr q) = rowOf tr q) :
    StepSpec q f tr tr :=
  ⟨h.symm, fun _ _ => rfl, fun h => h, fun _ h => Or.inl h, fun _ h => h⟩

theorem StepSpec.insert (q : σ) (f : Row σ α → Row σ α) (tr : Table σ α) :
    StepSpec q f tr (ainsert q (f (rowOf tr q)) tr) := by
  refine ⟨?_, ?_, nodup_akeys_ainsert, ?_, fun _ h => akeys_sub_ainsert h⟩
  · unfold rowOf; rw [alookup_ainsert_self]; rfl
  · intro p hp; exact alookup_ainsert_ne _ _ hp
  · intro kv hkv
    rcases mem_ainsert hkv with h | h
    · exact Or.inr (by rw [h])
    · exact Or.inl h

theorem StepSpec.comp {q : σ} {f g : Row σ α → Row σ α} {t₁ t₂ t₃ : Table σ α}
    (h₁ : StepSpec q f t₁ t₂) (h₂ : StepSpec q g t₂ t₃) : StepSpec q (fun r => g (f r)) t₁ t₃ := by
  refine ⟨by rw [h₂.row, h₁.row], fun p hp => by rw [h₂.other p hp, h₁.other p hp],
    fun h => h₂.nodup (h₁.nodup h), ?_, fun k hk => h₂.keys k (h₁.keys k hk)⟩
  intro kv hkv
  rcases h₂.entries kv hkv with h | h
  · exact h₁.entries kv h
  · exact Or.inr h

theorem StepSpec.congr {q : σ} {f g : Row σ α → Row σ α} {tr tr' : Table σ α}
    (h : StepSpec q f tr tr') (hfg : g (rowOf tr q) = f (rowOf tr q)) : StepSpec q g tr tr' :=
  ⟨h.row.trans hfg.symm, h.other, h.nodup, h.entries, h.keys⟩

end

theorem tabSym_spec (n : NFA σ α) (q : σ) (tr : Table σ α) (a : α) :
    StepSpec q (fun r => rowSym n q r a) tr (tabSym n q tr a) := by
  unfold tabSym
  by_cases he : (n.nextStates (encl n q) a).isEmpty = true
  · simp only [he, if_true]
    exact StepSpec.unchanged q _ tr (by simp [rowSym, he])
  · simp only [he]
    have := StepSpec.insert q (fun r => rowSym n q r a) tr
    simpa [rowSym, he, rowOf, tgt] using this

theorem tabFold_spec (n : NFA σ α) (q : σ) (as : List α) : ∀ tr : Table σ α,
    StepSpec q (rowFold n q as) tr (as.foldl (tabSym n q) tr) := by
  induction as with
  | nil => exact fun tr => StepSpec.unchanged q (rowFold n q []) tr rfl
  | cons a as ih =>
    intro tr
    rw [List.foldl_cons]
    exact (StepSpec.comp (tabSym_spec n q tr a) (ih (tabSym n q tr a))).congr rfl

omit [DecidableEq α] in
theorem popEps_spec (q : σ) (tr : Table σ α) :
    StepSpec q (fun r => r.filter fun e => e.1.isSome) tr (popEps q tr) := by
  unfold popEps
  cases h : alookup q tr with
  | none => exact StepSpec.unchanged q _ tr (by simp [rowOf, h])
  | some row =>
    have := StepSpec.insert q (fun r : Row σ α => r.filter fun e => e.1.isSome) tr
    simpa [rowOf, h] using this

theorem elimStep_spec (n : NFA σ α) (acc : Table σ α × List σ) (q : σ) :
    StepSpec q (newRow n q) acc.1 (n.elimStep acc q).1 := by
  rw [elimStep_eq]
  exact (StepSpec.comp (tabFold_spec n q n.syms acc.1)
    (popEps_spec q (n.syms.foldl (tabSym n q) acc.1))).congr rfl

section
omit [DecidableEq α]
variable {q : σ} {f : Row σ α → Row σ α} {tr tr' : Table σ α}

theorem StepSpec.rowOf_ne (h : StepSpec q f tr tr') {p : σ} (hp : p ≠ q) : rowOf tr' p = rowOf tr p := by
  unfold rowOf; rw [h.other p hp]

theorem StepSpec.rows (h : StepSpec q f tr tr') (hnd : (akeys tr).Nodup) {I : Row σ α → Prop}
    (h0 : I []) (hf : ∀ r, I r → I (f r)) (hI : ∀ kv ∈ tr, I kv.2) : ∀ kv ∈ tr', I kv.2 := by
  intro kv hkv
  rcases h.entries kv hkv with h' | h'
  · exact hI kv h'
  · rw [← rowOf_of_mem (h.nodup hnd) hkv, h', h.row]
    exact hf _ (getD_alookup_inv h0 hI q)

end

theorem fold_rows (n : NFA σ α) {I : Row σ α → Prop} (h0 : I [])
    (hf : ∀ q r, I r → I (newRow n q r)) (qs : List σ) (acc : Table σ α × List σ)
    (hnd : (akeys acc.1).Nodup) (hI : ∀ kv ∈ acc.1, I kv.2) :
    (akeys (qs.foldl n.elimStep acc).1).Nodup ∧ ∀ kv ∈ (qs.foldl n.elimStep acc).1, I kv.2 :=
  List.foldlRecOn (motive := fun acc => (akeys acc.1).Nodup ∧ ∀ kv ∈ acc.1, I kv.2) qs n.elimStep
    ⟨hnd, hI⟩ fun acc h q _ =>
      have hs := elimStep_spec n acc q
      ⟨hs.nodup h.1, hs.rows h.1 h0 (hf q) h.2⟩

theorem rowSym_tgt (n : NFA σ α) (q : σ) (row : Row σ α) (a b : α) (t : σ) :
    t ∈ tgt (rowSym n q row a) (some b) ↔
      t ∈ tgt row (some b) ∨ (b = a ∧ t ∈ n.nextStates (encl n q) a) := by
  rw [rowSym_eq]
  split
  · rename_i he
    rw [List.isEmpty_iff.mp he]
    exact ⟨Or.inl, fun h => h.elim id fun h => nomatch h.2⟩
  · unfold tgt
    by_cases hb : b = a
    · subst hb
      rw [alookup_ainsert_self]
      simp only [Option.getD_some, mem_sunion, true_and]
    · rw [alookup_ainsert_ne _ _ fun e => hb (Option.some.inj e)]
      exact ⟨Or.inl, fun h => h.elim id fun h => absurd h.1 hb⟩

theorem rowFold_tgt (n : NFA σ α) (q : σ) (as : List α) (row : Row σ α) (b : α) (t : σ) :
    t ∈ tgt (rowFold n q as row) (some b) ↔
      t ∈ tgt row (some b) ∨ (b ∈ as ∧ t ∈ n.nextStates (encl n q) b) :=
  (foldl_or (X := fun r => t ∈ tgt r (some b)) (fun r a => rowSym_tgt n q r a b t) as row).trans
    (or_congr_right ⟨fun ⟨_, ha, e, h⟩ => e ▸ ⟨ha, h⟩, fun ⟨hb, h⟩ => ⟨b, hb, rfl, h⟩⟩)

omit [DecidableEq σ] in
theorem filter_tgt (row : Row σ α) (x : Option α) :
    tgt (row.filter fun e => e.1.isSome) x = if x.isSome then tgt row x else [] := by
  unfold tgt
  rw [alookup_filter_key (fun k : Option α => k.isSome)]
  split <;> rfl

/-- **Targets of the new row**: the old ones (not closed) plus everything reachable by `a`
from the λ-enclosure (closed). -/
theorem newRow_tgt (n : NFA σ α) (q : σ) (row : Row σ α) (b : α) (t : σ) :
    t ∈ tgt (newRow n q row) (some b) ↔
      t ∈ tgt row (some b) ∨ (b ∈ n.syms ∧ t ∈ n.nextStates (encl n q) b) := by
  unfold newRow
  rw [filter_tgt, if_pos (Option.isSome_some), rowFold_tgt]

theorem newRow_noEps (n : NFA σ α) (q : σ) (row : Row σ α) : ∀ e ∈ newRow n q row, e.1 ≠ none := by
  intro e he
  have := (List.mem_filter.mp he).2
  intro h; rw [h] at this; cases this

/-- One iteration only performs dict writes of entries that `validate` accepts: the loop in the
`Tbl.Ext` calculus of the C08/C16 constructions (keys kept, `Dict` and `Ok` preserved, at once). -/
theorem elimStep_ext {n : NFA σ α} (wf : n.WF) (acc : Table σ α × List σ) (q : σ) :
    Tbl.Ext (NFA.SymOk n.syms) (· ∈ n.states) acc.1 (n.elimStep acc q).1 := by
  rw [elimStep_eq]
  refine (Tbl.Ext.foldl (tabSym n q) n.syms acc.1 fun a ha t => ?_).trans ?_
  · show Tbl.Ext _ _ t (if _ then t else Tbl.addTargets t q (some a) _)
    split
    · exact Tbl.Ext.refl t
    · exact Tbl.Ext.add t q (fun x hx => Option.some.inj hx ▸ ha)
        fun p hp => NFA.nextStates_sub_states wf _ a hp
  · generalize n.syms.foldl (tabSym n q) acc.1 = t
    unfold popEps
    cases h : alookup q t with
    | none => exact Tbl.Ext.refl t
    | some row =>
      have hr : (alookup q t).getD [] = row := by rw [h]; rfl
      exact ⟨fun hd => Tbl.dict_ainsert hd q
          ((hr ▸ Tbl.row_nodup hd q).sublist (List.Sublist.map _ List.filter_sublist)),
        fun hk => Tbl.ok_ainsert hk q fun e he =>
          (hr ▸ Tbl.rowOk_lookup hk q) e (List.mem_filter.mp he).1,
        fun _ hx => mem_akeys_ainsert.mpr (Or.inr hx)⟩

theorem loop_ext {n : NFA σ α} (wf : n.WF) (qs : List σ) (acc : Table σ α × List σ) :
    Tbl.Ext (NFA.SymOk n.syms) (· ∈ n.states) acc.1 (qs.foldl n.elimStep acc).1 :=
  List.foldlRecOn (motive := fun b => Tbl.Ext (NFA.SymOk n.syms) (· ∈ n.states) acc.1 b.1)
    qs n.elimStep (Tbl.Ext.refl _) fun b hb q _ => hb.trans (elimStep_ext wf b q)

theorem newRow_targets_nodup (n : NFA σ α) (q : σ) {row : Row σ α} (h : ∀ e ∈ row, e.2.Nodup) :
    ∀ e ∈ newRow n q row, e.2.Nodup := by
  have hfold : ∀ e ∈ rowFold n q n.syms row, e.2.Nodup :=
    List.foldlRecOn (motive := fun r : Row σ α => ∀ e ∈ r, e.2.Nodup) n.syms _ h fun r hr a _ => by
      rw [rowSym_eq]
      split
      · exact hr
      · intro e hmem
        rcases mem_ainsert hmem with rfl | h'
        · exact nodup_sunion (getD_alookup_inv List.nodup_nil hr _)
        · exact hr e h'
  exact fun e he => hfold e (List.mem_filter.mp he).1

theorem mem_finStep (n : NFA σ α) (F : List σ) (s q : σ) :
    q ∈ finStep n F s ↔ q ∈ F ∨ (q = s ∧ ∃ p ∈ encl n s, p ∈ F) := by
  have hany : (F.any fun p => decide (p ∈ encl n s)) = true ↔ ∃ p ∈ encl n s, p ∈ F := by
    rw [List.any_eq_true]
    exact ⟨fun ⟨p, hp, he⟩ => ⟨p, of_decide_eq_true he, hp⟩, fun ⟨p, he, hp⟩ => ⟨p, hp, decide_eq_true he⟩⟩
  unfold finStep
  split
  · rename_i h
    rw [mem_sinsert, or_comm, and_iff_left (hany.mp h)]
  · rename_i h
    exact (or_iff_left fun h' => h (hany.mpr h'.2)).symm

/-- Invariant of the `for state in self.states` loop; `P` lists the states visited so far: their
rows have lost the `""` key and gained the moves through their λ-enclosure, and they are final
if their closure meets the final states (in whatever order, and however often, they are visited).
`P` is read through membership only; the fold conses each visited state onto it, which is why the
statements after the loop are at `n.states.reverse`. -/
structure LoopInv (n : NFA σ α) (P : List σ) (T : Table σ α) (F : List σ) : Prop where
  noEps : ∀ q ∈ P, ∀ e ∈ rowOf T q, e.1 ≠ none
  tgt : ∀ q a t, t ∈ tgt (rowOf T q) (some a) ↔
    t ∈ n.targets q (some a) ∨ (q ∈ P ∧ a ∈ n.syms ∧ t ∈ n.nextStates (encl n q) a)
  finSound : ∀ q ∈ F, q ∈ n.states ∧ ∃ p ∈ n.closure q, p ∈ n.finals
  finBase : ∀ q ∈ n.finals, q ∈ F
  finCompl : ∀ q ∈ P, (∃ p ∈ n.closure q, p ∈ n.finals) → q ∈ F

theorem LoopInv.init {n : NFA σ α} (wf : n.WF) {F : List σ} (hF : ∀ q, q ∈ F ↔ q ∈ n.finals) :
    LoopInv n [] n.trans F where
  noEps := fun _ hq => nomatch hq
  tgt := fun _ _ _ => (or_iff_left fun h => nomatch h.1).symm
  finSound := fun q hq =>
    have hf := (hF q).mp hq
    ⟨wf.finalsOk q hf, q, NFA.closure_self n q, hf⟩
  finBase := fun q hq => (hF q).mpr hq
  finCompl := fun _ hq => nomatch hq

theorem LoopInv.step {n : NFA σ α} {P : List σ} {T : Table σ α} {F : List σ}
    (h : LoopInv n P T F) {s : σ} (hs : s ∈ n.states) :
    LoopInv n (s :: P) (n.elimStep (T, F) s).1 (n.elimStep (T, F) s).2 := by
  have hsp : StepSpec s (newRow n s) T (n.elimStep (T, F) s).1 := elimStep_spec n (T, F) s
  have hfin : ∀ q, q ∈ (n.elimStep (T, F) s).2 ↔ q ∈ F ∨ (q = s ∧ ∃ p ∈ encl n s, p ∈ F) :=
    fun q => mem_finStep n F s q
  refine ⟨fun q hq => ?_, fun q a t => ?_, fun q hq => ?_,
    fun q hq => (hfin q).mpr (Or.inl (h.finBase q hq)), fun q hq hex => (hfin q).mpr ?_⟩
  · by_cases e : q = s
    · rw [e, hsp.row]; exact newRow_noEps n s _
    · rw [hsp.rowOf_ne e]
      exact h.noEps q ((List.mem_cons.mp hq).resolve_left e)
  · by_cases e : q = s
    · subst e
      rw [hsp.row, newRow_tgt, h.tgt]
      constructor
      · rintro ((h1 | ⟨_, h2⟩) | h2)
        · exact Or.inl h1
        · exact Or.inr ⟨List.mem_cons_self, h2⟩
        · exact Or.inr ⟨List.mem_cons_self, h2⟩
      · rintro (h1 | ⟨_, h2⟩)
        · exact Or.inl (Or.inl h1)
        · exact Or.inr h2
    · rw [hsp.rowOf_ne e, h.tgt]
      exact or_congr_right (and_congr_left fun _ =>
        ⟨List.mem_cons_of_mem _, fun h' => (List.mem_cons.mp h').resolve_left e⟩)
  · rcases (hfin q).mp hq with hq | ⟨rfl, p, hp, hpf⟩
    · exact h.finSound q hq
    · obtain ⟨_, r, hr, hrf⟩ := h.finSound p hpf
      exact ⟨hs, r, NFA.closure_trans ((mem_encl n q p).mp hp).1 hr, hrf⟩
  · rcases List.mem_cons.mp hq with rfl | hq
    · obtain ⟨p, hp, hpf⟩ := hex
      by_cases e : p = q
      · exact Or.inl (e ▸ h.finBase p hpf)
      · exact Or.inr ⟨rfl, p, (mem_encl n q p).mpr ⟨hp, e⟩, h.finBase p hpf⟩
    · exact Or.inl (h.finCompl q hq hex)

theorem LoopInv.fold {n : NFA σ α} : ∀ (l P : List σ) (T : Table σ α) (F : List σ),
    (∀ s ∈ l, s ∈ n.states) → LoopInv n P T F →
    LoopInv n (l.reverse ++ P) (l.foldl n.elimStep (T, F)).1 (l.foldl n.elimStep (T, F)).2
  | [], _, _, _, _, h => h
  | s :: l, P, T, F, hl, h => by
    rw [List.reverse_cons, List.append_assoc]
    exact LoopInv.fold l (s :: P) _ _ (fun x hx => hl x (List.mem_cons_of_mem _ hx))
      (h.step (hl s List.mem_cons_self))

/-- From any start value `F` of `new_final_states` with the members of `final_states`:
`dedup n.finals` in `NFA.eliminateLambda`, `n.finals` in `NFAElim.core`. -/
theorem loopInv {n : NFA σ α} (wf : n.WF) {F : List σ} (hF : ∀ q, q ∈ F ↔ q ∈ n.finals) :
    LoopInv n n.states.reverse (n.states.foldl n.elimStep (n.trans, F)).1
      (n.states.foldl n.elimStep (n.trans, F)).2 := by
  have := LoopInv.fold n.states [] _ _ (fun _ h => h) (LoopInv.init wf hF)
  rwa [List.append_nil] at this

theorem loop_ok {n : NFA σ α} (wf : n.WF) (F : List σ) :
    Tbl.Ok (NFA.SymOk n.syms) (· ∈ n.states) (n.states.foldl n.elimStep (n.trans, F)).1 :=
  (loop_ext wf n.states (n.trans, F)).ok wf.ok

theorem loop_dict {n : NFA σ α} (wf : n.WF) (F : List σ) (hd : Tbl.Dict n.trans) :
    Tbl.Dict (n.states.foldl n.elimStep (n.trans, F)).1 :=
  (loop_ext wf n.states (n.trans, F)).dict hd

/-- `R` lists the states reachable from the initial state in the new table `T`, however it was
computed: both models of the pruning (`NFA.eliminateLambda`, `NFAElim.core`) are instances. -/
theorem LoopInv.elimSpec {n : NFA σ α} (wf : n.WF) {T : Table σ α} {F R : List σ}
    (inv : LoopInv n n.states.reverse T F) (hok : Tbl.Ok (NFA.SymOk n.syms) (· ∈ n.states) T)
    (hd : Tbl.Dict T) (hR : ∀ q, q ∈ R ↔ Reach (NFAElim.succ T) n.init q) :
    NFAElim.ElimSpec n R (T.filter fun kv => decide (kv.1 ∈ R)) (R.filter fun q => decide (q ∈ F)) := by
  have hsub : ∀ q ∈ R, q ∈ n.states := by
    intro q hq
    cases (hR q).mp hq with
    | refl => exact wf.initOk
    | tail _ hc =>
      obtain ⟨e, he, hv⟩ := List.mem_flatMap.mp hc
      exact (Tbl.rowOk_lookup hok _ e he).2 _ hv
  have hvis : ∀ q ∈ R, q ∈ n.states.reverse := fun q hq => List.mem_reverse.mpr (hsub q hq)
  have hlk : ∀ q ∈ R, alookup q (T.filter fun kv => decide (kv.1 ∈ R)) = alookup q T := fun q hq =>
    (alookup_filter_key (fun k => decide (k ∈ R)) T q).trans (if_pos (decide_eq_true hq))
  have htgt : ∀ q ∈ R, ∀ a,
      Tbl.tgt (T.filter fun kv => decide (kv.1 ∈ R)) q a = C07.tgt (rowOf T q) a :=
    fun q hq a => by unfold Tbl.tgt; rw [hlk q hq]; rfl
  refine ⟨(hR _).mpr (Reach.refl _), hsub, fun q hq a p hp => ?_, fun q hq => ?_,
    fun q hq a r hr s hs => ?_, fun q hq a p hp => ?_, fun q => ?_, fun q hq a ts h => ?_,
    nodup_akeys_filter _ hd.keys, fun kv hkv => hd.rows kv (List.mem_filter.mp hkv).1⟩
  · rw [htgt q hq] at hp
    obtain ⟨ts, hts, hp⟩ := tgt_mem hp
    exact (hR p).mpr (Reach.tail ((hR q).mp hq) (List.mem_flatMap.mpr ⟨_, hts, hp⟩))
  · rw [hlk q hq, alookup_eq_none_iff]
    intro hk
    obtain ⟨e, he, hek⟩ := List.mem_map.mp hk
    exact inv.noEps q (hvis q hq) e he hek
  · rw [htgt q hq, inv.tgt]
    by_cases e : r = q
    · exact Or.inl (e ▸ hs)
    · exact Or.inr ⟨hvis q hq, NFA.targets_sym wf hs, (NFA.mem_nextStates n _ a s).mpr
        ⟨r, (mem_encl n q r).mpr ⟨hr, e⟩, s, hs, NFA.closure_self n s⟩⟩
  · rw [htgt q hq, inv.tgt] at hp
    rcases hp with h | ⟨_, _, h⟩
    · exact ⟨q, NFA.closure_self n q, p, h, NFA.closure_self n p⟩
    · obtain ⟨r, hr, s, hs, hps⟩ := (NFA.mem_nextStates n _ a p).mp h
      exact ⟨r, ((mem_encl n q r).mp hr).1, s, hs, hps⟩
  · rw [List.mem_filter, decide_eq_true_eq]
    exact and_congr_right fun h1 => ⟨fun h2 => (inv.finSound q h2).2, inv.finCompl q (hvis q h1)⟩
  · rw [hlk q hq] at h
    exact (Tbl.rowOk_lookup hok q (some a, ts) (alookup_some_mem h)).1 a rfl

/-- `new_transitions` after the loop. -/
def elimTable (n : NFA σ α) : Table σ α := (n.states.foldl n.elimStep (n.trans, dedup n.finals)).1

/-- `new_final_states` after the loop. -/
def elimFinals (n : NFA σ α) : List σ := (n.states.foldl n.elimStep (n.trans, dedup n.finals)).2

/-- `reachable_states`. -/
def reach (n : NFA σ α) : List σ := NFA.reachableStates n.init (elimTable n) (n.nodes.length + 1)

theorem elim_trans (n : NFA σ α) :
    n.eliminateLambda.trans = (elimTable n).filter fun kv => decide (kv.1 ∈ reach n) := by rfl

theorem elim_finals (n : NFA σ α) :
    n.eliminateLambda.finals = (reach n).filter fun q => decide (q ∈ elimFinals n) := by rfl

theorem reach_eq (n : NFA σ α) :
    reach n = bfsN (NFAElim.succ (elimTable n)) (n.nodes.length + 1) [n.init] := by rfl

theorem elim_row (n : NFA σ α) (q : σ) :
    n.eliminateLambda.row q = if q ∈ reach n then rowOf (elimTable n) q else [] := by
  rw [NFA.row_eq, elim_trans, getD_alookup_filter_key (fun k => decide (k ∈ reach n))]
  simp only [decide_eq_true_eq]
  rfl

theorem elim_trans_mem {n : NFA σ α} {kv : σ × Row σ α} (h : kv ∈ n.eliminateLambda.trans) :
    kv ∈ elimTable n ∧ kv.1 ∈ reach n := by
  rw [elim_trans, List.mem_filter, decide_eq_true_eq] at h
  exact h

theorem nextStates_sym {n : NFA σ α} (wf : n.WF) {S : List σ} {a : α} {p : σ}
    (h : p ∈ n.nextStates S a) : a ∈ n.syms :=
  let ⟨_, _, _, ht, _⟩ := (NFA.mem_nextStates n S a p).mp h
  NFA.targets_sym wf ht

theorem elimInv {n : NFA σ α} (wf : n.WF) : LoopInv n n.states.reverse (elimTable n) (elimFinals n) :=
  loopInv wf fun _ => mem_dedup

theorem elimTable_dict {n : NFA σ α} (wf : n.WF) (ps : n.PyShape) : Tbl.Dict (elimTable n) :=
  loop_dict wf _ ⟨ps.keys_nodup, ps.rows_nodup⟩

theorem elimTable_ok {n : NFA σ α} (wf : n.WF) :
    Tbl.Ok (NFA.SymOk n.syms) (· ∈ n.states) (elimTable n) :=
  loop_ok wf _

section
variable {n : NFA σ α} (wf : n.WF)
include wf

theorem succ_nodes {u v : σ} (hv : v ∈ NFAElim.succ (elimTable n) u) : v ∈ n.nodes :=
  let ⟨e, he, hv⟩ := List.mem_flatMap.mp hv
  NFA.states_sub_nodes n ((Tbl.rowOk_lookup (elimTable_ok wf) u e he).2 v hv)

theorem mem_reach (q : σ) : q ∈ reach n ↔ Reach (NFAElim.succ (elimTable n)) n.init q := by
  rw [reach_eq, mem_bfsN_iff (NFAElim.succ (elimTable n)) (univ := n.nodes) (Nat.lt_succ_self _)
    (fun _ hs => List.mem_singleton.mp hs ▸ NFA.states_sub_nodes n wf.initOk)
    fun _ _ _ => succ_nodes wf]
  simp only [List.mem_singleton, exists_eq_left]

theorem nodup_reach : (reach n).Nodup :=
  nodup_bfsN (NFAElim.succ (elimTable n)) (univ := n.nodes) (Nat.lt_succ_self _)
    (fun _ hs => List.mem_singleton.mp hs ▸ NFA.states_sub_nodes n wf.initOk)
    fun _ _ _ => succ_nodes wf

end

section
variable {n : NFA σ α} (wf : n.WF) (ps : n.PyShape)
include wf ps

theorem elim_spec : NFAElim.ElimSpec n n.eliminateLambda.states n.eliminateLambda.trans
    n.eliminateLambda.finals :=
  (elimInv wf).elimSpec wf (elimTable_ok wf) (elimTable_dict wf ps) (mem_reach wf)

theorem reach_visited {q : σ} (hq : q ∈ reach n) : q ∈ n.states.reverse :=
  List.mem_reverse.mpr ((elim_spec wf ps).sub q hq)

theorem mem_elim_finals (q : σ) :
    q ∈ n.eliminateLambda.finals ↔
      q ∈ reach n ∧ q ∈ n.states ∧ ∃ p ∈ n.closure q, p ∈ n.finals :=
  ((elim_spec wf ps).fin q).trans
    ⟨fun h => ⟨h.1, (elim_spec wf ps).sub q h.1, h.2⟩, fun h => ⟨h.1, h.2.2⟩⟩

theorem elim_noEps :
    ∀ kv ∈ n.eliminateLambda.trans, ∀ e ∈ kv.2, e.1 ≠ none := by
  intro kv hkv e he
  obtain ⟨hT, hr⟩ := elim_trans_mem hkv
  rw [← rowOf_of_mem (elimTable_dict wf ps).keys hT] at he
  exact (elimInv wf).noEps kv.1 (reach_visited wf ps hr) e he

theorem elim_targets_none (q : σ) :
    n.eliminateLambda.targets q none = [] :=
  List.eq_nil_iff_forall_not_mem.mpr fun _ ht =>
    let ⟨_, hts, _⟩ := NFA.mem_targets.mp ht
    have he := alookup_some_mem hts
    elim_noEps wf ps _ (NFA.row_mem_trans he) _ he rfl

theorem elim_closure (q : σ) :
    n.eliminateLambda.closure q = [q] :=
  closure_eq_singleton _ (elim_targets_none wf ps q)

theorem elim_targets_some {q : σ} (hq : q ∈ reach n)
    (a : α) (t : σ) :
    t ∈ n.eliminateLambda.targets q (some a) ↔
      t ∈ n.targets q (some a) ∨ t ∈ n.nextStates (encl n q) a := by
  show t ∈ tgt (n.eliminateLambda.row q) (some a) ↔ t ∈ tgt (n.row q) (some a) ∨ _
  rw [elim_row, if_pos hq, (elimInv wf).tgt]
  exact or_congr_right ⟨fun h => h.2.2, fun h => ⟨reach_visited wf ps hq, nextStates_sym wf h, h⟩⟩

theorem elim_wf : n.eliminateLambda.WF := by
  have sp := elim_spec wf ps
  refine (NFA.wf_iff_ok _).mpr ⟨Tbl.ok_of_tgt sp.dict
      (fun kv hkv e he => (elimTable_ok wf kv (elim_trans_mem hkv).1 e he).1)
      fun kv hkv => sp.closed kv.1 (elim_trans_mem hkv).2,
    sp.init_mem, ?_, fun q hq => (List.mem_filter.mp hq).1⟩
  rcases wf.initRow with h | h
  · obtain ⟨kv, hkv, hk⟩ := List.mem_map.mp ((loop_ext wf n.states (n.trans, dedup n.finals)).keys _ h)
    refine Or.inl (List.mem_map.mpr ⟨kv, ?_, hk⟩)
    rw [elim_trans, List.mem_filter, decide_eq_true_eq, hk]
    exact ⟨hkv, sp.init_mem⟩
  · have : (reach n).length ≤ n.states.length :=
      List.Nodup.length_le_of_subset (nodup_reach wf) sp.sub
    exact Or.inr (Nat.le_trans this h)

theorem elim_accepts (w : List α) :
    n.eliminateLambda.accepts w = n.accepts w := by
  rw [Bool.eq_iff_iff, NFA.accepts_iff_acc, NFA.accepts_iff_acc]
  exact (elim_spec wf ps).acc_iff

omit ps in
theorem elim_reachable :
    ∀ q ∈ n.eliminateLambda.states,
      Reach (fun q => (n.eliminateLambda.row q).flatMap fun e => e.2) n.eliminateLambda.init q := by
  intro q hq
  have hq' : Reach (NFAElim.succ (elimTable n)) n.init q := (mem_reach wf q).mp hq
  show Reach _ n.init q
  induction hq' with
  | refl => exact Reach.refl _
  | tail hab hc ih =>
    rename_i b c
    have hb : b ∈ reach n := (mem_reach wf b).mpr hab
    refine Reach.tail (ih hb) ?_
    simp only [elim_row, if_pos hb]
    exact hc

theorem elim_pyShape : n.eliminateLambda.PyShape := by
  have sp := elim_spec wf ps
  refine ⟨nodup_reach wf, ps.syms_nodup, ?_, sp.dict.keys, sp.dict.rows, ?_⟩
  · rw [elim_finals]
    exact List.Nodup.sublist List.filter_sublist (nodup_reach wf)
  · exact fun kv hkv => (fold_rows n (I := fun r => ∀ e ∈ r, e.2.Nodup) (fun _ h => nomatch h)
      (fun q _ => newRow_targets_nodup n q) _ _ ps.keys_nodup ps.targets_nodup).2 kv
        (elim_trans_mem hkv).1

theorem elim_reachable_word :
    ∀ q ∈ n.eliminateLambda.states,
      ∃ w, q ∈ n.eliminateLambda.runFrom (n.eliminateLambda.closure n.eliminateLambda.init) w := by
  intro q hq
  have hr := elim_reachable wf q hq
  clear hq
  -- a path of the result reading some `w`, which is what the reader's configuration after `w` holds
  suffices h : ∃ w, Rx.Path n.eliminateLambda.rel n.eliminateLambda.init w q from
    h.imp fun w hp => (NFA.mem_run_iff _ w q).mpr hp
  induction hr with
  | refl => exact ⟨[], Rx.Path.nil _⟩
  | tail _ hc ih =>
    obtain ⟨w, hw⟩ := ih
    obtain ⟨e, he, hce⟩ := List.mem_flatMap.mp hc
    obtain ⟨r, hr, her⟩ := row_mem_trans he
    cases h1 : e.1 with
    | none => exact absurd h1 (elim_noEps wf ps _ hr e her)
    | some a =>
      exact ⟨w ++ [a], hw.snoc_sym
        ((mem_targets_iff (elim_pyShape wf ps) _ (some a) _).mpr ⟨e.2, h1 ▸ he, hce⟩)⟩

end

end C07
end AV
