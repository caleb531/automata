/-
Proofs/CorruptTm.lean — what `validate` raises on an edited valid Turing-machine definition, proved once
on `TmView` for the three classes: edits of a field, of the set of rows, and of one entry of a row.
Each class theorem of Props/C19*.lean is the view theorem at `DTM.view`, `NTM.view`, `MNTM.view`, read back
through `WF.of_view`.
-/
import AutomataVerif.Proofs.CorruptOps3

namespace AV.VA
open AV

variable {β σ γ : Type} [DecidableEq σ] [DecidableEq γ]

theorem DTM.WF.of_view {d d' : DTM σ γ} (wf : d.WF) {e : Res Unit}
    (h : (DTM.view d).check = .ok () → (DTM.view d').check = e) : d'.validate = e :=
  (DTM.validate_eq_check d').trans (h ((DTM.validate_eq_check d).symm.trans ((DTM.validate_eq_ok d).mpr wf)))

theorem NTM.WF.of_view {d d' : NTM σ γ} (wf : d.WF) {e : Res Unit}
    (h : (NTM.view d).check = .ok () → (NTM.view d').check = e) : d'.validate = e :=
  (NTM.validate_eq_check d').trans (h ((NTM.validate_eq_check d).symm.trans ((NTM.validate_eq_ok d).mpr wf)))

theorem MNTM.WF.of_view {d d' : MNTM σ γ} (wf : d.WF) {e : Res Unit}
    (h : (MNTM.view d).check = .ok () → (MNTM.view d').check = e) : d'.validate = e :=
  (MNTM.validate_eq_check d').trans (h ((MNTM.validate_eq_check d).symm.trans ((MNTM.validate_eq_ok d).mpr wf)))

namespace TmView

theorem valid {v : TmView β σ γ} (ok : v.check = .ok ()) : ∀ r, ¬ rules.Violates v r :=
  (rules_correct.ok_iff v).mp ok

theorem raises_initial {v : TmView β σ γ} (ok : v.check = .ok ()) (q : σ) (hq : q ∉ v.states) :
    ({ v with init := q }).check = .error (.lib .invalidStateError) := by
  refine rules_correct.raises_of_valid ok .badInitial hq fun r' => ?_
  cases r' <;> rule_unaffected

theorem raises_blank {v : TmView β σ γ} (ok : v.check = .ok ()) (b : γ) (hb : b ∉ v.tapeSyms) :
    ({ v with blank := b }).check = .error (.lib .invalidSymbolError) := by
  refine rules_correct.raises_of_valid ok .badBlank hb fun r' => ?_
  cases r' <;> rule_unaffected

theorem raises_initial_is_final {v : TmView β σ γ} (ok : v.check = .ok ()) :
    ({ v with finals := v.init :: v.finals }).check = .error (.lib .initialStateError) := by
  refine rules_correct.raises_of_valid ok .initialIsFinal (List.Mem.head _) fun r' => ?_
  cases r' <;> rule_unaffected

/-- The new final state is not the initial state, which is a state: the `InitialStateError` test passes. -/
theorem raises_final {v : TmView β σ γ} (ok : v.check = .ok ()) (q : σ) (hq : q ∉ v.states) :
    ({ v with finals := q :: v.finals }).check = .error (.lib .invalidStateError) := by
  refine rules_correct.raises_of_valid ok .badFinal ⟨q, .head _, hq⟩ fun r' => ?_
  cases r'
  case initialIsFinal =>
    exact fun _ h => (List.mem_cons.mp h).elim
      (fun e => absurd (e ▸ Classical.not_not.mp (valid ok .badInitial)) hq) id
  all_goals rule_unaffected

/-- The first check: for every view, valid or not. -/
theorem raises_input_symbols (v : TmView β σ γ) (h : ¬ ProperSubset v.syms v.tapeSyms) :
    v.check = .error (.lib .missingSymbolError) := by
  refine rules_correct.raises .inputNotProperSubset h fun r' => ?_
  cases r' <;> exact fun h => absurd h Bool.false_ne_true

theorem raises_tapes {v : TmView β σ γ} (ok : v.check = .ok ()) {b : Bool} (hb : b = false) :
    ({ v with tapesOk := b }).check = .error (.lib .inconsistentTapesException) := by
  refine rules_correct.raises_of_valid ok .badTapeCount hb fun r' => ?_
  cases r' <;> rule_unaffected

-- `tapesOk := b` for any `b` where the rows are edited: the MNTM's flag is computed from the rows
-- (`MNTM.tapesOk`), so the edit may change it, and its test comes after every check that raises here.
/-- `transitions[x] = row`, `x` not a state: the new key goes to the end of the dict, every older row passes,
and the key is the first test of a row — whatever the row contains (on the order of the checks directly:
the rule system puts all row rules in one stage). -/
theorem raises_row_key {v : TmView β σ γ} (ok : v.check = .ok ()) (b : Bool) {x : σ} (hx : x ∉ v.states)
    (row : β) :
    ({ v with trans := ainsert x row v.trans, tapesOk := b }).check = .error (.lib .invalidStateError) := by
  refine raises_of_new_row ok (fun h => ?_) ?_
  · obtain ⟨kv, hkv, rfl⟩ := List.mem_map.mp h
    exact valid ok .unknownTransitionState ⟨kv, hkv, hx⟩
  · show (guardE (decide (x ∈ v.states)) _).andThen _ = _
    rw [decide_eq_false hx]; rfl

theorem raises_final_row {v : TmView β σ γ} (ok : v.check = .ok ()) (b : Bool) {f : σ} (hf : f ∈ v.finals)
    (row : β) (hreads : ∀ s ∈ v.reads (f, row), s ∈ v.tapeSyms)
    (hres : ∀ r ∈ v.results (f, row), TmResultOk v.states v.tapeSyms v.dirs r) :
    ({ v with trans := ainsert f row v.trans, tapesOk := b }).check = .error (.lib .finalStateError) := by
  have old : ∀ {P : σ × β → Prop}, ¬ P (f, row) → (∃ kv ∈ ainsert f row v.trans, P kv) → ∃ kv ∈ v.trans, P kv :=
    fun hn ⟨kv, hkv, hp⟩ => (mem_ainsert hkv).elim (fun (e : kv = (f, row)) => absurd (e ▸ hp) hn)
      fun h => ⟨kv, h, hp⟩
  refine rules_correct.raises_of_valid ok .finalHasTransitions
    ⟨f, hf, mem_akeys_ainsert.mpr (.inl rfl)⟩ fun r' => ?_
  cases r'
  case unknownTransitionState => exact fun _ => old fun h => valid ok .badFinal ⟨f, hf, h⟩
  case badReadSymbol => exact fun _ => old fun ⟨s, hs, hn⟩ => hn (hreads s hs)
  case unknownResultState => exact fun _ => old fun ⟨r, hr, hn⟩ => hn (hres r hr).1
  case badWriteSymbol => exact fun _ => old fun ⟨r, hr, hn⟩ => hn (hres r hr).2.1
  case badDirection => exact fun _ => old fun ⟨r, hr, hn⟩ => hn (hres r hr).2.2
  case initialNoRow => exact fun _ h => ⟨fun hk => h.1 (mem_akeys_ainsert.mpr (.inr hk)), h.2⟩
  all_goals rule_unaffected

theorem raises_initial_row {v : TmView β σ γ} (ok : v.check = .ok ()) (hlen : 1 < v.states.length)
    (b : Bool) :
    ({ v with trans := adelete v.init v.trans, tapesOk := b }).check = .error (.lib .missingStateError) := by
  have sub : ∀ {P : σ × β → Prop}, (∃ row ∈ adelete v.init v.trans, P row) → ∃ row ∈ v.trans, P row :=
    fun ⟨row, h, hp⟩ => ⟨row, (mem_adelete v.init v.trans row h).1, hp⟩
  refine rules_correct.raises_of_valid ok .initialNoRow
    ⟨not_mem_akeys_filter_ne v.init v.trans, hlen⟩ fun r' => ?_
  cases r'
  case unknownTransitionState | badReadSymbol | unknownResultState | badWriteSymbol | badDirection =>
    exact fun _ => sub
  all_goals rule_unaffected

/-- `t'` is `v.trans` after `transitions[q][…] = …`: the keys are kept, what a row reads and lists is old
or of the new entry (`nr`: the symbols it reads, `nres`: its results), and the entry is in some row. -/
structure EntrySet (v : TmView β σ γ) (t' : List (σ × β)) (nr : List γ) (nres : List (TMResult σ γ)) :
    Prop where
  keys : akeys t' = akeys v.trans
  old : ∀ row' ∈ t', ∃ row ∈ v.trans, row'.1 = row.1 ∧ (∀ s ∈ v.reads row', s ∈ nr ∨ s ∈ v.reads row) ∧
    ∀ r ∈ v.results row', r ∈ nres ∨ r ∈ v.results row
  new : ∃ row' ∈ t', (∀ s ∈ nr, s ∈ v.reads row') ∧ ∀ r ∈ nres, r ∈ v.results row'

def EntryViolates (v : TmView β σ γ) (nr : List γ) (nres : List (TMResult σ γ)) : TmRule → Prop
  | .badReadSymbol => ∃ s ∈ nr, s ∉ v.tapeSyms
  | .unknownResultState => ∃ r ∈ nres, r.1 ∉ v.states
  | .badWriteSymbol => ∃ r ∈ nres, r.2.1 ∉ v.tapeSyms
  | .badDirection => ∃ r ∈ nres, r.2.2 ∉ v.dirs
  | _ => False

omit [DecidableEq σ] [DecidableEq γ] in
@[elab_as_elim]
theorem EntryViolates.inv {v : TmView β σ γ} {nr : List γ} {nres : List (TMResult σ γ)} {P : TmRule → Prop}
    {r' : TmRule} (he : v.EntryViolates nr nres r')
    (read : (∃ s ∈ nr, s ∉ v.tapeSyms) → P .badReadSymbol)
    (state : (∃ r ∈ nres, r.1 ∉ v.states) → P .unknownResultState)
    (write : (∃ r ∈ nres, r.2.1 ∉ v.tapeSyms) → P .badWriteSymbol)
    (dir : (∃ r ∈ nres, r.2.2 ∉ v.dirs) → P .badDirection) : P r' := by
  cases r'
  case badReadSymbol => exact read he
  case unknownResultState => exact state he
  case badWriteSymbol => exact write he
  case badDirection => exact dir he
  all_goals exact False.elim he

namespace EntrySet
variable {v : TmView β σ γ} {t' : List (σ × β)} {nr : List γ} {nres : List (TMResult σ γ)}

omit [DecidableEq σ] [DecidableEq γ] in
theorem frame (h : v.EntrySet t' nr nres) (b : Bool) (r' : TmRule)
    (hv : rules.Violates { v with trans := t', tapesOk := b } r') :
    rules.Violates v r' ∨ v.EntryViolates nr nres r' ∨ r' = .badTapeCount := by
  have res : ∀ {P : TMResult σ γ → Prop}, (∃ row' ∈ t', ∃ r ∈ v.results row', P r) →
      (∃ row ∈ v.trans, ∃ r ∈ v.results row, P r) ∨ ∃ r ∈ nres, P r :=
    fun ⟨row', hrow', r, hr, hp⟩ =>
      let ⟨row, hrow, _, _, hres⟩ := h.old row' hrow'
      (hres r hr).elim (fun h => .inr ⟨r, h, hp⟩) fun h => .inl ⟨row, hrow, r, h, hp⟩
  cases r'
  case unknownTransitionState =>
    obtain ⟨row', hrow', hk⟩ := hv
    obtain ⟨row, hrow, e, _⟩ := h.old row' hrow'
    exact .inl ⟨row, hrow, e ▸ hk⟩
  case badReadSymbol =>
    obtain ⟨row', hrow', s, hs, hn⟩ := hv
    obtain ⟨row, hrow, _, hr, _⟩ := h.old row' hrow'
    exact (hr s hs).elim (fun h => .inr (.inl ⟨s, h, hn⟩)) fun h => .inl ⟨row, hrow, s, h, hn⟩
  case unknownResultState | badWriteSymbol | badDirection => exact (res hv).imp_right .inl
  case initialNoRow => exact .inl ⟨h.keys ▸ hv.1, hv.2⟩
  case finalHasTransitions => exact .inl (hv.imp fun f hf => ⟨hf.1, h.keys ▸ hf.2⟩)
  case badTapeCount => exact .inr (.inr rfl)
  all_goals exact .inl hv

omit [DecidableEq σ] [DecidableEq γ] in
theorem violates (h : v.EntrySet t' nr nres) (b : Bool) {r : TmRule} (hv : v.EntryViolates nr nres r) :
    rules.Violates { v with trans := t', tapesOk := b } r := by
  obtain ⟨row', hrow', hr, hres⟩ := h.new
  cases r
  case badReadSymbol => exact hv.elim fun s hs => ⟨row', hrow', s, hr s hs.1, hs.2⟩
  case unknownResultState => exact hv.elim fun r h => ⟨row', hrow', r, hres r h.1, h.2⟩
  case badWriteSymbol => exact hv.elim fun r h => ⟨row', hrow', r, hres r h.1, h.2⟩
  case badDirection => exact hv.elim fun r h => ⟨row', hrow', r, hres r h.1, h.2⟩
  all_goals exact hv.elim

theorem raises (h : v.EntrySet t' nr nres) (ok : v.check = .ok ()) (b : Bool) (r : TmRule)
    (hv : v.EntryViolates nr nres r) (hno : ∀ r', v.EntryViolates nr nres r' → r'.kind = r.kind) :
    ({ v with trans := t', tapesOk := b }).check = .error (.lib r.kind) :=
  rules_correct.raises_of_frame ok (h.frame b) r (h.violates b hv) fun r' hn =>
    hn.elim (fun he => .inl (hno r' he)) fun e => .inr <| by
      -- what an entry can violate is a rule of the row loop, checked before the tape count
      subst e
      show r.stage < TmRule.badTapeCount.stage
      cases r <;> first | exact hv.elim | decide

theorem raises_direction (h : v.EntrySet t' nr nres) (ok : v.check = .ok ()) (b : Bool)
    (hr : ∀ s ∈ nr, s ∈ v.tapeSyms) (hok : ∀ r ∈ nres, r.1 ∈ v.states ∧ r.2.1 ∈ v.tapeSyms)
    (hbad : ∃ r ∈ nres, r.2.2 ∉ v.dirs) :
    ({ v with trans := t', tapesOk := b }).check = .error (.lib .invalidDirectionError) :=
  h.raises ok b .badDirection hbad fun _ he =>
    he.inv (read := fun ⟨s, hs, hn⟩ => absurd (hr s hs) hn) (state := fun ⟨r, h, hn⟩ => absurd (hok r h).1 hn)
      (write := fun ⟨r, h, hn⟩ => absurd (hok r h).2 hn) (dir := fun _ => rfl)

/-- A symbol read or written that is not a tape symbol: both rules have the same class. -/
theorem raises_symbol (h : v.EntrySet t' nr nres) (ok : v.check = .ok ()) (b : Bool)
    (hok : ∀ r ∈ nres, r.1 ∈ v.states ∧ r.2.2 ∈ v.dirs)
    (hbad : (∃ s ∈ nr, s ∉ v.tapeSyms) ∨ ∃ r ∈ nres, r.2.1 ∉ v.tapeSyms) :
    ({ v with trans := t', tapesOk := b }).check = .error (.lib .invalidSymbolError) := by
  have hno : ∀ r', v.EntryViolates nr nres r' → r'.kind = .invalidSymbolError := fun _ he =>
    he.inv (read := fun _ => rfl) (state := fun ⟨r, h, hn⟩ => absurd (hok r h).1 hn) (write := fun _ => rfl)
      (dir := fun ⟨r, h, hn⟩ => absurd (hok r h).2 hn)
  exact hbad.elim (fun hb => h.raises ok b .badReadSymbol hb hno) fun hb => h.raises ok b .badWriteSymbol hb hno

theorem raises_end_state (h : v.EntrySet t' nr nres) (ok : v.check = .ok ()) (b : Bool)
    (hr : ∀ s ∈ nr, s ∈ v.tapeSyms) (hok : ∀ r ∈ nres, r.2.1 ∈ v.tapeSyms ∧ r.2.2 ∈ v.dirs)
    (hbad : ∃ r ∈ nres, r.1 ∉ v.states) :
    ({ v with trans := t', tapesOk := b }).check = .error (.lib .invalidStateError) :=
  h.raises ok b .unknownResultState hbad fun _ he =>
    he.inv (read := fun ⟨s, hs, hn⟩ => absurd (hr s hs) hn) (state := fun _ => rfl)
      (write := fun ⟨r, h, hn⟩ => absurd (hok r h).1 hn) (dir := fun ⟨r, h, hn⟩ => absurd (hok r h).2 hn)

theorem raises_tapes (h : v.EntrySet t' nr nres) (ok : v.check = .ok ()) {b : Bool} (hb : b = false)
    (hr : ∀ s ∈ nr, s ∈ v.tapeSyms) (hok : ∀ r ∈ nres, TmResultOk v.states v.tapeSyms v.dirs r) :
    ({ v with trans := t', tapesOk := b }).check = .error (.lib .inconsistentTapesException) := by
  refine rules_correct.raises_of_frame ok (h.frame b) .badTapeCount hb fun r' hn => ?_
  rcases hn with he | rfl
  · exact he.inv (read := fun ⟨s, hs, hn⟩ => absurd (hr s hs) hn) (state := fun ⟨r, h, hn⟩ => absurd (hok r h).1 hn)
      (write := fun ⟨r, h, hn⟩ => absurd (hok r h).2.1 hn) (dir := fun ⟨r, h, hn⟩ => absurd (hok r h).2.2 hn)
  · exact .inl rfl

end EntrySet
end TmView

omit [DecidableEq σ] [DecidableEq γ] in
private theorem mem_flatMap_of_sub {κ τ : Type} {l l' : List κ} {f : κ → List τ} {a : κ}
    (h : ∀ x ∈ l', x = a ∨ x ∈ l) {y : τ} (hy : y ∈ l'.flatMap f) : y ∈ f a ∨ y ∈ l.flatMap f := by
  obtain ⟨x, hx, hy⟩ := List.mem_flatMap.mp hy
  exact (h x hx).imp (fun (e : x = a) => e ▸ hy) fun hx => List.mem_flatMap.mpr ⟨x, hx, hy⟩

omit [DecidableEq γ] in
/-- `transitions[q][k] = x` when a row reads what its keys list (`rk`) and lists what its values list (`rv`). -/
theorem TmView.entrySet_ainsert {κ τ : Type} [DecidableEq κ] {v : TmView (List (κ × τ)) σ γ}
    (rk : κ → List γ) (rv : τ → List (TMResult σ γ))
    (hreads : ∀ row, v.reads row = (akeys row.2).flatMap rk)
    (hres : ∀ row, v.results row = (avals row.2).flatMap rv)
    {kv : σ × List (κ × τ)} (hkv : kv ∈ v.trans) (k : κ) (x : τ) :
    v.EntrySet (editRow kv.1 (ainsert k x) v.trans) (rk k) (rv x) where
  keys := editRow_keys _ _ _
  old row' h := by
    obtain ⟨row, hrow, h1, hk, hv, _⟩ := mem_editRow_ainsert kv.1 k x v.trans row' h
    simp only [hreads, hres]
    exact ⟨row, hrow, h1, fun _ => mem_flatMap_of_sub hk, fun _ => mem_flatMap_of_sub hv⟩
  new := by
    obtain ⟨row', h, _, hk, hv⟩ := editRow_ainsert_mem k x v.trans kv hkv
    simp only [hreads, hres]
    exact ⟨row', h, fun _ hs => List.mem_flatMap.mpr ⟨k, hk, hs⟩, fun _ hr => List.mem_flatMap.mpr ⟨x, hv, hr⟩⟩

theorem DTM.entrySet (d : DTM σ γ) {kv : σ × List (γ × TMResult σ γ)} (hkv : kv ∈ d.trans) (s : γ)
    (r : TMResult σ γ) : (DTM.view d).EntrySet (DTM.setEntry d kv.1 s r).trans [s] [r] :=
  TmView.entrySet_ainsert (v := DTM.view d) (fun s => [s]) (fun r => [r])
    (fun _ => (List.flatMap_singleton' _).symm) (fun _ => (List.flatMap_singleton' _).symm) hkv s r

theorem NTM.entrySet (d : NTM σ γ) {kv : σ × List (γ × List (TMResult σ γ))} (hkv : kv ∈ d.trans) (s : γ)
    (rs : List (TMResult σ γ)) : (NTM.view d).EntrySet (NTM.setEntry d kv.1 s rs).trans [s] rs :=
  TmView.entrySet_ainsert (v := NTM.view d) (fun s => [s]) id
    (fun _ => (List.flatMap_singleton' _).symm) (fun _ => rfl) hkv s rs

/-- One `(state, symbol, direction)` per move of every result of an MNTM entry, as the row check sees them. -/
def MNTM.entryResults (rs : List (σ × List (γ × String))) : List (TMResult σ γ) :=
  rs.flatMap fun r => r.2.map fun mv => (r.1, mv.1, mv.2)

omit [DecidableEq σ] [DecidableEq γ] in
theorem MNTM.forall_entryResults {P : TMResult σ γ → Prop} {rs : List (σ × List (γ × String))} :
    (∀ x ∈ MNTM.entryResults rs, P x) ↔ ∀ r ∈ rs, ∀ mv ∈ r.2, P (r.1, mv.1, mv.2) := by
  simp only [MNTM.entryResults, List.mem_flatMap, List.mem_map, forall_exists_index, and_imp]
  exact ⟨fun h r hr mv hmv => h _ r hr mv hmv rfl, fun h _ r hr mv hmv e => e ▸ h r hr mv hmv⟩

omit [DecidableEq σ] [DecidableEq γ] in
theorem MNTM.exists_entryResults {P : TMResult σ γ → Prop} {rs : List (σ × List (γ × String))} :
    (∃ x ∈ MNTM.entryResults rs, P x) ↔ ∃ r ∈ rs, ∃ mv ∈ r.2, P (r.1, mv.1, mv.2) := by
  simp only [MNTM.entryResults, List.mem_flatMap, List.mem_map]
  exact ⟨fun ⟨_, ⟨r, hr, mv, hmv, e⟩, h⟩ => ⟨r, hr, mv, hmv, e ▸ h⟩,
    fun ⟨r, hr, mv, hmv, h⟩ => ⟨_, ⟨r, hr, mv, hmv, rfl⟩, h⟩⟩

theorem MNTM.entrySet (d : MNTM σ γ) {kv : σ × List (List γ × List (σ × List (γ × String)))}
    (hkv : kv ∈ d.trans) (rd : List γ) (rs : List (σ × List (γ × String))) :
    (MNTM.view d).EntrySet (MNTM.setEntry d kv.1 rd rs).trans rd (MNTM.entryResults rs) :=
  TmView.entrySet_ainsert (v := MNTM.view d) id MNTM.entryResults (fun _ => rfl) (fun _ => rfl) hkv rd rs

end AV.VA
