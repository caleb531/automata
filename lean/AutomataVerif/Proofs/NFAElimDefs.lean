/-
Proofs/NFAElimDefs.lean — what the quotient constructions need to know about the triple
`(reachable_states, new_transitions, reachable_final_states)` returned by
`NFA._eliminate_lambda` (Model/NFAElim.lean `NFAElim.core`).  Core only.
-/
import AutomataVerif.Model.NFAElim
import AutomataVerif.Proofs.NFATable

open AV.AL

namespace AV.NFAElim
open AV

variable {σ α : Type} [DecidableEq σ] [DecidableEq α]

/-- Specification of `_eliminate_lambda` on a valid NFA `A`: `ra` are the states reachable
from the initial state in the new table, `ta` is an ε-free table on them whose symbol moves
lie between "ε* then the symbol" and "ε* then the symbol then ε*" of `A`, and `fa` are the
reachable states whose λ-closure meets the final states. -/
structure ElimSpec (A : NFA σ α) (ra : List σ) (ta : Tbl σ α) (fa : List σ) : Prop where
  init_mem : A.init ∈ ra
  sub : ∀ q ∈ ra, q ∈ A.states
  closed : ∀ q ∈ ra, ∀ a, ∀ p ∈ Tbl.tgt ta q a, p ∈ ra
  no_eps_key : ∀ q ∈ ra, alookup none ((alookup q ta).getD []) = none
  -- Two bounds and no iff: `_eliminate_lambda` copies the symbol moves of `q` itself as they are and
  -- adds those of the rest of its λ-closure through `_get_next_current_states`, which closes the
  -- targets under λ again.  So `ta` has all of "ε* a" and only some of "ε* a ε*"; `Rx.Acc.elim_on`
  -- (in `acc_iff`) asks for the two bounds and no more.
  low : ∀ q ∈ ra, ∀ a, ∀ r ∈ A.closure q, ∀ s ∈ A.targets r (some a), s ∈ Tbl.tgt ta q (some a)
  up : ∀ q ∈ ra, ∀ a, ∀ p ∈ Tbl.tgt ta q (some a),
    ∃ r ∈ A.closure q, ∃ s ∈ A.targets r (some a), p ∈ A.closure s
  fin : ∀ q, q ∈ fa ↔ q ∈ ra ∧ ∃ p ∈ A.closure q, p ∈ A.finals
  syms : ∀ q ∈ ra, ∀ a ts, alookup (some a) ((alookup q ta).getD []) = some ts → a ∈ A.syms
  dict : Tbl.Dict ta

namespace ElimSpec
variable {A : NFA σ α} {ra : List σ} {ta : Tbl σ α} {fa : List σ} (sa : ElimSpec A ra ta fa)
include sa

theorem tgt_none {q : σ} (hq : q ∈ ra) : Tbl.tgt ta q none = [] := by
  rw [Tbl.tgt, sa.no_eps_key q hq]; rfl

theorem not_tgt_none (q : σ) (hq : q ∈ ra) (p : σ) : p ∉ Tbl.tgt ta q none :=
  fun hp => List.not_mem_nil (sa.tgt_none hq ▸ hp)

theorem tgt_sym {q p : σ} {a : α} (hq : q ∈ ra) (hp : p ∈ Tbl.tgt ta q (some a)) : a ∈ A.syms :=
  let ⟨ts, hts, _⟩ := Tbl.exists_of_mem_tgt hp
  sa.syms q hq a ts hts

theorem rowOk {q : σ} (hq : q ∈ ra) :
    Tbl.RowOk (NFA.SymOk A.syms) (· ∈ ra) ((alookup q ta).getD []) := by
  rintro ⟨k, v⟩ he
  have hl := (mem_iff_alookup (Tbl.row_nodup sa.dict q)).mp he
  exact ⟨fun x hx => sa.syms q hq x v (hx ▸ hl),
    fun p hp => sa.closed q hq k p (Tbl.tgt_of_lookup hl ▸ hp)⟩

end ElimSpec

theorem ElimSpec.acc_iff {A : NFA σ α} {ra fa : List σ} {ta : Tbl σ α} (sa : ElimSpec A ra ta fa)
    {w : List α} :
    Rx.Acc (fun q a p => p ∈ Tbl.tgt ta q a) (· ∈ fa) A.init w ↔
      Rx.Acc A.rel (· ∈ A.finals) A.init w :=
  Rx.Acc.elim_on (R := (· ∈ ra)) (C := fun q r => r ∈ A.closure q)
    (fun _ _ => NFA.mem_closure_iff_path A) sa.closed sa.not_tgt_none sa.low sa.up
    (fun q hq => (sa.fin q).trans (and_iff_right hq)) sa.init_mem

end AV.NFAElim
