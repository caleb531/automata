/-
Proofs/CtorACDfa.lean — from_substrings (C15), phase 4: the DFA assembled from the goto table:
"state after `w` = node of the longest suffix of `w` in the trie", the absorbing end state of
substring mode; validity and language of both modes from one lemma about a table that tabulates
a transition function (`Tabulates`).  Core only.
-/
import AutomataVerif.Proofs.CtorACGoto

namespace AV.Ctor.AC

variable {α : Type} [DecidableEq α]

/-- "Hot": the end state or a node whose output chain is not empty. -/
def hot (nodes : List (ACNode α)) (v : Nat) : Prop := v = nodes.length ∨ (acGet nodes v).out ≠ []

instance (nodes : List (ACNode α)) (v : Nat) : Decidable (hot nodes v) := by unfold hot; infer_instance

section state
variable {pats : List (List α)} {nodes : List (ACNode α)} {paths : List (List α)}

def acState (nodes : List (ACNode α)) (w : List α) : Nat := w.foldl (gotoN nodes) 0

theorem acState_snoc (nodes : List (ACNode α)) (w : List α) (a : α) :
    acState nodes (w ++ [a]) = gotoN nodes (acState nodes w) a := by
  unfold acState; rw [List.foldl_append]; rfl

theorem isLongest_snoc (h : Trie nodes paths) {w y y' : List α} {a : α} (h1 : IsLongest paths w y)
    (h2 : IsLongest paths (y ++ [a]) y') : IsLongest paths (w ++ [a]) y' :=
  h2.snoc_of h1.1 fun t ht hm => List.suffix_of_suffix_length_le ht h1.1
    (h1.2.2 t ht (h.prefix_mem hm (List.prefix_append _ _)))

/-- **State invariant**: the node reached on `w` spells the longest suffix of `w` in the trie (`paths`: the
prefixes of the patterns, `Linked.mem`). -/
theorem acState_spec (hL : Linked pats nodes paths) (w : List α) :
    ∃ y, paths[acState nodes w]? = some y ∧ IsLongest paths w y := by
  have h := hL.trie
  induction w using snoc_induction with
  | h0 =>
    refine ⟨[], h.root, List.suffix_refl _, h.root_mem, ?_⟩
    intro z hz _
    rw [List.suffix_nil.mp hz]; simp
  | hs w a ih =>
    obtain ⟨y, hy, hl⟩ := ih
    obtain ⟨_, y', hy', hl'⟩ := gotoN_spec hL (acState nodes w) y hy a
    exact ⟨y', acState_snoc nodes w a ▸ hy', isLongest_snoc h hl hl'⟩

theorem acState_lt (hL : Linked pats nodes paths) (w : List α) : acState nodes w < nodes.length := by
  obtain ⟨y, hy, _⟩ := acState_spec hL w
  exact hL.trie.lt hy

theorem out_imp_suffix (hL : Linked pats nodes paths) (w : List α)
    (h : (acGet nodes (acState nodes w)).out ≠ []) : ∃ z ∈ pats, z <:+ w := by
  obtain ⟨y, hy, hl⟩ := acState_spec hL w
  by_cases hy0 : y = []
  · subst hy0
    have : acState nodes w = 0 := hL.trie.inj _ 0 [] hy hL.trie.root
    rw [this] at h
    exact ⟨[], hL.rootout.mp h, List.nil_suffix⟩
  · obtain ⟨z, _, hz, hm⟩ := (hL.ok _ y hy hy0).2.mp h
    exact ⟨z, hm, hz.trans hl.1⟩

theorem suffix_imp_out (hL : Linked pats nodes paths) (w : List α) (z : List α) (hz : z ∈ pats)
    (hne : z ≠ []) (hs : z <:+ w) : (acGet nodes (acState nodes w)).out ≠ [] := by
  obtain ⟨y, hy, hl⟩ := acState_spec hL w
  have hzm : z ∈ paths := (hL.mem z).mpr (Or.inr ⟨z, hz, List.prefix_refl _⟩)
  have hzy : z <:+ y := List.suffix_of_suffix_length_le hs hl.1 (hl.2.2 z hs hzm)
  have hy0 : y ≠ [] := by
    intro e; rw [e] at hzy; exact hne (List.suffix_nil.mp hzy)
  exact (hL.ok _ y hy hy0).2.mpr ⟨z, hne, hzy, hz⟩

theorem acState_cold (hL : Linked pats nodes paths) {w : List α} (hit : ¬ ∃ p ∈ pats, p <:+: w) :
    ¬ hot nodes (acState nodes w) := by
  rintro (h | h)
  · exact Nat.lt_irrefl _ (h ▸ acState_lt hL w)
  · obtain ⟨z, hz, hs⟩ := out_imp_suffix hL w h
    exact hit ⟨z, hz, hs.isInfix⟩

end state

section table
variable {κ : Type} {syms : List α} {T : List (Int × List (α × Int))} {name : κ → Int}
  {δ : κ → α → κ} {Inv : κ → Prop}

def tableDFA (syms : List α) (T : List (Int × List (α × Int))) (F : List Int) (contains : Bool)
    (init : Int) : DFA Int α :=
  { states := akeys T, syms := syms, trans := T, init := init,
    finals := if contains then F else sdiff (akeys T) F, allowPartial := false }

structure Tabulates (syms : List α) (T : List (Int × List (α × Int))) (name : κ → Int)
    (δ : κ → α → κ) (Inv : κ → Prop) : Prop where
  keysNodup : (akeys T).Nodup
  keys : ∀ q : Int, q ∈ akeys T ↔ ∃ v, Inv v ∧ q = name v
  rows : ∀ v, Inv v → alookup (name v) T = some (rowOf syms fun a => name (δ v a))
  closed : ∀ v, Inv v → ∀ a ∈ syms, Inv (δ v a)

variable (st : Tabulates syms T name δ Inv) {F : List Int} (contains : Bool) {q0 : κ}
include st

omit [DecidableEq α] in
theorem Tabulates.foldl_inv {w : List α} (hw : Over syms w) {q : κ} (hq : Inv q) :
    Inv (w.foldl δ q) :=
  List.foldlRecOn w δ hq fun v hv a ha => st.closed v hv a (hw a ha)

omit [DecidableEq α] in
theorem Tabulates.wf (hF : ∀ q ∈ F, q ∈ akeys T) (h0 : Inv q0) :
    (tableDFA syms T F contains (name q0)).WF := by
  refine wf_of_lookup _ st.keysNodup (fun q => Iff.rfl) (fun q hq => ?_)
    ((st.keys _).mpr ⟨q0, h0, rfl⟩) (fun q hq => ?_)
  · obtain ⟨v, hv, rfl⟩ := (st.keys q).mp hq
    refine ⟨_, st.rows v hv, fun a => by rw [akeys_rowOf]; rfl, fun t ht => ?_⟩
    rw [avals_rowOf] at ht
    obtain ⟨a, ha, rfl⟩ := List.mem_map.mp ht
    exact (st.keys _).mpr ⟨_, st.closed v hv a ha, rfl⟩
  · cases contains with
    | true => exact hF q hq
    | false => exact (mem_sdiff.mp hq).1

theorem Tabulates.accepts (hF : ∀ q ∈ F, q ∈ akeys T) (h0 : Inv q0) (w : List α) :
    (tableDFA syms T F contains (name q0)).accepts w = true ↔
      Over syms w ∧ (name (w.foldl δ q0) ∈ F ↔ contains = true) := by
  have sim : Simulates (tableDFA syms T F contains (name q0)) (fun v => some (name v)) δ Inv
      (fun v => name v ∈ F ↔ contains = true) :=
    { step := fun v hv a (ha : a ∈ syms) => by
        refine ⟨?_, st.closed v hv a ha⟩
        rw [(tableDFA syms T F contains (name q0)).step?_of_row (st.rows v hv), alookup_rowOf,
          if_pos ha]
      final := fun v hv => by
        have hs : name v ∈ akeys T := (st.keys _).mpr ⟨v, hv, rfl⟩
        refine decide_eq_true_iff.trans ?_
        cases contains with
        | true => exact (iff_true_right rfl).symm
        | false =>
          show _ ∈ sdiff _ _ ↔ _
          rw [mem_sdiff]
          simp only [hs, true_and, Bool.false_eq_true, iff_false] }
  exact sim.accepts (st.wf contains hF h0) rfl h0 w

end table

/-- Transition of substring mode (proof device): the goto function, absorbed by the end state
`len(labels)` once a hot state is reached. -/
def subStep (nodes : List (ACNode α)) (v : Nat) (a : α) : Nat :=
  if hot nodes v then nodes.length else gotoN nodes v a

theorem subStep_hot {nodes : List (ACNode α)} {v : Nat} (h : hot nodes v) (a : α) :
    subStep nodes v a = nodes.length := if_pos h

theorem subStep_cold {nodes : List (ACNode α)} {v : Nat} (h : ¬ hot nodes v) (a : α) :
    subStep nodes v a = gotoN nodes v a := if_neg h

section dfa
variable (syms : List α) {pats : List (List α)} {nodes : List (ACNode α)} {paths : List (List α)}
variable (acc : List (Int × List (α × Int)) × List Int)

/-- What `from_substrings` assembles from the result of the second BFS (`end_state = len(labels)`,
one label per trie node); `sf` is `must_be_suffix`: in substring mode (`sf = false`) the end state is
added and the rows of the final states are redirected to it. -/
def acTable (nodes : List (ACNode α)) (sf : Bool) : List (Int × List (α × Int)) × List Int :=
  if sf then acc else
    let e : Int := nat nodes.length
    let toEnd := rowOf syms fun _ => e
    (acc.2.foldl (fun t s => ainsert s toEnd t) (ainsert e toEnd acc.1), sinsert e acc.2)

/-- The record `from_substrings` hands to `cls(…)`. -/
def acDFA (nodes : List (ACNode α)) (contains sf : Bool) : DFA Int α :=
  tableDFA syms (acTable syms acc nodes sf).1 (acTable syms acc nodes sf).2 contains 0

variable (hL : Linked pats nodes paths) (hTab : Tabulated syms pats nodes paths acc)
include hL hTab

set_option linter.unusedSectionVars false in
theorem vis_lt {v : Nat} (hv : Vis syms paths v) : v < nodes.length := by
  obtain ⟨x, hx, _⟩ := hv
  exact hL.trie.lt hx

omit hTab in
theorem vis_root : Vis syms paths 0 := ⟨[], hL.trie.root, over_nil syms⟩

omit hTab in
theorem gotoN_vis (v : Nat) (hv : Vis syms paths v) (a : α) (ha : a ∈ syms) :
    Vis syms paths (gotoN nodes v a) := by
  obtain ⟨x, hx, hov⟩ := hv
  obtain ⟨_, y, hy, hl⟩ := gotoN_spec hL v x hx a
  exact ⟨y, hy, Over.mono (over_append.mpr ⟨hov, by simpa using ha⟩) hl.1.subset⟩

omit hTab in
theorem acState_vis (w : List α) (hw : Over syms w) : Vis syms paths (acState nodes w) := by
  obtain ⟨y, hy, hl⟩ := acState_spec hL w
  exact ⟨y, hy, hw.mono hl.1.subset⟩

set_option linter.unusedSectionVars false in
theorem gotoN_lt (v : Nat) (hv : v < nodes.length) (a : α) : gotoN nodes v a < nodes.length := by
  obtain ⟨x, hx⟩ := hL.trie.exists_path hv
  obtain ⟨_, y, hy, _⟩ := gotoN_spec hL v x hx a
  exact hL.trie.lt hy

theorem acSuffix_tabulates : Tabulates syms acc.1 nat (gotoN nodes) (Vis syms paths) :=
  ⟨hTab.keysNodup, hTab.keys, hTab.rows, gotoN_vis syms hL⟩

omit hL in
theorem acSuffix_finals (q : Int) (hq : q ∈ acc.2) : q ∈ akeys acc.1 := by
  obtain ⟨v, hv, e, _⟩ := (hTab.finals q).mp hq
  exact (hTab.keys q).mpr ⟨v, hv, e⟩

theorem acSuffix_wf (contains : Bool) : (acDFA syms acc nodes contains true).WF :=
  (acSuffix_tabulates syms acc hL hTab).wf contains (acSuffix_finals syms acc hTab)
    (vis_root syms hL)

theorem acSuffix_accepts (contains : Bool) (hne : [] ∉ pats) (w : List α) :
    (acDFA syms acc nodes contains true).accepts w = true ↔
      Over syms w ∧ ((∃ p ∈ pats, p <:+ w) ↔ contains = true) := by
  refine ((acSuffix_tabulates syms acc hL hTab).accepts contains (acSuffix_finals syms acc hTab)
    (vis_root syms hL) w).trans (and_congr_right fun hw => iff_congr ?_ Iff.rfl)
  show nat (acState nodes w) ∈ acc.2 ↔ _
  rw [hTab.finals]
  constructor
  · rintro ⟨v, hv, e, ho⟩
    exact out_imp_suffix hL w (nat_inj.mp e ▸ ho)
  · rintro ⟨p, hp, hs⟩
    exact ⟨_, acState_vis syms hL w hw, rfl,
      suffix_imp_out hL w p hp (fun e => hne (e ▸ hp)) hs⟩

omit hL hTab in
/-- The states of substring mode: the visited nodes and the end state `len(labels)`. -/
def SVis (syms : List α) (nodes : List (ACNode α)) (paths : List (List α)) (v : Nat) : Prop :=
  Vis syms paths v ∨ v = nodes.length

omit hL in
theorem acSub_finals (q : Int) :
    q ∈ (acTable syms acc nodes false).2 ↔ ∃ v, SVis syms nodes paths v ∧ q = nat v ∧ hot nodes v := by
  show q ∈ sinsert _ _ ↔ _
  rw [mem_sinsert, hTab.finals]
  constructor
  · rintro (h | ⟨v, hv, e, ho⟩)
    · exact ⟨nodes.length, Or.inr rfl, h, Or.inl rfl⟩
    · exact ⟨v, Or.inl hv, e, Or.inr ho⟩
  · rintro ⟨v, hv, e, ho | ho⟩
    · left; rw [e, ho]
    · rcases hv with hv | h
      · right; exact ⟨v, hv, e, ho⟩
      · left; rw [e, h]

omit hL in
theorem acSub_states (q : Int) :
    q ∈ akeys (acTable syms acc nodes false).1 ↔ ∃ v, SVis syms nodes paths v ∧ q = nat v := by
  show q ∈ akeys (List.foldl _ _ _) ↔ _
  rw [mem_akeys_foldl_ainsert, mem_akeys_ainsert, hTab.keys, hTab.finals]
  constructor
  · rintro (⟨v, hv, e, _⟩ | h | ⟨v, hv, e⟩)
    · exact ⟨v, Or.inl hv, e⟩
    · exact ⟨nodes.length, Or.inr rfl, h⟩
    · exact ⟨v, Or.inl hv, e⟩
  · rintro ⟨v, hv | h, e⟩
    · right; right; exact ⟨v, hv, e⟩
    · right; left; rw [e, h]

omit hL in
theorem acSub_lookup (v : Nat) (hv : SVis syms nodes paths v) :
    alookup (nat v) (acTable syms acc nodes false).1 =
      some (rowOf syms fun a => nat (subStep nodes v a)) := by
  show alookup _ (List.foldl _ _ _) = _
  rw [alookup_foldl_ainsert, alookup_ainsert]
  by_cases hh : hot nodes v
  · -- a hot state is a final state of the second BFS or the end state: its row leads to the end
    simp only [subStep_hot hh]
    rcases hh with rfl | ho
    · rw [if_pos rfl]; exact ite_self _
    · rcases hv with hv | rfl
      · rw [if_pos ((hTab.finals _).mpr ⟨v, hv, rfl, ho⟩)]
      · rw [if_pos rfl]; exact ite_self _
  · simp only [subStep_cold hh]
    have hvis : Vis syms paths v := hv.resolve_right fun e => hh (Or.inl e)
    have h1 : nat v ∉ acc.2 := fun h1 => by
      obtain ⟨v', _, e, ho⟩ := (hTab.finals _).mp h1
      exact hh (Or.inr (nat_inj.mp e ▸ ho))
    have h2 : ¬ nat nodes.length = nat v := fun e => hh (Or.inl (nat_inj.mp e).symm)
    rw [if_neg h1, if_neg h2]
    exact hTab.rows v hvis

omit hTab in
theorem subStep_svis (v : Nat) (hv : SVis syms nodes paths v) (a : α) (ha : a ∈ syms) :
    SVis syms nodes paths (subStep nodes v a) := by
  by_cases hh : hot nodes v
  · rw [subStep_hot hh]; exact Or.inr rfl
  · rw [subStep_cold hh]
    exact Or.inl (gotoN_vis syms hL v (hv.resolve_right fun e => hh (Or.inl e)) a ha)

theorem acSub_tabulates :
    Tabulates syms (acTable syms acc nodes false).1 nat (subStep nodes) (SVis syms nodes paths) :=
  ⟨nodup_akeys_foldl_ainsert (fun _ s => s) _ _ _ (nodup_akeys_ainsert hTab.keysNodup), acSub_states syms acc hTab,
    acSub_lookup syms acc hTab, subStep_svis syms hL⟩

omit hL in
theorem acSub_finals_states (q : Int) (hq : q ∈ (acTable syms acc nodes false).2) :
    q ∈ akeys (acTable syms acc nodes false).1 := by
  obtain ⟨v, hv, e, _⟩ := (acSub_finals syms acc hTab q).mp hq
  exact (acSub_states syms acc hTab q).mpr ⟨v, hv, e⟩

theorem acSub_wf (contains : Bool) : (acDFA syms acc nodes contains false).WF :=
  (acSub_tabulates syms acc hL hTab).wf contains (acSub_finals_states syms acc hTab)
    (Or.inl (vis_root syms hL))

omit hTab in
/-- **State invariant, substring mode**: hot once a pattern has occurred, the Aho–Corasick state
before. -/
theorem acSub_inv (w : List α) :
    ((∃ p ∈ pats, p <:+: w) → hot nodes (w.foldl (subStep nodes) 0)) ∧
    ((¬ ∃ p ∈ pats, p <:+: w) → w.foldl (subStep nodes) 0 = acState nodes w) := by
  induction w using snoc_induction with
  | h0 =>
    constructor
    · rintro ⟨p, hp, hin⟩
      have := List.eq_nil_of_infix_nil hin
      subst this
      exact Or.inr (hL.rootout.mpr hp)
    · intro _; rfl
  | hs w a ih =>
    rw [List.foldl_append, List.foldl_cons, List.foldl_nil]
    by_cases hit : ∃ p ∈ pats, p <:+: w
    · have hh := ih.1 hit
      rw [subStep_hot hh a]
      refine ⟨fun _ => Or.inl rfl, fun hn => ?_⟩
      obtain ⟨p, hp, hin⟩ := hit
      exact absurd ⟨p, hp, List.infix_concat_iff.mpr (Or.inr hin)⟩ hn
    · have he := ih.2 hit
      rw [he]
      rw [subStep_cold (acState_cold hL hit) a, ← acState_snoc]
      constructor
      · rintro ⟨p, hp, hin⟩
        rcases List.infix_concat_iff.mp hin with hs | hin'
        · have hpne : p ≠ [] := by
            intro e; subst e
            exact hit ⟨[], hp, List.nil_infix⟩
          exact Or.inr (suffix_imp_out hL _ p hp hpne hs)
        · exact absurd ⟨p, hp, hin'⟩ hit
      · intro _; rfl

theorem acSub_accepts (contains : Bool) (w : List α) :
    (acDFA syms acc nodes contains false).accepts w = true ↔
      Over syms w ∧ ((∃ p ∈ pats, p <:+: w) ↔ contains = true) := by
  refine ((acSub_tabulates syms acc hL hTab).accepts contains (acSub_finals_states syms acc hTab)
    (Or.inl (vis_root syms hL)) w).trans (and_congr_right fun hw => iff_congr ?_ Iff.rfl)
  obtain ⟨i1, i2⟩ := acSub_inv hL w
  rw [acSub_finals syms acc hTab]
  constructor
  · rintro ⟨v, hv, e, ho⟩
    rw [← nat_inj.mp e] at ho
    exact Classical.byContradiction fun hn => acState_cold hL hn (i2 hn ▸ ho)
  · intro hit
    exact ⟨_, (acSub_tabulates syms acc hL hTab).foldl_inv hw (Or.inl (vis_root syms hL)),
      rfl, i1 hit⟩

end dfa

/-- The empty pattern in the set: `if "" in substrings: return universal_language /
empty_language` (finding F10b). -/
theorem fromSubstrings_empty (syms : List α) (pats : List (List α)) (contains sf : Bool)
    (h : [] ∈ pats) :
    fromSubstrings syms pats contains sf =
      if contains then universalLanguage syms else emptyLanguage syms := by
  unfold fromSubstrings; simp [h]

theorem fromSubstrings_eq (syms : List α) (pats : List (List α)) (contains sf : Bool)
    (hsyms : syms.Nodup) (hne : [] ∉ pats) :
    ∃ (nodes : List (ACNode α)) (paths : List (List α)) (acc : List (Int × List (α × Int)) × List Int),
      Linked pats nodes paths ∧ Tabulated syms pats nodes paths acc ∧
      fromSubstrings syms pats contains sf = build (acDFA syms acc nodes contains sf) := by
  obtain ⟨paths, hT⟩ := acTrie_spec pats
  obtain ⟨nodes, h2, hL⟩ := acFailBfs_spec hT
  obtain ⟨acc, h3, hTab⟩ := acTransBfs_spec syms hL hsyms
  refine ⟨nodes, paths, acc, hL, hTab, ?_⟩
  unfold fromSubstrings
  simp only [hne, if_false]
  rw [h2]
  simp only
  rw [h3]
  obtain ⟨t0, f0⟩ := acc
  cases sf <;> rfl

/-- What the Aho–Corasick chain establishes about `from_substrings` for a pattern set without the
empty pattern. -/
theorem fromSubstrings_spec (syms : List α) (hsyms : syms.Nodup) (pats : List (List α))
    (hne : [] ∉ pats) (contains sf : Bool) :
    ∃ D, fromSubstrings syms pats contains sf = build D ∧ D.WF ∧ D.syms = syms ∧
      ∀ w, D.accepts w = true ↔
        Over syms w ∧ ((∃ p ∈ pats, if sf then p <:+ w else p <:+: w) ↔ contains = true) := by
  obtain ⟨nodes, paths, acc, hL, hTab, he⟩ := fromSubstrings_eq syms pats contains sf hsyms hne
  cases sf with
  | true => exact ⟨_, he, acSuffix_wf syms acc hL hTab contains, rfl,
      acSuffix_accepts syms acc hL hTab contains hne⟩
  | false => exact ⟨_, he, acSub_wf syms acc hL hTab contains, rfl,
      acSub_accepts syms acc hL hTab contains⟩

end AV.Ctor.AC
