/-
Proofs/RxAList.lean — the dict operations of the regex builder (`dict.update`,
`setdefault(a, set()).add`, the renamed copy of a table) read through the targets `tgts T q a` of a
transition table.  Core only.
-/
import AutomataVerif.Proofs.NFATable
import AutomataVerif.Model.RxBuilder

namespace AV.Rx

variable {κ β : Type} [DecidableEq κ]

theorem aupdate_cons (d1 : List (κ × β)) (kv : κ × β) (d2 : List (κ × β)) :
    aupdate d1 (kv :: d2) = aupdate (ainsert kv.1 kv.2 d1) d2 := rfl

set_option linter.unusedSectionVars false in
variable [DecidableEq β] in
@[simp] theorem aupdate_nil (d1 : List (κ × β)) : aupdate d1 [] = d1 := rfl

theorem mem_akeys_aupdate {k : κ} {d1 d2 : List (κ × β)} :
    k ∈ akeys (aupdate d1 d2) ↔ k ∈ akeys d1 ∨ k ∈ akeys d2 := by
  induction d2 generalizing d1 with
  | nil => simp [akeys]
  | cons kv t ih =>
    rw [aupdate_cons, ih, mem_akeys_ainsert]
    simp only [akeys, List.map_cons, List.mem_cons, or_assoc, or_left_comm]

theorem nodup_akeys_aupdate {d1 d2 : List (κ × β)} (hd : (akeys d1).Nodup) :
    (akeys (aupdate d1 d2)).Nodup := by
  induction d2 generalizing d1 with
  | nil => simpa
  | cons kv t ih =>
    rw [aupdate_cons]
    exact ih (nodup_akeys_ainsert hd)

theorem alookup_aupdate {k : κ} {d1 d2 : List (κ × β)} (hd : (akeys d2).Nodup) :
    alookup k (aupdate d1 d2) = if k ∈ akeys d2 then alookup k d2 else alookup k d1 := by
  induction d2 generalizing d1 with
  | nil => simp [akeys]
  | cons kv t ih =>
    obtain ⟨hk0, hd'⟩ := List.nodup_cons.mp hd
    rw [aupdate_cons, ih hd', alookup_cons, alookup_ainsert]
    by_cases h : kv.1 = k
    · subst h
      rw [if_neg (show kv.1 ∉ akeys t from hk0), if_pos rfl, if_pos rfl,
        if_pos (show kv.1 ∈ akeys (kv :: t) from List.mem_cons_self)]
    · rw [if_neg h, if_neg h]
      by_cases hk : k ∈ akeys t
      · rw [if_pos hk, if_pos (show k ∈ akeys (kv :: t) from List.mem_cons_of_mem _ hk)]
      · rw [if_neg hk, if_neg (show k ∉ akeys (kv :: t) from
          fun e => (List.mem_cons.mp e).elim (fun e => h e.symm) hk)]

end AV.Rx

namespace AV.Rx

variable {α : Type} [DecidableEq α]

/-- `Builder.targets` as a function of the table alone, for the tables a loop has under
construction (`LoopInv.tg`).  It is `Tbl.tgt` at states `Nat` (`Trans α` is `Tbl Nat α`,
`tgts_eq_tgt`), so the lemmas of Proofs/NFATable apply to it as they stand. -/
def tgts (T : Trans α) (q : Nat) (a : Option α) : List Nat :=
  (alookup a ((alookup q T).getD [])).getD []

theorem Builder.targets_eq (b : Builder α) (q : Nat) (a : Option α) :
    b.targets q a = tgts b.trans q a := rfl

theorem Builder.targets_some_iff (b : Builder α) (p t : Nat) (a : Option α) :
    t ∈ b.targets p a ↔ ∃ ts, alookup a (b.row p) = some ts ∧ t ∈ ts := by
  unfold Builder.targets
  cases alookup a (b.row p) <;> simp

theorem tgts_of_not_key {T : Trans α} {q : Nat} (h : q ∉ akeys T) (a : Option α) :
    tgts T q a = [] := by
  unfold tgts
  rw [alookup_eq_none_iff.mpr h]
  simp

theorem mem_tgts_key {T : Trans α} {q t : Nat} {a : Option α} (h : t ∈ tgts T q a) :
    q ∈ akeys T := by
  by_cases hq : q ∈ akeys T
  · exact hq
  · rw [tgts_of_not_key hq] at h
    simp at h

theorem alookup_addTarget (a a' : Option α) (t : Nat) (row : Row α) :
    alookup a' (addTarget a t row) =
      if a = a' then some (sinsert t ((alookup a row).getD [])) else alookup a' row :=
  alookup_ainsert ..

theorem alookup_addTargets (a a' : Option α) (ts : List Nat) (row : Row α) :
    alookup a' (addTargets a ts row) =
      if a = a' then some (sunion ((alookup a row).getD []) ts) else alookup a' row :=
  alookup_ainsert ..

theorem mem_row_addTargets (a a' : Option α) (ts : List Nat) (t' : Nat) (row : Row α) :
    t' ∈ (alookup a' (addTargets a ts row)).getD [] ↔
      t' ∈ (alookup a' row).getD [] ∨ (a' = a ∧ t' ∈ ts) := by
  rw [alookup_addTargets]
  split
  · next h => subst h; simp
  · next h => simp [Ne.symm h]

theorem mem_row_addTarget (a a' : Option α) (t t' : Nat) (row : Row α) :
    t' ∈ (alookup a' (addTarget a t row)).getD [] ↔
      t' ∈ (alookup a' row).getD [] ∨ (a' = a ∧ t' = t) := by
  rw [show addTarget a t row = addTargets a [t] row from rfl, mem_row_addTargets,
    List.mem_singleton]

theorem mem_foldl_addTargets (g : List Nat → List Nat) (row acc : Row α) (a : Option α)
    (t : Nat) :
    t ∈ (alookup a (row.foldl (fun r e => addTargets e.1 (g e.2) r) acc)).getD [] ↔
      t ∈ (alookup a acc).getD [] ∨ ∃ e, e ∈ row ∧ e.1 = a ∧ t ∈ g e.2 :=
  foldl_or (X := fun r : Row α => t ∈ (alookup a r).getD [])
    (fun r e => (mem_row_addTargets e.1 a (g e.2) t r).trans
      (or_congr_right (and_congr_left' eq_comm))) row acc

theorem tgts_eq_tgt (T : Trans α) (q : Nat) (a : Option α) : tgts T q a = Tbl.tgt T q a := rfl

theorem tgts_ainsert (T : Trans α) (k : Nat) (row : Row α) (q : Nat) (a : Option α) :
    tgts (ainsert k row T) q a = if k = q then (alookup a row).getD [] else tgts T q a :=
  Tbl.tgt_ainsert T k q row a

theorem addEdgeE_eq {T : Trans α} {s : Nat} (hs : s ∈ akeys T) (a : Option α) (t : Nat) :
    addEdgeE T s a t = .ok (Tbl.addTargets T s a [t]) := by
  obtain ⟨row, hrow⟩ := exists_alookup hs
  rw [addEdgeE, hrow, Tbl.addTargets, hrow]; rfl

theorem addEdgeE_error {T : Trans α} {s : Nat} (hs : s ∉ akeys T) (a : Option α) (t : Nat) :
    addEdgeE T s a t = .error (.py .keyError) := by
  unfold addEdgeE
  rw [alookup_eq_none_iff.mpr hs]

theorem addEdgesE_ok {T : Trans α} {srcs : List Nat} (hs : ∀ s ∈ srcs, s ∈ akeys T)
    (a : Option α) (t : Nat) :
    ∃ T', addEdgesE T srcs a t = .ok T' ∧ akeys T' = akeys T ∧
      ∀ q a' t', t' ∈ tgts T' q a' ↔ t' ∈ tgts T q a' ∨ (q ∈ srcs ∧ a' = a ∧ t' = t) := by
  obtain ⟨h1, h2⟩ := foldlM_ok_of_inv (f := fun T s => addEdgeE T s a t)
    (g := fun T s => Tbl.addTargets T s a [t]) (l := srcs) (fun T' => akeys T' = akeys T) rfl
    fun T' hT' s hs' =>
      have hk : s ∈ akeys T' := hT' ▸ hs s hs'
      ⟨addEdgeE_eq hk a t, (akeys_ainsert_of_mem hk).trans hT'⟩
  exact ⟨_, h1, h2, Tbl.mem_tgt_foldl_addTargets t a srcs T⟩

theorem tgts_aupdate {T1 T2 : Trans α} (hd : (akeys T2).Nodup) (q : Nat) (a : Option α) :
    tgts (aupdate T1 T2) q a = if q ∈ akeys T2 then tgts T2 q a else tgts T1 q a := by
  unfold tgts
  rw [alookup_aupdate hd]
  split <;> rfl

theorem mem_tgts_aupdate {T1 T2 : Trans α} (hd : (akeys T2).Nodup)
    (hdisj : ∀ q, q ∈ akeys T2 → q ∉ akeys T1) (q : Nat) (a : Option α) (t : Nat) :
    t ∈ tgts (aupdate T1 T2) q a ↔ t ∈ tgts T1 q a ∨ t ∈ tgts T2 q a := by
  rw [tgts_aupdate hd]
  by_cases hk : q ∈ akeys T2
  · rw [if_pos hk, tgts_of_not_key (hdisj q hk)]; simp
  · rw [if_neg hk, tgts_of_not_key hk]; simp

omit [DecidableEq α] in
theorem akeys_mapTable {ι : Type} (L : List ι) (nm : ι → Nat) (rowOf : ι → Row α) :
    akeys (L.map fun x => (nm x, rowOf x)) = L.map nm := by
  simp [akeys, List.map_map, Function.comp_def]

theorem tgts_mapTable {ι : Type} {L : List ι} {nm : ι → Nat} (rowOf : ι → Row α)
    (hinj : ∀ x ∈ L, ∀ y ∈ L, nm x = nm y → x = y) {x : ι} (hx : x ∈ L) (a : Option α) :
    tgts (L.map fun y => (nm y, rowOf y)) (nm x) a = (alookup a (rowOf x)).getD [] := by
  unfold tgts
  rw [alookup_map_of_inj _ rowOf _ _ hx fun c hc e => hinj c hc _ hx e]; rfl

/-- The targets of a row renamed (`copyTrans` does this to every row). -/
def renameRow (f : Nat → Nat) (row : Row α) : Row α := row.map fun e => (e.1, dedup (e.2.map f))

omit [DecidableEq α] in
theorem akeys_renameRow (f : Nat → Nat) (row : Row α) : akeys (renameRow f row) = akeys row := by
  simp [renameRow, akeys, List.map_map, Function.comp_def]

omit [DecidableEq α] in
theorem akeys_copyTrans (f : Nat → Nat) (T : Trans α) :
    akeys (Builder.copyTrans f T) = (akeys T).map f := by
  simp [Builder.copyTrans, akeys, List.map_map, Function.comp_def]

theorem tgts_copyTrans {f : Nat → Nat} {T : Trans α} {p : Nat}
    (hinj : ∀ p' ∈ akeys T, f p' = f p → p' = p) (a : Option α) :
    tgts (Builder.copyTrans f T) (f p) a = dedup ((tgts T p a).map f) := by
  unfold tgts Builder.copyTrans
  rw [getD_alookup_map_key f rfl hinj]
  exact getD_alookup_map_val (f := fun ts => dedup (ts.map f)) rfl a _

theorem mem_tgts_copyTrans {f : Nat → Nat} {T : Trans α}
    (hinj : ∀ p ∈ akeys T, ∀ p' ∈ akeys T, f p = f p' → p = p') (q t : Nat) (a : Option α) :
    t ∈ tgts (Builder.copyTrans f T) q a ↔ ∃ p p', q = f p ∧ p' ∈ tgts T p a ∧ t = f p' := by
  have key : ∀ {p}, p ∈ akeys T → ∀ p' ∈ akeys T, f p' = f p → p' = p :=
    fun hp p' hp' e => hinj p' hp' _ hp e
  constructor
  · intro h
    have hq := mem_tgts_key h
    rw [akeys_copyTrans] at hq
    obtain ⟨p, hp, rfl⟩ := List.mem_map.mp hq
    rw [tgts_copyTrans (key hp), mem_dedup] at h
    obtain ⟨p', hp', rfl⟩ := List.mem_map.mp h
    exact ⟨p, p', rfl, hp', rfl⟩
  · rintro ⟨p, p', rfl, hp', rfl⟩
    rw [tgts_copyTrans (key (mem_tgts_key hp')), mem_dedup]
    exact List.mem_map_of_mem hp'

end AV.Rx
