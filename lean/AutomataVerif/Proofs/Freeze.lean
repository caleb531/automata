/-
Proofs/Freeze.lean — lemmas about `freeze_value` on the model of Python values (core only).

`PyVal` is a nested inductive type, so each fact is a mutual structural recursion over values,
lists of values and lists of key–value pairs.  The twelve kinds fall into three groups with one
argument each: atoms (and `frozenset`, which `freeze` does not enter), list-like and map-like
containers.
-/
import AutomataVerif.Model.Freeze

namespace AV.VA.PyVal

mutual
theorem norm_freeze : ∀ v : PyVal, (freeze v).norm = v.norm
  | .str _ | .int _ | .other _ | .frozenset _ => rfl
  | .dict kvs | .frozendict kvs | .maplike kvs => congrArg frozendict (normKVs_freezeKVs kvs)
  | .set xs | .setlike xs => congrArg frozenset (normList_freezeList xs)
  | .list xs | .tuple xs | .seqlike xs => congrArg tuple (normList_freezeList xs)
theorem normList_freezeList : ∀ xs : List PyVal, normList (freezeList xs) = normList xs
  | [] => rfl
  | x :: xs => by simp only [freezeList, normList, norm_freeze x, normList_freezeList xs]
theorem normKVs_freezeKVs : ∀ kvs : List (PyVal × PyVal), normKVs (freezeKVs kvs) = normKVs kvs
  | [] => rfl
  | (k, v) :: t => by simp only [freezeKVs, normKVs, norm_freeze v, normKVs_freezeKVs t]
end

mutual
theorem freeze_idem : ∀ v : PyVal, freeze (freeze v) = freeze v
  | .str _ | .int _ | .other _ | .frozenset _ | .set _ | .setlike _ => rfl
  | .dict kvs | .frozendict kvs | .maplike kvs => congrArg frozendict (freezeKVs_idem kvs)
  | .list xs | .tuple xs | .seqlike xs => congrArg tuple (freezeList_idem xs)
theorem freezeList_idem : ∀ xs : List PyVal, freezeList (freezeList xs) = freezeList xs
  | [] => rfl
  | x :: xs => by simp only [freezeList, freeze_idem x, freezeList_idem xs]
theorem freezeKVs_idem : ∀ kvs : List (PyVal × PyVal), freezeKVs (freezeKVs kvs) = freezeKVs kvs
  | [] => rfl
  | (k, v) :: t => by simp only [freezeKVs, freeze_idem v, freezeKVs_idem t]
end

mutual
theorem freeze_of_isFrozen : ∀ v : PyVal, v.isFrozen = true → freeze v = v
  | .str _, _ | .int _, _ | .other _, _ | .frozenset _, _ => rfl
  | .dict _, h | .set _, h | .list _, h | .setlike _, h | .seqlike _, h | .maplike _, h =>
      Bool.noConfusion h
  | .frozendict kvs, h => congrArg frozendict (freezeKVs_of_isFrozen kvs h)
  | .tuple xs, h => congrArg tuple (freezeList_of_isFrozen xs h)
theorem freezeList_of_isFrozen : ∀ xs : List PyVal, isFrozenList xs = true → freezeList xs = xs
  | [], _ => rfl
  | x :: xs, h => by
      simp only [isFrozenList, Bool.and_eq_true] at h
      simp only [freezeList, freeze_of_isFrozen x h.1, freezeList_of_isFrozen xs h.2]
theorem freezeKVs_of_isFrozen : ∀ kvs : List (PyVal × PyVal), isFrozenKVs kvs = true → freezeKVs kvs = kvs
  | [], _ => rfl
  | (k, v) :: t, h => by
      simp only [isFrozenKVs, Bool.and_eq_true] at h
      simp only [freezeKVs, freeze_of_isFrozen v h.1.2, freezeKVs_of_isFrozen t h.2]
end

mutual
theorem isFrozen_freeze : ∀ v : PyVal, v.supported = true → (freeze v).isFrozen = true
  | .str _, _ | .int _, _ | .other _, _ => rfl
  | .frozenset _, h => h
  -- the members of a set are hashable, so `freeze` leaves them as they are
  | .set xs, h => by rw [freeze, isFrozen, freezeList_of_isFrozen xs h]; exact h
  | .dict kvs, h | .frozendict kvs, h | .maplike kvs, h => isFrozenKVs_freezeKVs kvs h
  | .list xs, h | .tuple xs, h | .setlike xs, h | .seqlike xs, h => isFrozenList_freezeList xs h
theorem isFrozenList_freezeList : ∀ xs : List PyVal, supportedList xs = true →
    isFrozenList (freezeList xs) = true
  | [], _ => rfl
  | x :: xs, h => by
      simp only [supportedList, Bool.and_eq_true] at h
      simp only [freezeList, isFrozenList, isFrozen_freeze x h.1, isFrozenList_freezeList xs h.2,
        Bool.and_self]
theorem isFrozenKVs_freezeKVs : ∀ kvs : List (PyVal × PyVal), supportedKVs kvs = true →
    isFrozenKVs (freezeKVs kvs) = true
  | [], _ => rfl
  | (k, v) :: t, h => by
      simp only [supportedKVs, Bool.and_eq_true] at h
      simp only [freezeKVs, isFrozenKVs, h.1.1, isFrozen_freeze v h.1.2, isFrozenKVs_freezeKVs t h.2,
        Bool.and_self]
end

theorem freezeList_eq_map (xs : List PyVal) : freezeList xs = xs.map freeze := by
  induction xs with
  | nil => rfl
  | cons x t ih => rw [freezeList, ih, List.map_cons]

theorem freezeKVs_eq_map (kvs : List (PyVal × PyVal)) :
    freezeKVs kvs = kvs.map fun kv => (kv.1, kv.2.freeze) := by
  induction kvs with
  | nil => rfl
  | cons kv t ih => rw [freezeKVs, ih, List.map_cons]

mutual
theorem supported_of_isFrozen : ∀ v : PyVal, v.isFrozen = true → v.supported = true
  | .str _, _ | .int _, _ | .other _, _ => rfl
  | .dict _, h | .set _, h | .list _, h | .setlike _, h | .seqlike _, h | .maplike _, h =>
      Bool.noConfusion h
  | .frozenset _, h => h
  | .frozendict kvs, h => supportedKVs_of_isFrozen kvs h
  | .tuple xs, h => supportedList_of_isFrozen xs h
theorem supportedList_of_isFrozen : ∀ xs : List PyVal, isFrozenList xs = true → supportedList xs = true
  | [], _ => rfl
  | x :: xs, h => by
      simp only [isFrozenList, Bool.and_eq_true] at h
      simp only [supportedList, supported_of_isFrozen x h.1, supportedList_of_isFrozen xs h.2,
        Bool.and_self]
theorem supportedKVs_of_isFrozen : ∀ kvs : List (PyVal × PyVal), isFrozenKVs kvs = true →
    supportedKVs kvs = true
  | [], _ => rfl
  | (k, v) :: t, h => by
      simp only [isFrozenKVs, Bool.and_eq_true] at h
      simp only [supportedKVs, h.1.1, supported_of_isFrozen v h.1.2, supportedKVs_of_isFrozen t h.2,
        Bool.and_self]
end

end AV.VA.PyVal

namespace AV.VA

/-- When storing keeps the abstract value, the constructor validates the argument's own abstract
value: validation and storing are independent. -/
theorem construct_eq {κ δ : Type} {abs : κ → δ} {freeze : κ → κ} (hfz : ∀ c, abs (freeze c) = abs c)
    (v : δ → Res Unit) (av sv am : Bool) (c : κ) :
    construct abs freeze v av sv am c =
      if sv || av then
        (match v (abs c) with
         | .ok _ => .ok (if am then c else freeze c)
         | .error e => .error e)
      else .ok (if am then c else freeze c) := by
  have hs : abs (if am then c else freeze c) = abs c := by
    cases am
    · exact hfz c
    · rfl
  unfold construct
  simp only [hs]
  rfl

end AV.VA
