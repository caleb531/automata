/-
Proofs/PyShape.lean — "this value came from Python sets and dicts": no duplicate elements
in the lists that model sets, no duplicate keys in the association lists that model dicts.
Theorems that depend on `len(...)` of a set/dict or on "the" row of a state carry these
hypotheses explicitly; the protocol driver only ever builds values of this shape.
-/
import AutomataVerif.Proofs.Read

namespace AV

variable {σ α : Type} [DecidableEq σ] [DecidableEq α]

structure DFA.PyShape (d : DFA σ α) : Prop where
  states_nodup : d.states.Nodup
  syms_nodup : d.syms.Nodup
  finals_nodup : d.finals.Nodup
  keys_nodup : (akeys d.trans).Nodup
  rows_nodup : ∀ kv ∈ d.trans, (akeys kv.2).Nodup

structure NFA.PyShape (n : NFA σ α) : Prop where
  states_nodup : n.states.Nodup
  syms_nodup : n.syms.Nodup
  finals_nodup : n.finals.Nodup
  keys_nodup : (akeys n.trans).Nodup
  rows_nodup : ∀ kv ∈ n.trans, (akeys kv.2).Nodup
  targets_nodup : ∀ kv ∈ n.trans, ∀ e ∈ kv.2, e.2.Nodup

omit [DecidableEq α] in
theorem DFA.PyShape.row_nodup {d : DFA σ α} (h : d.PyShape) (q : σ) : (akeys (d.row q)).Nodup :=
  DFA.nodup_row h.rows_nodup q

end AV
