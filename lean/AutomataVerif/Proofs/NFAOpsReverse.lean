/-
Proofs/NFAOpsReverse.lean — table-level specification of `NFA.reverse` (Model/NFAOps.lean):
totality, validity of the result and the reading of its transition table.  Core only.
-/
import AutomataVerif.Model.NFAOps
import AutomataVerif.Proofs.NFATable
import AutomataVerif.Proofs.NFAOpsUnary

open AV.AL

namespace AV
namespace NFA

variable {σ α : Type} [DecidableEq σ] [DecidableEq α]

/-- `new_transitions[state_b].setdefault(symbol, set()).add(state_a)`. -/
def revAdd (a : Option α) (p : σ) (t : Tbl σ α) (b : σ) : Res (Tbl σ α) :=
  match alookup b t with
  | none => .error (.py .keyError)
  | some _ => pure (Tbl.addTargets t b a [p])

theorem reverse_eq (nat : Nat → σ) (A : NFA σ α) :
    reverse nat A =
      (A.trans.foldlM (fun t kv =>
          if kv.1 ∈ A.states then kv.2.foldlM (fun t e => e.2.foldlM (revAdd e.1 kv.1) t) t
          else pure t)
        (Tbl.emptyRows (dedup (A.states ++ [addNewState nat A.states])))) >>=
      fun t1 => lookupE (addNewState nat A.states) t1 >>= fun _ =>
        create { states := A.states ++ [addNewState nat A.states], syms := A.syms,
                 init := addNewState nat A.states, finals := [A.init], trans :=
                   Tbl.setTargets t1 (addNewState nat A.states) none A.finals } := rfl

/-- The loops as a pure fold: every edge `p —a→ b` of a row keyed by a state is flipped. -/
def revPure (states : List σ) (rows : Tbl σ α) (t : Tbl σ α) : Tbl σ α :=
  rows.foldl (fun t kv =>
    if kv.1 ∈ states then
      kv.2.foldl (fun t e => e.2.foldl (fun t b => Tbl.addTargets t b e.1 [kv.1]) t) t
    else t) t

/-- No `KeyError`: all targets are states, and every state has a row from the start. -/
theorem revLoops_eq {A : NFA σ α} (hA : A.WF) (t : Tbl σ α) (ht : ∀ b ∈ A.states, b ∈ akeys t) :
    A.trans.foldlM (fun t kv =>
        if kv.1 ∈ A.states then kv.2.foldlM (fun t e => e.2.foldlM (revAdd e.1 kv.1) t) t
        else pure t) t = .ok (revPure A.states A.trans t) := by
  refine (foldlM_ok_of_inv (fun t => ∀ b ∈ A.states, b ∈ akeys t) ht ?_).1
  intro t ht kv hkv
  split
  · refine foldlM_ok_of_inv (fun t => ∀ b ∈ A.states, b ∈ akeys t) ht fun t ht e he => ?_
    refine foldlM_ok_of_inv (fun t => ∀ b ∈ A.states, b ∈ akeys t) ht fun t ht b hb => ?_
    obtain ⟨row, hrow⟩ := exists_alookup
      (ht b (hA.tgtOk kv hkv e.2 (List.mem_map.mpr ⟨e, he, rfl⟩) b hb))
    unfold revAdd
    rw [hrow]
    exact ⟨rfl, fun c hc => Tbl.mem_akeys_addTargets.mpr (Or.inr (ht c hc))⟩
  · exact ⟨rfl, ht⟩

theorem mem_tgt_revRow (states : List σ) (t : Tbl σ α) (kv : σ × Row σ α) (q : σ) (a : Option α)
    (x : σ) :
    x ∈ Tbl.tgt (if kv.1 ∈ states then
        kv.2.foldl (fun t e => e.2.foldl (fun t b => Tbl.addTargets t b e.1 [kv.1]) t) t else t) q a ↔
      x ∈ Tbl.tgt t q a ∨
        (kv.1 ∈ states ∧ ∃ e ∈ kv.2, ∃ b ∈ e.2, q = b ∧ a = e.1 ∧ x ∈ [kv.1]) := by
  split
  · rename_i hs
    exact (Tbl.mem_tgt_foldl _ _ (fun t e q a x => by
      exact Tbl.mem_tgt_foldl _ _ (fun t b q a x => by
        exact Tbl.mem_tgt_addTargets t b q e.1 a [kv.1] x) e.2 t q a x) kv.2 t q a x).trans
      (or_congr_right (and_iff_right hs).symm)
  · rename_i hs
    exact (or_iff_left fun h => hs h.1).symm

theorem mem_tgt_revPure (states : List σ) (rows t : Tbl σ α) (q : σ) (a : Option α) (x : σ) :
    x ∈ Tbl.tgt (revPure states rows t) q a ↔ x ∈ Tbl.tgt t q a ∨
      (x ∈ states ∧ Tbl.InRows rows x a q) := by
  refine (Tbl.mem_tgt_foldl _ _ (mem_tgt_revRow states) rows t q a x).trans
    (or_congr_right ⟨?_, ?_⟩)
  · rintro ⟨⟨_, row⟩, hkv, hs, ⟨_, ts⟩, he, b, hb, rfl, rfl, hx⟩
    cases List.mem_singleton.mp hx
    exact ⟨hs, _, hkv, rfl, _, he, rfl, hb⟩
  · rintro ⟨hs, r, hkv, rfl, e, he, rfl, hb⟩
    exact ⟨r, hkv, hs, e, he, q, hb, rfl, rfl, List.mem_singleton.mpr rfl⟩

theorem ext_revPure {S : Option α → Prop} {T : σ → Prop} (states : List σ) (rows t : Tbl σ α)
    (h : ∀ kv ∈ rows, kv.1 ∈ states → T kv.1 ∧ ∀ e ∈ kv.2, S e.1) :
    Tbl.Ext S T t (revPure states rows t) := by
  refine Tbl.Ext.foldl _ _ _ fun kv hkv t => ?_
  split
  · rename_i hs
    exact Tbl.Ext.foldl _ _ _ fun e he t => Tbl.Ext.foldl _ _ _ fun b _ t =>
      Tbl.Ext.add t b ((h kv hkv hs).2 e he) fun p hp => List.mem_singleton.mp hp ▸ (h kv hkv hs).1
  · exact Tbl.Ext.refl t

theorem reverse_spec (nat : Nat → σ) (hnat : Function.Injective nat) (A : NFA σ α)
    (hA : A.Valid) :
    ∃ R : NFA σ α, reverse nat A = .ok R ∧ R.Valid ∧
      R.init = addNewState nat A.states ∧
      (∀ p, p ∈ R.targets (addNewState nat A.states) none ↔ p ∈ A.finals) ∧
      (∀ a t, t ∉ R.targets (addNewState nat A.states) (some a)) ∧
      (∀ q ∈ A.states, ∀ a p, p ∈ R.targets q a ↔ (p ∈ A.states ∧ q ∈ A.targets p a)) ∧
      (∀ q, q ∈ R.finals ↔ q = A.init) := by
  have hfresh := addNewState_fresh nat hnat A.states
  have hAok := hA.wf.ok
  generalize hn : addNewState nat A.states = n at hfresh
  have hmem : ∀ {x}, x ∈ A.states → x ∈ A.states ++ [n] := List.mem_append_left _
  have he : Tbl.Ext (SymOk A.syms) (· ∈ A.states ++ [n])
      (Tbl.emptyRows (dedup (A.states ++ [n])))
      (revPure A.states A.trans (Tbl.emptyRows (dedup (A.states ++ [n]))))  :=
    ext_revPure _ _ _ fun kv hkv hs => ⟨hmem hs, fun e he => (hAok kv hkv e he).1⟩
  have hread : ∀ q a x, x ∈ Tbl.tgt (revPure A.states A.trans
      (Tbl.emptyRows (dedup (A.states ++ [n])))) q a ↔ (x ∈ A.states ∧ q ∈ A.targets x a) := by
    intro q a x
    rw [mem_tgt_revPure, Tbl.tgt_emptyRows, targets_eq_tgt, Tbl.mem_tgt_iff_entry hA.dict]
    exact or_iff_right List.not_mem_nil
  have hkey : ∀ b ∈ A.states ++ [n], b ∈ akeys (Tbl.emptyRows (dedup (A.states ++ [n])) : Tbl σ α) :=
    fun b hb => Tbl.mem_akeys_emptyRows.mpr (mem_dedup.mpr hb)
  obtain ⟨r, hr⟩ := exists_alookup
    (he.keys n (hkey n (List.mem_append_right _ List.mem_cons_self)))
  have hv : Valid
      { states := A.states ++ [n], syms := A.syms, init := n, finals := [A.init],
        trans := Tbl.setTargets (revPure A.states A.trans
          (Tbl.emptyRows (dedup (A.states ++ [n])))) n none A.finals } :=
    Valid.of_ext (he.trans (Tbl.Ext.set _ n (symOk_none _) fun p hp => hmem (hA.wf.finalsOk p hp)))
      (Tbl.dict_emptyRows (nodup_dedup _)) (Tbl.ok_emptyRows _)
      (List.mem_append_right _ List.mem_cons_self)
      (Tbl.mem_akeys_setTargets.mpr (Or.inl rfl))
      fun q hq => List.mem_singleton.mp hq ▸ (hmem hA.wf.initOk : A.init ∈ A.states ++ [n])
  refine ⟨_, ?_, hv, rfl, fun p => ?_, fun a t ht => ?_, fun q hq a p => ?_,
    fun _ => List.mem_singleton⟩
  · rw [reverse_eq, hn, revLoops_eq hA.wf _ fun b hb => hkey b (hmem hb), res_ok_bind,
      lookupE_of_alookup hr, res_ok_bind]
    exact create_eq_ok _ hv.wf
  · rw [targets_eq_tgt, Tbl.tgt_setTargets, if_pos ⟨rfl, rfl⟩]
  · rw [targets_eq_tgt, Tbl.tgt_setTargets, if_neg fun h => nomatch h.2] at ht
    exact hfresh (targets_mem_states hA.wf ((hread n (some a) t).mp ht).2)
  · rw [targets_eq_tgt, Tbl.tgt_setTargets, if_neg fun h : q = n ∧ a = none => hfresh (h.1 ▸ hq)]
    exact hread q a p

end NFA
end AV
