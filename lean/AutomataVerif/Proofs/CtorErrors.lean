/-
Proofs/CtorErrors.lean — the error outcomes of the language constructors (C15): which
exception `cls(...)` (= `build`, the validating constructor) raises when the table a
constructor assembled is not a DFA.  Core only.
-/
import AutomataVerif.Proofs.CtorSimple
import AutomataVerif.Proofs.CtorPrefix
import AutomataVerif.Proofs.CtorSubseq
import AutomataVerif.Proofs.ValidateRules

namespace AV.Ctor

variable {α : Type} [DecidableEq α] {σ : Type} [DecidableEq σ]

/-- Everything `validate` checks before the final states is in order (the DFA with no final
state is well-formed), but some final state is not a state: `_validate_final_states` raises
`InvalidStateError`. -/
theorem validate_error_of_finals {d : DFA σ α} (wf : ({ d with finals := [] } : DFA σ α).WF)
    (hfin : ∃ q ∈ d.finals, q ∉ d.states) : d.validate = .error (.lib .invalidStateError) :=
  VA.DFA.rules_correct.corrupt_raises d .badFinal hfin fun r' hv => by
    cases r' with
    | missingRow => obtain ⟨q, hq, h⟩ := hv; exact absurd (wf.rows q hq) h
    | missingSymbol =>
      obtain ⟨hp, kv, hkv, a, ha, h⟩ := hv
      exact absurd (wf.complete hp kv hkv a ha) h
    | unknownSymbol => obtain ⟨kv, hkv, a, ha, h⟩ := hv; exact absurd (wf.symsOk kv hkv a ha) h
    | unknownEndState | badInitial | badFinal => exact Or.inl rfl

theorem build_error_of_validate {d : DFA σ α} {e : Exn} (h : d.validate = .error e) :
    build d = .error e := by
  rw [build_eq, h]

theorem Sim.build_error_of_finals {ι : Type} {syms : List α} {ks : List ι} {name : ι → σ}
    {row : ι → List (α × σ)} {δ : ι → α → ι} (h : Sim syms ks name row δ) {k0 : ι}
    (hk0 : k0 ∈ ks) {fin : List σ} (hbad : ∃ q ∈ fin, ∀ k ∈ ks, q ≠ name k) (ap : Bool := false) :
    build (tableDFA syms ks name row k0 fin ap) = .error (.lib .invalidStateError) :=
  let ⟨q, hq, hne⟩ := hbad
  build_error_of_validate (validate_error_of_finals (h.wf hk0 (fin := []) (fun _ h => nomatch h) ap)
    ⟨q, hq, fun hs => let ⟨k, hk, e⟩ := mem_tableDFA_states.mp hs; hne k hk e⟩)

/-- `of_length` with a negative `min_length` and a non-negative `max_length`:
`final_states = range(min_length, max_length + 1)` contains `min_length < 0`, which is not a
state. -/
theorem ofLengthDFA_negative_min (syms : List α) (cnt : List α) (minLen : Int) (hmin : minLen < 0)
    (mx : Int) (hmx : 0 ≤ mx) :
    build (ofLengthDFA syms (ofLengthTop minLen (some mx)) cnt (ofLengthFinals minLen (some mx))) =
      .error (.lib .invalidStateError) := by
  refine (ofLength_sim syms _ cnt).build_error_of_finals (List.mem_range.mpr (Nat.succ_pos _))
    ⟨minLen, List.mem_map.mpr ⟨0, List.mem_range.mpr (by omega), Int.add_zero _⟩, fun k _ e => ?_⟩
  rw [nat_cast] at e
  omega

theorem build_error_of_not_wf {d : DFA σ α} (h : ¬ d.WF) : ∃ e, build d = .error (.lib e) := by
  obtain ⟨e, he⟩ := Res.ne_ok_iff.mp fun hv => h ((DFA.validate_eq_ok d).mp hv)
  obtain ⟨r, _, rfl, _⟩ := VA.DFA.rules_correct.error_kind d e he
  exact ⟨_, build_error_of_validate he⟩

omit [DecidableEq α] [DecidableEq σ] in
/-- A pattern symbol outside the alphabet that became a key of some row. -/
theorem tableDFA_not_wf {ι : Type} {syms : List α} {ks : List ι} {name : ι → σ}
    {row : ι → List (α × σ)} {k0 : ι} {fin : List σ} {ap : Bool} {k : ι} (hk : k ∈ ks) {c : α}
    (hc : c ∈ akeys (row k)) (hcs : c ∉ syms) : ¬ (tableDFA syms ks name row k0 fin ap).WF :=
  fun wf => hcs (wf.symsOk _ (mem_tableOf.mpr ⟨k, hk, rfl⟩) c hc)

theorem countModDFA_bad_remainder (syms : List α) (kn : Nat) (cnt : List α) (hk : 0 < kn)
    (fin : List Int) (r : Int) (hr : r ∈ fin) (hbad : r < 0 ∨ (kn : Int) ≤ r) :
    build (countModDFA syms kn cnt fin) = .error (.lib .invalidStateError) := by
  refine (countMod_sim syms kn cnt hk).build_error_of_finals (List.mem_range.mpr hk)
    ⟨r, hr, fun k hk e => ?_⟩
  rw [nat_cast] at e
  have := List.mem_range.mp hk
  omega

omit [DecidableEq α] in
theorem prefPartialDFA_not_wf (syms p : List α) (c : α) (hc : c ∈ p) (hcs : c ∉ syms) :
    ¬ (prefPartialDFA syms p).WF := by
  obtain ⟨i, hi, hpi⟩ := List.getElem_of_mem hc
  refine tableDFA_not_wf (k := i) (List.mem_range.mpr (Nat.lt_succ_of_lt hi)) ?_ hcs
  rw [chainRow, List.getElem?_eq_getElem hi, hpi]
  exact List.mem_singleton.mpr rfl

theorem prefCompleteDFA_not_wf (syms p : List α) (contains : Bool) (c : α) (hc : c ∈ p)
    (hcs : c ∉ syms) : ¬ (prefCompleteDFA syms p contains).WF := by
  obtain ⟨i, hi, hpi⟩ := List.getElem_of_mem hc
  refine tableDFA_not_wf (k := some i) ((some_mem_prefKeys p).mpr (Nat.le_of_lt hi)) ?_ hcs
  rw [prefCompleteRow, mem_akeys_fillRow, chainRow, List.getElem?_eq_getElem hi, hpi]
  exact Or.inl (List.mem_singleton.mpr rfl)

theorem subseqDFA_not_wf (syms p : List α) (contains : Bool) (c : α) (hc : c ∈ p)
    (hcs : c ∉ syms) : ¬ (subseqDFA syms p contains).WF := by
  obtain ⟨i, hi, hpi⟩ := List.getElem_of_mem hc
  refine tableDFA_not_wf (k := i) (List.mem_range.mpr (Nat.lt_succ_of_lt hi)) ?_ hcs
  rw [subseqRow, List.getElem?_eq_getElem hi, hpi]
  exact mem_akeys_ainsert.mpr (Or.inl rfl)

end AV.Ctor
