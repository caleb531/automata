/-
Proofs/NFAEditRefuse.lean — `NFA.edit_distance` with a reference string that is NOT over the
alphabet: the constructor call at the end refuses the automaton with `InvalidSymbolError`
(the matching transition on the foreign symbol is the first thing `validate` stumbles over:
every target of the grid table is a grid state, so no `InvalidStateError` can come first).
Core only.
-/
import AutomataVerif.Proofs.NFAEditSpec
import AutomataVerif.Proofs.ValidateRules

open AV.AL

namespace AV
namespace NFA
namespace EditRefuse

variable {σ α : Type} [DecidableEq σ] [DecidableEq α]

theorem validate_invalidSymbol (n : NFA σ α)
    (htgt : ∀ kv ∈ n.trans, ∀ e ∈ kv.2, ∀ p ∈ e.2, p ∈ n.states)
    (hbad : ∃ kv ∈ n.trans, ∃ a, some a ∈ akeys kv.2 ∧ a ∉ n.syms) :
    n.validate = .error (.lib .invalidSymbolError) := by
  -- of the rules that can pre-empt `unknownSymbol` only `unknownEndState` reads the table
  refine VA.NFA.rules_correct.raises .unknownSymbol hbad fun r' => ?_
  cases r'
  case unknownEndState =>
    rintro _ ⟨kv, hkv, ts, hts, q, hq, hnq⟩
    obtain ⟨e, he, rfl⟩ := List.mem_map.mp hts
    exact hnq (htgt kv hkv e he q hq)
  all_goals exact fun h => absurd h Bool.false_ne_true

theorem editDistance_ref_outside (syms ref : List α) (k : Int) (ins del sub : Bool) (hk : 0 ≤ k)
    (hflag : (ins || del || sub) = true) (hbad : ∃ c ∈ ref, c ∉ syms) :
    editDistance syms ref k ins del sub = .error (.lib .invalidSymbolError) := by
  obtain ⟨c, hc, hnc⟩ := hbad
  obtain ⟨i, hi, rfl⟩ := List.getElem_of_mem hc
  have ht : (i + 1, 0) ∈ (editRaw syms ref k.toNat ins del sub).targets (i, 0) (some ref[i]) :=
    (editRaw_tgt ..).mpr ⟨Nat.zero_le _, Or.inl ⟨_, List.getElem?_eq_getElem hi, List.mem_cons_self⟩⟩
  obtain ⟨ts, hts, _⟩ := mem_targets.mp ht
  rw [editDistance_eq syms ref k ins del sub hk hflag, create, validate_invalidSymbol _
    (fun kv hkv e he => ((editRaw_ext syms ref k.toNat ins del sub (S := fun _ => True) trivial
      (fun _ _ => trivial) (fun _ _ => trivial)).ok Tbl.ok_nil kv hkv e he).2)
    ⟨_, row_mem_trans (alookup_some_mem hts), _, alookup_some_key_mem hts, hnc⟩]

end EditRefuse
end NFA
end AV
