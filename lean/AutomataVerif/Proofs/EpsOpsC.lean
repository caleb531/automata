/-
Proofs/EpsOpsC.lean — the quotient languages.  The two quotient constructions are
`Rx.Acc.right_quotient` and `Rx.Acc.left_quotient` of Proofs/EpsPath.
-/
import AutomataVerif.Proofs.EpsOpsA

namespace AV.EpsOps

open Set

section
universe u
variable {α : Type u}

/-- `L₁ / L₂`: words that some word of `L₂` completes to a word of `L₁`. -/
def rightQuotientLang (L₁ L₂ : Language α) : Language α := {w | ∃ x ∈ L₂, w ++ x ∈ L₁}

/-- `L₂ \ L₁`: words that complete some word of `L₂` to a word of `L₁`. -/
def leftQuotientLang (L₁ L₂ : Language α) : Language α := {w | ∃ x ∈ L₂, x ++ w ∈ L₁}

end

end AV.EpsOps
