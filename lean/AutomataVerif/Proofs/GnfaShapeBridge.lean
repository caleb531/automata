/-
Proofs/GnfaShapeBridge.lean — from "`GNFA.validate` accepted the definition" to what `to_regex`
needs.  `Shape` (Proofs/GnfaTable.lean) describes the table exactly; `GNFA.validate` (/repo commit
084dfed; its checks read off as `Accepted`, `strLabelCheck_eq_ok`) tolerates an empty row for the
final state, rows keyed by non-states and `None` entries for the initial state, so
`validate = ok → Shape` is false (Props/C12c.lean).  `to_regex` is total and correct all the same:
`Loose` is the one-directional invariant that `validate` establishes and the loop maintains, and
together with `DenotesOn` it is all the loop needs, for every sound label rule and every tie-break
order.  A table of the documented shape is a loose table without slack: the round adds no row and
no entry.
-/
import AutomataVerif.Proofs.GnfaTable
import AutomataVerif.Model.GNFAValidate

namespace AV.GNFA
open AV AV.GnfaSpec

variable {σ ℓ : Type} [DecidableEq σ]

section
variable [DecidableEq ℓ]
set_option linter.unusedSectionVars false in
theorem Shape.toLoose {S : List σ} {init final : σ} {tr : Table σ ℓ} (h : Shape S init final tr) :
    Loose S init final tr := h.loose
end

/-- One iteration of the `while` loop of `to_regex` on a loose table: it stays loose, and labels the
ripped graph.  The last two clauses (no row and no entry that the old table had not) are what
keeps `Shape` in `ripStep_spec`. -/
theorem ripStep_loose (comb : Option ℓ → Option ℓ → Option ℓ → Option ℓ → Option ℓ)
    {S : List σ} {init final : σ} {tr : Table σ ℓ} (hS : Loose S init final tr) {q : σ}
    (hq : q ∈ S) (hqi : q ≠ init) (hqf : q ≠ final) :
    ∃ tr', ripStep comb init final S tr q = .ok (S.filter (fun x => decide (x ≠ q)), tr') ∧
      Loose (S.filter fun x => decide (x ≠ q)) init final tr' ∧
      (∀ (R : Language Char → ℓ → Prop) (Lb : σ → σ → Language Char), CombSound R comb →
        DenotesOn R S init final tr Lb →
        DenotesOn R (S.filter fun x => decide (x ≠ q)) init final tr' (GnfaSpec.rip Lb q)) ∧
      (∀ p, (alookup p tr').isSome → p ≠ q ∧ (alookup p tr).isSome) ∧
      ∀ p r, (get2 tr' p r).isSome →
        p ≠ q ∧ (p ∈ S → p ≠ final → r ≠ q) ∧ (get2 tr p r).isSome := by
  obtain ⟨tr', hstep, hrows, hget, hevo⟩ := ripStep_eq comb hS hq hqi hqf
  have hcore : ∀ p r, p ∈ S → p ≠ q → p ≠ final → r ∈ S → r ≠ q → r ≠ init →
      get2 tr' p r = some (comb (lab tr p q) (lab tr q q) (lab tr q r) (lab tr p r)) := by
    intro p r hp hpq hpf hr hrq hri
    rw [hget, if_neg (not_or.mpr ⟨hpq, fun h => hrq h.2.2⟩), if_pos ⟨hp, hpf, hr, hri⟩]
  refine ⟨tr', hstep, ⟨hS.nodup.filter _, mem_filter_ne.mpr ⟨hS.init_mem, fun h => hqi h.symm⟩,
    mem_filter_ne.mpr ⟨hS.final_mem, fun h => hqf h.symm⟩, hS.ne, ?_, ?_⟩,
    fun R Lb hcomb hD => hD.rip hcomb hq hqi hqf hcore, fun p h => ?_, fun p r h => ?_⟩
  · intro p r hp hpf hr hri
    obtain ⟨hpS, hpq⟩ := mem_filter_ne.mp hp
    obtain ⟨hrS, hrq⟩ := mem_filter_ne.mp hr
    rw [hcore p r hpS hpq hpf hrS hrq hri]
    rfl
  · intro p hp hpf row' hrow' e he hne
    obtain ⟨hpS, hpq⟩ := mem_filter_ne.mp hp
    obtain ⟨row, hrow, hsub⟩ := hevo p row' hrow'
    have hES : e.1 ∈ S ∧ e.1 ≠ init :=
      (hsub e he).elim (fun h => hS.lbl p hpS hpf row hrow e h hne) id
    refine ⟨mem_filter_ne.mpr ⟨hES.1, fun heq => ?_⟩, hES.2⟩
    -- column `q` has been deleted from the row of `p`
    have hsome := get2_isSome_of_mem hrow' he
    rw [heq, hget, if_pos (Or.inr ⟨hpS, hpf, rfl⟩)] at hsome
    cases hsome
  · rw [hrows] at h
    split at h
    · cases h
    · next hpq => exact ⟨hpq, h⟩
  · rw [hget] at h
    split at h
    · cases h
    · next hdel =>
      refine ⟨fun e => hdel (Or.inl e), fun h1 h2 e => hdel (Or.inr ⟨h1, h2, e⟩), ?_⟩
      split at h
      · next hc => exact hS.entries p r hc.1 hc.2.1 hc.2.2.1 hc.2.2.2
      · exact h

/-- On a table of the documented shape the round keeps the shape: a loose table that gained no
row and no entry. -/
theorem ripStep_spec (comb : Option ℓ → Option ℓ → Option ℓ → Option ℓ → Option ℓ)
    {S : List σ} {init final : σ} {tr : Table σ ℓ} (hS : Shape S init final tr) {q : σ}
    (hq : q ∈ S) (hqi : q ≠ init) (hqf : q ≠ final) :
    ∃ tr', ripStep comb init final S tr q = .ok (S.filter (fun x => decide (x ≠ q)), tr') ∧
      Shape (S.filter fun x => decide (x ≠ q)) init final tr' ∧
      ∀ (R : Language Char → ℓ → Prop) (Lb : σ → σ → Language Char), CombSound R comb →
        DenotesOn R S init final tr Lb →
        DenotesOn R (S.filter fun x => decide (x ≠ q)) init final tr' (GnfaSpec.rip Lb q) := by
  obtain ⟨tr', hstep, hL, hden, hrows, hsupp⟩ := ripStep_loose comb hS.loose hq hqi hqf
  refine ⟨tr', hstep, ⟨hL.nodup, hL.init_mem, hL.final_mem, hL.ne,
    fun p => ⟨fun h => ?_, fun h => hL.row h.1 h.2⟩,
    fun p r => ⟨fun h => ?_, fun h => hL.entries p r h.1 h.2.1 h.2.2.1 h.2.2.2⟩⟩, hden⟩
  · obtain ⟨hpq, h0⟩ := hrows p h
    exact ⟨mem_filter_ne.mpr ⟨((hS.rows p).mp h0).1, hpq⟩, ((hS.rows p).mp h0).2⟩
  · obtain ⟨hpq, hrq, h0⟩ := hsupp p r h
    obtain ⟨h1, h2, h3, h4⟩ := (hS.entries p r).mp h0
    exact ⟨mem_filter_ne.mpr ⟨h1, hpq⟩, h2, mem_filter_ne.mpr ⟨h3, hrq h1 h2⟩, h4⟩

theorem findMin_spec {S : List σ} {init final : σ} {tr : Table σ ℓ} (hS : Shape S init final tr)
    (hlen : S.length > 2) (ord : List σ → List σ) (hord : ∀ l x, x ∈ ord l ↔ x ∈ l) :
    ∃ q, findMin S tr init final ord = .ok q ∧ q ∈ S ∧ q ≠ init ∧ q ≠ final :=
  findMin_loose hS.loose hlen ord hord

theorem toRegexLoop_round {comb : Option ℓ → Option ℓ → Option ℓ → Option ℓ → Option ℓ}
    {init final : σ} {ord : Nat → List σ → List σ} {fuel k : Nat} {S : List σ} {tr : Table σ ℓ}
    {rips : List σ} {q : σ} {st : List σ × Table σ ℓ} (hlen : S.length > 2)
    (hfind : findMin S tr init final (ord k) = .ok q)
    (hstep : ripStep comb init final S tr q = .ok st) :
    toRegexLoop comb init final ord (fuel + 1) k S tr rips =
      toRegexLoop comb init final ord fuel (k + 1) st.1 st.2 (rips ++ [q]) := by
  rw [toRegexLoop, if_pos hlen]
  simp only [bind, Except.bind, hfind, hstep]

/-- **`to_regex` on a loose table**: the loop never raises (no `KeyError`, no `ValueError`), for
every label rule and every tie-break order; and if the labels it reads denote the edges of a graph
`Lb` that has no other edge, the result denotes the language of that graph. -/
theorem toRegexLoop_loose (comb : Option ℓ → Option ℓ → Option ℓ → Option ℓ → Option ℓ)
    (init final : σ) (ord : Nat → List σ → List σ) (hord : ∀ k l x, x ∈ ord k l ↔ x ∈ l) :
    ∀ (fuel k : Nat) (S : List σ) (tr : Table σ ℓ) (rips : List σ),
      Loose S init final tr → S.length = fuel + 2 →
      ∃ rips' o, toRegexLoop comb init final ord fuel k S tr rips = .ok (rips', o) ∧
        ∀ (R : Language Char → ℓ → Prop), CombSound R comb →
          ∀ Lb : σ → σ → Language Char, DenotesOn R S init final tr Lb →
            RO R (GLang Lb init final) o := by
  intro fuel
  induction fuel with
  | zero =>
    intro k S tr rips hS hlen
    have hne' : final ≠ init := fun h => hS.ne h.symm
    obtain ⟨l, hl⟩ := Option.isSome_iff_exists.mp
      (hS.entries init final hS.init_mem hS.ne hS.final_mem hne')
    refine ⟨rips, l, ?_, fun R _ Lb hD => ?_⟩
    · simp only [toRegexLoop, getE_of_get2 hl, bind, Except.bind]
    · have := (hD init final).1 ⟨hS.init_mem, hS.ne, hS.final_mem, hne'⟩
      rw [hD.GLang_two hS.init_mem hS.final_mem hS.ne hlen]
      rwa [lab_of_get2 hl] at this
  | succ fuel ih =>
    intro k S tr rips hS hlen
    obtain ⟨q, hfind, hqS, hqi, hqf⟩ := findMin_loose hS (by omega) (ord k) (hord k)
    obtain ⟨tr', hstep, hS', hden, -⟩ := ripStep_loose comb hS hqS hqi hqf
    have hlen' : (S.filter fun x => decide (x ≠ q)).length = fuel + 2 := by
      have := length_filter_ne hS.nodup hqS
      omega
    obtain ⟨rips', o, hloop, hsem⟩ := ih (k + 1) _ tr' (rips ++ [q]) hS' hlen'
    refine ⟨rips', o, ?_, fun R hcomb Lb hD => ?_⟩
    · rw [toRegexLoop_round (by omega) hfind hstep]
      exact hloop
    · rw [← GLang_rip Lb (fun h => hqi h.symm) (fun h => hqf h.symm)]
      exact hsem R hcomb _ (hden R Lb hcomb hD)

/-- The loose table `tr` and the exact table `ts` agree on the pairs `to_regex` reads. -/
def Sim (S : List σ) (init final : σ) (tr ts : Table σ ℓ) : Prop :=
  ∀ p r, p ∈ S → p ≠ final → r ∈ S → r ≠ init → get2 tr p r = get2 ts p r

/-- The table with exactly the rows and entries `Shape` asks for, labels read from `tr`
(a missing entry read as `None`).  It and its lemmas serve `C12_validate_gives_core_shape`
(Props/C12c.lean) only; the loop theorems do not go through it. -/
def coreTable (S : List σ) (init final : σ) (tr : Table σ ℓ) : Table σ ℓ :=
  (S.filter fun p => decide (p ≠ final)).map fun p =>
    (p, (S.filter fun r => decide (r ≠ init)).map fun r => (r, lab tr p r))

theorem alookup_filter_map_self {κ β : Type} [DecidableEq κ] (f : κ → β) (P : κ → Prop)
    [DecidablePred P] (l : List κ) (k : κ) :
    alookup k ((l.filter fun x => decide (P x)).map fun x => (x, f x)) =
      if k ∈ l ∧ P k then some (f k) else none := by
  rw [alookup_tabulate]
  simp only [List.mem_filter, decide_eq_true_eq]

theorem alookup_coreTable (S : List σ) (init final : σ) (tr : Table σ ℓ) (p : σ) :
    alookup p (coreTable S init final tr) =
      if p ∈ S ∧ p ≠ final then
        some ((S.filter fun r => decide (r ≠ init)).map fun r => (r, lab tr p r))
      else none :=
  alookup_filter_map_self _ _ S p

theorem get2_coreTable (S : List σ) (init final : σ) (tr : Table σ ℓ) (p r : σ) :
    get2 (coreTable S init final tr) p r =
      if p ∈ S ∧ p ≠ final ∧ r ∈ S ∧ r ≠ init then some (lab tr p r) else none := by
  unfold get2
  rw [alookup_coreTable]
  by_cases hp : p ∈ S ∧ p ≠ final
  · rw [if_pos hp, Option.bind_some, alookup_filter_map_self (fun r => lab tr p r)]
    simp only [hp.1, hp.2, ne_eq, not_false_eq_true, true_and]
  · rw [if_neg hp, if_neg (fun h => hp ⟨h.1, h.2.1⟩)]
    rfl

theorem shape_coreTable {S : List σ} {init final : σ} {tr : Table σ ℓ}
    (h : Loose S init final tr) : Shape S init final (coreTable S init final tr) where
  nodup := h.nodup
  init_mem := h.init_mem
  final_mem := h.final_mem
  ne := h.ne
  rows := by
    intro p
    rw [alookup_coreTable]
    split <;> simp [*]
  entries := by
    intro p r
    rw [get2_coreTable]
    split <;> simp [*]

theorem sim_coreTable {S : List σ} {init final : σ} {tr : Table σ ℓ}
    (h : Loose S init final tr) : Sim S init final tr (coreTable S init final tr) := by
  intro p r hp hpf hr hri
  rw [get2_coreTable, if_pos ⟨hp, hpf, hr, hri⟩]
  obtain ⟨v, hv⟩ := Option.isSome_iff_exists.mp (h.entries p r hp hpf hr hri)
  rw [lab_of_get2 hv, hv]

def coreLb (S : List σ) (init final : σ) (Lb : σ → σ → Language Char) : σ → σ → Language Char :=
  fun p r => if p ∈ S ∧ p ≠ final ∧ r ∈ S ∧ r ≠ init then Lb p r else 0

theorem lab_eq_some {tr : Table σ ℓ} {p r : σ} {l : ℓ} (h : lab tr p r = some l) :
    ∃ row, alookup p tr = some row ∧ (r, some l) ∈ row := by
  unfold lab get2 at h
  cases hrow : alookup p tr with
  | none => rw [hrow] at h; cases h
  | some row =>
    rw [hrow, Option.bind_some] at h
    cases he : alookup r row with
    | none => rw [he] at h; cases h
    | some o =>
      rw [he, Option.join_some] at h
      exact ⟨row, rfl, alookup_some_mem (h ▸ he)⟩

/-- Removing the slack does not change the language: from the initial state a path only uses
labelled entries in rows of non-final states, and those lead to non-initial states; the final
state has no outgoing labelled entry. -/
theorem GLang_coreLb {R : Language Char → ℓ → Prop} {S : List σ} {init final : σ}
    {tr : Table σ ℓ} {Lb : σ → σ → Language Char} (hS : Loose S init final tr)
    (hfin : ∀ r, lab tr final r = none) (hD : Denotes R tr Lb) :
    GLang (coreLb S init final Lb) init final = GLang Lb init final := by
  -- an edge of `Lb` that leaves a state is a labelled entry: of a non-final row, to a non-initial state
  have hedge : ∀ p, p ∈ S → ∀ m u, u ∈ Lb p m → p ≠ final ∧ m ∈ S ∧ m ≠ init := by
    intro p hpS m u hu
    have hne : lab tr p m ≠ none := fun hl => by
      have h0 : Lb p m = 0 := by have := hD p m; rwa [hl] at this
      rw [h0] at hu
      exact absurd hu (by simp)
    have hpf : p ≠ final := fun e => hne (e ▸ hfin m)
    obtain ⟨l, hl⟩ := Option.ne_none_iff_exists'.mp hne
    obtain ⟨row, hrow, hmem⟩ := lab_eq_some hl
    exact ⟨hpf, hS.lbl p hpS hpf row hrow (m, some l) hmem (by simp)⟩
  ext w
  refine Walk.congr_on (S := (· ∈ S)) (fun p hp m u hu => (hedge p hp m u hu).2.1)
    (fun p hp m => ?_) hS.init_mem
  unfold coreLb
  split
  · rfl
  · next hc =>
    exact (Language.ext fun u => ⟨fun hu => absurd ⟨hp, hedge p hp m u hu⟩ hc,
      fun hu => absurd hu (Language.notMem_zero u)⟩).symm

/-- `toRegexLoop_loose` with `Denotes` on the whole table: for that the row of the final state
must carry no label (`GLang_coreLb`). -/
theorem toRegexG_loose (comb : Option ℓ → Option ℓ → Option ℓ → Option ℓ → Option ℓ)
    (g : GNFA σ ℓ) (hS : Loose (dedup g.states) g.init g.final g.trans)
    (ord : Nat → List σ → List σ) (hord : ∀ k l x, x ∈ ord k l ↔ x ∈ l) :
    ∃ o, toRegexG comb g ord = .ok o ∧
      ∀ (R : Language Char → ℓ → Prop), CombSound R comb →
        ∀ Lb : σ → σ → Language Char, (∀ r, lab g.trans g.final r = none) →
          Denotes R g.trans Lb → RO R (GLang Lb g.init g.final) o := by
  have hlen : 2 ≤ (dedup g.states).length := by
    simpa using List.Nodup.length_le_of_subset (l₁ := [g.init, g.final]) (by simp [hS.ne])
      (by simp [List.cons_subset, hS.init_mem, hS.final_mem])
  obtain ⟨rips', o, hloop, hsem⟩ := toRegexLoop_loose comb g.init g.final ord hord
    ((dedup g.states).length - 2) 0 (dedup g.states) g.trans [] hS (by omega)
  refine ⟨o, ?_, ?_⟩
  · unfold toRegexG toRegexTrace
    simp only [bind, Except.bind, hloop]
  · intro R hcomb Lb hfin hD
    rw [← GLang_coreLb hS hfin hD]
    refine hsem R hcomb _ fun p r => ⟨fun h => ?_, fun h => if_neg h⟩
    rw [coreLb, if_pos h]
    exact hD p r

theorem toRegexG_spec {R : Language Char → ℓ → Prop}
    {comb : Option ℓ → Option ℓ → Option ℓ → Option ℓ → Option ℓ} (hcomb : CombSound R comb)
    (g : GNFA σ ℓ) (hS : Shape (dedup g.states) g.init g.final g.trans)
    {Lb : σ → σ → Language Char} (hD : Denotes R g.trans Lb)
    (ord : Nat → List σ → List σ) (hord : ∀ k l x, x ∈ ord k l ↔ x ∈ l) :
    ∃ o, toRegexG comb g ord = .ok o ∧ RO R (GLang Lb g.init g.final) o :=
  let ⟨o, ho, hsem⟩ := toRegexG_loose comb g hS.loose ord hord
  ⟨o, ho, hsem R hcomb Lb
    (fun _ => lab_of_get2_none (hS.get2_eq_none.mpr fun h => h.2.1 rfl)) hD⟩

/-- The checks of `GNFA.validate` (/repo commit 084dfed), read off an accepted definition. -/
structure Accepted (labelCheck : ℓ → Res Unit) (g : GNFA σ ℓ) : Prop where
  init_mem : g.init ∈ g.states
  final_mem : g.final ∈ g.states
  ne : g.init ≠ g.final
  rows : ∀ q ∈ g.states, q ≠ g.final → q ∈ akeys g.trans
  final_row : ∀ kv ∈ g.trans, kv.1 = g.final → kv.2 = []
  complete : ∀ kv ∈ g.trans, kv.1 ≠ g.final → ∀ q ∈ g.states, q ≠ g.init → q ∈ akeys kv.2
  targets : ∀ kv ∈ g.trans, ∀ q ∈ akeys kv.2, q ∈ g.states
  into_init : ∀ kv ∈ g.trans, ∀ l, alookup g.init kv.2 ≠ some (some l)
  labels : ∀ kv ∈ g.trans, ∀ l, some l ∈ avals kv.2 → labelCheck l = .ok ()

theorem validateEndStates_eq_ok (g : GNFA σ ℓ) (start : σ) (paths : List (σ × Option ℓ)) :
    g.validateEndStates start paths = .ok () ↔
      (if start = g.final then paths = []
        else ∀ q ∈ g.states, q ∉ akeys paths → q = g.init) ∧
      ∀ q ∈ akeys paths, q ∈ g.states := by
  unfold validateEndStates missingTargets
  split <;>
    simp only [Res.andThen_eq_ok, guardE_eq_ok, firstErr_eq_ok, decide_eq_true_eq, beq_iff_eq,
      List.length_eq_zero_iff, Bool.not_eq_true', List.any_eq_false, Bool.and_eq_true, not_and,
      not_not, ne_eq]

theorem strLabelCheck_eq_ok {rxValid : Str → Res Bool} {syms : List Char} {s : Str} :
    strLabelCheck rxValid syms s = .ok () ↔
      (∀ c ∈ s, c ∈ syms ++ ['*', '|', '(', ')', '?']) ∧ rxValid s = .ok true := by
  unfold strLabelCheck
  by_cases hc : ∀ c ∈ s, c ∈ syms ++ ['*', '|', '(', ')', '?']
  · have hany : s.any (fun c => decide (c ∉ syms ++ ['*', '|', '(', ')', '?'])) = false :=
      List.any_eq_false.mpr fun c h => by rw [decide_eq_true_eq]; exact not_not.mpr (hc c h)
    rw [hany, Bool.false_and, if_neg Bool.false_ne_true]
    cases rxValid s with
    | error e => exact ⟨fun h => (nomatch h), fun h => (nomatch h.2)⟩
    | ok b =>
      cases b
      · exact ⟨fun h => (nomatch h), fun h => (nomatch h.2)⟩
      · exact ⟨fun _ => ⟨hc, rfl⟩, fun _ => rfl⟩
  · rw [if_pos]
    · exact ⟨fun h => (nomatch h), fun h => absurd h.1 hc⟩
    · simp only [not_forall] at hc
      obtain ⟨c, hcs, hn⟩ := hc
      simp only [Bool.and_eq_true, List.any_eq_true, decide_eq_true_eq, bne_iff_ne, ne_eq]
      exact ⟨⟨c, hcs, hn⟩, List.ne_nil_of_mem hcs⟩
/-- `Accepted` is exactly what `GNFA.validate` checks (its last check, a row for the initial state,
follows from the rows of the non-final states). -/
theorem validate_eq_ok {labelCheck : ℓ → Res Unit} {g : GNFA σ ℓ} :
    g.validate labelCheck = .ok () ↔ Accepted labelCheck g := by
  unfold validate validateLabels
  simp only [Res.andThen_eq_ok, guardE_eq_ok, firstErr_eq_ok, decide_eq_true_eq,
    Bool.or_eq_true, validateEndStates_eq_ok, ahas_iff]
  constructor
  · rintro ⟨h1, h2, h3, h4, h5, _⟩
    refine ⟨h1, h2, h3, fun q hq hqf => (h4 q hq).resolve_left hqf, ?_, ?_, ?_, ?_, ?_⟩
    · intro kv hkv hfin
      have := (h5 kv hkv).2.1.1
      rwa [if_pos hfin] at this
    · intro kv hkv hfin q hq hqi
      have := (h5 kv hkv).2.1.1
      rw [if_neg hfin] at this
      exact Classical.not_not.mp fun hc => hqi (this q hq hc)
    · exact fun kv hkv => (h5 kv hkv).2.1.2
    · intro kv hkv l hl
      have := (h5 kv hkv).2.2
      rw [hl] at this
      cases this
    · exact fun kv hkv l hl => (h5 kv hkv).1 (some l) hl
  · intro h
    refine ⟨h.init_mem, h.final_mem, h.ne, fun q hq => or_iff_not_imp_left.mpr (h.rows q hq),
      fun kv hkv => ⟨fun l hl => ?_, ⟨?_, h.targets kv hkv⟩, ?_⟩,
      Or.inl (h.rows _ h.init_mem h.ne)⟩
    · cases l with
      | none => rfl
      | some l => exact h.labels kv hkv l hl
    · split
      · next hf => exact h.final_row kv hkv hf
      · next hf => exact fun q hq hn => Classical.not_not.mp fun hqi => hn (h.complete kv hkv hf q hq hqi)
    · cases hl : alookup g.init kv.2 with
      | none => rfl
      | some o =>
        cases o with
        | none => rfl
        | some l => exact absurd hl (h.into_init kv hkv l)

theorem mk'_eq_ok {labelCheck : ℓ → Res Unit} {g g' : GNFA σ ℓ} :
    mk' labelCheck g = .ok g' ↔ g' = g ∧ g.validate labelCheck = .ok () := by
  unfold mk'
  split
  · next u hv => cases u; exact ⟨fun h => ⟨(Except.ok.inj h).symm, hv⟩, fun h => h.1 ▸ rfl⟩
  · next e hv => exact ⟨fun h => (nomatch h), fun h => (nomatch hv.symm.trans h.2)⟩

theorem accepted_of_validate {labelCheck : ℓ → Res Unit} {g : GNFA σ ℓ}
    (h : g.validate labelCheck = .ok ()) : Accepted labelCheck g := validate_eq_ok.mp h

theorem Accepted.entry {labelCheck : ℓ → Res Unit} {g : GNFA σ ℓ} (h : Accepted labelCheck g)
    {p r : σ} (hp : p ∈ g.states) (hpf : p ≠ g.final) (hr : r ∈ g.states) (hri : r ≠ g.init) :
    (get2 g.trans p r).isSome := by
  obtain ⟨row, hrow⟩ := exists_alookup (h.rows p hp hpf)
  exact get2_isSome_iff.mpr ⟨row, hrow, h.complete (p, row) (alookup_some_mem hrow) hpf r hr hri⟩

/-- `hnd`: the rows are Python dicts (no duplicate key). -/
theorem loose_of_accepted {labelCheck : ℓ → Res Unit} {g : GNFA σ ℓ} (h : Accepted labelCheck g)
    (hnd : ∀ kv ∈ g.trans, (akeys kv.2).Nodup) :
    Loose (dedup g.states) g.init g.final g.trans where
  nodup := nodup_dedup _
  init_mem := mem_dedup.mpr h.init_mem
  final_mem := mem_dedup.mpr h.final_mem
  ne := h.ne
  entries := fun p r hp hpf hr hri => h.entry (mem_dedup.mp hp) hpf (mem_dedup.mp hr) hri
  lbl := by
    intro p _ _ row hrow e he hne
    have hkv := alookup_some_mem hrow
    refine ⟨mem_dedup.mpr (h.targets (p, row) hkv e.1 (List.mem_map.mpr ⟨e, he, rfl⟩)), ?_⟩
    intro heq
    obtain ⟨k, v⟩ := e
    simp only at heq hne
    subst heq
    cases v with
    | none => exact hne rfl
    | some l =>
      exact h.into_init (p, row) hkv l (alookup_of_mem_nodup (hnd (p, row) hkv) he)

theorem Accepted.lab_checked {labelCheck : ℓ → Res Unit} {g : GNFA σ ℓ}
    (h : Accepted labelCheck g) {p r : σ} {l : ℓ} (hl : lab g.trans p r = some l) :
    labelCheck l = .ok () := by
  obtain ⟨row, hrow, hmem⟩ := lab_eq_some hl
  exact h.labels (p, row) (alookup_some_mem hrow) l (List.mem_map.mpr ⟨_, hmem, rfl⟩)

theorem final_row_of_accepted {labelCheck : ℓ → Res Unit} {g : GNFA σ ℓ}
    (h : Accepted labelCheck g) : ∀ r, lab g.trans g.final r = none := by
  intro r
  cases hrow : alookup g.final g.trans with
  | none => exact lab_of_get2_none (by rw [get2, hrow]; rfl)
  | some row =>
    have hnil : row = [] := h.final_row (g.final, row) (alookup_some_mem hrow) rfl
    rw [lab, get2_of_row hrow, hnil]
    rfl

/-- An accepted definition without slack (no row for the final state or for a non-state, no
entry for the initial state) has the documented shape exactly. -/
theorem shape_of_accepted_tight {labelCheck : ℓ → Res Unit} {g : GNFA σ ℓ}
    (h : Accepted labelCheck g)
    (hrows : ∀ kv ∈ g.trans, kv.1 ∈ g.states ∧ kv.1 ≠ g.final)
    (hinit : ∀ kv ∈ g.trans, g.init ∉ akeys kv.2) :
    Shape (dedup g.states) g.init g.final g.trans where
  nodup := nodup_dedup _
  init_mem := mem_dedup.mpr h.init_mem
  final_mem := mem_dedup.mpr h.final_mem
  ne := h.ne
  rows := by
    intro p
    constructor
    · intro hp
      obtain ⟨row, hrow⟩ := Option.isSome_iff_exists.mp hp
      obtain ⟨h1, h2⟩ := hrows (p, row) (alookup_some_mem hrow)
      exact ⟨mem_dedup.mpr h1, h2⟩
    · rintro ⟨hp, hpf⟩
      exact alookup_isSome_iff.mpr (h.rows p (mem_dedup.mp hp) hpf)
  entries := by
    intro p r
    constructor
    · intro hpr
      obtain ⟨row, hrow, hr⟩ := get2_isSome_iff.mp hpr
      have hkv := alookup_some_mem hrow
      obtain ⟨h1, h2⟩ := hrows (p, row) hkv
      exact ⟨mem_dedup.mpr h1, h2, mem_dedup.mpr (h.targets (p, row) hkv r hr),
        fun e => hinit (p, row) hkv (e ▸ hr)⟩
    · rintro ⟨hp, hpf, hr, hri⟩
      exact h.entry (mem_dedup.mp hp) hpf (mem_dedup.mp hr) hri

theorem accepted_of_shape {labelCheck : ℓ → Res Unit} {g : GNFA σ ℓ}
    (hS : Shape (dedup g.states) g.init g.final g.trans) (hk : (akeys g.trans).Nodup)
    (hnd : ∀ kv ∈ g.trans, (akeys kv.2).Nodup)
    (hl : ∀ p r l, lab g.trans p r = some l → labelCheck l = .ok ()) : Accepted labelCheck g := by
  -- a row of the list is the row the lookup finds
  have hget : ∀ kv ∈ g.trans, ∀ r, get2 g.trans kv.1 r = alookup r kv.2 := fun kv hkv =>
    get2_of_row (alookup_of_mem_nodup hk hkv)
  have hent : ∀ kv ∈ g.trans, ∀ r, r ∈ akeys kv.2 ↔
      kv.1 ∈ dedup g.states ∧ kv.1 ≠ g.final ∧ r ∈ dedup g.states ∧ r ≠ g.init := fun kv hkv r => by
    rw [← hS.entries, hget kv hkv, alookup_isSome_iff]
  have hrow : ∀ kv ∈ g.trans, kv.1 ∈ dedup g.states ∧ kv.1 ≠ g.final := fun kv hkv =>
    (hS.rows kv.1).mp (by rw [alookup_of_mem_nodup hk hkv]; rfl)
  refine ⟨mem_dedup.mp hS.init_mem, mem_dedup.mp hS.final_mem, hS.ne,
    fun q hq hqf => alookup_isSome_iff.mp ((hS.rows q).mpr ⟨mem_dedup.mpr hq, hqf⟩),
    fun kv hkv hf => absurd hf (hrow kv hkv).2,
    fun kv hkv _ q hq hqi => (hent kv hkv q).mpr ⟨(hrow kv hkv).1, (hrow kv hkv).2, mem_dedup.mpr hq, hqi⟩,
    fun kv hkv q hq => mem_dedup.mp ((hent kv hkv q).mp hq).2.2.1,
    fun kv hkv l hl' => ((hent kv hkv g.init).mp (alookup_some_key_mem hl')).2.2.2 rfl,
    fun kv hkv l hl' => ?_⟩
  obtain ⟨e, he, hel⟩ := List.mem_map.mp hl'
  exact hl kv.1 e.1 l (lab_of_get2 ((hget kv hkv e.1).trans
    (alookup_of_mem_nodup (hnd kv hkv) (hel ▸ he : (e.1, some l) ∈ kv.2))))

end AV.GNFA
