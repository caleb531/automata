/-
Proofs/RxLex.lean — the lexer on concrete syntax: a string that spells a list of documented
tokens (`TokText`), with blanks (space / tab) anywhere between them (`Renders`) and around a
repetition bound inside its braces (`PadDigits`), lexes to exactly that list.  Underneath, for
every text, one iteration of `Lexer.lex` as an equation (`lexAux_cons`), which
Proofs/RxLexTotal.lean and Proofs/GnfaReValidate.lean follow along arbitrary strings.
Core only.
-/
import AutomataVerif.Model.RxCompile

namespace AV.Rx

/-- What a one-character pattern `\\x` answers at `text`. -/
def litMatch (x : Char) (text : List Char) : Option Nat :=
  match text with
  | c :: _ => if c == x then some 1 else none
  | [] => none

theorem matchLen_lp (text : List Char) : matchLen "\\(" text = some (litMatch '(' text) := rfl
theorem matchLen_rp (text : List Char) : matchLen "\\)" text = some (litMatch ')' text) := rfl
theorem matchLen_un (text : List Char) : matchLen "\\|" text = some (litMatch '|' text) := rfl
theorem matchLen_in (text : List Char) : matchLen "\\&" text = some (litMatch '&' text) := rfl
theorem matchLen_sh (text : List Char) : matchLen "\\^" text = some (litMatch '^' text) := rfl
theorem matchLen_st (text : List Char) : matchLen "\\*" text = some (litMatch '*' text) := rfl
theorem matchLen_pl (text : List Char) : matchLen "\\+" text = some (litMatch '+' text) := rfl
theorem matchLen_op (text : List Char) : matchLen "\\?" text = some (litMatch '?' text) := rfl
theorem matchLen_wi (text : List Char) : matchLen "\\." text = some (litMatch '.' text) := rfl
theorem matchLen_S (text : List Char) :
    matchLen "\\S" text =
      some (match text with
            | c :: _ => if isPySpace c then none else some 1
            | [] => none) := rfl
theorem matchLen_q (text : List Char) :
    matchLen "\\{(.*?),(.*?)\\}" text =
      some ((quantGroups text).map fun g => g.1.length + g.2.length + 3) := rfl

theorem mkToken_str (m : List Char) : mkToken "StringToken" m = .ok (.str m) := by simp [mkToken]
theorem mkToken_quant (m : List Char) : mkToken "QuantifierToken" m = quantFromMatch m := by
  simp [mkToken]

/-- A character that can be a symbol of a regular expression: not white space, not reserved. -/
def SymChar (c : Char) : Prop := isPySpace c = false ∧ isReserved c = false

def Digits (g : List Char) : Prop := g ≠ [] ∧ ∀ c ∈ g, c.isDigit = true

def decValue (g : List Char) : Nat := g.foldl (fun acc c => acc * 10 + (c.toNat - '0'.toNat)) 0

def Blanks (p : List Char) : Prop := ∀ c ∈ p, isBlank c = true

instance (p : List Char) : Decidable (Blanks p) := by unfold Blanks; infer_instance

/-- `g` is the digit string `d` with blanks before and after it: the text of a repetition bound
between the brace / comma delimiters, as in `a{ 1 , 2 }` (`int()` strips the blanks). -/
def PadDigits (g d : List Char) : Prop :=
  ∃ p q, g = p ++ d ++ q ∧ Blanks p ∧ Blanks q ∧ Digits d

theorem PadDigits.of_digits {d : List Char} (h : Digits d) : PadDigits d d :=
  ⟨[], [], by simp, fun c hc => (by cases hc), fun c hc => (by cases hc), h⟩

inductive TokText : Tok Char → List Char → Prop
  | lparen : TokText .lparen ['(']
  | rparen : TokText .rparen [')']
  | union : TokText .union ['|']
  | inter : TokText .inter ['&']
  | shuffle : TokText .shuffle ['^']
  | star : TokText .star ['*']
  | plus : TokText .plus ['+']
  | opt : TokText .opt ['?']
  | wildcard : TokText .wildcard ['.']
  | sym (c : Char) : SymChar c → TokText (.str [c]) [c]
  /-- `{g1,g2}`: each bound is omitted (empty text — not even a blank) or a digit string with
  blanks around it; an upper bound is at least the lower bound. -/
  | quant (g1 g2 : List Char) (lo : Nat) (hi : Option Nat) :
      ((g1 = [] ∧ lo = 0) ∨ (∃ d, PadDigits g1 d ∧ decValue d = lo)) →
      ((g2 = [] ∧ hi = none) ∨ (∃ d, PadDigits g2 d ∧ hi = some (decValue d) ∧ lo ≤ decValue d)) →
      TokText (.quant lo hi) ('{' :: (g1 ++ ',' :: (g2 ++ ['}'])))

/-- `s` spells the token list `ts`, with blanks anywhere between (before, after) the tokens. -/
inductive Renders : List (Tok Char) → List Char → Prop
  | nil : Renders [] []
  | blank (c : Char) {ts : List (Tok Char)} {s : List Char} :
      isBlank c = true → Renders ts s → Renders ts (c :: s)
  | tok {t : Tok Char} {txt : List Char} {ts : List (Tok Char)} {s : List Char} :
      TokText t txt → Renders ts s → Renders (t :: ts) (txt ++ s)

theorem isBlank_iff {c : Char} : isBlank c = true ↔ c = ' ' ∨ c = '\t' := by simp [isBlank]

theorem isDigit_toNat {c : Char} (h : c.isDigit = true) : 48 ≤ c.toNat ∧ c.toNat ≤ 57 := by
  simp only [Char.isDigit, Bool.and_eq_true, decide_eq_true_eq, ge_iff_le] at h
  obtain ⟨h1, h2⟩ := h
  rw [UInt32.le_iff_toNat_le] at h1 h2
  exact ⟨h1, h2⟩

theorem digit_not_space {c : Char} (h : c.isDigit = true) : isPySpace c = false := by
  have := isDigit_toNat h
  unfold isPySpace
  simp only [Bool.or_eq_false_iff, Bool.and_eq_false_iff, decide_eq_false_iff_not,
    beq_eq_false_iff_ne]
  omega

theorem digit_not_strip {c : Char} (h : c.isDigit = true) : isIntStrip c = false := by
  unfold isIntStrip
  rw [digit_not_space h]; rfl

theorem digit_ne {c : Char} (h : c.isDigit = true) {x : Char} (hx : x.isDigit = false) : c ≠ x := by
  intro e; subst e; rw [h] at hx; cases hx

theorem pyDigits_digits : ∀ (g : List Char) (acc : Nat) (pd : Bool),
    (∀ c ∈ g, c.isDigit = true) → (g ≠ [] ∨ pd = true) →
    pyDigits g acc pd = some (g.foldl (fun acc c => acc * 10 + (c.toNat - '0'.toNat)) acc) := by
  intro g
  induction g with
  | nil =>
    intro acc pd _ h
    rcases h with h | h
    · exact absurd rfl h
    · simp [pyDigits, h]
  | cons c r ih =>
    intro acc pd hd _
    simp only [pyDigits, hd c (by simp), if_true, List.foldl_cons]
    exact ih _ true (fun c' h' => hd c' (List.mem_cons_of_mem _ h')) (Or.inr rfl)

theorem blank_strip {c : Char} (h : isBlank c = true) : isIntStrip c = true := by
  rcases isBlank_iff.mp h with rfl | rfl <;> decide

theorem dropWhile_strip_digits {d : List Char} (hd : ∀ c ∈ d, c.isDigit = true) (hne : d ≠ [])
    (r : List Char) : (d ++ r).dropWhile isIntStrip = d ++ r := by
  cases d with
  | nil => exact absurd rfl hne
  | cons c t => exact List.dropWhile_cons_of_neg (by simp [digit_not_strip (hd c (by simp))])

theorem strip_pad {g d : List Char} (h : PadDigits g d) : strip g = d := by
  obtain ⟨p, q, rfl, hp, hq, hne, hd⟩ := h
  have hq' : ∀ c ∈ q.reverse, isIntStrip c = true := fun c hc =>
    blank_strip (hq c (List.mem_reverse.mp hc))
  have hd' : ∀ c ∈ d.reverse, c.isDigit = true := fun c hc => hd c (List.mem_reverse.mp hc)
  unfold strip stripLeft
  rw [List.append_assoc, List.dropWhile_append_of_pos fun c hc => blank_strip (hp c hc),
    dropWhile_strip_digits hd hne, List.reverse_append, List.dropWhile_append_of_pos hq']
  have := dropWhile_strip_digits hd' (by simpa using hne) []
  rw [List.append_nil] at this
  rw [this, List.reverse_reverse]

theorem strip_digits {g : List Char} (h : Digits g) : strip g = g :=
  strip_pad (PadDigits.of_digits h)

theorem pyInt_pad {g d : List Char} (h : PadDigits g d) : pyInt g = some (Int.ofNat (decValue d)) := by
  unfold pyInt
  rw [strip_pad h]
  obtain ⟨_, _, _, _, _, hne, hd⟩ := h
  cases d with
  | nil => exact absurd rfl hne
  | cons c r =>
    have hc := hd c (by simp)
    have n1 : c ≠ '-' := digit_ne hc (by decide)
    have n2 : c ≠ '+' := digit_ne hc (by decide)
    split
    · rename_i heq; cases heq; exact absurd rfl n1
    · rename_i heq; cases heq; exact absurd rfl n2
    · rw [pyDigits_digits _ 0 false hd (Or.inl (by simp))]
      rfl

theorem pyInt_digits {g : List Char} (h : Digits g) : pyInt g = some (Int.ofNat (decValue g)) :=
  pyInt_pad (PadDigits.of_digits h)

theorem padDigits_ne_nil {g d : List Char} (h : PadDigits g d) : g ≠ [] := by
  obtain ⟨p, q, rfl, _, _, hne, _⟩ := h
  simp [hne]

/-- The text of a group of the quantifier pattern: `.*?` up to the stop character `x` (`,` for
the first group, `}` for the second) never contains `x` or a newline. -/
def NoStop (x : Char) (g : List Char) : Prop := ∀ c ∈ g, c ≠ x ∧ c ≠ '\n'

/-- Digit strings, blanks (or empty texts) contain no comma, brace or newline. -/
def BoundText (g : List Char) : Prop := ∀ c ∈ g, c.isDigit = true ∨ isBlank c = true

theorem BoundText.noStop {g : List Char} (h : BoundText g) {x : Char} (hx : x.isDigit = false)
    (hb : isBlank x = false) : NoStop x g := by
  intro c hc
  rcases h c hc with hd | hbl
  · exact ⟨digit_ne hd hx, digit_ne hd (by decide)⟩
  · constructor
    · intro e; subst e; rw [hbl] at hb; cases hb
    · rcases isBlank_iff.mp hbl with rfl | rfl <;> decide

theorem NoStop.takeWhile {x : Char} {g : List Char} (h : NoStop x g) (r : List Char) :
    (g ++ x :: r).takeWhile (fun c => c != x && c != '\n') = g := by
  rw [List.takeWhile_append_of_pos fun c hc => by simp [h c hc],
    List.takeWhile_cons_of_neg (by simp), List.append_nil]

theorem quantGroups_of_noStop {g1 g2 : List Char} (h1 : NoStop ',' g1) (h2 : NoStop '}' g2)
    (rest : List Char) :
    quantGroups ('{' :: (g1 ++ ',' :: (g2 ++ '}' :: rest))) = some (g1, g2) := by
  simp only [quantGroups, h1.takeWhile, List.drop_left, h2.takeWhile]

theorem quantGroups_spelled {g1 g2 : List Char} (h1 : BoundText g1) (h2 : BoundText g2)
    (rest : List Char) :
    quantGroups ('{' :: (g1 ++ ',' :: (g2 ++ '}' :: rest))) = some (g1, g2) :=
  quantGroups_of_noStop (h1.noStop (by decide) (by decide)) (h2.noStop (by decide) (by decide)) rest

theorem boundText_of_pad {g d : List Char} (h : PadDigits g d) : BoundText g := by
  obtain ⟨p, q, rfl, hp, hq, _, hd⟩ := h
  intro c hc
  simp only [List.mem_append] at hc
  rcases hc with (hc | hc) | hc
  · exact Or.inr (hp c hc)
  · exact Or.inl (hd c hc)
  · exact Or.inr (hq c hc)

/-- Both bound hypotheses of `TokText.quant` have this shape. -/
theorem boundText_of_bound {g : List Char} {p : Prop} {q : List Char → Prop}
    (h : (g = [] ∧ p) ∨ (∃ d, PadDigits g d ∧ q d)) : BoundText g := by
  rcases h with ⟨rfl, _⟩ | ⟨d, hp, _⟩
  · exact fun _ hc => nomatch hc
  · exact boundText_of_pad hp

theorem quantFromMatch_spelled {g1 g2 : List Char} {lo : Nat} {hi : Option Nat}
    (h1 : (g1 = [] ∧ lo = 0) ∨ (∃ d, PadDigits g1 d ∧ decValue d = lo))
    (h2 : (g2 = [] ∧ hi = none) ∨ (∃ d, PadDigits g2 d ∧ hi = some (decValue d) ∧ lo ≤ decValue d)) :
    quantFromMatch ('{' :: (g1 ++ ',' :: (g2 ++ ['}']))) = .ok (.quant lo hi) := by
  have isEmpty_pad : ∀ {g d : List Char}, PadDigits g d → g.isEmpty = false := fun h =>
    List.isEmpty_eq_false_iff.mpr (padDigits_ne_nil h)
  have e1 : (if g1.isEmpty then some (0 : Int) else pyInt g1) = some (Int.ofNat lo) := by
    rcases h1 with ⟨rfl, rfl⟩ | ⟨d, hd, rfl⟩
    · rfl
    · simp only [isEmpty_pad hd, pyInt_pad hd]
      rfl
  simp only [quantFromMatch, quantGroups_spelled (boundText_of_bound h1) (boundText_of_bound h2) [], e1]
  rcases h2 with ⟨rfl, rfl⟩ | ⟨d, hd, rfl, hle⟩
  · simp
  · have n1 : ¬ ((lo : Int) < 0) := by omega
    have n2 : ¬ (decValue d < lo) := by omega
    simp [isEmpty_pad hd, pyInt_pad hd, n1, n2]

theorem quantGroups_ne {c : Char} (h : c ≠ '{') (rest : List Char) :
    quantGroups (c :: rest) = none := by
  unfold quantGroups
  split
  · rename_i heq; cases heq; exact absurd rfl h
  · rfl

/-- The running best match after a rule of class `cls` answered `m`: a strictly longer match
replaces it. -/
def better (best : Option (String × Nat)) (cls : String) : Option Nat → Option (String × Nat)
  | none => best
  | some k =>
      match best with
      | none => some (cls, k)
      | some (c0, k0) => if k0 < k then some (cls, k) else some (c0, k0)

theorem getTokenAux_cons {text : List Char} {pat : String} {m : Option Nat}
    (h : matchLen pat text = some m) (cls : String) (rules : List (String × String))
    (best : Option (String × Nat)) :
    getTokenAux text ((cls, pat) :: rules) best = getTokenAux text rules (better best cls m) := by
  rw [getTokenAux, h]
  cases m with
  | none => rfl
  | some k =>
    cases best with
    | none => rfl
    | some b => simp only [better]; split <;> rfl

/-- The token of a one-character operator rule. -/
def opTok (c : Char) : Option (Tok Char) :=
  if c = '(' then some .lparen else if c = ')' then some .rparen
  else if c = '|' then some .union else if c = '&' then some .inter
  else if c = '^' then some .shuffle else if c = '*' then some .star
  else if c = '+' then some .plus else if c = '?' then some .opt
  else if c = '.' then some .wildcard else none

/-- `get_token` on the regenerated rule table, at any non-empty text.  At `{` the quantifier pattern
wins when it matches (it is longer than the one character `\S` matches); white space is matched by
no rule. -/
theorem getToken_cons (c : Char) (rest : List Char) :
    getToken (c :: rest) = .ok (
      match opTok c with
      | some t => some (t.cls, 1)
      | none =>
        if c = '{' then
          some (match quantGroups ('{' :: rest) with
                | some g => ("QuantifierToken", g.1.length + g.2.length + 3)
                | none => ("StringToken", 1))
        else if isPySpace c then none else some ("StringToken", 1)) := by
  rw [getToken, Gen.Regex.lexerRules, getTokenAux_cons (matchLen_lp _),
    getTokenAux_cons (matchLen_rp _), getTokenAux_cons (matchLen_un _),
    getTokenAux_cons (matchLen_in _), getTokenAux_cons (matchLen_sh _),
    getTokenAux_cons (matchLen_st _), getTokenAux_cons (matchLen_pl _),
    getTokenAux_cons (matchLen_op _), getTokenAux_cons (matchLen_q _),
    getTokenAux_cons (matchLen_wi _), getTokenAux_cons (matchLen_S _), getTokenAux]
  congr 1
  -- at an operator character the eleven answers are evaluated
  by_cases h1 : c = '('
  · subst h1; rfl
  by_cases h2 : c = ')'
  · subst h2; rfl
  by_cases h3 : c = '|'
  · subst h3; rfl
  by_cases h4 : c = '&'
  · subst h4; rfl
  by_cases h5 : c = '^'
  · subst h5; rfl
  by_cases h6 : c = '*'
  · subst h6; rfl
  by_cases h7 : c = '+'
  · subst h7; rfl
  by_cases h8 : c = '?'
  · subst h8; rfl
  by_cases h9 : c = '.'
  · subst h9; rfl
  simp only [opTok, litMatch, beq_iff_eq, if_neg h1, if_neg h2, if_neg h3, if_neg h4, if_neg h5,
    if_neg h6, if_neg h7, if_neg h8, if_neg h9, better]
  by_cases h10 : c = '{'
  · subst h10
    cases quantGroups ('{' :: rest) with
    | none => rfl
    | some g => exact if_neg (by omega : ¬ g.1.length + g.2.length + 3 < 1)
  · rw [quantGroups_ne h10, if_neg h10]
    cases isPySpace c <;> rfl

theorem opTok_none {c : Char} (h : opTok c = none) :
    c ≠ '(' ∧ c ≠ ')' ∧ c ≠ '|' ∧ c ≠ '&' ∧ c ≠ '^' ∧ c ≠ '*' ∧ c ≠ '+' ∧ c ≠ '?' ∧ c ≠ '.' := by
  refine ⟨?_, ?_, ?_, ?_, ?_, ?_, ?_, ?_, ?_⟩ <;> rintro rfl <;> cases h

theorem opTok_some {c : Char} {t : Tok Char} (h : opTok c = some t) :
    TokText t [c] ∧ mkToken t.cls [c] = .ok t ∧ (∀ a, t ≠ .str [a]) ∧ isPySpace c = false := by
  by_cases hop : c = '(' ∨ c = ')' ∨ c = '|' ∨ c = '&' ∨ c = '^' ∨ c = '*' ∨ c = '+' ∨ c = '?' ∨
      c = '.'
  · rcases hop with rfl | rfl | rfl | rfl | rfl | rfl | rfl | rfl | rfl <;> cases h <;>
      exact ⟨by constructor, by simp [mkToken, Tok.cls], fun _ => nofun, rfl⟩
  · simp only [not_or] at hop
    simp only [opTok, hop, if_false] at h
    cases h

def push (t : Tok Char) : Res (List (Tok Char)) → Res (List (Tok Char))
  | .error e => .error e
  | .ok ts => .ok (t :: ts)

theorem drop_groups (g1 g2 rest : List Char) :
    (g1 ++ ',' :: (g2 ++ '}' :: rest)).drop (g1.length + g2.length + 2) = rest := by
  have : g1 ++ ',' :: (g2 ++ '}' :: rest) = (g1 ++ ',' :: (g2 ++ ['}'])) ++ rest := by simp
  rw [this]
  exact List.drop_left' (by simp only [List.length_cons, List.length_append, List.length_nil]; omega)

theorem drop_length_takeWhile (p : Char → Bool) (l : List Char) :
    l.drop (l.takeWhile p).length = l.dropWhile p := by
  have := List.drop_left (l₁ := l.takeWhile p) (l₂ := l.dropWhile p)
  rwa [List.takeWhile_append_dropWhile] at this

theorem quantGroups_inv {rest g1 g2 : List Char} (h : quantGroups ('{' :: rest) = some (g1, g2)) :
    ∃ rest', rest = g1 ++ ',' :: (g2 ++ '}' :: rest') ∧ NoStop ',' g1 ∧ NoStop '}' g2 := by
  unfold quantGroups at h
  simp only at h
  split at h
  · rename_i rest2 hd1
    split at h
    · rename_i rest3 hd2
      simp only [Option.some.injEq, Prod.mk.injEq] at h
      obtain ⟨hg1, hg2⟩ := h
      rw [drop_length_takeWhile] at hd1 hd2
      have e1 := List.takeWhile_append_dropWhile (p := fun c => c != ',' && c != '\n') (l := rest)
      have e2 := List.takeWhile_append_dropWhile (p := fun c => c != '}' && c != '\n') (l := rest2)
      rw [hd1, hg1] at e1
      rw [hd2, hg2] at e2
      refine ⟨rest3, by rw [← e1, ← e2], ?_, ?_⟩
      · intro c hc
        rw [← hg1] at hc
        simpa using List.all_eq_true.mp List.all_takeWhile c hc
      · intro c hc
        rw [← hg2] at hc
        simpa using List.all_eq_true.mp List.all_takeWhile c hc
    · cases h
  · cases h

/-- One iteration of `Lexer.lex` at any non-empty text. -/
theorem lexAux_cons (fuel : Nat) (c : Char) (rest : List Char) :
    lexAux (fuel + 1) (c :: rest) =
      match opTok c with
      | some t => push t (lexAux fuel rest)
      | none =>
        if c = '{' then
          match quantGroups ('{' :: rest) with
          | some g =>
            match quantFromMatch ('{' :: (g.1 ++ ',' :: (g.2 ++ ['}']))) with
            | .error e => .error e
            | .ok t => push t (lexAux fuel (rest.drop (g.1.length + g.2.length + 2)))
          | none => push (.str ['{']) (lexAux fuel rest)
        else if isPySpace c then
          if isBlank c then lexAux fuel rest else .error (.lib .lexerError)
        else push (.str [c]) (lexAux fuel rest) := by
  have one : ∀ {cls : String} {t : Tok Char}, getToken (c :: rest) = .ok (some (cls, 1)) →
      mkToken cls [c] = .ok t → lexAux (fuel + 1) (c :: rest) = push t (lexAux fuel rest) :=
    fun hg hm => by
      simp only [lexAux, hg, List.take_succ_cons, List.take_zero, hm, List.drop_succ_cons,
        List.drop_zero]
      rfl
  have hg := getToken_cons c rest
  cases hop : opTok c with
  | some t =>
    rw [hop] at hg
    exact one hg (opTok_some hop).2.1
  | none =>
    rw [hop] at hg
    simp only at hg ⊢
    by_cases hb : c = '{'
    · subst hb
      rw [if_pos rfl] at hg ⊢
      cases hq : quantGroups ('{' :: rest) with
      | none =>
        rw [hq] at hg
        exact one hg (mkToken_str _)
      | some g =>
        obtain ⟨rest', rfl, -, -⟩ := quantGroups_inv hq
        have hk : g.1.length + g.2.length + 3 = ('{' :: (g.1 ++ ',' :: (g.2 ++ ['}']))).length := by
          simp only [List.length_cons, List.length_append, List.length_nil]; omega
        have etxt : '{' :: (g.1 ++ ',' :: (g.2 ++ '}' :: rest')) =
            ('{' :: (g.1 ++ ',' :: (g.2 ++ ['}']))) ++ rest' := by simp
        rw [hq] at hg
        simp only [lexAux, hg, mkToken_quant, drop_groups]
        rw [hk, etxt, List.take_left, List.drop_left]
        rfl
    · rw [if_neg hb] at hg ⊢
      cases hs : isPySpace c
      · rw [hs] at hg
        exact one hg (mkToken_str _)
      · rw [hs] at hg
        simp only [lexAux, hg, if_true]

theorem opTok_sym {c : Char} (h : SymChar c) : opTok c = none ∧ c ≠ '{' := by
  have hr := h.2
  simp only [isReserved, Gen.Regex.reservedCharacters, List.contains_cons, List.contains_nil,
    Bool.or_false, Bool.or_eq_false_iff, beq_eq_false_iff_ne, ne_eq] at hr
  simp [opTok, hr]

theorem lexAux_tok {t : Tok Char} {txt : List Char} (h : TokText t txt) (rest : List Char)
    (fuel : Nat) : lexAux (fuel + 1) (txt ++ rest) = push t (lexAux fuel rest) := by
  cases h with
  | lparen | rparen | union | inter | shuffle | star | plus | opt | wildcard => exact lexAux_cons ..
  | sym c hc =>
    obtain ⟨h1, h2⟩ := opTok_sym hc
    simp only [List.singleton_append, lexAux_cons, h1, if_neg h2, hc.1, Bool.false_eq_true, if_false]
  | quant g1 g2 lo hi h1 h2 =>
    have hq := quantGroups_spelled (boundText_of_bound h1) (boundText_of_bound h2) rest
    have e : '{' :: (g1 ++ ',' :: (g2 ++ ['}'])) ++ rest = '{' :: (g1 ++ ',' :: (g2 ++ '}' :: rest)) := by
      simp
    rw [e, lexAux_cons]
    simp only [opTok, Char.reduceEq, if_false, if_true, hq, quantFromMatch_spelled h1 h2, drop_groups]

theorem lexAux_blank {c : Char} (h : isBlank c = true) (rest : List Char) (fuel : Nat) :
    lexAux (fuel + 1) (c :: rest) = lexAux fuel rest := by
  rw [lexAux_cons]
  rcases isBlank_iff.mp h with rfl | rfl <;> rfl

theorem tokText_length_pos {t : Tok Char} {txt : List Char} (h : TokText t txt) :
    1 ≤ txt.length := by
  cases h <;> simp

theorem lex_renders {ts : List (Tok Char)} {s : List Char} (h : Renders ts s) :
    lex s = .ok ts := by
  unfold lex
  have key : ∀ fuel, s.length ≤ fuel → lexAux fuel s = .ok ts := by
    induction h with
    | nil =>
      intro fuel _
      cases fuel <;> rfl
    | blank c hb _ ih =>
      intro fuel hf
      obtain ⟨f, rfl⟩ : ∃ f, fuel = f + 1 := ⟨fuel - 1, by simp at hf; omega⟩
      rw [lexAux_blank hb]
      exact ih f (by simp at hf; omega)
    | tok ht _ ih =>
      intro fuel hf
      have := tokText_length_pos ht
      obtain ⟨f, rfl⟩ : ∃ f, fuel = f + 1 := ⟨fuel - 1, by simp at hf; omega⟩
      rw [lexAux_tok ht, ih f (by simp at hf; omega)]
      rfl
  exact key _ (Nat.le_refl _)

end AV.Rx
