/-
Proofs/Compare.lean — `_find_state` over an implicit deterministic graph, and its three
clients `isempty`, `issubset`, `isdisjoint` (core only).

`findState` answers "does some word lead the implicit graph to a target state"; `issubset` and
`isdisjoint` search the cross products that `difference` and `intersection` expand for a final
pair, so `cross_verdict` (Proofs/Product.lean) reads their answers on the verdicts of the operands.
-/
import AutomataVerif.Proofs.ExpandValid
import AutomataVerif.Proofs.PyShape
import AutomataVerif.Model.DFACompare

namespace AV
namespace DFA

variable {σ α : Type} [DecidableEq σ] [DecidableEq α]

section findState
variable {S : Type} [DecidableEq S] {succ : S → List (α × S)} {univ : List S} {fuel : Nat} {init : S}

theorem findState_iff (h : ExpandHyp succ univ fuel init) (target : S → Bool) :
    findState succ target fuel init = true ↔
      ∃ w, (implRun succ (some init) w).any target = true := by
  unfold findState
  simp only [List.any_eq_true, Option.any_eq_true]
  constructor
  · rintro ⟨s, hs, ht⟩
    obtain ⟨w, hw⟩ := bfsStates_reachable h hs
    exact ⟨w, s, hw, ht⟩
  · rintro ⟨w, s, hw, ht⟩
    exact ⟨s, implRun_mem_bfsStates h (init_mem_bfsStates h) hw, ht⟩

end findState

/-- The BFS of `isempty` (over `transitions[state].items()`) is exhaustive. -/
theorem row_expandHyp (d : DFA σ α) (hv : d.validate = .ok ()) (pd : d.PyShape) :
    ExpandHyp (fun q => d.row q) d.graphNodes (d.graphNodes.length + 1) d.init := by
  have wf := (DFA.validate_eq_ok d).mp hv
  refine ⟨states_sub_graphNodes d wf.initOk, ?_, ?_, Nat.lt_succ_self _⟩
  · intro u _ e he; exact succStates_sub_graphNodes d (List.mem_map_of_mem he)
  · intro u _; exact pd.row_nodup u

theorem implRun_row (d : DFA σ α) (s : Option σ) (w : List α) :
    implRun (fun q => d.row q) s w = d.run s w :=
  congrArg (fun f => List.foldl f s w) (funext fun s => funext fun a => by cases s <;> rfl)

omit [DecidableEq σ] in
theorem symsEq_symm {A B : DFA σ α} (h : A.symsEq B = true) : B.symsEq A = true := by
  rw [C04.symsEq_iff] at h ⊢
  exact fun a => (h a).symm

theorem isempty_iff (d : DFA σ α) (hv : d.validate = .ok ()) (pd : d.PyShape) :
    d.isempty = true ↔ ∀ w, d.accepts w = false := by
  unfold isempty
  rw [Bool.not_eq_true', ← Bool.not_eq_true, findState_iff (row_expandHyp d hv pd)]
  have hv (w : List α) :
      (d.run (some d.init) w).any (fun q => decide (q ∈ d.finals)) = d.accepts w := by
    unfold accepts; cases d.run (some d.init) w <;> rfl
  simp only [implRun_row, hv, not_exists, Bool.not_eq_true]

theorem findState_cross_iff (op : BinOp) (A B : DFA σ α) (hA : A.validate = .ok ())
    (hB : B.validate = .ok ()) (pA : A.PyShape) :
    (!findState (A.crossSucc B op.lrel op.rrel) (fun s => op.fin (A.isFinalO s.1) (B.isFinalO s.2))
        (A.prodFuel B) (some A.init, some B.init)) = true ↔
      ∀ w, op.fin (A.accepts w) (B.accepts w) = false := by
  rw [Bool.not_eq_true', ← Bool.not_eq_true, findState_iff (C04.cross_expandHyp A B op.lrel op.rrel
    ((DFA.validate_eq_ok A).mp hA) ((DFA.validate_eq_ok B).mp hB) pA)]
  simp only [cross_verdict, not_exists, Bool.not_eq_true]

/-- The code searches the cross product that `difference` expands: same `lhs_relevant` /
`rhs_relevant`, same predicate on the pair. -/
theorem issubset_spec (A B : DFA σ α) (hA : A.validate = .ok ()) (hB : B.validate = .ok ())
    (pA : A.PyShape) (hs : A.symsEq B = true) :
    ∃ b, A.issubset B = .ok b ∧ (b = true ↔ ∀ w, A.accepts w = true → B.accepts w = true) := by
  unfold issubset
  simp only [hs, Bool.not_true, Bool.false_eq_true, if_false]
  refine ⟨_, rfl, (findState_cross_iff .diff A B hA hB pA).trans (forall_congr' fun w => ?_)⟩
  cases A.accepts w <;> cases B.accepts w <;> simp [BinOp.fin]

/-- The code searches the cross product that `intersection` expands. -/
theorem isdisjoint_spec (A B : DFA σ α) (hA : A.validate = .ok ()) (hB : B.validate = .ok ())
    (pA : A.PyShape) (hs : A.symsEq B = true) :
    ∃ b, A.isdisjoint B = .ok b ∧ (b = true ↔ ∀ w, ¬ (A.accepts w = true ∧ B.accepts w = true)) := by
  unfold isdisjoint
  simp only [hs, Bool.not_true, Bool.false_eq_true, if_false]
  refine ⟨_, rfl, (findState_cross_iff .inter A B hA hB pA).trans (forall_congr' fun w => ?_)⟩
  cases A.accepts w <;> cases B.accepts w <;> simp [BinOp.fin]

theorem issubset_mismatch (A B : DFA σ α) (hs : A.symsEq B = false) :
    A.issubset B = .error (.lib .symbolMismatchError) ∧
    A.isdisjoint B = .error (.lib .symbolMismatchError) := by
  unfold issubset isdisjoint
  simp [hs]

end DFA
end AV
