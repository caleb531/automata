/-
Proofs/CorruptOps3.lean — edit operators on transition tables (Python dict assignments and
deletions): NTM / MNTM entries, whole rows of the TM and GNFA tables, removed rows and removed row
entries.
-/
import AutomataVerif.Proofs.CorruptOps2

namespace AV.VA
open AV

section alist
variable {κ β : Type} [DecidableEq κ]

/-- "`head`; `for row in table: check(row)`; `rest`" passes on `t`; with a row under a new key added
(it goes to the end of the dict) the checks raise what the check of that row raises. -/
theorem raises_of_new_row {ρ : Type} {head rest rest' : Res Unit} {t : List (κ × ρ)}
    {check : κ × ρ → Res Unit} {k : κ} {row : ρ} {e : Exn}
    (hok : head.andThen ((firstErr t check).andThen rest) = .ok ()) (hk : k ∉ akeys t)
    (he : check (k, row) = .error e) :
    head.andThen ((firstErr (ainsert k row t) check).andThen rest') = .error e := by
  obtain ⟨h1, h2⟩ := Res.andThen_eq_ok.mp hok
  rw [h1, ainsert_of_not_mem hk, firstErr_append, firstErr_cons, (Res.andThen_eq_ok.mp h2).1, he]
  rfl

/-- `del d[k]` (every entry keyed `k`): the filter that `alookup_filter_ne`, `mem_akeys_filter_ne`,
`not_mem_akeys_filter_ne` (Proofs/Basic.lean) speak of. -/
def adelete (k : κ) (l : List (κ × β)) : List (κ × β) := l.filter fun e => decide (e.1 ≠ k)

theorem mem_adelete (k : κ) (l : List (κ × β)) (e : κ × β) (h : e ∈ adelete k l) : e ∈ l ∧ e.1 ≠ k := by
  simpa [adelete] using h

theorem mem_akeys_adelete (k : κ) (l : List (κ × β)) (x : κ) (hx : x ∈ akeys l) (hne : x ≠ k) :
    x ∈ akeys (adelete k l) :=
  (mem_akeys_filter_ne k x l).mpr ⟨hx, hne⟩

theorem akeys_adelete_sub (k : κ) (l : List (κ × β)) (x : κ) (hx : x ∈ akeys (adelete k l)) :
    x ∈ akeys l :=
  ((mem_akeys_filter_ne k x l).mp hx).1

theorem alookup_adelete_ne (k k' : κ) (l : List (κ × β)) (h : k' ≠ k) :
    alookup k' (adelete k l) = alookup k' l :=
  (alookup_filter_ne k k' l).trans (if_neg h)

end alist

variable {σ α γ : Type} [DecidableEq σ] [DecidableEq α] [DecidableEq γ]

namespace DTM

/-- `transitions[q] = row` on a DTM definition (replace the row, or append a new one). -/
def setRow (d : DTM σ γ) (q : σ) (row : List (γ × TMResult σ γ)) : DTM σ γ :=
  { d with trans := ainsert q row d.trans }

/-- `del transitions[q]`. -/
def dropRow (d : DTM σ γ) (q : σ) : DTM σ γ := { d with trans := adelete q d.trans }

end DTM

namespace NTM

/-- `transitions[q][s] = rs` on an NTM definition. -/
def setEntry (d : NTM σ γ) (q : σ) (s : γ) (rs : List (TMResult σ γ)) : NTM σ γ :=
  { d with trans := editRow q (ainsert s rs) d.trans }

/-- `transitions[q] = row`. -/
def setRow (d : NTM σ γ) (q : σ) (row : List (γ × List (TMResult σ γ))) : NTM σ γ :=
  { d with trans := ainsert q row d.trans }

/-- `del transitions[q]`. -/
def dropRow (d : NTM σ γ) (q : σ) : NTM σ γ := { d with trans := adelete q d.trans }

end NTM

namespace MNTM

/-- `transitions[q][rd] = rs` on an MNTM definition (`rd` the tuple of symbols read, `rs` the
list of `(state, moves)` results). -/
def setEntry (d : MNTM σ γ) (q : σ) (rd : List γ) (rs : List (σ × List (γ × String))) : MNTM σ γ :=
  { d with trans := editRow q (ainsert rd rs) d.trans }

/-- `transitions[q] = row`. -/
def setRow (d : MNTM σ γ) (q : σ) (row : List (List γ × List (σ × List (γ × String)))) : MNTM σ γ :=
  { d with trans := ainsert q row d.trans }

/-- `del transitions[q]`. -/
def dropRow (d : MNTM σ γ) (q : σ) : MNTM σ γ := { d with trans := adelete q d.trans }

end MNTM

namespace GNFA

/-- `transitions[q] = row` on a GNFA definition. -/
def setRow (g : GNFA σ α) (q : σ) (row : List (σ × Option (GLabel α))) : GNFA σ α :=
  { g with trans := ainsert q row g.trans }

/-- `del transitions[q]`. -/
def dropRow (g : GNFA σ α) (q : σ) : GNFA σ α := { g with trans := adelete q g.trans }

/-- `del transitions[q][t]`. -/
def dropEntry (g : GNFA σ α) (q t : σ) : GNFA σ α :=
  { g with trans := editRow q (adelete t) g.trans }

end GNFA

end AV.VA
