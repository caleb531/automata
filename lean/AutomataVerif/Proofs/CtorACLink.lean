/-
Proofs/CtorACLink.lean — from_substrings (C15), phase 2b: the failure and output link of
one child of a node (`acLink_spec`).  Core only.
-/
import AutomataVerif.Proofs.CtorACFollow

namespace AV.Ctor.AC

variable {α : Type} [DecidableEq α]

/-- The output link stored in a node record is right for a node spelling `x ≠ []`. -/
def OutOK (pats : List (List α)) (node : ACNode α) (x : List α) : Prop :=
  node.out ≠ [] ↔ ∃ z, z ≠ [] ∧ z <:+ x ∧ z ∈ pats

/-- `FailOK` as a predicate on the stored link: `Leads paths fl (IsFail paths x)`. -/
def FailStr (paths : List (List α)) (x : List α) (fl : Option Nat) : Prop :=
  match fl with
  | none => IsFail paths x []
  | some c => ∃ y, y ≠ [] ∧ paths[c]? = some y ∧ IsFail paths x y

set_option linter.unusedSectionVars false in
theorem failOK_iff (paths : List (List α)) (node : ACNode α) (x : List α) :
    FailOK paths node x ↔ FailStr paths x node.fail := Iff.rfl

theorem suffix_pat_iff {pats paths : List (List α)} (hsub : ∀ s ∈ pats, s ∈ paths) {x y : List α}
    (hx : x ≠ []) (hf : IsFail paths x y) :
    (∃ z, z ≠ [] ∧ z <:+ x ∧ z ∈ pats) ↔ x ∈ pats ∨ ∃ z, z ≠ [] ∧ z <:+ y ∧ z ∈ pats := by
  constructor
  · rintro ⟨z, hz, hs, hm⟩
    by_cases e : z = x
    · exact Or.inl (e ▸ hm)
    · exact Or.inr ⟨z, hz, hf.chain hs e (hsub z hm), hm⟩
  · rintro (hm | ⟨z, hz, hs, hm⟩)
    · exact ⟨x, hx, List.suffix_refl _, hm⟩
    · exact ⟨z, hz, hs.trans hf.1, hm⟩

section link
variable {pats : List (List α)} {nodes : List (ACNode α)} {paths : List (List α)}

/-- A proper suffix of `x ++ [a]` in the trie is empty or `z ++ [a]` for a proper suffix `z` of `x`
in the trie, which is a suffix of the failure string `y0` of `x`. -/
theorem isFail_snoc (h : Trie nodes paths) {x y0 y : List α} {a : α}
    (hf : IsFail paths x y0) (hl : IsLongest paths (y0 ++ [a]) y) : IsFail paths (x ++ [a]) y := by
  refine ⟨hl.1.trans (suffix_snoc_snoc.mpr ⟨hf.1, rfl⟩), fun e => ?_, hl.2.1, fun w hw hne hm => ?_⟩
  · have h1 := hl.1.length_le
    have h2 := hf.length_lt
    rw [e, List.length_append, List.length_append] at h1; omega
  · rcases List.suffix_concat_iff.mp hw with rfl | ⟨z, rfl, hz⟩
    · exact Nat.zero_le _
    · exact hl.2.2 _ (suffix_snoc_snoc.mpr
        ⟨hf.chain hz (fun e => hne (by rw [e])) (h.prefix_mem hm (List.prefix_append _ _)), rfl⟩) hm

/-- One execution of the body of `for symbol, successor in current_node.successors.items()`. -/
theorem acLink_spec (h : Trie nodes paths) (hroot : (acGet nodes 0).fail = none)
    (hsub : ∀ s ∈ pats, s ∈ paths)
    (cur : Nat) (x : List α) (hcur : paths[cur]? = some x) (hx : x ≠ [])
    (hOK : ∀ v y, paths[v]? = some y → y ≠ [] → y.length ≤ x.length →
      FailOK paths (acGet nodes v) y ∧ OutOK pats (acGet nodes v) y)
    (a : α) (c : Nat)
    (hown : (acGet nodes c).out ≠ [] ↔ x ++ [a] ∈ pats) :
    ∃ node', acLink nodes cur a c = .ok (nodes.set c node') ∧
      node'.succ = (acGet nodes c).succ ∧
      FailOK paths node' (x ++ [a]) ∧ OutOK pats node' (x ++ [a]) := by
  unfold acLink
  obtain ⟨y0, hst, hy0⟩ := Leads.spells (hOK cur x hcur hx (Nat.le_refl _)).1
  have hdepth : x.length < nodes.length := h.depth_lt hcur
  have hylt := hy0.length_lt
  obtain ⟨r, hr, ht⟩ := acFollow_spec h a hroot (nodes.length + 1) y0 (acGet nodes cur).fail
    (by omega) hst fun v z hv hz hl => (hOK v z hv hz (by omega)).1
  rw [hr]
  have hfail : FailStr paths (x ++ [a]) _ := ht.imp fun _ => isFail_snoc h hy0
  refine ⟨_, rfl, rfl, hfail, ?_⟩
  have hxa : x ++ [a] ≠ [] := by simp
  show _ ≠ [] ↔ _
  cases hfl : alookup a (acGet nodes (r.getD 0)).succ with
  | none =>
    rw [hfl] at hfail
    rw [suffix_pat_iff hsub hxa hfail, hown]
    exact ⟨Or.inl, fun | .inl p => p | .inr ⟨z, hz, hs, _⟩ => absurd (List.suffix_nil.mp hs) hz⟩
  | some f =>
    rw [hfl] at hfail
    obtain ⟨y, hyne, hf, hfy⟩ := hfail
    have hylen : y.length ≤ x.length := by
      have := hfy.length_lt
      simp only [List.length_append, List.length_singleton] at this; omega
    have hfo : (acGet nodes f).out ≠ [] ↔ ∃ z, z ≠ [] ∧ z <:+ y ∧ z ∈ pats := (hOK f y hf hyne hylen).2
    rw [suffix_pat_iff hsub hxa hfy, ← hfo, ← hown]
    simp only [ne_eq, List.append_eq_nil_iff]
    exact Decidable.not_and_iff_or_not

end link

end AV.Ctor.AC
