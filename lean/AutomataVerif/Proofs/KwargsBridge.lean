/-
Proofs/KwargsBridge.lean — from constructor keyword arguments as Python values
(`List (String × PyVal)`, what `Automaton.__init__` stores) to the typed DFA definition that the
validate model reads, and the fact that decoding only looks at the abstract value (`PyVal.norm`):
`decodeDFA (normKw kw) = decodeDFA kw`.  This is the bridge that makes `C19_options_kwargs`
(stated for any validator that reads the abstract value) apply to `DFA.validateDef ∘ decodeDFA`
(core only).

Names.  State names and symbols are decoded as *atoms* (`str`, `int`, any other immutable
object such as `None` — tag 0 in the wire format of the harness); a definition whose names are
tuples or frozensets (names the library itself generates) is outside the decoder's domain
(`none`).  Containers may be of either kind (`set` / `frozenset`, `dict` / `frozendict`, `list` /
`tuple`): the decoder does not distinguish them, which is the point.
-/
import AutomataVerif.Proofs.Instance
import AutomataVerif.Proofs.ValidateReserved

namespace AV.VA
open AV

/-- An immutable atomic Python value used as a state name or a symbol. -/
inductive Atom
  | str (s : String)
  | int (i : Int)
  | other (tag : Nat)
  deriving DecidableEq, Repr

theorem bind_map_of_invariant {α β : Type} {n : α → α} {f : α → Option β} (hf : ∀ x, f (n x) = f x)
    (o : Option α) : (o.map n).bind f = o.bind f := by
  cases o with
  | none => rfl
  | some x => exact hf x

namespace PyVal

def atom : PyVal → Option Atom
  | .str s => some (.str s)
  | .int i => some (.int i)
  | .other t => some (.other t)
  | _ => none

/-- The members of a set / frozenset / list / tuple / set-like / sequence-like object. -/
def elems : PyVal → Option (List PyVal)
  | .set xs => some xs
  | .setlike xs => some xs
  | .seqlike xs => some xs
  | .frozenset xs => some xs
  | .list xs => some xs
  | .tuple xs => some xs
  | _ => none

/-- The items of a dict / frozendict / mapping-like object. -/
def entries : PyVal → Option (List (PyVal × PyVal))
  | .dict kvs => some kvs
  | .maplike kvs => some kvs
  | .frozendict kvs => some kvs
  | _ => none

theorem atom_norm (v : PyVal) : v.norm.atom = v.atom := by
  cases v <;> rfl

theorem elems_norm (v : PyVal) : v.norm.elems = v.elems.map normList := by
  cases v <;> rfl

theorem entries_norm (v : PyVal) : v.norm.entries = v.entries.map normKVs := by
  cases v <;> rfl

theorem elems_bind_norm {β : Type} {f : List PyVal → Option β} (hf : ∀ xs, f (normList xs) = f xs)
    (v : PyVal) : v.norm.elems.bind f = v.elems.bind f := by
  rw [elems_norm]
  exact bind_map_of_invariant hf _

theorem entries_bind_norm {β : Type} {f : List (PyVal × PyVal) → Option β}
    (hf : ∀ kvs, f (normKVs kvs) = f kvs) (v : PyVal) : v.norm.entries.bind f = v.entries.bind f := by
  rw [entries_norm]
  exact bind_map_of_invariant hf _

end PyVal

/-- All members are atoms. -/
def atomList : List PyVal → Option (List Atom)
  | [] => some []
  | x :: xs =>
    match x.atom, atomList xs with
    | some a, some as => some (a :: as)
    | _, _ => none

theorem atomList_normList : ∀ xs : List PyVal, atomList (PyVal.normList xs) = atomList xs
  | [] => rfl
  | x :: xs => by
    simp only [PyVal.normList, atomList, PyVal.atom_norm, atomList_normList xs]

/-- `{symbol: state, …}`. -/
def atomRow : List (PyVal × PyVal) → Option (List (Atom × Atom))
  | [] => some []
  | (k, v) :: t =>
    match k.atom, v.atom, atomRow t with
    | some a, some q, some r => some ((a, q) :: r)
    | _, _, _ => none

theorem atomRow_normKVs : ∀ kvs : List (PyVal × PyVal), atomRow (PyVal.normKVs kvs) = atomRow kvs
  | [] => rfl
  | (k, v) :: t => by
    simp only [PyVal.normKVs, atomRow, PyVal.atom_norm, atomRow_normKVs t]

/-- `{state: {symbol: state, …}, …}`. -/
def atomTable : List (PyVal × PyVal) → Option (List (Atom × List (Atom × Atom)))
  | [] => some []
  | (k, v) :: t =>
    match k.atom, v.entries.bind atomRow, atomTable t with
    | some q, some row, some rest => some ((q, row) :: rest)
    | _, _, _ => none

theorem atomTable_normKVs : ∀ kvs : List (PyVal × PyVal), atomTable (PyVal.normKVs kvs) = atomTable kvs
  | [] => rfl
  | (k, v) :: t => by
    simp only [PyVal.normKVs, atomTable, PyVal.atom_norm, PyVal.entries_bind_norm atomRow_normKVs, atomTable_normKVs t]

/-- The abstract value of constructor keyword arguments (`C19_options_kwargs`); the same function as
`Obj.absKw` of Model/Instance.lean (by `rfl`). -/
def normKw (kw : List (String × PyVal)) : List (String × PyVal) := kw.map fun kv => (kv.1, kv.2.norm)

theorem alookup_normKw (name : String) (kw : List (String × PyVal)) :
    alookup name (normKw kw) = (alookup name kw).map PyVal.norm :=
  alookup_map_val PyVal.norm name kw

theorem normKw_storeKwargs (kw : List (String × PyVal)) : normKw (storeKwargs false kw) = normKw kw :=
  Obj.absKw_storeKwargs false kw

theorem bind_alookup_normKw {β : Type} {g : PyVal → Option β} (hg : ∀ v, g v.norm = g v) (name : String)
    (kw : List (String × PyVal)) : (alookup name (normKw kw)).bind g = (alookup name kw).bind g := by
  rw [alookup_normKw]
  exact bind_map_of_invariant hg _

def kwSet (kw : List (String × PyVal)) (name : String) : Option (List Atom) :=
  ((alookup name kw).bind PyVal.elems).bind atomList

def kwAtom (kw : List (String × PyVal)) (name : String) : Option Atom :=
  (alookup name kw).bind PyVal.atom

def kwTable (kw : List (String × PyVal)) (name : String) : Option (List (Atom × List (Atom × Atom))) :=
  ((alookup name kw).bind PyVal.entries).bind atomTable

/-- `allow_partial` (a bool travels as `int`; the parameter defaults to `False`). -/
def kwFlag (kw : List (String × PyVal)) (name : String) : Bool :=
  match alookup name kw with
  | some (.int i) => i != 0
  | _ => false

theorem kwSet_normKw (kw : List (String × PyVal)) (name : String) : kwSet (normKw kw) name = kwSet kw name := by
  unfold kwSet
  rw [Option.bind_assoc, Option.bind_assoc]
  exact bind_alookup_normKw (PyVal.elems_bind_norm atomList_normList) name kw

theorem kwAtom_normKw (kw : List (String × PyVal)) (name : String) : kwAtom (normKw kw) name = kwAtom kw name :=
  bind_alookup_normKw PyVal.atom_norm name kw

theorem kwTable_normKw (kw : List (String × PyVal)) (name : String) :
    kwTable (normKw kw) name = kwTable kw name := by
  unfold kwTable
  rw [Option.bind_assoc, Option.bind_assoc]
  exact bind_alookup_normKw (PyVal.entries_bind_norm atomTable_normKVs) name kw

theorem kwFlag_normKw (kw : List (String × PyVal)) (name : String) : kwFlag (normKw kw) name = kwFlag kw name := by
  unfold kwFlag
  rw [alookup_normKw]
  cases alookup name kw with
  | none => rfl
  | some v => cases v <;> rfl

/-- `DFA(states=…, input_symbols=…, transitions=…, initial_state=…, final_states=…,
allow_partial=…)` as the typed definition the validate model reads. -/
def decodeDFA (kw : List (String × PyVal)) : Option (DFA Atom Atom) :=
  match kwSet kw "states", kwSet kw "input_symbols", kwTable kw "transitions", kwAtom kw "initial_state",
      kwSet kw "final_states" with
  | some st, some sy, some tr, some q0, some fs =>
    some { states := st, syms := sy, trans := tr, init := q0, finals := fs,
           allowPartial := kwFlag kw "allow_partial" }
  | _, _, _, _, _ => none

theorem decodeDFA_normKw (kw : List (String × PyVal)) : decodeDFA (normKw kw) = decodeDFA kw := by
  unfold decodeDFA
  simp only [kwSet_normKw, kwTable_normKw, kwAtom_normKw, kwFlag_normKw]

theorem decodeDFA_storeKwargs (kw : List (String × PyVal)) : decodeDFA (storeKwargs false kw) = decodeDFA kw := by
  rw [← decodeDFA_normKw, normKw_storeKwargs, decodeDFA_normKw]

/-- The interpretation of atoms: `None` is the `other` object with tag 0 (as the harness sends
it), the empty string is `str ""`. -/
def Reserved.atoms : Reserved Atom Atom := ⟨fun a => a == .other 0, fun a => a == .str ""⟩

/-- `DFA.validate` on keyword arguments: decode, then validate (a definition outside the
decoder's domain is a `TypeError` of the model). -/
def validateDFAKwargs (kw : List (String × PyVal)) : Res Unit :=
  match decodeDFA kw with
  | some d => DFA.validateDef Reserved.atoms d
  | none => .error (.py .typeError)

end AV.VA
