/-
Proofs/Random.lean — `random_word` (Model/DFAQuery.lean): the count-weighted choice of an
edge, the count recurrence, and the contract of `randint` along a run (core only).
-/
import AutomataVerif.Proofs.Query

namespace AV
namespace DFA

variable {σ α : Type} [DecidableEq σ] [DecidableEq α]

/-- `cnt r q` of a fresh object after population: `_count_cache[r][q]`; by definition
`countWordsOfLength k = cnt k init` (`countWordsOfLength_eq_cnt`), and statements about the
former are used for the latter without a rewrite. -/
def cnt (d : DFA σ α) (r : Nat) (q : σ) : Nat := cget (d.countLevel r) q

omit [DecidableEq α] in
theorem countWordsOfLength_eq_cnt (d : DFA σ α) (k : Nat) : d.countWordsOfLength k = d.cnt k d.init :=
  rfl

omit [DecidableEq α] in
theorem randomWord_eq (d : DFA σ α) (k : Nat) (cs : List Nat) :
    d.randomWord k cs = d.randomWordCore d.cnt k cs := rfl

omit [DecidableEq α] in
theorem randomWord_of_cnt_zero {d : DFA σ α} {k : Nat} (h : d.cnt k d.init = 0) (cs : List Nat) :
    d.randomWord k cs = .error (.py .valueError) := by
  rw [randomWord_eq, randomWordCore]
  simp only [decide_eq_true h]

def weight (c : σ → Nat) (row : List (α × σ)) : Nat := ((avals row).map c).sum

set_option linter.unusedSectionVars false in
@[simp] theorem weight_nil (c : σ → Nat) : weight c ([] : List (α × σ)) = 0 := rfl
section
omit [DecidableEq σ] [DecidableEq α]

@[simp] theorem weight_cons (c : σ → Nat) (e : α × σ) (row : List (α × σ)) :
    weight c (e :: row) = c e.2 + weight c row := by
  simp [weight, avals]

theorem weight_append (c : σ → Nat) (l r : List (α × σ)) :
    weight c (l ++ r) = weight c l + weight c r := by
  induction l with
  | nil => simp
  | cons e l ih => simp [ih, Nat.add_assoc]

theorem pickEdge_mem {c : σ → Nat} {row : List (α × σ)} {n : Nat} {e : α × σ}
    (h : pickEdge c row n = some e) : e ∈ row := by
  induction row generalizing n with
  | nil => simp [pickEdge] at h
  | cons x row ih =>
    obtain ⟨a, t⟩ := x
    unfold pickEdge at h
    cases hd : decide (n < c t) with
    | true => simp [hd] at h; subst h; exact List.mem_cons_self
    | false => simp [hd] at h; exact List.mem_cons_of_mem _ (ih h)

theorem pickEdge_eq_some_iff (c : σ → Nat) (pre post : List (α × σ)) (e : α × σ)
    (hpre : e ∉ pre) (hpost : e ∉ post) (n : Nat) :
    pickEdge c (pre ++ e :: post) n = some e ↔ weight c pre ≤ n ∧ n < weight c pre + c e.2 := by
  induction pre generalizing n with
  | nil =>
    obtain ⟨a, t⟩ := e
    simp only [List.nil_append, weight_nil, Nat.zero_le, true_and, Nat.zero_add]
    unfold pickEdge
    by_cases hn : n < c t
    · simp [hn]
    · simp only [hn, decide_false]
      constructor
      · intro h; exact absurd (pickEdge_mem h) hpost
      · intro h; first | exact absurd h hn | exact h.elim
  | cons x pre ih =>
    obtain ⟨a, t⟩ := x
    have hne : (a, t) ≠ e := fun h => hpre (h ▸ List.mem_cons_self)
    have hpre' : e ∉ pre := fun h => hpre (List.mem_cons_of_mem _ h)
    simp only [List.cons_append, weight_cons]
    unfold pickEdge
    by_cases hn : n < c t
    · simp only [hn, decide_true]
      constructor
      · intro h; exact absurd (Option.some.inj h) hne
      · intro h; omega
    · simp only [hn, decide_false]
      rw [ih hpre' (n - c t)]
      omega

theorem pickEdge_lt_weight {c : σ → Nat} {row : List (α × σ)} {n : Nat} (h : n < weight c row) :
    ∃ e, pickEdge c row n = some e ∧ 0 < c e.2 := by
  induction row generalizing n with
  | nil => simp at h
  | cons x row ih =>
    obtain ⟨a, t⟩ := x
    unfold pickEdge
    by_cases hn : n < c t
    · exact ⟨(a, t), by simp [hn], Nat.lt_of_le_of_lt (Nat.zero_le n) hn⟩
    · simp only [hn, decide_false]
      apply ih
      simp only [weight_cons] at h
      omega

theorem pickEdge_none_of_ge {c : σ → Nat} {row : List (α × σ)} {n : Nat} (h : weight c row ≤ n) :
    pickEdge c row n = none := by
  induction row generalizing n with
  | nil => rfl
  | cons x row ih =>
    obtain ⟨a, t⟩ := x
    simp only [weight_cons] at h
    unfold pickEdge
    have : ¬ n < c t := by omega
    simp only [this, decide_false]
    exact ih (by omega)

end

omit [DecidableEq α] in
theorem pickEdge_state {d : DFA σ α} (wf : d.WF) {c : σ → Nat} {q : σ} {n : Nat} {e : α × σ}
    (h : pickEdge c (d.row q) n = some e) : e.2 ∈ d.states :=
  (row_entry wf (pickEdge_mem h)).2

omit [DecidableEq α] in
theorem cnt_succ (d : DFA σ α) (r : Nat) (q : σ) :
    d.cnt (r + 1) q = if q ∈ d.states then weight (d.cnt r) (d.row q) else 0 :=
  cget_countLevel_succ d r q

omit [DecidableEq α] in
theorem cnt_zero (d : DFA σ α) (q : σ) : d.cnt 0 q = if q ∈ d.finals then 1 else 0 :=
  cget_countLevel_zero d q

theorem cnt_pos_iff {d : DFA σ α} (wf : d.WF) (hd : d.IsDict) (k : Nat) {q : σ} (hq : q ∈ d.states) :
    0 < d.cnt k q ↔ ∃ w : List α, w.length = k ∧ d.acceptsFrom q w = true := by
  unfold cnt
  rw [cget_countLevel_eq_length hd (fun _ => 0), List.length_pos_iff_exists_mem]
  exact exists_congr fun w => mem_wordLevel wf _ k q w hq

omit [DecidableEq α] in
theorem randomWordLoop_congr (d : DFA σ α) {c1 c2 : Nat → σ → Nat} :
    ∀ (r : Nat) (q : σ) (cs : List Nat) (acc : List α), (∀ r' ≤ r, c1 r' = c2 r') →
      d.randomWordLoop c1 r q cs acc = d.randomWordLoop c2 r q cs acc := by
  intro r
  induction r with
  | zero => intro q cs acc _; rfl
  | succ r ih =>
    intro q cs acc h
    unfold randomWordLoop
    rw [h (r + 1) (Nat.le_refl _), h r (Nat.le_succ r)]
    cases decide (c2 (r + 1) q = 0) with
    | true => rfl
    | false =>
      simp only
      have ih' := fun q cs acc => ih q cs acc (fun r' hr => h r' (Nat.le_succ_of_le hr))
      cases pickEdge (c2 r) (d.row q) (cs.headD 0) with
      | none => exact ih' _ _ _
      | some e => exact ih' _ _ _

omit [DecidableEq α] in
theorem randomWordCore_congr (d : DFA σ α) {c1 c2 : Nat → σ → Nat} (k : Nat) (cs : List Nat)
    (h : ∀ r' ≤ k, c1 r' = c2 r') : d.randomWordCore c1 k cs = d.randomWordCore c2 k cs := by
  unfold randomWordCore
  rw [h k (Nat.le_refl k), randomWordLoop_congr d k d.init cs [] h]

/-- The outcomes `cs` respect the contract of `randint(0, total - 1)` along the run: each is
below the `total` of its step. -/
def InRange (d : DFA σ α) : Nat → σ → List Nat → Prop
  | 0, _, _ => True
  | r + 1, q, cs =>
    cs.headD 0 < d.cnt (r + 1) q ∧
      match pickEdge (d.cnt r) (d.row q) (cs.headD 0) with
      | some e => InRange d r e.2 cs.tail
      | none => True

instance InRange.decidable (d : DFA σ α) :
    ∀ (r : Nat) (q : σ) (cs : List Nat), Decidable (d.InRange r q cs)
  | 0, _, _ => isTrue trivial
  | r + 1, q, cs =>
    match h : pickEdge (d.cnt r) (d.row q) (cs.headD 0) with
    | some e =>
      match InRange.decidable d r e.2 cs.tail, Nat.decLt (cs.headD 0) (d.cnt (r + 1) q) with
      | isTrue h1, isTrue h2 => isTrue (by simp only [InRange, h]; exact ⟨h2, h1⟩)
      | isFalse h1, _ => isFalse (by simp only [InRange, h]; exact fun hh => h1 hh.2)
      | _, isFalse h2 => isFalse (by simp only [InRange]; exact fun hh => h2 hh.1)
    | none =>
      match Nat.decLt (cs.headD 0) (d.cnt (r + 1) q) with
      | isTrue h2 => isTrue (by simp only [InRange, h]; exact ⟨h2, trivial⟩)
      | isFalse h2 => isFalse (by simp only [InRange]; exact fun hh => h2 hh.1)

end DFA
end AV
