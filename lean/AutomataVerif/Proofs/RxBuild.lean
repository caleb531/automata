/-
Proofs/RxBuild.lean — the builder run of a whole expression tree: it never fails, the result
satisfies the builder invariant, and its language is the denotation of the tree.
-/
import AutomataVerif.Proofs.RxDen

namespace AV.Rx

variable {α : Type} [DecidableEq α]

open Builder

theorem build_spec (syms : List α) (e : Rx α) {S : α → Prop} (hs : ∀ x ∈ syms, S x)
    (hl : ∀ a ∈ e.lits, S a) :
    ∀ c, ∃ b c', e.build syms c = .ok (b, c') ∧ Built S (· ∈ den syms e) c b c' := by
  have inl : ∀ {l1 l2 : List α}, (∀ a ∈ l1 ++ l2, S a) → ∀ a ∈ l1, S a :=
    fun h a ha => h a (List.mem_append_left _ ha)
  have inr : ∀ {l1 l2 : List α}, (∀ a ∈ l1 ++ l2, S a) → ∀ a ∈ l2, S a :=
    fun h a ha => h a (List.mem_append_right _ ha)
  -- every repetition operator is `repeat` with its bounds
  have rep : ∀ {e : Rx α} {b1 c c1} {lo hi} {L' : Language α},
      Built S (· ∈ den syms e) c b1 c1 → (∀ w, RepDen (· ∈ den syms e) lo hi w ↔ w ∈ L') →
      ∃ r c', b1.repeat_ lo hi c1 = .ok (r, c') ∧ Built S (· ∈ L') c r c' := fun g h =>
    let ⟨r, c', hr, g'⟩ := g.repeat_ _ _; ⟨r, c', hr, g'.congr h⟩
  induction e with
  | lit a =>
    exact fun c => ⟨_, _, rfl, (Built.lit a c).mono fun x hx => hx ▸ hl a (List.mem_singleton.mpr rfl)⟩
  | wildcard => exact fun c => ⟨_, _, rfl, (Built.wildcard syms c).mono hs⟩
  | eps => exact fun c => ⟨_, _, rfl, Built.eps _ c⟩
  | cat e f ihe ihf =>
    intro c
    obtain ⟨b1, c1, h1, g1⟩ := ihe (inl hl) c
    obtain ⟨b2, c2, h2, g2⟩ := ihf (inr hl) c1
    obtain ⟨b, hb, g⟩ := g1.concatenate g2
    exact ⟨b, c2, by simp only [Rx.build, h1, h2, hb], g.congr (EpsOps.LCat_iff _ _)⟩
  | union e f ihe ihf =>
    intro c
    obtain ⟨b1, c1, h1, g1⟩ := ihe (inl hl) c
    obtain ⟨b2, c2, h2, g2⟩ := ihf (inr hl) c1
    exact ⟨_, _, by simp only [Rx.build, h1, h2]; rfl, g1.union g2⟩
  | inter e f ihe ihf =>
    intro c
    obtain ⟨b1, c1, h1, g1⟩ := ihe (inl hl) c
    obtain ⟨b2, c2, h2, g2⟩ := ihf (inr hl) c1
    exact ⟨_, _, by simp only [Rx.build, h1, h2], g1.intersection g2⟩
  | shuffle e f ihe ihf =>
    intro c
    obtain ⟨b1, c1, h1, g1⟩ := ihe (inl hl) c
    obtain ⟨b2, c2, h2, g2⟩ := ihf (inr hl) c1
    exact ⟨_, _, by simp only [Rx.build, h1, h2], (g1.shuffle g2).congr (LShuffle_iff _ _)⟩
  | star e ihe =>
    intro c
    obtain ⟨b1, c1, h1, g1⟩ := ihe hl c
    obtain ⟨r, c', hr, g⟩ := rep g1 (RepDen_star _)
    exact ⟨r, c', by simp only [Rx.build, h1, hr], g⟩
  | plus e ihe =>
    intro c
    obtain ⟨b1, c1, h1, g1⟩ := ihe hl c
    obtain ⟨r, c', hr, g⟩ := rep g1 (RepDen_plus _)
    exact ⟨r, c', by simp only [Rx.build, h1, hr], g⟩
  | opt e ihe =>
    intro c
    obtain ⟨b1, c1, h1, g1⟩ := ihe hl c
    obtain ⟨r, c', hr, g⟩ := rep g1 (RepDen_opt _)
    exact ⟨r, c', by simp only [Rx.build, h1, hr], g⟩
  | rep e lo hi ihe =>
    intro c
    obtain ⟨b1, c1, h1, g1⟩ := ihe hl c
    obtain ⟨r, c', hr, g⟩ : ∃ r c', b1.repeat_ lo hi c1 = .ok (r, c') ∧
        Built S (· ∈ den syms (.rep e lo hi)) c r c' := by
      cases hi with
      | none => exact rep g1 (RepDen_none_iff _ lo)
      | some h0 => exact rep g1 (RepDen_some_iff _ lo h0)
    exact ⟨r, c', by simp only [Rx.build, h1, hr], g⟩

end AV.Rx
