/-
Proofs/CompareFinite.lean — `isfinite` / `maximum_word_length` of Model/DFACompare.lean (core only).

The trimmed graph `importantNodes` with `succStates` filtered by it is a `Trim` (Proofs/MaxLen.lean),
and `walkLevel` is `walkLevels`: `isfinite` answers `True` iff the language is empty or the trimmed
graph has no walk with `|V|` edges, i.e. (`Trim.cyclic_iff`) iff the accepted words have bounded length.
The `Set.Finite` form is in Props/C06.lean (it needs Mathlib: Proofs/FiniteWords.lean).
-/
import AutomataVerif.Proofs.Compare
import AutomataVerif.Proofs.MinPrepass
import AutomataVerif.Proofs.MaxLen

namespace AV
namespace DFA

variable {σ α : Type} [DecidableEq σ] [DecidableEq α]

omit [DecidableEq α] in
theorem mem_importantNodes_iff (d : DFA σ α) (wf : d.WF) (pd : d.PyShape) {q : σ} :
    q ∈ d.importantNodes ↔
      Reach d.succStates d.init q ∧ ∃ f ∈ d.finals, Reach d.succStates q f := by
  unfold importantNodes
  rw [List.mem_filter, decide_eq_true_eq, mem_accessible_iff wf, mem_coaccessible_iff_reach d wf pd]

/-- A path of the transition graph whose vertices (end points included) all lie in `S`,
together with the word it reads. -/
inductive VPath (d : DFA σ α) (S : List σ) : σ → List α → σ → Prop
  | nil {q : σ} : q ∈ S → VPath d S q [] q
  | cons {q t r : σ} {a : α} {w : List α} : q ∈ S → d.step? (some q) a = some t →
      VPath d S t w r → VPath d S q (a :: w) r

namespace VPath
variable {d : DFA σ α} {S S' : List σ}

theorem tgt_mem {q r : σ} {w : List α} (p : VPath d S q w r) : r ∈ S := by
  induction p with
  | nil hq => exact hq
  | cons _ _ _ ih => exact ih

theorem append {q r s : σ} {u v : List α} (p₁ : VPath d S q u r) (p₂ : VPath d S r v s) :
    VPath d S q (u ++ v) s := by
  induction p₁ with
  | nil _ => exact p₂
  | cons hq hs _ ih => exact .cons hq hs (ih p₂)

end VPath

omit [DecidableEq α] in
theorem walkLevel_eq (succ : σ → List σ) (V : List σ) : ∀ k, walkLevel succ V k = walkLevels succ V k
  | 0 => rfl
  | k + 1 => by simp only [walkLevel, walkLevels, walkLevel_eq succ V k]

omit [DecidableEq α] in
theorem trim_importantNodes (d : DFA σ α) (wf : d.WF) (pd : d.PyShape) :
    Trim d (fun q => (d.succStates q).filter fun t => decide (t ∈ d.importantNodes)) d.importantNodes where
  mem v := by
    rw [mem_importantNodes_iff d wf pd]
    exact and_congr reach_iff_pathLen (exists_congr fun f => and_congr_right fun _ => reach_iff_pathLen)
  edge v _ u hu := by simp only [List.mem_filter, hu, decide_true, and_true]; rfl

theorem longestPath_isSome_iff (succ : σ → List σ) (V : List σ) :
    (longestPath succ V).isSome = true ↔ walkLevel succ V V.length = [] := by
  unfold longestPath
  cases h : walkLevel succ V V.length <;> simp

theorem isfinite_iff_not_unbounded (d : DFA σ α) (hv : d.validate = .ok ()) (pd : d.PyShape) :
    d.isfinite = true ↔ ¬ ∀ N, ∃ w : List α, N ≤ w.length ∧ d.accepts w = true := by
  have T := trim_importantNodes d ((DFA.validate_eq_ok d).mp hv) pd
  unfold isfinite maxWordLength
  cases he : d.isempty with
  | true =>
    refine iff_of_true rfl fun h => ?_
    obtain ⟨w, _, hw⟩ := h 0
    rw [(isempty_iff d hv pd).mp he w] at hw
    cases hw
  | false =>
    refine (longestPath_isSome_iff _ _).trans ?_
    rw [walkLevel_eq]
    exact Classical.not_not.symm.trans (not_congr (T.cyclic_iff ⟨pd.keys_nodup, pd.rows_nodup⟩))

end DFA
end AV
