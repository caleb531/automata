/-
Proofs/GnfaElim.lean — the state-elimination lemma on language-labelled graphs:
ripping a state `q` (`GnfaSpec.rip`) preserves the labels of all paths between states other
than `q` (`GLang_rip`); a graph whose only edge is initial → final has the language of that edge
(`GLang_single`).
-/
import AutomataVerif.Spec.GnfaRx

namespace AV.GnfaSpec
open Language

variable {σ α : Type}

section
variable [DecidableEq σ]

set_option linter.unusedSectionVars false in
theorem Walk.append {Lb : σ → σ → Language α} {p q r : σ} {u v : List α}
    (h₁ : Walk Lb p q u) (h₂ : Walk Lb q r v) : Walk Lb p r (u ++ v) := by
  induction h₁ with
  | nil => simpa using h₂
  | cons hu _ ih => rw [List.append_assoc]; exact Walk.cons hu (ih h₂)

set_option linter.unusedSectionVars false in
theorem Walk.single {Lb : σ → σ → Language α} {p q : σ} {u : List α} (h : u ∈ Lb p q) :
    Walk Lb p q u := by
  have := Walk.cons h (Walk.nil q)
  simpa using this

end

/-- Two edge labellings that agree on the edges leaving a set closed under the edges of one of
them have the same walks from that set. -/
theorem Walk.congr_on {Lb Lb' : σ → σ → Language α} {S : σ → Prop}
    (hS : ∀ p, S p → ∀ r u, u ∈ Lb p r → S r) (h : ∀ p, S p → ∀ r, Lb' p r = Lb p r)
    {p r : σ} {w : List α} (hp : S p) : Walk Lb' p r w ↔ Walk Lb p r w := by
  constructor <;> intro hw
  · induction hw with
    | nil p => exact .nil p
    | cons hu _ ih => rw [h _ hp] at hu; exact .cons hu (ih (hS _ hp _ _ hu))
  · induction hw with
    | nil p => exact .nil p
    | cons hu _ ih => exact .cons (h _ hp _ ▸ hu) (ih (hS _ hp _ _ hu))

theorem Walk.loop {Lb : σ → σ → Language α} {q : σ} {b : List α} (hb : b ∈ KStar.kstar (Lb q q)) :
    Walk Lb q q b := by
  rw [Language.mem_kstar] at hb
  obtain ⟨L, rfl, hL⟩ := hb
  induction L with
  | nil => exact Walk.nil q
  | cons x L ih =>
    rw [List.flatten_cons]
    exact Walk.cons (hL x (by simp)) (ih fun y hy => hL y (by simp [hy]))

theorem kstar_cons_mem {l : Language α} {x y : List α} (hx : x ∈ l) (hy : y ∈ KStar.kstar l) :
    x ++ y ∈ KStar.kstar l :=
  (mul_kstar_le_kstar : l * KStar.kstar l ≤ KStar.kstar l) (Language.append_mem_mul hx hy)

variable [DecidableEq σ]

theorem rip_apply {Lb : σ → σ → Language α} {q i j : σ} (hi : i ≠ q) (hj : j ≠ q) :
    rip Lb q i j = Lb i j + Lb i q * KStar.kstar (Lb q q) * Lb q j :=
  if_neg (not_or.mpr ⟨hi, hj⟩)

theorem walk_of_rip {Lb : σ → σ → Language α} {q : σ} {i j : σ} {w : List α}
    (h : Walk (rip Lb q) i j w) : Walk Lb i j w := by
  induction h with
  | nil p => exact Walk.nil p
  | @cons p m r u v hu _ ih =>
    by_cases hq : p = q ∨ m = q
    · rw [rip, if_pos hq] at hu
      exact absurd hu (Language.notMem_zero u)
    · rw [rip_apply (not_or.mp hq).1 (not_or.mp hq).2] at hu
      rcases (Language.mem_add _ _ _).mp hu with hu | hu
      · exact Walk.cons hu ih
      · rw [Language.mem_mul] at hu
        obtain ⟨ab, hab, c, hc, rfl⟩ := hu
        rw [Language.mem_mul] at hab
        obtain ⟨a, ha, b, hb, rfl⟩ := hab
        have := ((Walk.single ha).append ((Walk.loop hb).append (Walk.single hc))).append ih
        simpa [List.append_assoc] using this

/-- (⊆) a path of the original graph that ends outside `q`: if it starts outside `q` it is a
path of the ripped graph; if it starts at `q` it leaves `q` after some loops to a state `k`
from which the rest is a path of the ripped graph. -/
theorem rip_of_walk_aux {Lb : σ → σ → Language α} {q : σ} {p j : σ} {w : List α}
    (h : Walk Lb p j w) (hj : j ≠ q) :
    (p ≠ q → Walk (rip Lb q) p j w) ∧
    (p = q → ∃ u v k, w = u ++ v ∧ k ≠ q ∧ u ∈ KStar.kstar (Lb q q) * Lb q k ∧
      Walk (rip Lb q) k j v) := by
  induction h with
  | nil p => exact ⟨fun _ => Walk.nil p, fun h => absurd h hj⟩
  | @cons p m r u v hu _ ih =>
    obtain ⟨ih1, ih2⟩ := ih hj
    constructor
    · intro hp
      by_cases hm : m = q
      · obtain ⟨u', v', k, rfl, hk, hu', hw⟩ := ih2 hm
        subst hm
        rw [← List.append_assoc]
        refine Walk.cons ?_ hw
        rw [rip_apply hp hk]
        refine (Language.mem_add _ _ _).mpr (Or.inr ?_)
        rw [Language.mem_mul] at hu'
        obtain ⟨b, hb, c, hc, rfl⟩ := hu'
        rw [← List.append_assoc]
        exact Language.append_mem_mul (Language.append_mem_mul hu hb) hc
      · refine Walk.cons ?_ (ih1 hm)
        rw [rip_apply hp hm]
        exact (Language.mem_add _ _ _).mpr (Or.inl hu)
    · intro hp
      subst hp
      by_cases hm : m = p
      · obtain ⟨u', v', k, rfl, hk, hu', hw⟩ := ih2 hm
        subst hm
        refine ⟨u ++ u', v', k, by simp, hk, ?_, hw⟩
        rw [Language.mem_mul] at hu' ⊢
        obtain ⟨b, hb, c, hc, rfl⟩ := hu'
        exact ⟨u ++ b, kstar_cons_mem hu hb, c, hc, by simp⟩
      · refine ⟨u, v, m, rfl, hm, ?_, ih1 hm⟩
        rw [Language.mem_mul]
        exact ⟨[], Language.nil_mem_kstar _, u, hu, by simp⟩

theorem walk_rip_iff (Lb : σ → σ → Language α) {q i j : σ} (hi : i ≠ q) (hj : j ≠ q)
    (w : List α) : Walk (rip Lb q) i j w ↔ Walk Lb i j w :=
  ⟨walk_of_rip, fun h => (rip_of_walk_aux h hj).1 hi⟩

theorem GLang_rip (Lb : σ → σ → Language α) {q init final : σ} (hi : init ≠ q) (hf : final ≠ q) :
    GLang (rip Lb q) init final = GLang Lb init final := by
  ext w
  exact walk_rip_iff Lb hi hf w

theorem GLang_single {Lb : σ → σ → Language α} {init final : σ} (hne : init ≠ final)
    (h0 : ∀ p r, ¬ (p = init ∧ r = final) → Lb p r = 0) : GLang Lb init final = Lb init final := by
  ext w
  refine ⟨fun hw => ?_, Walk.single⟩
  cases (hw : Walk Lb init final w) with
  | nil => exact absurd rfl hne
  | @cons _ m _ u v hu hrest =>
    by_cases hm : m = final
    · subst hm
      cases hrest with
      | nil => simpa using hu
      | @cons _ m' _ u' v' hu' _ =>
        rw [h0 m m' (fun h => hne h.1.symm)] at hu'
        exact absurd hu' (Language.notMem_zero _)
    · rw [h0 init m (fun h => hm h.2)] at hu
      exact absurd hu (Language.notMem_zero _)

end AV.GnfaSpec
