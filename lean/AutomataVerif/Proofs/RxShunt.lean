/-
Proofs/RxShunt.lean — parser correctness:

1. `add_concat_and_empty_string_tokens` commutes with the constructions of the grammar `G`: one
   `ConcatToken` at each juxtaposition, `""` inside `()`, nothing else — the pair table is the
   regenerated one;
2. `tokens_to_postfix` (shunting-yard) maps the result, for a phrase with tree `e`, to the postfix
   linearisation of `e` (invariant `Shunts`, a form of the one in DESIGN.md Appendix B: while a
   level-`n` phrase is processed the operators it leaves pending on the stack have precedence
   ≥ `n`, and nothing below them is touched) — the precedences are the regenerated ones.
Core only.
-/
import AutomataVerif.Proofs.RxGrammar

namespace AV.Rx

variable {α : Type}

def mapOut (pre : List (Tok α)) : Res (List (Tok α)) → Res (List (Tok α))
  | .error e => .error e
  | .ok out => .ok (pre ++ out)

@[simp] theorem mapOut_nil (r : Res (List (Tok α))) : mapOut [] r = r := by
  cases r <;> rfl

theorem mapOut_mapOut (a b : List (Tok α)) (r : Res (List (Tok α))) :
    mapOut a (mapOut b r) = mapOut (a ++ b) r := by
  cases r <;> simp [mapOut]

/-- A level numbered by the precedence of the operators it is built with (`prec_*`: `| & ^` 1,
concatenation 2, postfix 3); atoms are built with none and get a number above all of them. -/
def lvlNum : Lvl → Nat
  | .E => 1
  | .T => 2
  | .F => 3
  | .A => 4

/-- The top of the stack is a `(` or an operator of precedence `< n` (or the stack is empty):
a phrase of level `n` will never pop it. -/
def OpenLt (n : Nat) : List (Tok α) → Prop
  | [] => True
  | t :: _ => t.base = .lparen ∨ ∃ p, t.prec = some p ∧ p < n

/-- Pending operators of a phrase of level `n`: no parenthesis, precedences ≥ `n`. -/
def PendGe (n : Nat) (P : List (Tok α)) : Prop :=
  ∀ t ∈ P, t.base ≠ .lparen ∧ ∃ p, t.prec = some p ∧ n ≤ p

theorem OpenLt.mono {n m : Nat} (h : n ≤ m) {S : List (Tok α)} (hS : OpenLt n S) : OpenLt m S := by
  cases S with
  | nil => trivial
  | cons t st =>
    rcases hS with h1 | ⟨p, h1, h2⟩
    · exact Or.inl h1
    · exact Or.inr ⟨p, h1, by omega⟩

theorem PendGe.mono {n m : Nat} (h : n ≤ m) {P : List (Tok α)} (hP : PendGe m P) : PendGe n P := by
  intro t ht
  obtain ⟨h1, p, h2, h3⟩ := hP t ht
  exact ⟨h1, p, h2, by omega⟩

theorem literal_step {t : Tok α} (h : t.base = .literal) (ts S : List (Tok α)) :
    toPostfixAux (t :: ts) S = mapOut [t] (toPostfixAux ts S) := by
  rw [toPostfixAux]
  simp only [h, beq_self_eq_true, if_true]
  cases toPostfixAux ts S <;> rfl

theorem lparen_step {t : Tok α} (h : t.base = .lparen) (ts S : List (Tok α)) :
    toPostfixAux (t :: ts) S = toPostfixAux ts (t :: S) := by
  rw [toPostfixAux]
  simp [h]

theorem popToLParen_pend {P : List (Tok α)} (hP : ∀ t ∈ P, t.base ≠ .lparen) {l : Tok α}
    (hl : l.base = .lparen) (S : List (Tok α)) : popToLParen (P ++ l :: S) = .ok (P, S) := by
  induction P with
  | nil => simp [popToLParen, hl]
  | cons t P ih =>
    have ht := hP t (by simp)
    simp only [List.cons_append, popToLParen]
    have : (t.base == Base.lparen) = false := by simpa using ht
    simp only [this]
    rw [ih (fun t' h' => hP t' (List.mem_cons_of_mem _ h'))]
    simp

theorem rparen_step {r : Tok α} (hr : r.base = .rparen) {P : List (Tok α)}
    (hP : ∀ t ∈ P, t.base ≠ .lparen) {l : Tok α} (hl : l.base = .lparen) (ts S : List (Tok α)) :
    toPostfixAux (r :: ts) (P ++ l :: S) = mapOut P (toPostfixAux ts S) := by
  rw [toPostfixAux]
  simp only [hr, popToLParen_pend hP hl]
  cases toPostfixAux ts S <;> simp [mapOut]

/-- The top of a stack that a level-`m` operator `c` must leave alone: a `(`, or an operator that
`comp_precedence(c, ·)` rejects. -/
theorem keeps_of_openLt {c t : Tok α} {m : Nat} (hc : c.prec = some m) {st : List (Tok α)}
    (hS : OpenLt m (t :: st)) :
    (t.base == Base.lparen) = true ∨ ((t.base == Base.lparen) = false ∧ compPrec c t = .ok false) := by
  by_cases hl : t.base = .lparen
  · exact .inl (by simp [hl])
  · rcases hS with h1 | ⟨p, h1, h2⟩
    · exact absurd h1 hl
    · exact .inr ⟨by simpa using hl, by simp [compPrec, hc, h1, Nat.not_le.mpr h2]⟩

theorem pops_of_pendGe {c t : Tok α} {m : Nat} (hc : c.prec = some m) {P : List (Tok α)}
    (hP : PendGe m (t :: P)) : (t.base == Base.lparen) = false ∧ compPrec c t = .ok true := by
  obtain ⟨h1, p, h2, h3⟩ := hP t (by simp)
  exact ⟨by simpa using h1, by simp [compPrec, hc, h2, h3]⟩

theorem popWhilePrec_pend {c : Tok α} {m : Nat} (hc : c.prec = some m) {P : List (Tok α)}
    (hP : PendGe m P) {S : List (Tok α)} (hS : OpenLt m S) :
    popWhilePrec c (P ++ S) = .ok (P, S) := by
  induction P with
  | nil =>
    cases S with
    | nil => rfl
    | cons t st => rcases keeps_of_openLt hc hS with h | ⟨h, h'⟩ <;> simp [popWhilePrec, *]
  | cons t P ih =>
    obtain ⟨h, h'⟩ := pops_of_pendGe hc hP
    simp only [List.cons_append, popWhilePrec, h, h',
      ih (fun t' ht' => hP t' (List.mem_cons_of_mem _ ht'))]
    simp

theorem op_step {c : Tok α} (hb : c.base = .infixOp ∨ c.base = .postfixOp) {m : Nat}
    (hc : c.prec = some m) {P : List (Tok α)} (hP : PendGe m P) {S : List (Tok α)}
    (hS : OpenLt m S) (ts : List (Tok α)) :
    toPostfixAux (c :: ts) (P ++ S) = mapOut P (toPostfixAux ts (c :: S)) := by
  have hb1 : (c.base == Base.literal) = false := by rcases hb with h | h <;> simp [h]
  have hb2 : (c.base == Base.rparen) = false := by rcases hb with h | h <;> simp [h]
  have hb3 : (c.base == Base.lparen) = false := by rcases hb with h | h <;> simp [h]
  rw [toPostfixAux]
  simp only [hb1, hb2, hb3]
  cases P with
  | nil =>
    cases S with
    | nil => simp [pushDirectly]
    | cons t st => rcases keeps_of_openLt hc hS with h | ⟨h, h'⟩ <;> simp [pushDirectly, *]
  | cons t P' =>
    obtain ⟨h, h'⟩ := pops_of_pendGe hc hP
    have hpd : pushDirectly c ((t :: P') ++ S) = .ok false := by simp [pushDirectly, h, h']
    simp only [hpd, popWhilePrec_pend hc hP hS]
    cases toPostfixAux ts (c :: S) <;> simp [mapOut]

/-- The invariant: from any stack whose top a level-`n` phrase never pops, reading `ts`
emits `Out` and leaves `Pend` on top of the untouched stack, with `Out ++ Pend = pf`. -/
def Shunts (n : Nat) (pf ts : List (Tok α)) : Prop :=
  ∀ (S rest : List (Tok α)), OpenLt n S →
    ∃ Out Pend, PendGe n Pend ∧ Out ++ Pend = pf ∧
      toPostfixAux (ts ++ rest) S = mapOut Out (toPostfixAux rest (Pend ++ S))

theorem Shunts.mono {n m : Nat} (h : n ≤ m) {pf ts : List (Tok α)} (hs : Shunts m pf ts) :
    Shunts n pf ts := fun S rest hS =>
  let ⟨Out, Pend, hP, hOut, hrun⟩ := hs S rest (hS.mono h)
  ⟨Out, Pend, hP.mono h, hOut, hrun⟩

theorem Shunts.literal {t : Tok α} (ht : t.base = .literal) (n : Nat) : Shunts n [t] [t] :=
  fun _ _ _ => ⟨[t], [], fun _ h => (nomatch h), rfl, literal_step ht _ _⟩

theorem Shunts.paren {n m : Nat} {pf ts : List (Tok α)} (hs : Shunts n pf ts) :
    Shunts m pf (.lparen :: ts ++ [.rparen]) := by
  intro S rest _
  obtain ⟨Out, Pend, hP, hOut, hrun⟩ := hs (.lparen :: S) (.rparen :: rest) (.inl (by simp))
  refine ⟨pf, [], fun _ h => (nomatch h), List.append_nil _, ?_⟩
  rw [List.append_assoc, List.cons_append, List.singleton_append, lparen_step (by simp), hrun,
    rparen_step (by simp) (fun t ht => (hP t ht).1) (by simp), mapOut_mapOut, hOut]
  rfl

theorem Shunts.postfix {c : Tok α} (hb : c.base = .postfixOp) {m : Nat} (hc : c.prec = some m)
    {pf ts : List (Tok α)} (hs : Shunts m pf ts) : Shunts m (pf ++ [c]) (ts ++ [c]) := by
  intro S rest hS
  obtain ⟨Out, Pend, hP, hOut, hrun⟩ := hs S (c :: rest) hS
  refine ⟨Out ++ Pend, [c], ?_, by rw [hOut], ?_⟩
  · intro t ht
    obtain rfl := List.mem_singleton.mp ht
    exact ⟨by simp [hb], m, hc, Nat.le_refl _⟩
  · rw [List.append_assoc, List.singleton_append, hrun, op_step (.inr hb) hc hP hS, mapOut_mapOut]
    rfl

/-- Left associativity: the left operand (same level `m`) is flushed when the operator arrives;
the right operand is one level up, so it never pops the operator, which stays pending. -/
theorem Shunts.infix {c : Tok α} (hb : c.base = .infixOp) {m : Nat} (hc : c.prec = some m)
    {pf1 pf2 ts1 ts2 : List (Tok α)} (h1 : Shunts m pf1 ts1) (h2 : Shunts (m + 1) pf2 ts2) :
    Shunts m (pf1 ++ pf2 ++ [c]) (ts1 ++ [c] ++ ts2) := by
  intro S rest hS
  obtain ⟨Out1, Pend1, hP1, hOut1, hrun1⟩ := h1 S (c :: (ts2 ++ rest)) hS
  obtain ⟨Out2, Pend2, hP2, hOut2, hrun2⟩ := h2 (c :: S) rest (.inr ⟨m, hc, Nat.lt_succ_self m⟩)
  refine ⟨Out1 ++ Pend1 ++ Out2, Pend2 ++ [c], ?_, ?_, ?_⟩
  · intro t ht
    rcases List.mem_append.mp ht with h' | h'
    · exact hP2.mono (Nat.le_succ m) t h'
    · obtain rfl := List.mem_singleton.mp h'
      exact ⟨by simp [hb], m, hc, Nat.le_refl _⟩
  · rw [← hOut1, ← hOut2]; simp
  · rw [List.append_assoc, List.append_assoc, List.singleton_append, hrun1,
      op_step (.inl hb) hc hP1 hS, hrun2, mapOut_mapOut, mapOut_mapOut]
    simp

/-- `inserted` only looks at the base classes; this is its table, computed from the regenerated
`concat_pairs` / `empty_string_pairs`. -/
def insTab (b1 b2 : Base) : List (Tok α) :=
  ((Gen.Regex.concatInsertPairs.filter fun p => b1.name == p.1 && b2.name == p.2).map
      fun _ => Tok.concat) ++
  ((Gen.Regex.emptyStringPairs.filter fun p => b1.name == p.1 && b2.name == p.2).map
      fun _ => Tok.str [])

theorem inserted_eq (t u : Tok α) : inserted t u = insTab t.base u.base := rfl

theorem insTab_FE_FS {b1 b2 : Base} (h1 : FE b1) (h2 : FS b2) :
    (insTab b1 b2 : List (Tok α)) = [.concat] := by
  rcases h1 with rfl | rfl | rfl <;> rcases h2 with rfl | rfl <;> rfl

theorem insTab_FE_other {b1 b2 : Base} (h1 : FE b1)
    (h2 : b2 = .postfixOp ∨ b2 = .infixOp ∨ b2 = .rparen) : (insTab b1 b2 : List (Tok α)) = [] := by
  rcases h1 with rfl | rfl | rfl <;> rcases h2 with rfl | rfl | rfl <;> rfl

theorem insTab_open_FS {b1 b2 : Base} (h1 : b1 = .infixOp ∨ b1 = .lparen) (h2 : FS b2) :
    (insTab b1 b2 : List (Tok α)) = [] := by
  rcases h1 with rfl | rfl <;> rcases h2 with rfl | rfl <;> rfl

theorem addConcat_cons_cons (t u : Tok α) (r : List (Tok α)) :
    addConcat (t :: u :: r) = t :: (inserted t u ++ addConcat (u :: r)) := rfl

/-- What is inserted at the seam of two non-empty lists depends on the last token of the first and
the first token of the second only, and on their base classes only. -/
theorem addConcat_seam {ts us i r : List (Tok α)} {t u : Tok α} (hts : ts = i ++ [t])
    (hus : us = u :: r) :
    addConcat (ts ++ us) = addConcat ts ++ insTab t.base u.base ++ addConcat us := by
  subst hts hus
  induction i with
  | nil => simp [addConcat, inserted_eq]
  | cons x i ih =>
    cases i with
    | nil =>
      simp only [List.cons_append, List.nil_append, addConcat_cons_cons]
      simp [addConcat, inserted_eq]
    | cons y i' =>
      simp only [List.cons_append, addConcat_cons_cons] at ih ⊢
      rw [ih]
      simp

theorem addConcat_snoc_post {l : Lvl} {e : Rx α} {ts : List (Tok α)} (h : G l e ts) {c : Tok α}
    (hc : c.base = .postfixOp) : addConcat (ts ++ [c]) = addConcat ts ++ [c] := by
  obtain ⟨i, t, hts, ht⟩ := G_end h
  rw [addConcat_seam hts rfl, hc, insTab_FE_other ht (.inl rfl), List.append_nil]
  rfl

theorem addConcat_infix {l1 l2 : Lvl} {e f : Rx α} {ts us : List (Tok α)} (h1 : G l1 e ts)
    (h2 : G l2 f us) {c : Tok α} (hc : c.base = .infixOp) :
    addConcat (ts ++ [c] ++ us) = addConcat ts ++ [c] ++ addConcat us := by
  obtain ⟨i, t, hts, ht⟩ := G_end h1
  obtain ⟨u, r, hus, hu⟩ := G_start h2
  rw [List.append_assoc, addConcat_seam hts (List.singleton_append (l := us)),
    addConcat_seam (ts := [c]) (i := []) rfl hus, hc, insTab_FE_other ht (.inr (.inl rfl)),
    insTab_open_FS (.inl rfl) hu]
  simp [addConcat]

theorem addConcat_paren {l : Lvl} {e : Rx α} {ts : List (Tok α)} (h : G l e ts) :
    addConcat (.lparen :: ts ++ [.rparen]) = .lparen :: addConcat ts ++ [.rparen] := by
  obtain ⟨u, r, hus, hu⟩ := G_start h
  obtain ⟨i, t, hts, ht⟩ := G_end h
  rw [addConcat_seam (i := .lparen :: i) (by rw [hts]; rfl) rfl, base_rparen,
    insTab_FE_other ht (.inr (.inr rfl)), ← List.singleton_append,
    addConcat_seam (ts := [.lparen]) (i := []) rfl hus, base_lparen, insTab_open_FS (.inr rfl) hu]
  simp [addConcat]

theorem addConcat_cat {l1 l2 : Lvl} {e f : Rx α} {ts us : List (Tok α)} (h1 : G l1 e ts)
    (h2 : G l2 f us) : addConcat (ts ++ us) = addConcat ts ++ [.concat] ++ addConcat us := by
  obtain ⟨i, t, hts, ht⟩ := G_end h1
  obtain ⟨u, r, hus, hu⟩ := G_start h2
  rw [addConcat_seam hts hus, insTab_FE_FS ht hu]

theorem shunt_spec {l : Lvl} {e : Rx α} {ts : List (Tok α)} (h : G l e ts) :
    Shunts (lvlNum l) e.toPostfix (addConcat ts) := by
  induction h with
  | lit | wild => exact .literal (by simp) _
  -- `()`: the one pair `empty_string_pairs` applies to; `addConcat [(, )]` evaluates to `[(, "", )]`
  | eps => exact Shunts.paren (n := 0) (ts := [.str []]) (.literal (by simp) _)
  | paren h ih => rw [addConcat_paren h]; exact .paren ih
  | atom _ ih | factor _ ih | term _ ih => exact ih.mono (by decide)
  | star h ih | plus h ih | opt h ih | quant _ _ h ih =>
    rw [addConcat_snoc_post h (by simp)]
    exact .postfix (by simp) (by simp [lvlNum]) ih
  | cat h1 h2 ih1 ih2 =>
    rw [addConcat_cat h1 h2]
    exact .infix (by simp) (by simp [lvlNum]) ih1 ih2
  | union h1 h2 ih1 ih2 | inter h1 h2 ih1 ih2 | shuffle h1 h2 ih1 ih2 =>
    rw [addConcat_infix h1 h2 (by simp)]
    exact .infix (by simp) (by simp [lvlNum]) ih1 ih2

theorem parse_postfix {e : Rx α} {ts : List (Tok α)} (h : G .E e ts) :
    tokensToPostfix (addConcat ts) = .ok e.toPostfix := by
  obtain ⟨Out, Pend, _, hOut, hrun⟩ := shunt_spec h [] [] trivial
  unfold tokensToPostfix
  rw [List.append_nil] at hrun
  rw [hrun, List.append_nil]
  simp [toPostfixAux, mapOut, hOut]

end AV.Rx
