/-
Proofs/NFAOpsRQ.lean — table-level specification of `NFA.right_quotient`
(Model/NFAOps.lean), given the specifications of the two `_eliminate_lambda` results; first
the reading of the inner loop `quotientSync` that both quotients share.  Core only.
-/
import AutomataVerif.Model.NFAOps
import AutomataVerif.Proofs.NFAElimDefs
import AutomataVerif.Proofs.NFAOpsUnary

open AV.AL

namespace AV
namespace NFA
open AV.NFAElim

variable {σ₁ σ₂ α : Type} [DecidableEq σ₁] [DecidableEq σ₂] [DecidableEq α]

omit [DecidableEq σ₁] [DecidableEq σ₂] in
theorem mem_map_lprod_flag {fa : List σ₁} {fb : List σ₂} {b : Bool} {s : σ₁ × σ₂ × Bool} :
    s ∈ (lprod fa fb).map (fun p => (p.1, p.2, b)) ↔ ∃ qa ∈ fa, ∃ qb ∈ fb, s = (qa, qb, b) := by
  rw [List.mem_map]
  exact ⟨fun ⟨⟨qa, qb⟩, hp, e⟩ => ⟨qa, (mem_lprod.mp hp).1, qb, (mem_lprod.mp hp).2, e.symm⟩,
    fun ⟨qa, h1, qb, h2, e⟩ => ⟨(qa, qb), mem_lprod.mpr ⟨h1, h2⟩, e.symm⟩⟩

theorem mem_tgt_quotientSync (syms : List α) (ta : Tbl σ₁ α) (tb : Tbl σ₂ α) (flag : Bool)
    (t : Tbl (σ₁ × σ₂ × Bool) α) (qa : σ₁) (qb : σ₂) (q : σ₁ × σ₂ × Bool) (a' : Option α)
    (p : σ₁ × σ₂ × Bool) :
    p ∈ Tbl.tgt (quotientSync syms ta tb flag t qa qb) q a' ↔ p ∈ Tbl.tgt t q a' ∨
      (q = (qa, qb, flag) ∧ a' = none ∧ ∃ a ∈ syms, ∃ pa ∈ Tbl.tgt ta qa (some a),
        ∃ pb ∈ Tbl.tgt tb qb (some a), p = (pa, pb, flag)) := by
  refine (Tbl.mem_tgt_foldl _ (fun a q a' p => q = (qa, qb, flag) ∧ a' = none ∧
      ∃ pa ∈ Tbl.tgt ta qa (some a), ∃ pb ∈ Tbl.tgt tb qb (some a), p = (pa, pb, flag))
    (fun t a q a' p => ?_) syms t q a' p).trans (or_congr_right ⟨?_, ?_⟩)
  · split
    next ea eb hea heb =>
      rw [Tbl.mem_tgt_addTargets, Tbl.tgt_of_lookup hea, Tbl.tgt_of_lookup heb]
      exact or_congr_right (and_congr_right fun _ => and_congr_right fun _ => mem_map_lprod_flag)
    next hno =>
      refine (or_iff_left ?_).symm
      rintro ⟨_, _, x, hx, y, hy, _⟩
      obtain ⟨ea, hea, _⟩ := Tbl.exists_of_mem_tgt hx
      obtain ⟨eb, heb, _⟩ := Tbl.exists_of_mem_tgt hy
      exact hno ea eb hea heb
  · rintro ⟨a, ha, hq, ha', h⟩; exact ⟨hq, ha', a, ha, h⟩
  · rintro ⟨hq, ha', a, ha, h⟩; exact ⟨a, ha, hq, ha', h⟩

theorem ext_quotientSync {S : Option α → Prop} {T : σ₁ × σ₂ × Bool → Prop}
    (syms : List α) (ta : Tbl σ₁ α) (tb : Tbl σ₂ α) (flag : Bool) (qa : σ₁) (qb : σ₂)
    (t : Tbl (σ₁ × σ₂ × Bool) α) (hS : S none)
    (hT : ∀ a, ∀ pa ∈ Tbl.tgt ta qa (some a), ∀ pb ∈ Tbl.tgt tb qb (some a), T (pa, pb, flag)) :
    Tbl.Ext S T t (quotientSync syms ta tb flag t qa qb) := by
  refine Tbl.Ext.foldl _ syms t fun a _ t => ?_
  split
  next ea eb hea heb =>
    refine Tbl.Ext.add t _ hS fun p hp => ?_
    obtain ⟨x, hx, y, hy, rfl⟩ := mem_map_lprod_flag.mp hp
    exact hT a x (Tbl.tgt_of_lookup hea ▸ hx) y (Tbl.tgt_of_lookup heb ▸ hy)
  next => exact Tbl.Ext.refl t

namespace RQ

/-- Body of `for q in ra` (first loop of `right_quotient`). -/
def step1 (ta : Tbl σ₁ α) (bi : σ₂) (t : Tbl (σ₁ × σ₂ × Bool) α) (q : σ₁) :
    Tbl (σ₁ × σ₂ × Bool) α :=
  let ns := (q, bi, false)
  let t := Tbl.touch t ns
  let t := match alookup q ta with
    | some old => old.foldl (fun t e => Tbl.setTargets t ns e.1 (e.2.map fun p => (p, bi, false))) t
    | none => t
  Tbl.setTargets t ns none [(q, bi, true)]

theorem step1_eq (ta : Tbl σ₁ α) (bi : σ₂) (t : Tbl (σ₁ × σ₂ × Bool) α) (q : σ₁) :
    step1 ta bi t q =
      Tbl.setTargets (Tbl.setRow (q, bi, false) (List.map fun p => (p, bi, false))
        ((alookup q ta).getD []) (Tbl.touch t (q, bi, false))) (q, bi, false) none [(q, bi, true)] := by
  unfold step1 Tbl.setRow
  cases alookup q ta <;> rfl

/-- What the iteration for `c` makes of the reading of the row of `(c, bi, false)`: an ε-move
to `(c, bi, true)` and a renamed copy of `ta`'s row of `c`. -/
def row1 (ta : Tbl σ₁ α) (bi : σ₂) (c : σ₁) (a : Option α) (d : List (σ₁ × σ₂ × Bool)) :
    List (σ₁ × σ₂ × Bool) :=
  if a = none then [(c, bi, true)]
  else ((alookup a ((alookup c ta).getD [])).map (List.map fun p => (p, bi, false))).getD d

theorem tgt_step1_self (ta : Tbl σ₁ α) (hd : Tbl.Dict ta) (bi : σ₂) (t : Tbl (σ₁ × σ₂ × Bool) α)
    (c : σ₁) (a : Option α) :
    Tbl.tgt (step1 ta bi t c) (c, bi, false) a = row1 ta bi c a (Tbl.tgt t (c, bi, false) a) := by
  rw [step1_eq, Tbl.tgt_setTargets, row1]
  by_cases ha : a = none
  · rw [if_pos ⟨rfl, ha⟩, if_pos ha]
  · rw [if_neg fun h => ha h.2, if_neg ha, Tbl.tgt_setRow_self _ _ _ _ (Tbl.row_nodup hd c),
      Tbl.tgt_touch]

theorem tgt_step1_ne (ta : Tbl σ₁ α) (bi : σ₂) (t : Tbl (σ₁ × σ₂ × Bool) α) (c : σ₁)
    (x : σ₁ × σ₂ × Bool) (a : Option α) (h : x ≠ (c, bi, false)) :
    Tbl.tgt (step1 ta bi t c) x a = Tbl.tgt t x a := by
  rw [step1_eq, Tbl.tgt_setTargets, if_neg fun e => h e.1, Tbl.tgt_setRow_ne _ _ h, Tbl.tgt_touch]

omit [DecidableEq σ₂] in
theorem row1_idem (ta : Tbl σ₁ α) (bi : σ₂) (c : σ₁) (a : Option α) (d : List (σ₁ × σ₂ × Bool)) :
    row1 ta bi c a (row1 ta bi c a d) = row1 ta bi c a d := by
  unfold row1
  split
  · rfl
  · cases alookup a ((alookup c ta).getD []) <;> rfl

theorem tgt_loop1 (ta : Tbl σ₁ α) (hd : Tbl.Dict ta) (bi : σ₂) {q : σ₁} {l : List σ₁} (hq : q ∈ l)
    (a : Option α) :
    Tbl.tgt (l.foldl (step1 ta bi) []) (q, bi, false) a = row1 ta bi q a [] :=
  Tbl.tgt_foldl_self (step1 ta bi) (fun c => (c, bi, false)) (row1 ta bi)
    (fun _ _ e => (Prod.mk.inj e).1) (tgt_step1_self ta hd bi) (tgt_step1_ne ta bi)
    (row1_idem ta bi) a l [] hq

theorem ext_step1 {S : Option α → Prop} {T : σ₁ × σ₂ × Bool → Prop} (ta : Tbl σ₁ α) (bi : σ₂)
    (t : Tbl (σ₁ × σ₂ × Bool) α) (c : σ₁) (hS : ∀ e ∈ (alookup c ta).getD [], S e.1) (hn : S none)
    (hT : ∀ e ∈ (alookup c ta).getD [], ∀ p ∈ e.2, T (p, bi, false)) (hc : T (c, bi, true)) :
    Tbl.Ext S T t (step1 ta bi t c) := by
  rw [step1_eq]
  refine ((Tbl.Ext.touch t _).trans (Tbl.Ext.setRow _ _ _ _ fun e he => ⟨hS e he, fun p hp => ?_⟩)).trans
    (Tbl.Ext.set _ _ hn fun p hp => List.mem_singleton.mp hp ▸ hc)
  obtain ⟨x, hx, rfl⟩ := List.mem_map.mp hp
  exact hT e he x hx

def rqStates (ra : List σ₁) (rb : List σ₂) (bi : σ₂) : List (σ₁ × σ₂ × Bool) :=
  dedup ((ra.map fun q => (q, bi, false)) ++ (lprod ra rb).map fun p => (p.1, p.2, true))

theorem mem_rqStates_false {ra : List σ₁} {rb : List σ₂} {bi : σ₂} {q : σ₁} (hq : q ∈ ra) :
    (q, bi, false) ∈ rqStates ra rb bi :=
  mem_dedup.mpr (List.mem_append_left _ (List.mem_map.mpr ⟨q, hq, rfl⟩))

theorem mem_rqStates_true {ra : List σ₁} {rb : List σ₂} {bi : σ₂} {qa : σ₁} {qb : σ₂} (ha : qa ∈ ra)
    (hb : qb ∈ rb) : (qa, qb, true) ∈ rqStates ra rb bi :=
  mem_dedup.mpr (List.mem_append_right _ (mem_map_lprod_flag.mpr ⟨qa, ha, qb, hb, rfl⟩))

def rqT1 (B : NFA σ₂ α) (ra : List σ₁) (ta : Tbl σ₁ α) : Tbl (σ₁ × σ₂ × Bool) α :=
  ra.foldl (step1 ta B.init) []

def rqT2 (A : NFA σ₁ α) (B : NFA σ₂ α) (ra : List σ₁) (ta : Tbl σ₁ α) (rb : List σ₂)
    (tb : Tbl σ₂ α) : Tbl (σ₁ × σ₂ × Bool) α :=
  (lprod ra rb).foldl (fun t p => quotientSync (sunion A.syms B.syms) ta tb true t p.1 p.2)
    (rqT1 B ra ta)

/-- The record `right_quotient` passes to the constructor. -/
def rqRaw (A : NFA σ₁ α) (B : NFA σ₂ α) (ra : List σ₁) (ta : Tbl σ₁ α) (fa : List σ₁)
    (rb : List σ₂) (tb : Tbl σ₂ α) (fb : List σ₂) : NFA (σ₁ × σ₂ × Bool) α :=
  { states := rqStates ra rb B.init, syms := sunion A.syms B.syms,
    trans := rqT2 A B ra ta rb tb, init := (A.init, B.init, false),
    finals := (lprod fa fb).map fun p => (p.1, p.2, true) }

theorem rightQuotient_eq (A : NFA σ₁ α) (B : NFA σ₂ α)
    (ra : List σ₁) (ta : Tbl σ₁ α) (fa : List σ₁) (rb : List σ₂) (tb : Tbl σ₂ α) (fb : List σ₂)
    (hca : NFAElim.core A = .ok (ra, ta, fa)) (hcb : NFAElim.core B = .ok (rb, tb, fb)) :
    rightQuotient A B = create (rqRaw A B ra ta fa rb tb fb) := by
  unfold rightQuotient
  rw [hca, hcb]
  rfl

theorem mem_tgt_rqT2 (A : NFA σ₁ α) (B : NFA σ₂ α) (ra : List σ₁) (ta : Tbl σ₁ α) (rb : List σ₂)
    (tb : Tbl σ₂ α) (x : σ₁ × σ₂ × Bool) (a' : Option α) (p : σ₁ × σ₂ × Bool) :
    p ∈ Tbl.tgt (rqT2 A B ra ta rb tb) x a' ↔
      p ∈ Tbl.tgt (rqT1 B ra ta) x a' ∨ ∃ c ∈ lprod ra rb, x = (c.1, c.2, true) ∧ a' = none ∧
        ∃ a ∈ sunion A.syms B.syms, ∃ pa ∈ Tbl.tgt ta c.1 (some a),
          ∃ pb ∈ Tbl.tgt tb c.2 (some a), p = (pa, pb, true) :=
  Tbl.mem_tgt_foldl _ _
    (fun t (c : σ₁ × σ₂) x a p => mem_tgt_quotientSync _ ta tb true t c.1 c.2 x a p) _ _ x a' p

theorem rqRaw_valid (A : NFA σ₁ α) (B : NFA σ₂ α)
    (ra : List σ₁) (ta : Tbl σ₁ α) (fa : List σ₁) (rb : List σ₂) (tb : Tbl σ₂ α) (fb : List σ₂)
    (sa : ElimSpec A ra ta fa) (sb : ElimSpec B rb tb fb) :
    (rqRaw A B ra ta fa rb tb fb).Valid := by
  have hS : ∀ {a}, SymOk A.syms a → SymOk (sunion A.syms B.syms) a :=
    fun h x hx => mem_sunion.mpr (Or.inl (h x hx))
  have e1 : ∀ c ∈ ra, ∀ t, Tbl.Ext (SymOk (sunion A.syms B.syms)) (· ∈ rqStates ra rb B.init) t
      (step1 ta B.init t c) := fun c hc t =>
    ext_step1 ta B.init t c (fun e he => hS (sa.rowOk hc e he).1) (symOk_none _)
      (fun e he p hp => mem_rqStates_false ((sa.rowOk hc e he).2 p hp))
      (mem_rqStates_true hc sb.init_mem)
  have e2 : Tbl.Ext (SymOk (sunion A.syms B.syms)) (· ∈ rqStates ra rb B.init) (rqT1 B ra ta)
      (rqT2 A B ra ta rb tb) :=
    Tbl.Ext.foldl _ _ _ fun c hc t =>
      ext_quotientSync _ ta tb true c.1 c.2 t (symOk_none _) fun a pa hpa pb hpb =>
        mem_rqStates_true (sa.closed _ (mem_lprod.mp hc).1 _ pa hpa)
          (sb.closed _ (mem_lprod.mp hc).2 _ pb hpb)
  refine Valid.of_ext ((Tbl.Ext.foldl _ ra [] e1).trans e2) Tbl.dict_nil Tbl.ok_nil
    (mem_rqStates_false sa.init_mem) (e2.keys _ ?_) ?_
  · refine Tbl.Ext.mem_akeys_foldl _ (fun c => (c, B.init, false)) ra (fun c hc t => ⟨e1 c hc t, ?_⟩)
      A.init sa.init_mem []
    rw [step1_eq]
    exact Tbl.mem_akeys_setTargets.mpr (Or.inl rfl)
  · intro s hs
    obtain ⟨qa, ha, qb, hb, rfl⟩ := mem_map_lprod_flag.mp hs
    exact mem_rqStates_true ((sa.fin qa).mp ha).1 ((sb.fin qb).mp hb).1

end RQ

theorem rightQuotient_spec (A : NFA σ₁ α) (B : NFA σ₂ α)
    (ra : List σ₁) (ta : Tbl σ₁ α) (fa : List σ₁) (rb : List σ₂) (tb : Tbl σ₂ α) (fb : List σ₂)
    (hca : NFAElim.core A = .ok (ra, ta, fa)) (hcb : NFAElim.core B = .ok (rb, tb, fb))
    (sa : ElimSpec A ra ta fa) (sb : ElimSpec B rb tb fb) :
    ∃ R : NFA (σ₁ × σ₂ × Bool) α, rightQuotient A B = .ok R ∧ R.Valid ∧
      R.init = (A.init, B.init, false) ∧
      (∀ q ∈ ra, ∀ a t, t ∈ R.targets (q, B.init, false) a ↔
        (∃ p, p ∈ Tbl.tgt ta q a ∧ t = (p, B.init, false)) ∨ (a = none ∧ t = (q, B.init, true))) ∧
      (∀ qa ∈ ra, ∀ qb ∈ rb, ∀ a t, t ∈ R.targets (qa, qb, true) a ↔ a = none ∧
        ∃ c pa pb, pa ∈ Tbl.tgt ta qa (some c) ∧ pb ∈ Tbl.tgt tb qb (some c) ∧ t = (pa, pb, true)) ∧
      (∀ s, s ∈ R.finals ↔ ∃ qa ∈ fa, ∃ qb ∈ fb, s = (qa, qb, true)) := by
  have hv := RQ.rqRaw_valid A B ra ta fa rb tb fb sa sb
  -- on the `false` copies the second loop changes nothing
  have hF : ∀ q ∈ ra, ∀ x t, t ∈ (RQ.rqRaw A B ra ta fa rb tb fb).targets (q, B.init, false) x ↔
      t ∈ RQ.row1 ta B.init q x [] := by
    intro q hq x t
    rw [targets_eq_tgt, ← RQ.tgt_loop1 ta sa.dict B.init hq x]
    refine (RQ.mem_tgt_rqT2 A B ra ta rb tb _ x t).trans (or_iff_left ?_)
    rintro ⟨c, _, e, _⟩
    exact nomatch (Prod.mk.inj (Prod.mk.inj e).2).2
  -- the first loop writes nothing at the `true` copies
  have hT : ∀ qa qb x, Tbl.tgt (RQ.rqT1 B ra ta) (qa, qb, true) x = [] := fun qa qb x =>
    Tbl.tgt_foldl_other _ (fun c => (c, B.init, false)) (RQ.tgt_step1_ne ta B.init) x ra []
      fun c _ e => nomatch (Prod.mk.inj (Prod.mk.inj e).2).2
  refine ⟨RQ.rqRaw A B ra ta fa rb tb fb,
    (RQ.rightQuotient_eq A B ra ta fa rb tb fb hca hcb).trans (create_eq_ok _ hv.wf), hv, rfl,
    fun q hq a t => ?_, fun qa hqa qb hqb a t => ?_, fun s => ?_⟩
  · rw [hF q hq, RQ.row1]
    split
    · rename_i ha
      rw [List.mem_singleton]
      exact ⟨fun h => Or.inr ⟨ha, h⟩,
        fun h => h.elim (fun ⟨p, hp, _⟩ => absurd (ha ▸ hp) (sa.not_tgt_none q hq p)) (·.2)⟩
    · rename_i ha
      rw [getD_map_map_nil, List.mem_map]
      exact ⟨fun ⟨p, hp, e⟩ => Or.inl ⟨p, hp, e.symm⟩,
        fun h => h.elim (fun ⟨p, hp, e⟩ => ⟨p, hp, e.symm⟩) fun h => absurd h.1 ha⟩
  · rw [targets_eq_tgt]
    refine (RQ.mem_tgt_rqT2 A B ra ta rb tb _ a t).trans ?_
    rw [hT, or_iff_right List.not_mem_nil]
    constructor
    · rintro ⟨⟨c1, c2⟩, _, e, ha, c, _, pa, hpa, pb, hpb, h⟩
      obtain ⟨rfl, e⟩ := Prod.mk.inj e
      obtain ⟨rfl, _⟩ := Prod.mk.inj e
      exact ⟨ha, c, pa, pb, hpa, hpb, h⟩
    · rintro ⟨ha, c, pa, pb, hpa, hpb, h⟩
      exact ⟨(qa, qb), mem_lprod.mpr ⟨hqa, hqb⟩, rfl, ha, c,
        mem_sunion.mpr (Or.inl (sa.tgt_sym hqa hpa)), pa, hpa, pb, hpb, h⟩
  · exact mem_map_lprod_flag

end NFA
end AV
