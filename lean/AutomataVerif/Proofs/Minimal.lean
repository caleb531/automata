/-
Proofs/Minimal.lean — the generic minimality lemma (core only).

A model DFA `M` whose declared states are duplicate-free, all reachable from the initial
state and pairwise distinguishable has the fewest states of any valid *complete* DFA over
(at least) the same alphabet with the same language; if moreover every state of `M` is
live, `M` has no more states than ANY valid DFA (partial or complete) with the same
language has live states.  (Myhill–Nerode by pigeonhole, `length_le_of_rel_inj`: a reaching
word of each state of `M` is sent to the state the other machine reaches on it; two states of
`M` sent to the same state would have the same right language.)
-/
import AutomataVerif.Proofs.Read

namespace AV

namespace DFA
variable {σ τ α : Type} [DecidableEq σ] [DecidableEq τ] [DecidableEq α]

/-- `q` is not dead: some word is accepted from it.  What a partial minimal DFA demands of every
state, and what the competitor's states are counted by in the partial kind of minimality. -/
def Live (d : DFA σ α) (q : σ) : Prop := ∃ w, d.isFinal (d.run (some q) w) = true

/-- The distinct live declared states of `d` (classical: liveness is an existential over
words; `mem_coaccessible_iff_live` in Proofs/MinPrepass.lean gives the computable reading). -/
noncomputable def liveStates (d : DFA σ α) : List σ :=
  haveI : DecidablePred d.Live := fun _ => Classical.propDecidable _
  (dedup d.states).filter fun q => decide (d.Live q)

theorem mem_liveStates {d : DFA σ α} {q : σ} : q ∈ d.liveStates ↔ q ∈ d.states ∧ d.Live q := by
  unfold liveStates
  simp [List.mem_filter]

theorem nodup_liveStates (d : DFA σ α) : d.liveStates.Nodup := by
  unfold liveStates
  exact List.Nodup.sublist List.filter_sublist (nodup_dedup _)

theorem liveStates_length_le (d : DFA σ α) : d.liveStates.length ≤ d.states.length :=
  List.Nodup.length_le_of_subset (nodup_liveStates d) fun _ hq => (mem_liveStates.mp hq).1

/-- The system `g` follows `d` on the states in `K`, except that it
stops (`none`) where `d` moves to a state that `keep` rejects.  If those states are dead in `d`,
`g` has `d`'s right languages on `K`: the sink of `g` stands for them. -/
theorem isFinal_run_prune {d : DFA σ α} {g : Option σ → α → Option σ} {fin : Option σ → Bool}
    {K : σ → Prop} {keep : σ → Bool} (gnone : ∀ a, g none a = none) (finnone : fin none = false)
    (hfin : ∀ q, K q → fin (some q) = d.isFinal (some q))
    (hstep : ∀ q, K q → ∀ a, g (some q) a = (d.step? (some q) a).filter keep)
    (hK : ∀ q, K q → ∀ a t, d.step? (some q) a = some t → keep t = true → K t)
    (hdead : ∀ q, K q → ∀ a t, d.step? (some q) a = some t → keep t = false → ¬ d.Live t)
    {q : σ} (hq : K q) (w : List α) :
    fin (w.foldl g (some q)) = d.isFinal (d.run (some q) w) := by
  have key : (w.foldl g (some q) = d.run (some q) w ∧ ∀ t, d.run (some q) w = some t → K t) ∨
      (w.foldl g (some q) = none ∧ ∀ v, d.isFinal (d.run (d.run (some q) w) v) = false) := by
    refine List.foldl_rel (r := fun t s => (t = s ∧ ∀ q, s = some q → K q) ∨
      (t = none ∧ ∀ v, d.isFinal (d.run s v) = false))
      (Or.inl ⟨rfl, fun _ e => Option.some.inj e ▸ hq⟩) ?_
    rintro a - t s (⟨rfl, hs⟩ | ⟨rfl, hs⟩)
    · cases t with
      | none => exact Or.inl ⟨gnone a, nofun⟩
      | some q =>
        rw [hstep q (hs q rfl) a]
        cases hst : d.step? (some q) a with
        | none => exact Or.inl ⟨rfl, nofun⟩
        | some t =>
          cases hk : keep t with
          | true =>
            exact Or.inl ⟨by rw [Option.filter_some, hk, if_pos rfl],
              fun _ e => Option.some.inj e ▸ hK q (hs q rfl) a t hst hk⟩
          | false =>
            exact Or.inr ⟨by rw [Option.filter_some, hk, if_neg Bool.false_ne_true], fun v =>
              (Bool.not_eq_true _).mp fun h => hdead q (hs q rfl) a t hst hk ⟨v, h⟩⟩
    · exact Or.inr ⟨gnone a, fun v => hs (a :: v)⟩
  rcases key with ⟨e, hs⟩ | ⟨e, hs⟩
  · rw [e]
    cases hr : d.run (some q) w with
    | none => exact finnone
    | some t => exact hfin t (hs t hr)
  · rw [e, finnone]; exact (hs []).symm

section minimal
variable (M : DFA σ α) (B : DFA τ α)

/-- The pigeonhole relation: `q` (in `M`) and `t` (in `B`) are reached by a common word. -/
private def CoReach (q : σ) (t : τ) : Prop :=
  ∃ w, M.run (some M.init) w = some q ∧ B.run (some B.init) w = some t

private theorem coReach_inj
    (hdist : ∀ p ∈ M.states, ∀ q ∈ M.states, p ≠ q →
      ∃ w, M.isFinal (M.run (some p) w) ≠ M.isFinal (M.run (some q) w))
    (hlang : ∀ w, B.accepts w = M.accepts w) :
    ∀ p ∈ M.states, ∀ q ∈ M.states, ∀ t, CoReach M B p t → CoReach M B q t → p = q := by
  intro p hp q hq t ⟨u, hup, hut⟩ ⟨v, hvq, hvt⟩
  refine Classical.byContradiction fun hne => ?_
  obtain ⟨w, hw⟩ := hdist p hp q hq hne
  apply hw
  have h1 := hlang (u ++ w)
  have h2 := hlang (v ++ w)
  rw [accepts_append, accepts_append, hup, hut] at h1
  rw [accepts_append, accepts_append, hvq, hvt] at h2
  rw [← h1, ← h2]

/-- `L` is any list that contains the declared states of `B` (e.g. `dedup B.states`); the reaching
words are over `B`'s alphabet, so the complete `B` does not fall into the sink on them. -/
theorem minimal_of_reachable_over
    (hnd : M.states.Nodup)
    (hreach : ∀ q ∈ M.states, ∃ w, (∀ a ∈ w, a ∈ B.syms) ∧ M.run (some M.init) w = some q)
    (hdist : ∀ p ∈ M.states, ∀ q ∈ M.states, p ≠ q →
      ∃ w, M.isFinal (M.run (some p) w) ≠ M.isFinal (M.run (some q) w))
    (wfB : B.WF) (hBc : B.allowPartial = false)
    (hlang : ∀ w, B.accepts w = M.accepts w)
    (L : List τ) (hL : ∀ t ∈ B.states, t ∈ L) :
    M.states.length ≤ L.length := by
  refine length_le_of_rel_inj (CoReach M B) M.states L hnd ?_
    (coReach_inj M B hdist hlang)
  intro q hq
  obtain ⟨w, hwB, hw⟩ := hreach q hq
  obtain ⟨t, hrun, ht⟩ := run_over wfB (wfB.complete hBc) wfB.initOk hwB
  exact ⟨t, hL t ht, w, hw, hrun⟩

/-- `minimal_of_reachable_over` with plain reaching words and the alphabet condition as `hsym`
(which follows from `M.WF` and `M.syms ⊆ B.syms`). -/
theorem minimal_of_reachable_distinguishable_complete''
    (hnd : M.states.Nodup)
    (hreach : ∀ q ∈ M.states, ∃ w, M.run (some M.init) w = some q)
    (hdist : ∀ p ∈ M.states, ∀ q ∈ M.states, p ≠ q →
      ∃ w, M.isFinal (M.run (some p) w) ≠ M.isFinal (M.run (some q) w))
    (hsym : ∀ (s : Option σ) (a : α), a ∉ B.syms → M.step? s a = none)
    (wfB : B.WF) (hBc : B.allowPartial = false)
    (hlang : ∀ w, B.accepts w = M.accepts w)
    (L : List τ) (hL : ∀ t ∈ B.states, t ∈ L) :
    M.states.length ≤ L.length :=
  minimal_of_reachable_over M B hnd
    (fun q hq => let ⟨w, hw⟩ := hreach q hq; ⟨w, run_some_sub hsym hw, hw⟩) hdist wfB hBc hlang L hL

theorem minimal_of_reachable_distinguishable_complete
    (wfM : M.WF) (hnd : M.states.Nodup)
    (hreach : ∀ q ∈ M.states, ∃ w, M.run (some M.init) w = some q)
    (hdist : ∀ p ∈ M.states, ∀ q ∈ M.states, p ≠ q →
      ∃ w, M.isFinal (M.run (some p) w) ≠ M.isFinal (M.run (some q) w))
    (wfB : B.WF) (hBc : B.allowPartial = false) (hsyms : ∀ a ∈ M.syms, a ∈ B.syms)
    (hlang : ∀ w, B.accepts w = M.accepts w) :
    M.states.length ≤ B.states.length :=
  minimal_of_reachable_over M B hnd
    (fun q hq => let ⟨w, hw⟩ := hreach q hq
      ⟨w, fun a ha => hsyms a (syms_of_run_some wfM hw a ha), hw⟩)
    hdist wfB hBc hlang B.states fun _ h => h

theorem minimal_of_reachable_distinguishable_partial
    (hnd : M.states.Nodup)
    (hreach : ∀ q ∈ M.states, ∃ w, M.run (some M.init) w = some q)
    (hdist : ∀ p ∈ M.states, ∀ q ∈ M.states, p ≠ q →
      ∃ w, M.isFinal (M.run (some p) w) ≠ M.isFinal (M.run (some q) w))
    (hlive : ∀ q ∈ M.states, M.Live q)
    (wfB : B.WF) (hlang : ∀ w, B.accepts w = M.accepts w) :
    M.states.length ≤ B.liveStates.length ∧ B.liveStates.length ≤ B.states.length := by
  refine ⟨length_le_of_rel_inj (CoReach M B) M.states _ hnd ?_ (coReach_inj M B hdist hlang),
    liveStates_length_le B⟩
  intro q hq
  obtain ⟨w, hw⟩ := hreach q hq
  obtain ⟨v, hv⟩ := hlive q hq
  -- `B` accepts `w ++ v`, so after `w` it is in a declared state from which `v` is accepted
  have hacc : B.accepts (w ++ v) = true := by
    rw [hlang, accepts_append, hw]; exact hv
  rw [accepts_append] at hacc
  have hgood : B.Good (B.run (some B.init) w) := good_run wfB (s := some B.init) wfB.initOk w
  cases hr : B.run (some B.init) w with
  | none => rw [hr, run_none] at hacc; cases hacc
  | some t =>
    rw [hr] at hacc hgood
    exact ⟨t, mem_liveStates.mpr ⟨hgood, v, hacc⟩, w, hw, hr⟩

end minimal

end DFA
end AV
