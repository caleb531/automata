/-
Proofs/MinQuotient.lean — the quotient construction of `_minify` (`minifyCore`) given a
correct partition (core only): under `QuotHyp` (what the callers guarantee, dict-shaped rows,
and the partition is the Nerode partition of the refinement system) the language, validity,
minimality data and names of the DFA built from the partition.

The DFA is `quotWith rowOf p …`: the row of a block is the renamed row of one of its members
(`RowsFrom`).  `quotOf` (= `minifyCore`: the head of the block) and `quotOfRep` (Proofs/MinRep.lean:
any member) are instances; the last section shows that two instances cannot be told apart.

The proofs go through `cls`, the map from the elements of the system to the states of the
quotient (`none` for the block of the trap): it identifies exactly the `MEquiv`-equivalent
elements, and a move, a run and finality of the quotient at `cls x` are the classes of those
of the system at `x`.
-/
import AutomataVerif.Proofs.MinSystem
import AutomataVerif.Proofs.Minimal
import AutomataVerif.Proofs.PyShape

namespace AV

section alist
variable {ι κ β γ : Type} [DecidableEq κ] [DecidableEq β] [DecidableEq γ]

/-- The row comprehension of `_minify`: rename the values of a row by `f`, dropping the entries
whose value has no name (targets outside the good blocks). -/
def qmap (f : β → Option γ) (l : List (κ × β)) : List (κ × γ) :=
  l.filterMap fun e =>
    match f e.2 with
    | some nm => some (e.1, nm)
    | none => none

set_option linter.unusedSectionVars false in
theorem qmap_nil (f : β → Option γ) : qmap f ([] : List (κ × β)) = [] := rfl

omit [DecidableEq κ] [DecidableEq β] [DecidableEq γ] in
theorem qmap_cons_some {f : β → Option γ} {k : κ} {v : β} {n : γ} (t : List (κ × β))
    (h : f v = some n) : qmap f ((k, v) :: t) = (k, n) :: qmap f t := by
  unfold qmap; simp [h]

omit [DecidableEq κ] [DecidableEq β] [DecidableEq γ] in
theorem qmap_cons_none {f : β → Option γ} {k : κ} {v : β} (t : List (κ × β))
    (h : f v = none) : qmap f ((k, v) :: t) = qmap f t := by
  unfold qmap; simp [h]

set_option linter.unusedSectionVars false in
theorem akeys_qmap_sublist (f : β → Option γ) (l : List (κ × β)) :
    (akeys (qmap f l)).Sublist (akeys l) := by
  induction l with
  | nil => exact List.Sublist.slnil
  | cons e t ih =>
    obtain ⟨k, v⟩ := e
    cases h : f v with
    | none =>
      rw [qmap_cons_none t h]
      exact List.Sublist.cons _ ih
    | some n =>
      rw [qmap_cons_some t h]
      exact List.Sublist.cons_cons _ ih

theorem alookup_qmap (f : β → Option γ) :
    ∀ (l : List (κ × β)), (akeys l).Nodup → ∀ a, alookup a (qmap f l) = (alookup a l).bind f := by
  intro l
  induction l with
  | nil => intro _ a; rfl
  | cons e t ih =>
    obtain ⟨k, v⟩ := e
    intro hnd a
    obtain ⟨hk, hnd'⟩ := List.nodup_cons.mp (hnd : (k :: akeys t).Nodup)
    rw [alookup_cons]
    cases h : f v with
    | none =>
      rw [qmap_cons_none t h]
      by_cases hka : k = a
      · subst hka
        rw [if_pos rfl, Option.bind_some, h, alookup_eq_none_iff]
        exact fun hm => hk ((akeys_qmap_sublist f t).subset hm)
      · rw [if_neg hka]; exact ih hnd' a
    | some n =>
      rw [qmap_cons_some t h, alookup_cons]
      by_cases hka : k = a
      · rw [if_pos hka, if_pos hka, Option.bind_some, h]
      · rw [if_neg hka, if_neg hka]; exact ih hnd' a

omit [DecidableEq κ] [DecidableEq β] [DecidableEq γ] in
theorem avals_qmap {f : β → Option γ} {l : List (κ × β)} {n : γ} (h : n ∈ avals (qmap f l)) :
    ∃ v ∈ avals l, f v = some n := by
  obtain ⟨⟨k, n'⟩, he, rfl⟩ := List.mem_map.mp h
  obtain ⟨e, hel, hfe⟩ := List.mem_filterMap.mp he
  cases hv : f e.2 with
  | none => simp only [hv] at hfe; cases hfe
  | some m =>
    simp only [hv, Option.some.injEq, Prod.mk.injEq] at hfe
    exact ⟨e.2, List.mem_map_of_mem hel, hv.trans (congrArg some hfe.2)⟩

end alist

namespace DFA
variable {σ α : Type} [DecidableEq σ] [DecidableEq α]

section system
variable (kept : List σ) (syms : List α) (trans : List (σ × List (α × σ)))

/-- `x` is an element of the refinement system over `kept`: the trap or a kept state.  The
hypothesis under which `cls` commutes with moves, runs and finality. -/
def Dom (x : Option σ) : Prop := ∀ q, x = some q → q ∈ kept

set_option linter.unusedSectionVars false in
theorem dom_none : Dom kept (none : Option σ) := fun _ h => by cases h

omit [DecidableEq σ] in
theorem dom_some {q : σ} (hq : q ∈ kept) : Dom kept (some q) := fun _ h => by cases h; exact hq

theorem dom_mdelta (x : Option σ) (a : α) : Dom kept (mdelta kept trans x a) :=
  fun _ ht => mdelta_some_kept ht

theorem dom_mrun {x : Option σ} (hx : Dom kept x) (w : List α) : Dom kept (mrun kept trans x w) := by
  induction w generalizing x with
  | nil => exact hx
  | cons a w ih => exact ih (dom_mdelta kept trans x a)

theorem dom_of_mem_muniverse {x : Option σ} (hx : x ∈ muniverse kept syms trans) : Dom kept x := by
  intro q hq; subst hq; exact mem_muniverse_some.mp hx

end system

namespace Part
variable {τ : Type} [DecidableEq τ]

omit [DecidableEq τ] in
theorem IsPartitionOf.blocks_nodup {p : Part τ} {U : List τ} (h : p.IsPartitionOf U) :
    p.blocks.Nodup :=
  List.Pairwise.of_map Prod.fst (fun _ _ hne hab => hne (by rw [hab])) h.ids_nodup

end Part

/-- The blocks that become states of the quotient: all but the block of the trap (its members
are equivalent to the trap: they accept nothing). -/
def goodBlocks (p : Part (Option σ)) : List (Nat × List (Option σ)) :=
  p.blocks.filter fun b => !(b.2.contains none)

/-- The retained name of a block. -/
def bname (b : Nat × List (Option σ)) : MinName σ := MinName.blk (blockStates b.2)

/-- `back_map`. -/
def nameOfIn (good : List (Nat × List (Option σ))) (q : σ) : Option (MinName σ) :=
  (good.find? fun b => b.2.contains (some q)).map bname

/-- The new row of a block computed from the member `r` (Python: `eq_class_rep = r`). -/
def qrowAt (good : List (Nat × List (Option σ))) (trans : List (σ × List (α × σ))) (r : σ) :
    List (α × MinName σ) :=
  qmap (nameOfIn good) ((alookup r trans).getD [])

/-- The new row of a block as `minifyCore` computes it: from the head of the block. -/
def qrow (good : List (Nat × List (Option σ))) (trans : List (σ × List (α × σ)))
    (b : Nat × List (Option σ)) : List (α × MinName σ) :=
  match (blockStates b.2).head? with
  | none => []
  | some r => qmap (nameOfIn good) ((alookup r trans).getD [])

/-- `cls.empty_language(input_symbols)`, which `_minify` returns when no block avoids the trap:
one non-final state `zero` that loops on every symbol. -/
def emptyQuot (syms : List α) : DFA (MinName σ) α :=
  { states := [MinName.zero], syms := syms,
    trans := [(MinName.zero, syms.map fun a => (a, MinName.zero))],
    init := MinName.zero, finals := [], allowPartial := false }

/-- The quotient automaton of `_minify` over a partition `p`, with the row of each block given
by `rowOf` (`_minify` copies the row of one member of the block: `RowsFrom`). -/
def quotWith (rowOf : Nat × List (Option σ) → List (α × MinName σ)) (p : Part (Option σ))
    (syms : List α) (init : σ) (finals : List σ) : DFA (MinName σ) α :=
  if (goodBlocks p).isEmpty then emptyQuot syms
  else
    { states := (goodBlocks p).map bname, syms := syms,
      trans := (goodBlocks p).map fun b => (bname b, rowOf b),
      init := (nameOfIn (goodBlocks p) init).getD MinName.zero,
      finals := dedup (finals.filterMap (nameOfIn (goodBlocks p))),
      allowPartial := ((goodBlocks p).map fun b => (bname b, rowOf b)).any
        fun kv => kv.2.length != syms.length }

/-- `minifyCore` with the partition as a parameter (`minifyCore_eq`): the quotient whose rows are
copied from the heads of the blocks, `quotWith (qrow …)` written out (`quotOf_eq`). -/
def quotOf (p : Part (Option σ)) (syms : List α) (trans : List (σ × List (α × σ))) (init : σ)
    (finals : List σ) : DFA (MinName σ) α :=
  if (goodBlocks p).isEmpty then
    { states := [MinName.zero], syms := syms,
      trans := [(MinName.zero, syms.map fun a => (a, MinName.zero))],
      init := MinName.zero, finals := [], allowPartial := false }
  else
    { states := (goodBlocks p).map bname, syms := syms,
      trans := (goodBlocks p).map fun b => (bname b, qrow (goodBlocks p) trans b),
      init := (nameOfIn (goodBlocks p) init).getD MinName.zero,
      finals := dedup (finals.filterMap (nameOfIn (goodBlocks p))),
      allowPartial := ((goodBlocks p).map fun b => (bname b, qrow (goodBlocks p) trans b)).any
        fun kv => kv.2.length != syms.length }

omit [DecidableEq α] in
theorem quotOf_eq (p : Part (Option σ)) (syms : List α) (trans : List (σ × List (α × σ))) (init : σ)
    (finals : List σ) :
    quotOf p syms trans init finals = quotWith (qrow (goodBlocks p) trans) p syms init finals := rfl

theorem minifyCore_eq (kept : List σ) (syms : List α) (trans : List (σ × List (α × σ))) (init : σ)
    (finals : List σ) (pick : List Nat → Nat) :
    minifyCore kept syms trans init finals pick =
      quotOf (hopcroft kept syms trans finals pick) syms trans init finals := by
  unfold minifyCore quotOf goodBlocks
  simp only []
  have key : ∀ good : List (Nat × List (Option σ)),
      (good.map fun b =>
        (MinName.blk (blockStates b.2),
          match (blockStates b.2).head? with
          | none => ([] : List (α × MinName σ))
          | some r => ((alookup r trans).getD []).filterMap fun e =>
              match (good.find? fun b => b.2.contains (some e.2)).map
                  fun b => MinName.blk (blockStates b.2) with
              | some nm => some (e.1, nm)
              | none => none)) =
      good.map fun b => (bname b, qrow good trans b) := by
    intro good
    apply List.map_congr_left
    intro b _
    unfold qrow qmap nameOfIn bname
    congr 1
    split
    · rfl
    · congr 1; funext e
      generalize Option.map _ _ = o
      cases o <;> rfl
  split
  · rfl
  · have := key (List.filter (fun b => !b.snd.contains none)
      (hopcroft kept syms trans finals pick).blocks)
    rw [← this]; rfl

set_option linter.unusedSectionVars false in
theorem mem_blockStates {l : List (Option σ)} {q : σ} : q ∈ blockStates l ↔ some q ∈ l := by
  simp [blockStates, List.mem_filterMap]

theorem mem_goodBlocks {p : Part (Option σ)} {b : Nat × List (Option σ)} :
    b ∈ goodBlocks p ↔ b ∈ p.blocks ∧ none ∉ b.2 := by
  simp [goodBlocks, List.mem_filter]

/-- Class of an element of the system in the quotient: its block's name, or the sink. -/
def cls (good : List (Nat × List (Option σ))) : Option σ → Option (MinName σ)
  | none => none
  | some q => nameOfIn good q

/-- What the quotient lemmas assume: the callers' guarantees, dict-shaped rows and a
correct partition. -/
structure QuotHyp (kept : List σ) (syms : List α) (trans : List (σ × List (α × σ))) (init : σ)
    (finals : List σ) (p : Part (Option σ)) : Prop where
  min : MinHyp kept syms trans init finals
  rows_nodup : ∀ q r, alookup q trans = some r → (akeys r).Nodup
  part : p.IsPartitionOf (muniverse kept syms trans)
  same : ∀ x ∈ muniverse kept syms trans, ∀ y ∈ muniverse kept syms trans,
    (p.Same x y ↔ MEquiv kept trans finals x y)

theorem QuotHyp.of_hopcroft {kept : List σ} {syms : List α} {trans : List (σ × List (α × σ))}
    {init : σ} {finals : List σ} {pick : List Nat → Nat}
    (hm : MinHyp kept syms trans init finals)
    (hr : ∀ q r, alookup q trans = some r → (akeys r).Nodup)
    (hc : HopcroftCorrect kept syms trans finals pick) :
    QuotHyp kept syms trans init finals (hopcroft kept syms trans finals pick) :=
  ⟨hm, hr, hc.1, hc.2⟩

omit [DecidableEq σ] [DecidableEq α] in
theorem emptyQuot_wf (syms : List α) : (emptyQuot syms : DFA (MinName σ) α).WF := by
  refine ⟨fun _ hq => hq, fun _ kv hkv a ha => ?_, fun kv hkv a ha => ?_, fun kv hkv m hm => ?_,
    List.mem_singleton_self _, nofun⟩
  · rw [List.mem_singleton.mp hkv, akeys_tabulate]; exact ha
  · rw [List.mem_singleton.mp hkv, akeys_tabulate] at ha; exact ha
  · rw [List.mem_singleton.mp hkv] at hm
    obtain ⟨e, he, rfl⟩ := List.mem_map.mp hm
    obtain ⟨_, _, rfl⟩ := List.mem_map.mp he
    exact List.mem_singleton_self _

section fields
variable {syms : List α} {init : σ} {finals : List σ} {p : Part (Option σ)}
  {rowOf : Nat × List (Option σ) → List (α × MinName σ)}
omit [DecidableEq α]

theorem quotWith_of_nonempty (hne : (goodBlocks p).isEmpty = false) :
    quotWith rowOf p syms init finals =
      { states := (goodBlocks p).map bname, syms := syms,
        trans := (goodBlocks p).map fun b => (bname b, rowOf b),
        init := (nameOfIn (goodBlocks p) init).getD MinName.zero,
        finals := dedup (finals.filterMap (nameOfIn (goodBlocks p))),
        allowPartial := ((goodBlocks p).map fun b => (bname b, rowOf b)).any
          fun kv => kv.2.length != syms.length } :=
  if_neg (by rw [hne]; exact Bool.false_ne_true)

theorem quotWith_of_empty (he : (goodBlocks p).isEmpty = true) :
    quotWith rowOf p syms init finals = emptyQuot syms :=
  if_pos he

theorem quotWith_syms : (quotWith rowOf p syms init finals).syms = syms := by
  unfold quotWith; split <;> rfl

theorem quotWith_states (hne : (goodBlocks p).isEmpty = false) :
    (quotWith rowOf p syms init finals).states = (goodBlocks p).map bname :=
  congrArg DFA.states (quotWith_of_nonempty hne)

theorem quotWith_trans (hne : (goodBlocks p).isEmpty = false) :
    (quotWith rowOf p syms init finals).trans =
      (goodBlocks p).map fun b => (bname b, rowOf b) :=
  congrArg DFA.trans (quotWith_of_nonempty hne)

theorem quotWith_init (hne : (goodBlocks p).isEmpty = false) :
    (quotWith rowOf p syms init finals).init = (cls (goodBlocks p) (some init)).getD MinName.zero :=
  congrArg DFA.init (quotWith_of_nonempty hne)

theorem quotWith_finals (hne : (goodBlocks p).isEmpty = false) :
    (quotWith rowOf p syms init finals).finals = dedup (finals.filterMap (nameOfIn (goodBlocks p))) :=
  congrArg DFA.finals (quotWith_of_nonempty hne)

theorem quotWith_keys : akeys (quotWith rowOf p syms init finals).trans =
    (quotWith rowOf p syms init finals).states := by
  unfold quotWith
  split
  · rfl
  · exact List.map_map

end fields

section quot
variable {kept : List σ} {syms : List α} {trans : List (σ × List (α × σ))} {init : σ}
  {finals : List σ} {p : Part (Option σ)} (H : QuotHyp kept syms trans init finals p)
  {rowOf : Nat × List (Option σ) → List (α × MinName σ)}
include H

theorem good_elem {b : Nat × List (Option σ)} (hb : b ∈ goodBlocks p) {x : Option σ}
    (hx : x ∈ b.2) : ∃ q, q ∈ kept ∧ x = some q := by
  obtain ⟨hb', hn⟩ := mem_goodBlocks.mp hb
  have hU : x ∈ muniverse kept syms trans := (H.part.cover x).mpr ⟨b, hb', hx⟩
  cases x with
  | none => exact absurd hx hn
  | some q => exact ⟨q, mem_muniverse_some.mp hU, rfl⟩

theorem good_rep {b : Nat × List (Option σ)} (hb : b ∈ goodBlocks p) :
    ∃ r, (blockStates b.2).head? = some r ∧ some r ∈ b.2 ∧ r ∈ kept := by
  obtain ⟨hb', _⟩ := mem_goodBlocks.mp hb
  have hne := H.part.nonempty b hb'
  cases hb2 : b.2 with
  | nil => exact absurd hb2 hne
  | cons x t =>
    obtain ⟨q, hq, hxq⟩ := good_elem H hb (x := x) (hb2 ▸ List.mem_cons_self)
    subst hxq
    exact ⟨q, rfl, List.mem_cons_self, hq⟩

theorem bname_inj {b c : Nat × List (Option σ)} (hb : b ∈ goodBlocks p) (hc : c ∈ goodBlocks p)
    (h : bname b = bname c) : b = c := by
  unfold bname at h
  injection h with h
  obtain ⟨r, _, hrb, _⟩ := good_rep H hb
  have : some r ∈ c.2 := mem_blockStates.mp (h ▸ mem_blockStates.mpr hrb)
  exact H.part.disjoint _ (mem_goodBlocks.mp hb).1 _ (mem_goodBlocks.mp hc).1 _ hrb this

theorem nameOfIn_eq_some {q : σ} {n : MinName σ} :
    nameOfIn (goodBlocks p) q = some n ↔ ∃ b ∈ goodBlocks p, some q ∈ b.2 ∧ bname b = n := by
  unfold nameOfIn
  constructor
  · intro h
    obtain ⟨b, hf, hn⟩ := Option.map_eq_some_iff.mp h
    exact ⟨b, List.mem_of_find?_eq_some hf, by simpa using List.find?_some hf, hn⟩
  · rintro ⟨b, hb, hq, hn⟩
    cases hf : (goodBlocks p).find? fun b => b.2.contains (some q) with
    | none =>
      exact absurd (List.contains_iff_mem.mpr hq) (List.find?_eq_none.mp hf b hb)
    | some b' =>
      have hb' := List.mem_of_find?_eq_some hf
      have hq' : some q ∈ b'.2 := by simpa using List.find?_some hf
      have : b' = b :=
        H.part.disjoint _ (mem_goodBlocks.mp hb').1 _ (mem_goodBlocks.mp hb).1 _ hq' hq
      subst this
      exact congrArg some hn

omit H in
theorem nameOfIn_eq_none {good : List (Nat × List (Option σ))} {q : σ} :
    nameOfIn good q = none ↔ ∀ b ∈ good, some q ∉ b.2 := by
  simp only [nameOfIn, Option.map_eq_none_iff, List.find?_eq_none, List.contains_iff_mem]

theorem cls_of_good {b : Nat × List (Option σ)} (hb : b ∈ goodBlocks p) {q : σ}
    (hq : some q ∈ b.2) : cls (goodBlocks p) (some q) = some (bname b) :=
  (nameOfIn_eq_some H).mpr ⟨b, hb, hq, rfl⟩

theorem cls_of_trap_block {b : Nat × List (Option σ)} (hb : b ∈ p.blocks) (hn : none ∈ b.2)
    {x : Option σ} (hx : x ∈ b.2) : cls (goodBlocks p) x = none := by
  cases x with
  | none => rfl
  | some q =>
    refine nameOfIn_eq_none.mpr fun c hc hqc => ?_
    have : c = b := H.part.disjoint _ (mem_goodBlocks.mp hc).1 _ hb _ hqc hx
    exact (mem_goodBlocks.mp hc).2 (this ▸ hn)

theorem cls_congr {x y : Option σ} (hx : x ∈ muniverse kept syms trans)
    (hy : y ∈ muniverse kept syms trans) (h : MEquiv kept trans finals x y) :
    cls (goodBlocks p) x = cls (goodBlocks p) y := by
  obtain ⟨b, hb, hxb, hyb⟩ := (H.same x hx y hy).mpr h
  by_cases hn : none ∈ b.2
  · rw [cls_of_trap_block H hb hn hxb, cls_of_trap_block H hb hn hyb]
  · have hbg := mem_goodBlocks.mpr ⟨hb, hn⟩
    obtain ⟨q, _, rfl⟩ := good_elem H hbg hxb
    obtain ⟨q', _, rfl⟩ := good_elem H hbg hyb
    rw [cls_of_good H hbg hxb, cls_of_good H hbg hyb]

theorem cls_inj {q q' : σ} {n : MinName σ} (h : cls (goodBlocks p) (some q) = some n)
    (h' : cls (goodBlocks p) (some q') = some n) : MEquiv kept trans finals (some q) (some q') := by
  obtain ⟨b, hb, hqb, hn⟩ := (nameOfIn_eq_some H).mp h
  obtain ⟨b', hb', hqb', hn'⟩ := (nameOfIn_eq_some H).mp h'
  have hbp := (mem_goodBlocks.mp hb).1
  have : b' = b := bname_inj H hb' hb (hn'.trans hn.symm)
  subst this
  exact (H.same _ ((H.part.cover _).mpr ⟨b', hbp, hqb⟩) _ ((H.part.cover _).mpr ⟨b', hbp, hqb'⟩)).mp
    ⟨b', hbp, hqb, hqb'⟩

theorem cls_none {q : σ} (hq : q ∈ kept) (h : cls (goodBlocks p) (some q) = none) :
    none ∈ muniverse kept syms trans ∧ MEquiv kept trans finals (some q) none := by
  have hU : some q ∈ muniverse kept syms trans := mem_muniverse_some.mpr hq
  obtain ⟨b, hb, hqb⟩ := (H.part.cover _).mp hU
  by_cases hn : none ∈ b.2
  · have hU' : none ∈ muniverse kept syms trans := (H.part.cover _).mpr ⟨b, hb, hn⟩
    exact ⟨hU', (H.same _ hU _ hU').mp ⟨b, hb, hqb, hn⟩⟩
  · rw [cls_of_good H (mem_goodBlocks.mpr ⟨hb, hn⟩) hqb] at h
    cases h

theorem cls_some {q : σ} {n : MinName σ} (h : cls (goodBlocks p) (some q) = some n)
    (hU' : none ∈ muniverse kept syms trans) : ¬ MEquiv kept trans finals (some q) none := by
  obtain ⟨b, hb, hqb, _⟩ := (nameOfIn_eq_some H).mp h
  obtain ⟨hb', hn⟩ := mem_goodBlocks.mp hb
  have hU : some q ∈ muniverse kept syms trans := (H.part.cover _).mpr ⟨b, hb', hqb⟩
  intro he
  obtain ⟨c, hc, hqc, hnc⟩ := (H.same _ hU _ hU').mpr he
  have : c = b := H.part.disjoint _ hc _ hb' _ hqc hqb
  exact hn (this ▸ hnc)

theorem quotWith_state_cls (hne : (goodBlocks p).isEmpty = false) {n : MinName σ}
    (hn : n ∈ (quotWith rowOf p syms init finals).states) :
    ∃ r ∈ kept, cls (goodBlocks p) (some r) = some n := by
  rw [quotWith_states hne] at hn
  obtain ⟨b, hb, rfl⟩ := List.mem_map.mp hn
  obtain ⟨r, _, hrb, hrk⟩ := good_rep H hb
  exact ⟨r, hrk, cls_of_good H hb hrb⟩

theorem mem_states_of_cls (hne : (goodBlocks p).isEmpty = false) {q : σ} {n : MinName σ}
    (h : cls (goodBlocks p) (some q) = some n) : n ∈ (quotWith rowOf p syms init finals).states := by
  obtain ⟨b, hb, _, hn⟩ := (nameOfIn_eq_some H).mp h
  rw [quotWith_states hne]
  exact List.mem_map.mpr ⟨b, hb, hn⟩

theorem row_nodup (r : σ) : (akeys ((alookup r trans).getD [])).Nodup := by
  cases hr : alookup r trans with
  | none => exact List.nodup_nil
  | some rr => exact H.rows_nodup r rr hr

theorem alookup_qrowAt (r : σ) (a : α) :
    alookup a (qrowAt (goodBlocks p) trans r) = cls (goodBlocks p) (mdelta kept trans (some r) a) := by
  unfold qrowAt
  rw [alookup_qmap _ _ (row_nodup H r)]
  cases hl : alookup a ((alookup r trans).getD []) with
  | none => simp only [mdelta, hl]; rfl
  | some t =>
    simp only [mdelta, hl, Option.bind_some]
    by_cases ht : t ∈ kept
    · rw [if_pos ht]; rfl
    · rw [if_neg ht]
      refine nameOfIn_eq_none.mpr fun c hc htc => ?_
      obtain ⟨q, hq, he⟩ := good_elem H hc htc
      cases he
      exact ht hq

theorem qrowAt_keys (r : σ) :
    (akeys (qrowAt (goodBlocks p) trans r)).Nodup ∧
      ∀ a ∈ akeys (qrowAt (goodBlocks p) trans r), a ∈ syms := by
  refine ⟨(akeys_qmap_sublist _ _).nodup (row_nodup H r), fun a ha => ?_⟩
  have ha' := (akeys_qmap_sublist _ _).subset ha
  cases hr : alookup r trans with
  | none => rw [hr] at ha'; cases ha'
  | some rr => rw [hr] at ha'; exact H.min.keys r rr hr a ha'

omit H in
/-- `rowOf` copies, for every block, the renamed row of one of its members. -/
def RowsFrom (kept : List σ) (trans : List (σ × List (α × σ))) (p : Part (Option σ))
    (rowOf : Nat × List (Option σ) → List (α × MinName σ)) : Prop :=
  ∀ b ∈ goodBlocks p, ∃ r ∈ kept, some r ∈ b.2 ∧ rowOf b = qrowAt (goodBlocks p) trans r

theorem qrow_rowsFrom : RowsFrom kept trans p (qrow (goodBlocks p) trans) := by
  intro b hb
  obtain ⟨r, hr, hrb, hrk⟩ := good_rep H hb
  exact ⟨r, hrk, hrb, by unfold qrow; rw [hr]; rfl⟩

theorem quotWith_row (hne : (goodBlocks p).isEmpty = false) {b : Nat × List (Option σ)}
    (hb : b ∈ goodBlocks p) :
    (quotWith rowOf p syms init finals).row (bname b) = rowOf b := by
  unfold row row?
  rw [quotWith_trans hne, alookup_map_of_inj bname rowOf (goodBlocks p) b hb
    fun c hc h => bname_inj H hc hb h]
  rfl

omit H [DecidableEq α] in
theorem quotWith_row_zero (hne : (goodBlocks p).isEmpty = false) :
    (quotWith rowOf p syms init finals).row MinName.zero = [] := by
  unfold row row?
  rw [alookup_eq_none_iff.mpr]
  · rfl
  · rw [quotWith_keys, quotWith_states hne]
    intro h
    obtain ⟨_, _, hb⟩ := List.mem_map.mp h
    cases hb

theorem quotWith_step (hrow : RowsFrom kept trans p rowOf) (hne : (goodBlocks p).isEmpty = false)
    {x : Option σ} (hx : Dom kept x) (a : α) :
    (quotWith rowOf p syms init finals).step? (cls (goodBlocks p) x) a =
      cls (goodBlocks p) (mdelta kept trans x a) := by
  cases x with
  | none => rfl
  | some q =>
    have hq : q ∈ kept := hx q rfl
    have hUq : some q ∈ muniverse kept syms trans := mem_muniverse_some.mpr hq
    cases hcl : cls (goodBlocks p) (some q) with
    | none =>
      -- `q` behaves like the trap, so its successor has no class either
      obtain ⟨hU', he⟩ := cls_none H hq hcl
      show none = _
      by_cases ha : a ∈ syms
      · exact (cls_congr H (mdelta_closed hUq ha) hU' (he.step a)).symm
      · rw [mdelta_foreign H.min.keys ha]; rfl
    | some n =>
      -- the row of the block of `q` is copied from a member `r`, which is equivalent to `q`
      obtain ⟨b, hb, hqb, rfl⟩ := (nameOfIn_eq_some H).mp hcl
      obtain ⟨r, hrk, hrb, hrow⟩ := hrow b hb
      show alookup a ((quotWith rowOf p syms init finals).row (bname b)) = _
      rw [quotWith_row H hne hb, hrow, alookup_qrowAt H]
      have hUr : some r ∈ muniverse kept syms trans := mem_muniverse_some.mpr hrk
      by_cases ha : a ∈ syms
      · exact cls_congr H (mdelta_closed hUr ha) (mdelta_closed hUq ha)
          ((cls_inj H (cls_of_good H hb hrb) hcl).step a)
      · rw [mdelta_foreign H.min.keys ha, mdelta_foreign H.min.keys ha]

theorem quotWith_run (hrow : RowsFrom kept trans p rowOf) (hne : (goodBlocks p).isEmpty = false)
    {x : Option σ} (hx : Dom kept x) (w : List α) :
    (quotWith rowOf p syms init finals).run (cls (goodBlocks p) x) w =
      cls (goodBlocks p) (mrun kept trans x w) :=
  (List.foldl_rel (r := fun t x => Dom kept x ∧ t = cls (goodBlocks p) x) ⟨hx, rfl⟩
    fun a _ _ x h => ⟨dom_mdelta kept trans x a, h.2 ▸ quotWith_step H hrow hne h.1 a⟩).2

theorem quotWith_isFinal (hne : (goodBlocks p).isEmpty = false) {x : Option σ} (hx : Dom kept x) :
    (quotWith rowOf p syms init finals).isFinal (cls (goodBlocks p) x) = mfin finals x := by
  cases x with
  | none => rfl
  | some q =>
    cases hcl : cls (goodBlocks p) (some q) with
    | none => exact ((cls_none H (hx q rfl) hcl).2 []).symm
    | some n =>
      show decide (n ∈ (quotWith rowOf p syms init finals).finals) = decide (q ∈ finals)
      rw [quotWith_finals hne, decide_eq_decide, mem_dedup, List.mem_filterMap]
      constructor
      · rintro ⟨f, hf, hfn⟩
        have he := cls_inj H hfn hcl []
        simp only [mrun_nil, mfin, decide_eq_decide] at he
        exact he.mp hf
      · exact fun hf => ⟨q, hf, hcl⟩

theorem quotWith_track (hrow : RowsFrom kept trans p rowOf) (hne : (goodBlocks p).isEmpty = false)
    {x : Option σ} (hx : Dom kept x) (w : List α) :
    (quotWith rowOf p syms init finals).isFinal
        ((quotWith rowOf p syms init finals).run (cls (goodBlocks p) x) w) =
      mfin finals (mrun kept trans x w) := by
  rw [quotWith_run H hrow hne hx, quotWith_isFinal H hne (dom_mrun kept trans hx w)]

omit H in
theorem quotWith_zero_dead (hne : (goodBlocks p).isEmpty = false) (w : List α) :
    (quotWith rowOf p syms init finals).isFinal
      ((quotWith rowOf p syms init finals).run (some MinName.zero) w) = false := by
  cases w with
  | nil =>
    show decide (MinName.zero ∈ (quotWith rowOf p syms init finals).finals) = false
    rw [quotWith_finals hne, decide_eq_false_iff_not, mem_dedup, List.mem_filterMap]
    rintro ⟨f, _, hf⟩
    obtain ⟨b, _, hb⟩ := Option.map_eq_some_iff.mp hf
    cases hb
  | cons a w =>
    have : (quotWith rowOf p syms init finals).step? (some MinName.zero) a = none := by
      show alookup a ((quotWith rowOf p syms init finals).row MinName.zero) = none
      rw [quotWith_row_zero hne]; rfl
    rw [run_cons, this, run_none]; rfl

theorem quotWith_accepts (hrow : RowsFrom kept trans p rowOf) (w : List α) :
    (quotWith rowOf p syms init finals).accepts w = mfin finals (mrun kept trans (some init) w) := by
  unfold accepts
  cases hne : (goodBlocks p).isEmpty with
  | false =>
    rw [quotWith_init hne]
    cases hcl : cls (goodBlocks p) (some init) with
    | none => rw [(cls_none H H.min.init_mem hcl).2 w, mfin_mrun_none]; exact quotWith_zero_dead hne w
    | some n =>
      rw [Option.getD_some, ← hcl]
      exact quotWith_track H hrow hne (dom_some kept H.min.init_mem) w
  | true =>
    have hcl : cls (goodBlocks p) (some init) = none := by
      show nameOfIn (goodBlocks p) init = none
      rw [List.isEmpty_iff.mp hne]; rfl
    rw [(cls_none H H.min.init_mem hcl).2 w, mfin_mrun_none, quotWith_of_empty hne]
    generalize DFA.run (σ := MinName σ) _ _ w = s
    cases s <;> rfl

theorem good_nodup : (goodBlocks p).Nodup :=
  List.Nodup.sublist List.filter_sublist H.part.blocks_nodup

theorem quotWith_init_named (hne : (goodBlocks p).isEmpty = false)
    (hreach : ∀ q ∈ kept, ∃ w, mrun kept trans (some init) w = some q) :
    cls (goodBlocks p) (some init) = some (quotWith rowOf p syms init finals).init := by
  rw [quotWith_init hne]
  cases hcl : cls (goodBlocks p) (some init) with
  | some n => rfl
  | none =>
    -- otherwise `init` is equivalent to the trap, and so is everything reachable from it
    exfalso
    obtain ⟨hU', he⟩ := cls_none H H.min.init_mem hcl
    obtain ⟨b, hb⟩ := List.exists_mem_of_ne_nil _ (List.isEmpty_eq_false_iff.mp hne)
    obtain ⟨r, _, hrb, hrk⟩ := good_rep H hb
    obtain ⟨w, hw⟩ := hreach r hrk
    have he' := he.run w
    rw [hw, mrun_none] at he'
    exact cls_some H (cls_of_good H hb hrb) hU' he'

theorem quotWith_wf (hrow : RowsFrom kept trans p rowOf) (hreach : ∀ q ∈ kept, ∃ w, mrun kept trans (some init) w = some q) :
    (quotWith rowOf p syms init finals).WF := by
  cases hne : (goodBlocks p).isEmpty with
  | true => rw [quotWith_of_empty hne]; exact emptyQuot_wf syms
  | false =>
    have hrow : ∀ kv ∈ (quotWith rowOf p syms init finals).trans, ∃ r, kv.2 = qrowAt (goodBlocks p) trans r := by
      intro kv hkv
      rw [quotWith_trans hne] at hkv
      obtain ⟨b, hb, rfl⟩ := List.mem_map.mp hkv
      obtain ⟨r, _, _, h⟩ := hrow b hb
      exact ⟨r, h⟩
    refine ⟨fun q hq => by rw [quotWith_keys]; exact hq, fun hp kv hkv a ha => ?_,
      fun kv hkv a ha => ?_, fun kv hkv n hn => ?_, ?_, fun n hn => ?_⟩
    · obtain ⟨r, hr⟩ := hrow kv hkv
      rw [quotWith_trans hne] at hkv
      have hlen : ¬ (kv.2.length != syms.length) = true := List.any_eq_false.mp
        ((congrArg DFA.allowPartial (quotWith_of_nonempty hne)).symm.trans hp) kv hkv
      rw [quotWith_syms] at ha
      rw [hr] at hlen ⊢
      refine subset_of_nodup_length_eq (qrowAt_keys H r).1 (qrowAt_keys H r).2 ?_ a ha
      rw [← Decidable.of_not_not (mt bne_iff_ne.mpr hlen)]; exact List.length_map _
    · obtain ⟨r, hr⟩ := hrow kv hkv
      rw [quotWith_syms]
      exact (qrowAt_keys H r).2 a (hr ▸ ha)
    · obtain ⟨r, hr⟩ := hrow kv hkv
      obtain ⟨v, _, hv⟩ := avals_qmap (show n ∈ avals (qrowAt (goodBlocks p) trans r) from hr ▸ hn)
      exact mem_states_of_cls H hne hv
    · exact mem_states_of_cls H hne (quotWith_init_named H hne hreach)
    · rw [quotWith_finals hne, mem_dedup, List.mem_filterMap] at hn
      obtain ⟨f, _, hf⟩ := hn
      exact mem_states_of_cls H hne hf

theorem quotWith_states_nodup : (quotWith rowOf p syms init finals).states.Nodup := by
  cases hne : (goodBlocks p).isEmpty with
  | true => rw [quotWith_of_empty hne]; exact List.pairwise_singleton _ _
  | false =>
    rw [quotWith_states hne]
    exact nodup_map_of_inj_on (good_nodup H) fun a ha b hb h => bname_inj H ha hb h

theorem quotWith_pyShape (hrow : RowsFrom kept trans p rowOf) : (quotWith rowOf p syms init finals).PyShape := by
  refine ⟨quotWith_states_nodup H, by rw [quotWith_syms]; exact H.min.syms_nodup, ?_,
    by rw [quotWith_keys]; exact quotWith_states_nodup H, ?_⟩ <;> cases hne : (goodBlocks p).isEmpty
  · rw [quotWith_finals hne]; exact nodup_dedup _
  · rw [quotWith_of_empty hne]; exact List.nodup_nil
  · intro kv hkv
    rw [quotWith_trans hne] at hkv
    obtain ⟨b, hb, rfl⟩ := List.mem_map.mp hkv
    obtain ⟨r, _, _, hr⟩ := hrow b hb
    exact hr ▸ (qrowAt_keys H r).1
  · rw [quotWith_of_empty hne]
    intro kv hkv
    rw [List.mem_singleton.mp hkv, akeys_tabulate]
    exact H.min.syms_nodup

theorem quotWith_distinguishable (hrow : RowsFrom kept trans p rowOf) :
    ∀ n ∈ (quotWith rowOf p syms init finals).states, ∀ n' ∈ (quotWith rowOf p syms init finals).states,
      n ≠ n' → ∃ w, (quotWith rowOf p syms init finals).isFinal
          ((quotWith rowOf p syms init finals).run (some n) w) ≠
        (quotWith rowOf p syms init finals).isFinal
          ((quotWith rowOf p syms init finals).run (some n') w) := by
  cases hne : (goodBlocks p).isEmpty with
  | true =>
    rw [quotWith_of_empty hne]
    intro n hn n' hn' hnn
    exact absurd ((List.mem_singleton.mp hn).trans (List.mem_singleton.mp hn').symm) hnn
  | false =>
    intro n hn n' hn' hnn
    obtain ⟨r, hrk, hr⟩ := quotWith_state_cls H hne hn
    obtain ⟨s, hsk, hs⟩ := quotWith_state_cls H hne hn'
    -- representatives with different names are not equivalent
    have hrs : ¬ MEquiv kept trans finals (some r) (some s) := fun he =>
      hnn (Option.some.inj (hr ▸ hs ▸
        cls_congr H (mem_muniverse_some.mpr hrk) (mem_muniverse_some.mpr hsk) he))
    obtain ⟨w, hw⟩ := Classical.not_forall.mp hrs
    refine ⟨w, ?_⟩
    rw [← hr, ← hs, quotWith_track H hrow hne (dom_some kept hrk),
      quotWith_track H hrow hne (dom_some kept hsk)]
    exact hw

theorem quotWith_reachable (hrow : RowsFrom kept trans p rowOf) (hreach : ∀ q ∈ kept, ∃ w, mrun kept trans (some init) w = some q) :
    ∀ n ∈ (quotWith rowOf p syms init finals).states,
      ∃ w, (quotWith rowOf p syms init finals).run
        (some (quotWith rowOf p syms init finals).init) w = some n := by
  cases hne : (goodBlocks p).isEmpty with
  | true =>
    rw [quotWith_of_empty hne]
    intro n hn
    exact ⟨[], congrArg some (List.mem_singleton.mp hn).symm⟩
  | false =>
    intro n hn
    obtain ⟨r, hrk, hr⟩ := quotWith_state_cls H hne hn
    obtain ⟨w, hw⟩ := hreach r hrk
    refine ⟨w, ?_⟩
    rw [← quotWith_init_named H hne hreach, quotWith_run H hrow hne (dom_some kept H.min.init_mem), hw, hr]

/-- When no trap is needed the quotient is complete: the renamed row of a kept state has
every alphabet symbol as a key. -/
theorem quotWith_complete_of_noTrap (hrow : RowsFrom kept trans p rowOf) (hnt : needTrap kept syms trans = false) :
    (quotWith rowOf p syms init finals).allowPartial = false := by
  cases hne : (goodBlocks p).isEmpty with
  | true => rw [quotWith_of_empty hne]; rfl
  | false =>
    rw [quotWith_of_nonempty hne]
    refine List.any_eq_false.mpr fun kv hkv => ?_
    obtain ⟨b, hb, rfl⟩ := List.mem_map.mp hkv
    obtain ⟨r, hrk, _, hr⟩ := hrow b hb
    simp only [bne_iff_ne, ne_eq, Decidable.not_not, hr]
    rw [← List.length_map (f := Prod.fst)]
    refine ((List.perm_ext_iff_of_nodup (qrowAt_keys H r).1 H.min.syms_nodup).mpr fun a =>
      ⟨(qrowAt_keys H r).2 a, fun ha => ?_⟩).length_eq
    obtain ⟨t, ht⟩ := needTrap_eq_false_iff.mp hnt r hrk a ha
    refine alookup_isSome_iff.mp ?_
    rw [alookup_qrowAt H, ht]
    cases hc : cls (goodBlocks p) (some t) with
    | some _ => rfl
    | none =>
      have := mem_muniverse_none.mp (cls_none H (mdelta_some_kept ht) hc).1
      rw [hnt] at this; cases this

theorem quotWith_live (hrow : RowsFrom kept trans p rowOf) (hp : (quotWith rowOf p syms init finals).allowPartial = true) :
    ∀ n ∈ (quotWith rowOf p syms init finals).states, (quotWith rowOf p syms init finals).Live n := by
  have hU' : none ∈ muniverse kept syms trans := by
    rw [mem_muniverse_none]
    cases h : needTrap kept syms trans with
    | true => rfl
    | false => rw [quotWith_complete_of_noTrap H hrow h] at hp; cases hp
  cases hne : (goodBlocks p).isEmpty with
  | true => rw [quotWith_of_empty hne] at hp; cases hp
  | false =>
    intro n hn
    obtain ⟨r, hrk, hr⟩ := quotWith_state_cls H hne hn
    -- the representative is not equivalent to the trap, which accepts nothing
    obtain ⟨w, hw⟩ := Classical.not_forall.mp (cls_some H hr hU')
    rw [mfin_mrun_none] at hw
    refine ⟨w, ?_⟩
    rw [← hr, quotWith_track H hrow hne (dom_some kept hrk)]
    exact (Bool.not_eq_false _).mp hw

end quot

theorem minifyCore_accepts {kept : List σ} {syms : List α} {trans : List (σ × List (α × σ))}
    {init : σ} {finals : List σ} {pick : List Nat → Nat}
    (hm : MinHyp kept syms trans init finals)
    (hr : ∀ q r, alookup q trans = some r → (akeys r).Nodup)
    (hc : HopcroftCorrect kept syms trans finals pick) (w : List α) :
    (minifyCore kept syms trans init finals pick).accepts w =
      mfin finals (mrun kept trans (some init) w) := by
  rw [minifyCore_eq, quotOf_eq]
  exact quotWith_accepts (QuotHyp.of_hopcroft hm hr hc) (qrow_rowsFrom (QuotHyp.of_hopcroft hm hr hc)) w

/-! `quotOf`, the quotient `minifyCore` builds: the instance "row of the head of the block". -/
section head
variable {syms : List α} {trans : List (σ × List (α × σ))} {init : σ} {finals : List σ}
  {p : Part (Option σ)}

set_option linter.unusedSectionVars false in
theorem quotOf_of_nonempty (hne : (goodBlocks p).isEmpty = false) :
    quotOf p syms trans init finals =
      { states := (goodBlocks p).map bname, syms := syms,
        trans := (goodBlocks p).map fun b => (bname b, qrow (goodBlocks p) trans b),
        init := (nameOfIn (goodBlocks p) init).getD MinName.zero,
        finals := dedup (finals.filterMap (nameOfIn (goodBlocks p))),
        allowPartial := ((goodBlocks p).map fun b => (bname b, qrow (goodBlocks p) trans b)).any
          fun kv => kv.2.length != syms.length } :=
  quotWith_of_nonempty hne

set_option linter.unusedSectionVars false in
theorem quotOf_syms : (quotOf p syms trans init finals).syms = syms := quotWith_syms

end head

section head2
variable {kept : List σ} {syms : List α} {trans : List (σ × List (α × σ))} {init : σ}
  {finals : List σ} {p : Part (Option σ)} (H : QuotHyp kept syms trans init finals p)
include H

theorem quotOf_row (hne : (goodBlocks p).isEmpty = false) {b : Nat × List (Option σ)}
    (hb : b ∈ goodBlocks p) :
    (quotOf p syms trans init finals).row (bname b) = qrow (goodBlocks p) trans b :=
  quotWith_row H hne hb

theorem init_named (hne : (goodBlocks p).isEmpty = false)
    (hreach : ∀ q ∈ kept, ∃ w, mrun kept trans (some init) w = some q) :
    cls (goodBlocks p) (some init) = some (quotOf p syms trans init finals).init :=
  quotWith_init_named H hne hreach

theorem quotOf_wf (hreach : ∀ q ∈ kept, ∃ w, mrun kept trans (some init) w = some q) :
    (quotOf p syms trans init finals).WF :=
  quotWith_wf H (qrow_rowsFrom H) hreach

theorem quotOf_pyShape : (quotOf p syms trans init finals).PyShape :=
  quotWith_pyShape H (qrow_rowsFrom H)

theorem quotOf_distinguishable :
    ∀ n ∈ (quotOf p syms trans init finals).states, ∀ n' ∈ (quotOf p syms trans init finals).states,
      n ≠ n' → ∃ w, (quotOf p syms trans init finals).isFinal
          ((quotOf p syms trans init finals).run (some n) w) ≠
        (quotOf p syms trans init finals).isFinal
          ((quotOf p syms trans init finals).run (some n') w) :=
  quotWith_distinguishable H (qrow_rowsFrom H)

theorem quotOf_reachable (hreach : ∀ q ∈ kept, ∃ w, mrun kept trans (some init) w = some q) :
    ∀ n ∈ (quotOf p syms trans init finals).states,
      ∃ w, (quotOf p syms trans init finals).run
        (some (quotOf p syms trans init finals).init) w = some n :=
  quotWith_reachable H (qrow_rowsFrom H) hreach

theorem quotOf_complete_of_noTrap (hnt : needTrap kept syms trans = false) :
    (quotOf p syms trans init finals).allowPartial = false :=
  quotWith_complete_of_noTrap H (qrow_rowsFrom H) hnt

theorem quotOf_live (hp : (quotOf p syms trans init finals).allowPartial = true) :
    ∀ n ∈ (quotOf p syms trans init finals).states, (quotOf p syms trans init finals).Live n :=
  quotWith_live H (qrow_rowsFrom H) hp

theorem quotOf_size_le : (quotOf p syms trans init finals).states.length ≤ kept.length := by
  rw [quotOf_eq]
  cases hne : (goodBlocks p).isEmpty with
  | true =>
    rw [quotWith_of_empty hne]
    exact List.length_pos_of_mem H.min.init_mem
  | false =>
    rw [quotWith_states hne, List.length_map]
    refine length_le_of_rel_inj (fun (b : Nat × List (Option σ)) (q : σ) => some q ∈ b.2)
      (goodBlocks p) kept (good_nodup H) ?_ ?_
    · intro b hb
      obtain ⟨r, _, hrb, hrk⟩ := good_rep H hb
      exact ⟨r, hrk, hrb⟩
    · intro b hb c hc q hqb hqc
      exact H.part.disjoint _ (mem_goodBlocks.mp hb).1 _ (mem_goodBlocks.mp hc).1 _ hqb hqc

/-- Every state of the quotient is the `zero` of `empty_language` (only when
every kept state is equivalent to the trap) or `blk l` for a non-empty list `l` of kept
states that is exactly one equivalence class of the system. -/
theorem quotOf_names : ∀ n ∈ (quotOf p syms trans init finals).states,
    (n = MinName.zero ∧ (quotOf p syms trans init finals).states = [MinName.zero] ∧
      ∀ q ∈ kept, MEquiv kept trans finals (some q) none) ∨
    ∃ l, n = MinName.blk l ∧ l ≠ [] ∧ (∀ q ∈ l, q ∈ kept) ∧
      (∀ q ∈ l, ∀ q' ∈ kept, (q' ∈ l ↔ MEquiv kept trans finals (some q) (some q'))) := by
  rw [quotOf_eq]
  cases hne : (goodBlocks p).isEmpty with
  | true =>
    intro n hn
    left
    rw [quotWith_of_empty hne] at hn ⊢
    refine ⟨List.mem_singleton.mp hn, rfl, fun q hq => ?_⟩
    have hcl : cls (goodBlocks p) (some q) = none := by
      show nameOfIn (goodBlocks p) q = none
      rw [List.isEmpty_iff.mp hne]; rfl
    exact (cls_none H hq hcl).2
  | false =>
    intro n hn
    right
    rw [quotWith_states hne] at hn
    obtain ⟨b, hb, rfl⟩ := List.mem_map.mp hn
    obtain ⟨r, _, hrb, _⟩ := good_rep H hb
    refine ⟨blockStates b.2, rfl, List.ne_nil_of_mem (mem_blockStates.mpr hrb), ?_, ?_⟩
    · intro q hq
      obtain ⟨q', hq', he⟩ := good_elem H hb (mem_blockStates.mp hq)
      cases he; exact hq'
    · intro q hq q' hq'
      have hcl := cls_of_good H hb (mem_blockStates.mp hq)
      constructor
      · exact fun h => cls_inj H hcl (cls_of_good H hb (mem_blockStates.mp h))
      · intro he
        have := cls_congr H ((H.part.cover _).mpr ⟨b, (mem_goodBlocks.mp hb).1, mem_blockStates.mp hq⟩)
          (mem_muniverse_some.mpr hq') he
        obtain ⟨c, hc, hq'c, hcn⟩ := (nameOfIn_eq_some H).mp (this.symm.trans hcl)
        exact mem_blockStates.mpr (bname_inj H hc hb hcn ▸ hq'c)

/-- A kept state that is not equivalent to the trap (or any kept state when no
trap was needed) lies in the name of some state. -/
theorem quotOf_cover {q : σ} (hq : q ∈ kept)
    (hlive : none ∈ muniverse kept syms trans → ¬ MEquiv kept trans finals (some q) none) :
    ∃ l, MinName.blk l ∈ (quotOf p syms trans init finals).states ∧ q ∈ l := by
  rw [quotOf_eq]
  cases hcl : cls (goodBlocks p) (some q) with
  | none => exact absurd (cls_none H hq hcl).2 (hlive (cls_none H hq hcl).1)
  | some n =>
    obtain ⟨b, hb, hqb, rfl⟩ := (nameOfIn_eq_some H).mp hcl
    have hne : (goodBlocks p).isEmpty = false :=
      List.isEmpty_eq_false_iff.mpr (List.ne_nil_of_mem hb)
    exact ⟨blockStates b.2, mem_states_of_cls H hne hcl, mem_blockStates.mpr hqb⟩

theorem quotOf_disjoint {l l' : List σ}
    (hl : MinName.blk l ∈ (quotOf p syms trans init finals).states)
    (hl' : MinName.blk l' ∈ (quotOf p syms trans init finals).states) {q : σ}
    (hq : q ∈ l) (hq' : q ∈ l') : l = l' := by
  rw [quotOf_eq] at hl hl'
  cases hne : (goodBlocks p).isEmpty with
  | true =>
    rw [quotWith_of_empty hne] at hl
    cases List.mem_singleton.mp hl
  | false =>
    rw [quotWith_states hne] at hl hl'
    obtain ⟨b, hb, hbl⟩ := List.mem_map.mp hl
    obtain ⟨c, hc, hcl⟩ := List.mem_map.mp hl'
    cases hbl; cases hcl
    rw [H.part.disjoint _ (mem_goodBlocks.mp hb).1 _ (mem_goodBlocks.mp hc).1 _
      (mem_blockStates.mp hq) (mem_blockStates.mp hq')]

end head2

/-! Two quotients of the same partition whose rows are copied from (possibly different) members
of each block: `cls` is a morphism onto both, so they cannot be told apart. -/
section rows
variable {kept : List σ} {syms : List α} {trans : List (σ × List (α × σ))} {init : σ}
  {finals : List σ} {p : Part (Option σ)} (H : QuotHyp kept syms trans init finals p)
  {rowOf rowOf' : Nat × List (Option σ) → List (α × MinName σ)}
  (h : RowsFrom kept trans p rowOf) (h' : RowsFrom kept trans p rowOf')

omit [DecidableEq α] in
theorem quotWith_fields :
    (quotWith rowOf' p syms init finals).states = (quotWith rowOf p syms init finals).states ∧
    (quotWith rowOf' p syms init finals).init = (quotWith rowOf p syms init finals).init ∧
    (quotWith rowOf' p syms init finals).finals = (quotWith rowOf p syms init finals).finals := by
  unfold quotWith
  split <;> exact ⟨rfl, rfl, rfl⟩

include H h in
theorem rowOf_nodup {b : Nat × List (Option σ)} (hb : b ∈ goodBlocks p) : (akeys (rowOf b)).Nodup := by
  obtain ⟨r, _, _, hr⟩ := h b hb
  exact hr ▸ (qrowAt_keys H r).1

include H h h'

theorem quotWith_step?_congr (s : Option (MinName σ)) (a : α) :
    (quotWith rowOf' p syms init finals).step? s a = (quotWith rowOf p syms init finals).step? s a := by
  cases s with
  | none => rfl
  | some n =>
    cases hne : (goodBlocks p).isEmpty with
    | true => rw [quotWith_of_empty hne, quotWith_of_empty hne]
    | false =>
      by_cases hn : n ∈ (quotWith rowOf p syms init finals).states
      · -- `n` is the class of a kept state `r`, and both automata step from it as the system does
        obtain ⟨r, hrk, hr⟩ := quotWith_state_cls H hne hn
        rw [← hr]
        exact (quotWith_step H h' hne (dom_some kept hrk) a).trans
          (quotWith_step H h hne (dom_some kept hrk) a).symm
      · have hk : ∀ ro : Nat × List (Option σ) → List (α × MinName σ),
            alookup n (quotWith ro p syms init finals).trans = none := fun ro => by
          rw [alookup_eq_none_iff, quotWith_keys, quotWith_states hne]
          rwa [quotWith_states hne] at hn
        show alookup a ((alookup n _).getD []) = alookup a ((alookup n _).getD [])
        rw [hk, hk]

theorem rowOf_congr {b : Nat × List (Option σ)} (hb : b ∈ goodBlocks p) (a : α) :
    alookup a (rowOf' b) = alookup a (rowOf b) := by
  have hne : (goodBlocks p).isEmpty = false := List.isEmpty_eq_false_iff.mpr (List.ne_nil_of_mem hb)
  have e := quotWith_step?_congr (syms := syms) (init := init) (finals := finals) H h h'
    (some (bname b)) a
  change alookup a ((quotWith rowOf' p syms init finals).row (bname b)) =
    alookup a ((quotWith rowOf p syms init finals).row (bname b)) at e
  rwa [quotWith_row H hne hb, quotWith_row H hne hb] at e

theorem rowOf_entries {b : Nat × List (Option σ)} (hb : b ∈ goodBlocks p) :
    (∀ a n, (a, n) ∈ rowOf' b ↔ (a, n) ∈ rowOf b) ∧ (rowOf' b).length = (rowOf b).length := by
  have nd := rowOf_nodup H h hb
  have nd' := rowOf_nodup H h' hb
  refine ⟨fun a n => by rw [mem_iff_alookup nd, mem_iff_alookup nd', rowOf_congr H h h' hb], ?_⟩
  have := ((List.perm_ext_iff_of_nodup nd' nd).mpr fun a => by
    rw [← alookup_isSome_iff, ← alookup_isSome_iff, rowOf_congr H h h' hb]).length_eq
  rwa [akeys, akeys, List.length_map, List.length_map] at this

theorem quotWith_allowPartial_congr :
    (quotWith rowOf' p syms init finals).allowPartial =
      (quotWith rowOf p syms init finals).allowPartial := by
  cases hne : (goodBlocks p).isEmpty with
  | true => rw [quotWith_of_empty hne, quotWith_of_empty hne]
  | false =>
    rw [quotWith_of_nonempty hne, quotWith_of_nonempty hne]
    show (List.map _ _).any _ = (List.map _ _).any _
    rw [List.any_map, List.any_map]
    rw [Bool.eq_iff_iff, List.any_eq_true, List.any_eq_true]
    exact exists_congr fun b => and_congr_right fun hb => by
      show ((rowOf' b).length != syms.length) = true ↔ ((rowOf b).length != syms.length) = true
      rw [(rowOf_entries H h h' hb).2]

theorem quotWith_trans_entries {kv : MinName σ × List (α × MinName σ)}
    (hkv : kv ∈ (quotWith rowOf' p syms init finals).trans) :
    ∃ kv' ∈ (quotWith rowOf p syms init finals).trans, kv'.1 = kv.1 ∧
      ∀ a n, (a, n) ∈ kv.2 ↔ (a, n) ∈ kv'.2 := by
  cases hne : (goodBlocks p).isEmpty with
  | true =>
    rw [quotWith_of_empty hne] at hkv ⊢
    exact ⟨kv, hkv, rfl, fun _ _ => Iff.rfl⟩
  | false =>
    rw [quotWith_trans hne] at hkv ⊢
    obtain ⟨b, hb, rfl⟩ := List.mem_map.mp hkv
    exact ⟨(bname b, rowOf b), List.mem_map_of_mem hb, rfl, (rowOf_entries H h h' hb).1⟩

end rows

end DFA
end AV
