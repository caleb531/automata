/-
Proofs/Succ.lean — the traversal loop of `successors` (Model/DFASucc.lean).

The loop variables stand at an event of the traversal (`pos`), every word is yielded at an event
of its own (`yieldEv`, by direction), and `Pend s` is the set of words whose event is still to
come.  One execution of the loop body yields the word of the window set whose event is the
present one and passes no event of another (`step_ev`: a child is `viable` iff some accepted word
has that prefix, so pruning loses nothing); hence the loop `Enumerates` the pending words in the
order of their events (`loop_ev`).  Core only.
-/
import AutomataVerif.Proofs.SuccCfg
import AutomataVerif.Proofs.MaxLen

namespace AV
namespace DFA

open WordOrder

variable {σ α : Type} [DecidableEq σ] [DecidableEq α]

/-- What the code before the loop guarantees about `sorted_symbols` (= `S`, ascending for the
direction key `κ`), `first_symbol`, `symbol_succ` and `coaccessible_nodes`. -/
structure CfgOK (d : DFA σ α) (κ : α → Int) (S : List α) (c : SuccCfg σ α) : Prop where
  tbl : SuccTable S c
  inj : Inj κ S
  sorted : S.Pairwise fun a b => κ a < κ b
  coacc : ∀ q, q ∈ c.coacc ↔ ∃ f ∈ d.finals, ∃ n, PathLen d q n f
  syms : ∀ a, a ∈ S ↔ a ∈ d.syms

theorem CfgOK.first {d : DFA σ α} {κ : α → Int} {S : List α} {c : SuccCfg σ α} (cok : CfgOK d κ S c) :
    IsFirst κ S c.first :=
  sorted_isFirst cok.sorted cok.tbl.first

theorem cfgOK_of {d : DFA σ α} (hd : d.IsDict) (hnd : d.syms.Nodup) {key : α → Int} (hk : d.KeyInj key)
    {o : SuccOpts} {first last : α}
    (tbl : SuccTable (d.sortedSymbols key o.reverse) (setupCfg d d.digraph key o first last)) :
    CfgOK d (dirKey key o.reverse) (d.sortedSymbols key o.reverse) (setupCfg d d.digraph key o first last) :=
  have hperm := sortedSymbols_perm d key o.reverse
  ⟨tbl, fun a ha b hb => dirKey_inj hk o.reverse a (hperm.mem_iff.mp ha) b (hperm.mem_iff.mp hb),
    sortedSymbols_sorted hnd hk o.reverse, fun _ => mem_reachable_bwd hd, fun _ => hperm.mem_iff⟩

/-- `w` is accepted and `min_length ≤ |w| ≤ max_length` (the set `Window` of Props/C14.lean, in the
Boolean form the loop computes with). -/
def Target (d : DFA σ α) (o : SuccOpts) (w : List α) : Prop :=
  d.accepts w = true ∧ inWindow o w.length = true

theorem Target.over {d : DFA σ α} {κ : α → Int} {S : List α} {c : SuccCfg σ α} {o : SuccOpts}
    (wf : d.WF) (cok : CfgOK d κ S c) {w : List α} (h : Target d o w) : Over S w :=
  fun x hx => (cok.syms x).mpr (accepts_over wf h.1 x hx)

omit [DecidableEq α] in
theorem yieldIf_eq_some {b : Bool} {chars w : List α} :
    yieldIf b chars = some w ↔ b = true ∧ w = chars.reverse := by
  cases b <;> simp [yieldIf, eq_comm]

set_option linter.unusedSectionVars false in
theorem yieldIf_false (chars : List α) : yieldIf false chars = none := rfl

theorem viable_iff {d : DFA σ α} {κ : α → Int} {S : List α} {c : SuccCfg σ α}
    (hd : d.IsDict) (cok : CfgOK d κ S c) {top : Option σ} {rest : List (Option σ)}
    {chars : List α} (hst : StackOK d (top :: rest) chars) (a : α) :
    viable c (d.step? top a) = true ↔ ∃ x, d.accepts (chars.reverse ++ [a] ++ x) = true := by
  have hrun : ∀ x, d.accepts (chars.reverse ++ [a] ++ x) = d.isFinal (d.run (d.step? top a) x) :=
    fun x => by rw [accepts, run_append, run_append, run_cons, run_nil, ← hst.top]
  simp only [hrun]
  cases d.step? top a with
  | none => simp only [run_none]; exact ⟨(nomatch ·), fun ⟨_, h⟩ => nomatch h⟩
  | some t =>
    simp only [viable, decide_eq_true_eq, cok.coacc t]
    exact ⟨fun ⟨f, hf, n, hp⟩ => ((pathLen_final_iff hd).mp ⟨f, hf, hp⟩).imp fun _ h => h.2,
      fun ⟨x, hx⟩ => (pathLen_final_iff hd).mpr ⟨x, rfl, hx⟩ |>.imp fun _ h => ⟨h.1, _, h.2⟩⟩

/-- Pruning is sound: where the traversal does not descend below `p·a`, no word of the window set
has the prefix `p·a`. -/
theorem no_target_in_subtree {d : DFA σ α} {κ : α → Int} {S : List α} {c : SuccCfg σ α} {o : SuccOpts}
    (hd : d.IsDict) (cok : CfgOK d κ S c) {top : Option σ} {rest : List (Option σ)}
    {chars : List α} (hst : StackOK d (top :: rest) chars) (a : α)
    (h : (viable c (d.step? top a) && belowMax o chars.length) = false) :
    ∀ w, Target d o w → ¬ (chars.reverse ++ [a]) <+: w := by
  intro w ⟨hacc, hwin⟩ hp
  obtain ⟨x, rfl⟩ := hp
  have hv := (viable_iff hd cok hst a).mpr ⟨x, hacc⟩
  have hb : belowMax o chars.length = true := belowMax_iff.mpr fun m hm => by
    have := (inWindow_iff.mp hwin).2 m hm
    simp only [List.length_append, List.length_reverse, List.length_cons, List.length_nil] at this
    omega
  rw [hv, hb] at h
  cases h

/-- Where the traversal stands at the head of the loop: about to enter the subtree of `p·a`
(`candidate = a`), or about to leave that of `p` (`candidate is None`). -/
def pos (s : SuccState σ α) : Ev α :=
  match s.cand with
  | some a => (s.chars.reverse ++ [a], false)
  | none => (s.chars.reverse, true)

/-- The event at which `w` is yielded: forward, when the traversal is about to enter `w·first`;
in reverse, when it leaves `w`. -/
def yieldEv (f : α) (reverse : Bool) (w : List α) : Ev α :=
  match reverse with
  | false => (w ++ [f], false)
  | true => (w, true)

def yieldLt (κ : α → Int) (f : α) (reverse : Bool) (u w : List α) : Prop :=
  evLt κ (yieldEv f reverse u) (yieldEv f reverse w)

omit [DecidableEq α] in
theorem yieldEv_over {S : List α} {f : α} (hf : f ∈ S) (reverse : Bool) {w : List α} (hw : Over S w) :
    Over S (yieldEv f reverse w).1 := by
  cases reverse with
  | true => exact hw
  | false => exact fun x hx => (List.mem_append.mp hx).elim (hw x) fun h => List.mem_singleton.mp h ▸ hf

omit [DecidableEq α] in
theorem yieldEv_inj {f : α} {reverse : Bool} {u w : List α} :
    yieldEv f reverse u = yieldEv f reverse w ↔ u = w := by
  cases reverse <;> simp [yieldEv]

omit [DecidableEq α] in
theorem yieldEv_ne_root (f : α) (reverse : Bool) (w : List α) : yieldEv f reverse w ≠ ([], false) := by
  cases reverse <;> simp [yieldEv]

theorem pos_initState_some (d : DFA σ α) (first : α) (w0 : List α) (o : SuccOpts) :
    pos (initState d first (some w0) o) = yieldEv first o.reverse w0 := by
  simp only [initState, pos, yieldEv]
  cases o.reverse <;> simp

/-- Words still to come at the head of the loop: their event is the present one and
`should_yield` is set, or it lies ahead. -/
def Pend (κ : α → Int) (f : α) (reverse : Bool) (s : SuccState σ α) (w : List α) : Prop :=
  (yieldEv f reverse w = pos s ∧ s.shouldYield = true) ∨ evLt κ (pos s) (yieldEv f reverse w)

/-- The string order in which direction `reverse` yields. -/
def dirLt (key : α → Int) : Bool → List α → List α → Prop
  | false => lexLt key
  | true => fun u v => lexLt key v u

omit [DecidableEq α] in
theorem lexLt_eq_preLt (key : α → Int) (u v : List α) : lexLt key u v ↔ preLt key u v :=
  (preLt_iff_lex key u v).symm

omit [DecidableEq α] in
theorem postLt_neg_iff (key : α → Int) (u v : List α) :
    postLt (fun a => - key a) u v ↔ lexLt key v u := by
  rw [postLt_iff_preLt_neg, lexLt_eq_preLt, show (fun a => - (fun a => - key a) a) = key from
    funext fun a => Int.neg_neg _]

/-- The events at which words are yielded come in the string order of the direction. -/
theorem yieldLt_iff {d : DFA σ α} {key : α → Int} {reverse : Bool} {S : List α} {c : SuccCfg σ α}
    (cok : CfgOK d (dirKey key reverse) S c) {u w : List α} (hu : Over S u) (hw : Over S w) :
    yieldLt (dirKey key reverse) c.first reverse u w ↔ dirLt key reverse u w := by
  have hf := cok.first
  have hinj := cok.inj
  cases reverse with
  | false =>
    exact (evLt_enter_enter _ _ _).trans
      ((preLt_snoc_first hinj hf u w hu hw).trans (lexLt_eq_preLt key u w).symm)
  | true => exact (evLt_leave_leave _ _ _).trans (postLt_neg_iff key u w)

theorem yield_enter {d : DFA σ α} {o : SuccOpts} {top : Option σ} {chars : List α}
    (htop : top = d.run (some d.init) chars.reverse) (a first : α) (sy : Bool) (w : List α) :
    yieldIf (!o.reverse && sy && inWindow o chars.length && decide (a = first) && d.isFinal top) chars
        = some w ↔
      (yieldEv first o.reverse w = (chars.reverse ++ [a], false) ∧ sy = true) ∧ Target d o w := by
  rw [yieldIf_eq_some]
  cases o.reverse with
  | true => simp [yieldEv]
  | false =>
    simp only [yieldEv, Bool.not_false, Bool.true_and, Bool.and_eq_true, decide_eq_true_eq,
      Prod.mk.injEq, and_true]
    constructor
    · rintro ⟨⟨⟨⟨hs, hw⟩, rfl⟩, hf⟩, rfl⟩
      exact ⟨⟨rfl, hs⟩, by rw [DFA.accepts, ← htop]; exact hf, by simpa using hw⟩
    · rintro ⟨⟨he, hs⟩, hacc, hwin⟩
      obtain ⟨rfl, he'⟩ := List.append_inj' he rfl
      obtain rfl := List.singleton_inj.mp he'
      exact ⟨⟨⟨⟨hs, by simpa using hwin⟩, rfl⟩, by rw [htop]; exact hacc⟩, rfl⟩

theorem yield_leave {d : DFA σ α} {o : SuccOpts} {top : Option σ} {chars : List α}
    (htop : top = d.run (some d.init) chars.reverse) (first : α) (sy : Bool) (w : List α) :
    yieldIf (o.reverse && sy && inWindow o chars.length && d.isFinal top) chars = some w ↔
      (yieldEv first o.reverse w = (chars.reverse, true) ∧ sy = true) ∧ Target d o w := by
  rw [yieldIf_eq_some]
  cases o.reverse with
  | false => simp [yieldEv]
  | true =>
    simp only [yieldEv, Bool.true_and, Bool.and_eq_true, Prod.mk.injEq, and_true]
    constructor
    · rintro ⟨⟨⟨hs, hw⟩, hf⟩, rfl⟩
      exact ⟨⟨rfl, hs⟩, by rw [DFA.accepts, ← htop]; exact hf, by simpa using hw⟩
    · rintro ⟨⟨rfl, hs⟩, hacc, hwin⟩
      exact ⟨⟨⟨hs, by simpa using hwin⟩, by rw [htop]; exact hacc⟩, rfl⟩

/-- After leaving `p·a` the traversal stands where `candidate = symbol_succ[a]` puts it. -/
theorem cover_leave {d : DFA σ α} {κ : α → Int} {S : List α} {c : SuccCfg σ α} (cok : CfgOK d κ S c)
    {l r : List α} {a : α} (hS : S = l ++ a :: r) (st : List (Option σ)) (chars : List α) (x : Ev α)
    (hx : Over S x.1) :
    evLt κ (chars.reverse ++ [a], true) x ↔ evLe κ (pos ⟨st, chars, r.head?, true⟩) x := by
  cases r with
  | cons b r => exact cover_next cok.inj (sorted_isNext cok.sorted hS) _ x hx
  | nil => exact cover_last (sorted_isLast cok.sorted hS) _ x hx

/-- **One execution of the loop body**, for both directions: it yields `w` iff the traversal
stands at the event of `w`, `should_yield` is set and `w` is in the window set; and no event of a
word of the window set lies strictly between where it stood and where it stands afterwards. -/
theorem step_ev {d : DFA σ α} {κ : α → Int} {S : List α} {c : SuccCfg σ α} {o : SuccOpts}
    (wf : d.WF) (hd : d.IsDict) (cok : CfgOK d κ S c)
    {s : SuccState σ α} (inv : SInv d S s) (hloop : ¬ (s.chars = [] ∧ s.cand = none)) :
    ∃ y s', succStep d o c s = (y, .ok s') ∧ SInv d S s' ∧ s'.shouldYield = true ∧
      (∀ w, y = some w ↔
        (yieldEv c.first o.reverse w = pos s ∧ s.shouldYield = true) ∧ Target d o w) ∧
      ∀ w, Target d o w → (evLt κ (pos s) (yieldEv c.first o.reverse w) ↔
        evLe κ (pos s') (yieldEv c.first o.reverse w)) := by
  obtain ⟨y, s', hstep, hmove, inv'⟩ := succStep_move cok.tbl inv hloop
  refine ⟨y, s', hstep, inv', ?_⟩
  have hstack := inv.stack
  have hover : ∀ w, Target d o w → Over S (yieldEv c.first o.reverse w).1 :=
    fun w ht => yieldEv_over cok.tbl.firstMem _ (ht.over wf cok)
  cases hmove with
  | @descend top rest chars a sy l r hS hb =>
    refine ⟨rfl, fun w => yield_enter hstack.top a c.first sy w, fun w ht => ?_⟩
    simp only [pos, List.reverse_cons]
    exact cover_first cok.inj cok.first _ _ (hover w ht)
  | @sibling top rest chars a sy l r hS hb =>
    refine ⟨rfl, fun w => yield_enter hstack.top a c.first sy w, fun w ht => ?_⟩
    rw [← cover_leave cok hS (top :: rest) chars _ (hover w ht)]
    refine (evLt_enter_iff κ _ _).trans (or_iff_right fun ⟨hp, hne⟩ => ?_)
    -- a pruned subtree holds no event of a word of the window set
    apply no_target_in_subtree hd cok hstack a hb w ht
    revert hp hne
    cases o.reverse with
    | true => exact fun hp _ => hp
    | false =>
      intro hp hne
      rcases List.prefix_concat_iff.mp hp with h | h
      · exact absurd (congrArg (·, false) h.symm) hne
      · exact h
  | @pop top rest ch chars sy l r hS =>
    refine ⟨rfl, fun w => yield_leave hstack.top c.first sy w, fun w ht => ?_⟩
    simp only [pos, List.reverse_cons]
    exact cover_leave cok hS rest chars _ (hover w ht)

/-- The run `r` of a generator enumerates `W` in the order `lt`: it has not raised; the words
yielded so far are members of `W` in strictly increasing order; and every member of `W` is among
them or — only while the run is cut by the fuel — comes after all of them. -/
structure Enumerates (lt : List α → List α → Prop) (W : List α → Prop)
    (r : List (List α) × SuccStatus) : Prop where
  alive : r.2 = .finished ∨ r.2 = .outOfFuel
  sorted : r.1.Pairwise lt
  sound : ∀ w ∈ r.1, W w
  complete : ∀ w, W w → w ∈ r.1 ∨ (r.2 = .outOfFuel ∧ ∀ y ∈ r.1, lt y w)

section enumerates
omit [DecidableEq α]
variable {lt lt' : List α → List α → Prop} {W W' : List α → Prop} {r : List (List α) × SuccStatus}

theorem Enumerates.mono (h : Enumerates lt W r) (hlt : ∀ u v, W u → W v → lt u v → lt' u v)
    (hW : ∀ w, W w ↔ W' w) : Enumerates lt' W' r :=
  ⟨h.alive, h.sorted.imp_of_mem fun hu hv => hlt _ _ (h.sound _ hu) (h.sound _ hv),
    fun w hw => (hW w).mp (h.sound w hw), fun w hw =>
      (h.complete w ((hW w).mpr hw)).imp_right fun ⟨h1, h2⟩ =>
        ⟨h1, fun y hy => hlt _ _ (h.sound y hy) ((hW w).mpr hw) (h2 y hy)⟩⟩

theorem Enumerates.mem_iff (h : Enumerates lt W r) (hfin : r.2 = .finished) (w : List α) :
    w ∈ r.1 ↔ W w :=
  ⟨h.sound w, fun hw => (h.complete w hw).resolve_right fun h' => nomatch hfin ▸ h'.1⟩

theorem Enumerates.outOfFuel : Enumerates lt W ([], .outOfFuel) :=
  ⟨Or.inr rfl, .nil, fun _ h => (nomatch h), fun _ _ => Or.inr ⟨rfl, fun _ h => (nomatch h)⟩⟩

theorem Enumerates.cons {w0 : List α} (h : Enumerates lt W' r) (hW : ∀ w, W w ↔ w = w0 ∨ W' w)
    (hlt : ∀ w, W' w → lt w0 w) : Enumerates lt W (w0 :: r.1, r.2) :=
  ⟨h.alive, List.pairwise_cons.mpr ⟨fun b hb => hlt b (h.sound b hb), h.sorted⟩,
    fun w hw => (hW w).mpr ((List.mem_cons.mp hw).imp_right (h.sound w)),
    fun w hw => ((hW w).mp hw).elim (fun e => Or.inl (e ▸ List.mem_cons_self)) fun hw' =>
      (h.complete w hw').imp (List.mem_cons_of_mem _) fun ⟨h1, h2⟩ =>
        ⟨h1, List.forall_mem_cons.mpr ⟨hlt w hw', h2⟩⟩⟩

end enumerates

/-- The code after the loop yields what is pending at the exit: the empty word, in reverse. -/
theorem final_ev {d : DFA σ α} {κ : α → Int} {S : List α} {c : SuccCfg σ α} {o : SuccOpts}
    {s : SuccState σ α} (inv : SInv d S s) (hexit : s.chars = [] ∧ s.cand = none) :
    Enumerates (yieldLt κ c.first o.reverse) (fun w => Target d o w ∧ Pend κ c.first o.reverse s w)
      (succFinal d o s) := by
  have hs := inv.stack
  obtain ⟨states, chars, cand, sy⟩ := s
  simp only at hexit hs
  obtain ⟨rfl, rfl⟩ := hexit
  obtain rfl := hs.bottom
  have hy := yield_leave (o := o) (hs.top : some d.init = _) c.first sy
  -- on this literal state `succFinal` computes; `succFinal_shape` is for a state that is a variable
  have hfin : succFinal d o ⟨[some d.init], [], none, sy⟩ =
      ((yieldIf (o.reverse && sy && inWindow o ([] : List α).length && d.isFinal (some d.init)) []).toList,
        .finished) := by
    simp only [succFinal, Option.isNone_none, Bool.and_true]
  rw [hfin]
  refine ⟨Or.inl rfl, ?_, fun w hw => ?_, fun w ⟨ht, hp⟩ => ?_⟩
  · cases yieldIf _ _ <;> simp
  · obtain ⟨h1, ht⟩ := (hy w).mp (Option.mem_toList.mp hw)
    exact ⟨ht, Or.inl h1⟩
  · exact Or.inl (Option.mem_toList.mpr ((hy w).mpr
      ⟨hp.resolve_right fun h => Bool.noConfusion ((evLt_nil κ _ _).mp h).1, ht⟩))

theorem loop_ev {d : DFA σ α} {κ : α → Int} {S : List α} {c : SuccCfg σ α} {o : SuccOpts}
    (wf : d.WF) (hd : d.IsDict) (cok : CfgOK d κ S c) :
    ∀ (fuel : Nat) (s : SuccState σ α), SInv d S s →
      Enumerates (yieldLt κ c.first o.reverse) (fun w => Target d o w ∧ Pend κ c.first o.reverse s w)
        (succLoop d o c fuel s) := by
  intro fuel
  induction fuel with
  | zero => exact fun _ _ => .outOfFuel
  | succ fuel ih =>
    intro s inv
    by_cases hexit : s.chars = [] ∧ s.cand = none
    · rw [succLoop_exit (atExit_iff.mpr hexit)]
      exact final_ev inv hexit
    obtain ⟨y, s', hstep, inv', hsy, hy, hc⟩ := step_ev wf hd cok inv hexit
    rw [succLoop_step (not_atExit hexit) hstep]
    -- what is pending afterwards lies strictly ahead of where the traversal stood
    have hp' : ∀ w, Target d o w → (Pend κ c.first o.reverse s' w ↔
        evLt κ (pos s) (yieldEv c.first o.reverse w)) := fun w ht => by
      rw [hc w ht, Pend, hsy, and_iff_left rfl]; rfl
    cases y with
    | none =>
      refine (ih s' inv').mono (fun _ _ _ _ => id) fun w => and_congr_right fun ht => ?_
      rw [hp' w ht]
      exact (or_iff_right fun h => nomatch (hy w).mpr ⟨h, ht⟩).symm
    | some w0 =>
      obtain ⟨h0, ht0⟩ := (hy w0).mp rfl
      refine (ih s' inv').cons (fun w => ?_) fun w ⟨ht, hp⟩ => ?_
      · constructor
        · rintro ⟨ht, h | h⟩
          · exact Or.inl (Option.some.inj ((hy w).mpr ⟨h, ht⟩)).symm
          · exact Or.inr ⟨ht, (hp' w ht).mpr h⟩
        · rintro (rfl | ⟨ht, h⟩)
          · exact ⟨ht0, Or.inl h0⟩
          · exact ⟨ht, Or.inr ((hp' w ht).mp h)⟩
      · exact show evLt κ _ _ from h0.1 ▸ (hp' w ht).mp hp

/-- The loop from the variables the code before it computes, in the terms of the property: string
order, window set, side of the start string. -/
theorem run_ev {d : DFA σ α} {key : α → Int} {S : List α} {c : SuccCfg σ α} {o : SuccOpts}
    (wf : d.WF) (hd : d.IsDict) (cok : CfgOK d (dirKey key o.reverse) S c) (input : Option (List α))
    (hin : ∀ w0, input = some w0 → ∀ x ∈ w0, x ∈ d.syms) (fuel : Nat) :
    Enumerates (dirLt key o.reverse)
      (fun w => Target d o w ∧
        ∀ w0, input = some w0 → dirLt key o.reverse w0 w ∨ (w = w0 ∧ o.strict = false))
      (succLoop d o c fuel (initState d c.first input o)) := by
  refine (loop_ev (o := o) wf hd cok fuel _
      (initState_inv wf cok.syms cok.tbl.firstMem input hin o)).mono
    (fun u v hu hv => (yieldLt_iff cok (hu.1.over wf cok) (hv.1.over wf cok)).mp) fun w =>
    and_congr_right fun ht => ?_
  -- what is pending before the first iteration: everything, or what is yielded after the start
  -- string (the start string itself when not strict)
  have hw := ht.over wf cok
  cases input with
  | none =>
    refine iff_of_true ?_ (fun _ h => nomatch h)
    exact ((cover_first cok.inj cok.first [] _ (yieldEv_over cok.tbl.firstMem _ hw)).mp
      ((evLt_nil _ _ _).mpr ⟨rfl, yieldEv_ne_root c.first o.reverse w⟩)).imp (⟨·, rfl⟩) id
  | some w0 =>
    rw [Pend, pos_initState_some, yieldEv_inj, or_comm]
    simp only [initState, Bool.not_eq_true', Option.some.injEq, forall_eq']
    exact or_congr (yieldLt_iff cok (fun x hx => (cok.syms x).mpr (hin w0 rfl x hx)) hw) Iff.rfl

end DFA
end AV
