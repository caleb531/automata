/-
Proofs/NFATable.lean — lemmas about Model/NFATable.lean: its additions to the list vocabulary
(`AL`); how the dict-of-dict-of-set writes change the reading `Tbl.tgt`, the keys and the entries
of a table, and what the validity of a constructed record needs to know of a whole loop
(`Tbl.Ext`); loops that only add, as a fold of `addRow` over a list of rows; `validate` in terms of
the entry-wise invariant `Tbl.Ok`, and `NFA.Valid`.  Core only.
-/
import AutomataVerif.Model.NFATable
import AutomataVerif.Proofs.Read

namespace AV

variable {κ β σ α : Type} [DecidableEq κ] [DecidableEq β] [DecidableEq σ] [DecidableEq α]

namespace AL

omit [DecidableEq β] in
theorem alookup_aerase (k x : κ) (d : List (κ × β)) :
    alookup x (aerase k d) = if x = k then none else alookup x d :=
  (congrArg (alookup x) (List.filter_congr fun _ _ => decide_not.symm)).trans (alookup_filter_ne k x d)

omit [DecidableEq β] in
theorem lookupE_of_alookup {k : κ} {v : β} {d : List (κ × β)} (h : alookup k d = some v) :
    lookupE k d = .ok v := by
  unfold lookupE; rw [h]

theorem mem_lprod {γ δ : Type} {xs : List γ} {ys : List δ} {p : γ} {q : δ} :
    (p, q) ∈ lprod xs ys ↔ p ∈ xs ∧ q ∈ ys := by
  simp only [lprod, List.mem_flatMap, List.mem_map, Prod.mk.injEq]
  exact ⟨fun ⟨_, hx, _, hy, e1, e2⟩ => ⟨e1 ▸ hx, e2 ▸ hy⟩, fun ⟨hp, hq⟩ => ⟨p, hp, q, hq, rfl, rfl⟩⟩

theorem nodup_lprod {γ δ : Type} {xs : List γ} {ys : List δ} (hx : xs.Nodup) (hy : ys.Nodup) :
    (lprod xs ys).Nodup := by
  unfold lprod
  induction xs with
  | nil => simp
  | cons p rest ih =>
    rw [List.nodup_cons] at hx
    rw [List.flatMap_cons, List.nodup_append]
    refine ⟨nodup_map_of_inj_on hy (fun a _ b _ e => by cases e; rfl), ih hx.2, ?_⟩
    intro a ha b hb e
    subst e
    obtain ⟨q, _, rfl⟩ := List.mem_map.mp ha
    obtain ⟨p', hp', hb'⟩ := List.mem_flatMap.mp hb
    obtain ⟨q', _, e'⟩ := List.mem_map.mp hb'
    cases e'
    exact hx.1 hp'

theorem length_lprod {γ δ : Type} (xs : List γ) (ys : List δ) :
    (lprod xs ys).length = xs.length * ys.length := by
  unfold lprod
  induction xs with
  | nil => simp
  | cons x xs ih => simp [List.flatMap_cons, ih, Nat.succ_mul, Nat.add_comm]

theorem getD_map_map_nil {γ δ : Type} (f : γ → δ) (o : Option (List γ)) :
    (o.map (List.map f)).getD [] = (o.getD []).map f := by
  cases o <;> rfl

end AL

open AL

namespace Tbl

theorem tgt_of_lookup {t : Tbl σ α} {q : σ} {a : Option α} {ts : List σ}
    (h : alookup a ((alookup q t).getD []) = some ts) : tgt t q a = ts := by
  unfold tgt; rw [h]; rfl

theorem exists_of_mem_tgt {t : Tbl σ α} {q : σ} {a : Option α} {p : σ} (hp : p ∈ tgt t q a) :
    ∃ ts, alookup a ((alookup q t).getD []) = some ts ∧ p ∈ ts :=
  mem_getD_nil_iff.mp hp

theorem tgt_ainsert (t : Tbl σ α) (q q' : σ) (row : Row σ α) (a : Option α) :
    tgt (ainsert q row t) q' a = if q = q' then (alookup a row).getD [] else tgt t q' a := by
  unfold tgt
  rw [alookup_ainsert]
  by_cases h : q = q' <;> simp [h]

theorem tgt_ainsert_ne (t : Tbl σ α) {n q : σ} (h : q ≠ n) (row : Row σ α) (a : Option α) :
    tgt (ainsert n row t) q a = tgt t q a := by
  rw [tgt_ainsert, if_neg (Ne.symm h)]

/-- `t[n] = {"": xs}`, read at `n`. -/
theorem mem_tgt_ainsert_epsRow (t : Tbl σ α) (n : σ) (xs : List σ) (a : Option α) (p : σ) :
    p ∈ tgt (ainsert n [(none, xs)] t) n a ↔ a = none ∧ p ∈ xs := by
  rw [tgt_ainsert, if_pos rfl]
  cases a <;> simp [alookup_cons]

theorem tgt_setTargets (t : Tbl σ α) (q q' : σ) (a a' : Option α) (xs : List σ) :
    tgt (setTargets t q a xs) q' a' = if q' = q ∧ a' = a then xs else tgt t q' a' := by
  unfold setTargets
  rw [tgt_ainsert]
  by_cases hq : q = q'
  · subst hq
    simp only [if_true, true_and]
    rw [alookup_ainsert]
    by_cases ha : a = a'
    · subst ha; simp
    · have : ¬ a' = a := fun e => ha e.symm
      simp only [ha, if_false, this]
      rfl
  · have : ¬ q' = q := fun e => hq e.symm
    simp [hq, this]

/-- `setdefault(a, set()).update(xs)` is the assignment of the union. -/
theorem addTargets_eq_setTargets (t : Tbl σ α) (q : σ) (a : Option α) (xs : List σ) :
    addTargets t q a xs = setTargets t q a (sunion (tgt t q a) xs) := rfl

theorem mem_tgt_addTargets (t : Tbl σ α) (q q' : σ) (a a' : Option α) (xs : List σ) (p : σ) :
    p ∈ tgt (addTargets t q a xs) q' a' ↔ p ∈ tgt t q' a' ∨ (q' = q ∧ a' = a ∧ p ∈ xs) := by
  rw [addTargets_eq_setTargets, tgt_setTargets]
  split
  · rename_i h
    rw [mem_sunion, h.1, h.2]
    exact or_congr_right ⟨fun hx => ⟨rfl, rfl, hx⟩, fun hx => hx.2.2⟩
  · rename_i h
    exact (or_iff_left fun hx => h ⟨hx.1, hx.2.1⟩).symm

omit [DecidableEq α] in
/-- `setdefault(q, {})` either finds the row of `q` or stores an empty one. -/
theorem touch_cases (t : Tbl σ α) (q : σ) :
    touch t q = t ∧ q ∈ akeys t ∨ touch t q = ainsert q [] t ∧ alookup q t = none := by
  unfold touch
  split
  next h => exact Or.inl ⟨rfl, alookup_some_key_mem h⟩
  next h => exact Or.inr ⟨(ainsert_of_not_mem (alookup_eq_none_iff.mp h)).symm, h⟩

omit [DecidableEq α] in
theorem alookup_touch (t : Tbl σ α) (q q' : σ) :
    (alookup q' (touch t q)).getD [] = (alookup q' t).getD [] := by
  rcases touch_cases t q with ⟨e, _⟩ | ⟨e, hl⟩
  · rw [e]
  · rw [e, alookup_ainsert]
    split
    · rename_i e'; rw [← e', hl]; rfl
    · rfl

theorem tgt_touch (t : Tbl σ α) (q q' : σ) (a : Option α) : tgt (touch t q) q' a = tgt t q' a := by
  unfold tgt; rw [alookup_touch]

/- When applying this, leave `f` and `E` to unification and have the step lemma elaborated on its
own (`mem_tgt_foldl _ _ (fun t c x a p => by exact …)`): given explicitly, the expected type of the
step carries β-redexes and its defeq check is slow. -/
theorem mem_tgt_foldl {γ : Type} (f : Tbl σ α → γ → Tbl σ α) (E : γ → σ → Option α → σ → Prop)
    (h : ∀ t c x a p, p ∈ tgt (f t c) x a ↔ p ∈ tgt t x a ∨ E c x a p)
    (l : List γ) (t : Tbl σ α) (x : σ) (a : Option α) (p : σ) :
    p ∈ tgt (l.foldl f t) x a ↔ p ∈ tgt t x a ∨ ∃ c ∈ l, E c x a p :=
  foldl_or (X := fun t => p ∈ tgt t x a) (fun t c => h t c x a p) l t

/-- `for q in l: t[q].setdefault(sym, set()).add(i)`. -/
theorem mem_tgt_foldl_addTargets (i : σ) (sym : Option α) (l : List σ) (t : Tbl σ α) (q : σ)
    (a : Option α) (p : σ) :
    p ∈ tgt (l.foldl (fun t q => addTargets t q sym [i]) t) q a ↔
      p ∈ tgt t q a ∨ (q ∈ l ∧ a = sym ∧ p = i) :=
  (mem_tgt_foldl _ (fun c x a p => x = c ∧ a = sym ∧ p = i)
    (fun t c x a p => by rw [mem_tgt_addTargets, List.mem_singleton]) l t q a p).trans
    (or_congr_right ⟨fun ⟨_, hc, e, h⟩ => ⟨e ▸ hc, h⟩, fun ⟨hq, h⟩ => ⟨q, hq, rfl, h⟩⟩)

theorem tgt_foldl_other {γ : Type} (f : Tbl σ α → γ → Tbl σ α) (k : γ → σ)
    (hne : ∀ t c x a, x ≠ k c → tgt (f t c) x a = tgt t x a) {x : σ} (a : Option α) :
    ∀ (l : List γ) (t : Tbl σ α), (∀ c ∈ l, x ≠ k c) → tgt (l.foldl f t) x a = tgt t x a :=
  fun l t h => List.foldlRecOn (motive := fun t' => tgt t' x a = tgt t x a) l f rfl
    fun t' ht' c hc => (hne t' c x a (h c hc)).trans ht'

/-- A loop whose iteration for `c` rewrites the row of `k c` by `F c` and leaves the other rows
alone, read at `k c`.  An item may occur twice in `l` and a later write overwrites, whence `hidem`. -/
theorem tgt_foldl_self {γ : Type} (f : Tbl σ α → γ → Tbl σ α) (k : γ → σ)
    (F : γ → Option α → List σ → List σ) (hk : ∀ c c', k c = k c' → c = c')
    (hself : ∀ t c a, tgt (f t c) (k c) a = F c a (tgt t (k c) a))
    (hne : ∀ t c x a, x ≠ k c → tgt (f t c) x a = tgt t x a)
    (hidem : ∀ c a d, F c a (F c a d) = F c a d) {c : γ} (a : Option α) :
    ∀ (l : List γ) (t : Tbl σ α), c ∈ l → tgt (l.foldl f t) (k c) a = F c a (tgt t (k c) a) := by
  intro l
  induction l with
  | nil => exact fun _ h => nomatch h
  | cons d l ih =>
    intro t h
    rw [List.foldl_cons]
    by_cases hc : c ∈ l
    · rw [ih _ hc]
      by_cases e : c = d
      · rw [← e, hself, hidem]
      · rw [hne t d _ a fun h => e (hk c d h)]
    · have e : c = d := (List.mem_cons.mp h).resolve_right hc
      rw [← e, tgt_foldl_other f k hne a l _ fun c' hc' h => hc (hk c c' h ▸ hc'), hself]

omit [DecidableEq α] in
theorem mem_akeys_touch {t : Tbl σ α} {q x : σ} : x ∈ akeys (touch t q) ↔ x = q ∨ x ∈ akeys t := by
  rcases touch_cases t q with ⟨e, hq⟩ | ⟨e, _⟩
  · rw [e]; exact (or_iff_right_of_imp fun h => h ▸ hq).symm
  · rw [e]; exact mem_akeys_ainsert

theorem mem_akeys_addTargets {t : Tbl σ α} {q x : σ} {a : Option α} {xs : List σ} :
    x ∈ akeys (addTargets t q a xs) ↔ x = q ∨ x ∈ akeys t := by
  unfold addTargets; exact mem_akeys_ainsert

theorem mem_akeys_setTargets {t : Tbl σ α} {q x : σ} {a : Option α} {xs : List σ} :
    x ∈ akeys (setTargets t q a xs) ↔ x = q ∨ x ∈ akeys t := by
  unfold setTargets; exact mem_akeys_ainsert

theorem alookup_addTargets_ne (t : Tbl σ α) {q q' : σ} (h : q' ≠ q) (a : Option α) (xs : List σ) :
    alookup q' (addTargets t q a xs) = alookup q' t := by
  rw [addTargets, alookup_ainsert, if_neg (Ne.symm h)]

/-- The association lists represent Python dicts: keys are unique (outer and inner). -/
structure Dict (t : Tbl σ α) : Prop where
  keys : (akeys t).Nodup
  rows : ∀ kv ∈ t, (akeys kv.2).Nodup

omit [DecidableEq σ] [DecidableEq α] in
theorem dict_nil : Dict ([] : Tbl σ α) := ⟨by simp [akeys], by simp⟩

omit [DecidableEq α] in
theorem dict_ainsert {t : Tbl σ α} (h : Dict t) (q : σ) {row : Row σ α} (hr : (akeys row).Nodup) :
    Dict (ainsert q row t) := by
  refine ⟨nodup_akeys_ainsert h.keys, ?_⟩
  intro kv hkv
  rcases mem_ainsert hkv with e | hm
  · rw [e]; exact hr
  · exact h.rows kv hm

omit [DecidableEq α] in
theorem row_nodup {t : Tbl σ α} (h : Dict t) (q : σ) : (akeys ((alookup q t).getD [])).Nodup :=
  getD_alookup_inv (I := fun r => (akeys r).Nodup) List.nodup_nil h.rows q

theorem dict_setTargets {t : Tbl σ α} (h : Dict t) (q : σ) (a : Option α) (xs : List σ) :
    Dict (setTargets t q a xs) := by
  unfold setTargets
  exact dict_ainsert h q (nodup_akeys_ainsert (row_nodup h q))

theorem dict_addTargets {t : Tbl σ α} (h : Dict t) (q : σ) (a : Option α) (xs : List σ) :
    Dict (addTargets t q a xs) :=
  dict_setTargets h q a _

omit [DecidableEq α] in
theorem dict_touch {t : Tbl σ α} (h : Dict t) (q : σ) : Dict (touch t q) := by
  rcases touch_cases t q with ⟨e, _⟩ | ⟨e, _⟩
  · rw [e]; exact h
  · rw [e]; exact dict_ainsert h q List.nodup_nil

/-- The entry-wise invariant of a table: `S` for the symbols that key its rows, `T` for the targets
(for `validate`: `SymOk syms` and `(· ∈ states)`, see `NFA.wf_iff_ok`). -/
def Ok (S : Option α → Prop) (T : σ → Prop) (t : Tbl σ α) : Prop :=
  ∀ kv ∈ t, ∀ e ∈ kv.2, S e.1 ∧ ∀ p ∈ e.2, T p

/-- `Ok` for one row: what a write has to show of the row it stores. -/
def RowOk (S : Option α → Prop) (T : σ → Prop) (r : Row σ α) : Prop :=
  ∀ e ∈ r, S e.1 ∧ ∀ p ∈ e.2, T p

variable {S : Option α → Prop} {T : σ → Prop}

omit [DecidableEq σ] [DecidableEq α] in
theorem ok_nil : Ok S T ([] : Tbl σ α) := by intro kv h; simp at h

omit [DecidableEq α] in
theorem ok_ainsert {t : Tbl σ α} (h : Ok S T t) (q : σ) {row : Row σ α} (hr : RowOk S T row) :
    Ok S T (ainsert q row t) := by
  intro kv hkv
  rcases mem_ainsert hkv with e | hm
  · rw [e]; exact hr
  · exact h kv hm

omit [DecidableEq α] in
theorem rowOk_lookup {t : Tbl σ α} (h : Ok S T t) (q : σ) : RowOk S T ((alookup q t).getD []) :=
  getD_alookup_inv (I := RowOk S T) (fun _ he => nomatch he) h q

omit [DecidableEq σ] in
theorem rowOk_ainsert {r : Row σ α} (h : RowOk S T r) {a : Option α} {xs : List σ} (ha : S a)
    (hx : ∀ p ∈ xs, T p) : RowOk S T (ainsert a xs r) := by
  intro e he
  rcases mem_ainsert he with e' | hm
  · rw [e']; exact ⟨ha, hx⟩
  · exact h e hm

theorem ok_setTargets {t : Tbl σ α} (h : Ok S T t) (q : σ) {a : Option α} {xs : List σ} (ha : S a)
    (hx : ∀ p ∈ xs, T p) : Ok S T (setTargets t q a xs) := by
  unfold setTargets
  exact ok_ainsert h q (rowOk_ainsert (rowOk_lookup h q) ha hx)

theorem ok_addTargets {t : Tbl σ α} (h : Ok S T t) (q : σ) {a : Option α} {xs : List σ} (ha : S a)
    (hx : ∀ p ∈ xs, T p) : Ok S T (addTargets t q a xs) :=
  ok_setTargets h q ha fun p hp => (mem_sunion.mp hp).elim
    (fun hp => let ⟨ts, hts, hp⟩ := exists_of_mem_tgt hp
      ((rowOk_lookup h q) (a, ts) (alookup_some_mem hts)).2 p hp) (hx p)

omit [DecidableEq α] in
theorem ok_touch {t : Tbl σ α} (h : Ok S T t) (q : σ) : Ok S T (touch t q) := by
  rcases touch_cases t q with ⟨e, _⟩ | ⟨e, _⟩
  · rw [e]; exact h
  · rw [e]; exact ok_ainsert h q fun _ he => nomatch he

omit [DecidableEq σ] [DecidableEq α] in
theorem ok_mono {S' : Option α → Prop} {T' : σ → Prop} {t : Tbl σ α} (h : Ok S T t)
    (hS : ∀ a, S a → S' a) (hT : ∀ p, T p → T' p) : Ok S' T' t :=
  fun kv hkv e he => ⟨hS _ ((h kv hkv e he).1), fun p hp => hT p ((h kv hkv e he).2 p hp)⟩

/-- The edge `q —a→ p` occurs in a list of rows `(source, edges)`: what a fold of `addRow` over
`rows` adds to the reading (`mem_tgt_addRows`), and the reading of a dict itself. -/
def InRows (rows : List (σ × Row σ α)) (q : σ) (a : Option α) (p : σ) : Prop :=
  ∃ r ∈ rows, q = r.1 ∧ ∃ e ∈ r.2, a = e.1 ∧ p ∈ e.2

theorem mem_tgt_iff_entry {t : Tbl σ α} (h : Dict t) (q : σ) (a : Option α) (p : σ) :
    p ∈ tgt t q a ↔ InRows t q a p := by
  unfold tgt
  rw [mem_getD_alookup_iff (row_nodup h q)]
  exact ⟨fun ⟨ts, hts, hp⟩ => let ⟨row, h1, h2⟩ := (mem_getD_alookup_iff h.keys).mp hts
      ⟨(q, row), h1, rfl, (a, ts), h2, rfl, hp⟩,
    fun ⟨r, h1, hq, e, h2, ha, hp⟩ =>
      ⟨e.2, (mem_getD_alookup_iff h.keys).mpr ⟨r.2, hq ▸ h1, ha ▸ h2⟩, hp⟩⟩

theorem ok_of_tgt {t : Tbl σ α} (h : Dict t) (hS : ∀ kv ∈ t, ∀ e ∈ kv.2, S e.1)
    (hT : ∀ kv ∈ t, ∀ a, ∀ p ∈ tgt t kv.1 a, T p) : Ok S T t :=
  fun kv hkv e he => ⟨hS kv hkv e he, fun p hp =>
    hT kv hkv e.1 p ((mem_tgt_iff_entry h kv.1 e.1 p).mpr ⟨kv, hkv, rfl, e, he, rfl, hp⟩)⟩

/-- `t'` is `t` after some dict writes: all that the validity of a constructed record needs to
know about a loop, whatever the loop writes. -/
structure Ext (S : Option α → Prop) (T : σ → Prop) (t t' : Tbl σ α) : Prop where
  dict : Dict t → Dict t'
  ok : Ok S T t → Ok S T t'
  keys : ∀ x ∈ akeys t, x ∈ akeys t'

omit [DecidableEq σ] [DecidableEq α] in
theorem Ext.refl (t : Tbl σ α) : Ext S T t t := ⟨id, id, fun _ h => h⟩

omit [DecidableEq σ] [DecidableEq α] in
theorem Ext.trans {t t' t'' : Tbl σ α} (h1 : Ext S T t t') (h2 : Ext S T t' t'') : Ext S T t t'' :=
  ⟨fun h => h2.dict (h1.dict h), fun h => h2.ok (h1.ok h), fun x h => h2.keys x (h1.keys x h)⟩

omit [DecidableEq α] in
theorem Ext.touch (t : Tbl σ α) (q : σ) : Ext S T t (touch t q) :=
  ⟨fun h => dict_touch h q, fun h => ok_touch h q, fun _ h => mem_akeys_touch.mpr (Or.inr h)⟩

omit [DecidableEq α] in
theorem Ext.ainsert (t : Tbl σ α) (q : σ) {row : Row σ α} (hn : (akeys row).Nodup)
    (hr : RowOk S T row) : Ext S T t (ainsert q row t) :=
  ⟨fun h => dict_ainsert h q hn, fun h => ok_ainsert h q hr,
   fun _ h => mem_akeys_ainsert.mpr (Or.inr h)⟩

theorem Ext.add (t : Tbl σ α) (q : σ) {a : Option α} {xs : List σ} (ha : S a)
    (hx : ∀ p ∈ xs, T p) : Ext S T t (addTargets t q a xs) :=
  ⟨fun h => dict_addTargets h q a xs, fun h => ok_addTargets h q ha hx,
   fun _ h => mem_akeys_addTargets.mpr (Or.inr h)⟩

theorem Ext.set (t : Tbl σ α) (q : σ) {a : Option α} {xs : List σ} (ha : S a)
    (hx : ∀ p ∈ xs, T p) : Ext S T t (setTargets t q a xs) :=
  ⟨fun h => dict_setTargets h q a xs, fun h => ok_setTargets h q ha hx,
   fun _ h => mem_akeys_setTargets.mpr (Or.inr h)⟩

omit [DecidableEq σ] [DecidableEq α] in
theorem Ext.foldl {γ : Type} (f : Tbl σ α → γ → Tbl σ α) (l : List γ) (t : Tbl σ α)
    (h : ∀ c ∈ l, ∀ t, Ext S T t (f t c)) : Ext S T t (l.foldl f t) :=
  List.foldlRecOn l f (Ext.refl t) fun t' ht' c hc => ht'.trans (h c hc t')

theorem Ext.foldl_addTargets {i : σ} {sym : Option α} (hs : S sym) (hi : T i) (l : List σ)
    (t : Tbl σ α) : Ext S T t (l.foldl (fun t q => addTargets t q sym [i]) t) :=
  Ext.foldl _ l t fun q _ t => Ext.add t q hs fun _ hp => List.mem_singleton.mp hp ▸ hi

omit [DecidableEq σ] [DecidableEq α] in
theorem Ext.mem_akeys_foldl {γ : Type} (f : Tbl σ α → γ → Tbl σ α) (k : γ → σ) :
    ∀ (l : List γ), (∀ c ∈ l, ∀ t, Ext S T t (f t c) ∧ k c ∈ akeys (f t c)) →
      ∀ c ∈ l, ∀ t, k c ∈ akeys (l.foldl f t)
  | d :: l, h, c, hc, t => by
    have hl := fun c' hc' => h c' (List.mem_cons_of_mem _ hc')
    rcases List.mem_cons.mp hc with rfl | hc
    · exact (Ext.foldl f l _ fun c' hc' t => (hl c' hc' t).1).keys _ (h c List.mem_cons_self t).2
    · exact Ext.mem_akeys_foldl f k l hl c hc _

/-- `for symbol, ends in old.items(): t[ns][symbol] = g(ends)`. -/
def setRow {τ : Type} (ns : σ) (g : List τ → List σ) (old : Row τ α) (t : Tbl σ α) : Tbl σ α :=
  old.foldl (fun t e => setTargets t ns e.1 (g e.2)) t

theorem tgt_setRow_ne {τ : Type} (ns : σ) (g : List τ → List σ) {q : σ} (h : q ≠ ns) (a : Option α) :
    ∀ (old : Row τ α) (t : Tbl σ α), tgt (setRow ns g old t) q a = tgt t q a :=
  fun old t => List.foldlRecOn (motive := fun t' => tgt t' q a = tgt t q a) old _ rfl
    fun _ ht' _ _ => (tgt_setTargets ..).trans ((if_neg fun e => h e.1).trans ht')

theorem tgt_setRow_self {τ : Type} (ns : σ) (g : List τ → List σ) (a : Option α) :
    ∀ (old : Row τ α), (akeys old).Nodup → ∀ (t : Tbl σ α),
    tgt (setRow ns g old t) ns a = ((alookup a old).map g).getD (tgt t ns a) := by
  intro old
  induction old with
  | nil => exact fun _ _ => rfl
  | cons e r ih =>
    obtain ⟨k, v⟩ := e
    intro hn t
    rw [akeys, List.map_cons, List.nodup_cons] at hn
    rw [setRow, List.foldl_cons, ← setRow, ih hn.2, tgt_setTargets, alookup_cons]
    by_cases hk : k = a
    · rw [if_pos hk, if_pos ⟨rfl, hk.symm⟩, ← hk, alookup_eq_none_iff.mpr hn.1]; rfl
    · rw [if_neg hk, if_neg fun e => hk e.2.symm]

theorem Ext.setRow {τ : Type} (ns : σ) (g : List τ → List σ) (old : Row τ α) (t : Tbl σ α)
    (h : ∀ e ∈ old, S e.1 ∧ ∀ p ∈ g e.2, T p) : Ext S T t (setRow ns g old t) :=
  Ext.foldl _ old t fun e he t => Ext.set t ns (h e he).1 (h e he).2

/-- `{state: {} for state in l}`. -/
def emptyRows (l : List σ) : Tbl σ α := l.map fun s => (s, [])

omit [DecidableEq σ] [DecidableEq α] in
theorem mem_akeys_emptyRows {l : List σ} {k : σ} : k ∈ akeys (emptyRows l : Tbl σ α) ↔ k ∈ l := by
  rw [emptyRows, akeys_tabulate]

omit [DecidableEq σ] [DecidableEq α] in
theorem dict_emptyRows {l : List σ} (h : l.Nodup) : Dict (emptyRows l : Tbl σ α) := by
  refine ⟨by rw [emptyRows, akeys_tabulate]; exact h, fun kv hkv => ?_⟩
  obtain ⟨s, _, rfl⟩ := List.mem_map.mp hkv
  exact List.nodup_nil

omit [DecidableEq σ] [DecidableEq α] in
theorem ok_emptyRows (l : List σ) : Ok S T (emptyRows l : Tbl σ α) := by
  intro kv hkv e he
  obtain ⟨s, _, rfl⟩ := List.mem_map.mp hkv
  cases he

theorem tgt_emptyRows (l : List σ) (q : σ) (a : Option α) :
    tgt (emptyRows l) q a = [] := by
  rw [tgt, emptyRows, alookup_tabulate]
  split <;> rfl

/-- `t[q].setdefault(a, set()).update(xs)` for every `(a, xs)` of `row`. -/
def addEdges (t : Tbl σ α) (q : σ) (row : Row σ α) : Tbl σ α :=
  row.foldl (fun t e => addTargets t q e.1 e.2) t

/-- `t.setdefault(q, {})`, then the edges `r.2` out of `q = r.1`.  All that a loop which only adds
does to a table is this, for a list of rows `(state, edges)`. -/
def addRow (t : Tbl σ α) (r : σ × Row σ α) : Tbl σ α := addEdges (touch t r.1) r.1 r.2

theorem addEdges_append (t : Tbl σ α) (q : σ) (es fs : Row σ α) :
    addEdges (addEdges t q es) q fs = addEdges t q (es ++ fs) :=
  (List.foldl_append ..).symm

theorem addEdges_ite (c : Prop) [Decidable c] (t : Tbl σ α) (q : σ) (es : Row σ α) :
    (if c then addEdges t q es else t) = addEdges t q (if c then es else []) := by
  split <;> rfl

theorem mem_tgt_addRow (t : Tbl σ α) (r : σ × Row σ α) (q : σ) (a : Option α) (p : σ) :
    p ∈ tgt (addRow t r) q a ↔ p ∈ tgt t q a ∨ (q = r.1 ∧ ∃ e ∈ r.2, a = e.1 ∧ p ∈ e.2) := by
  refine (mem_tgt_foldl _ _ (fun t e q a p => by exact mem_tgt_addTargets t r.1 q e.1 a e.2 p)
    r.2 (touch t r.1) q a p).trans ?_
  rw [tgt_touch]
  exact or_congr_right
    ⟨fun ⟨e, he, hq, h⟩ => ⟨hq, e, he, h⟩, fun ⟨hq, e, he, h⟩ => ⟨e, he, hq, h⟩⟩

theorem mem_tgt_addRows (rows : List (σ × Row σ α)) (t : Tbl σ α) (q : σ) (a : Option α) (p : σ) :
    p ∈ tgt (rows.foldl addRow t) q a ↔ p ∈ tgt t q a ∨ InRows rows q a p :=
  foldl_or (X := fun t => p ∈ tgt t q a) (fun t r => mem_tgt_addRow t r q a p) rows t

theorem mem_akeys_addRow (t : Tbl σ α) (r : σ × Row σ α) (x : σ) :
    x ∈ akeys (addRow t r) ↔ x ∈ akeys t ∨ x = r.1 := by
  refine List.foldlRecOn (motive := fun t' => x ∈ akeys t' ↔ x ∈ akeys t ∨ x = r.1) r.2 _
    (mem_akeys_touch.trans or_comm) fun t' h e _ => ?_
  rw [mem_akeys_addTargets, h, or_comm, or_assoc, or_self]

theorem mem_akeys_addRows (rows : List (σ × Row σ α)) (t : Tbl σ α) (x : σ) :
    x ∈ akeys (rows.foldl addRow t) ↔ x ∈ akeys t ∨ ∃ r ∈ rows, x = r.1 :=
  foldl_or (X := fun t => x ∈ akeys t) (fun t r => mem_akeys_addRow t r x) rows t

theorem Ext.addRows {rows : List (σ × Row σ α)} (h : ∀ r ∈ rows, RowOk S T r.2) (t : Tbl σ α) :
    Ext S T t (rows.foldl addRow t) :=
  Ext.foldl _ rows t fun r hr t => (Ext.touch t r.1).trans
    (Ext.foldl _ r.2 _ fun e he t => Ext.add t r.1 (h r hr e he).1 (h r hr e he).2)

def single (es : List (Option α × σ)) : Row σ α := es.map fun e => (e.1, [e.2])

omit [DecidableEq σ] [DecidableEq α] in
theorem exists_mem_single {es : List (Option α × σ)} {a : Option α} {p : σ} :
    (∃ e ∈ single es, a = e.1 ∧ p ∈ e.2) ↔ (a, p) ∈ es := by
  constructor
  · rintro ⟨_, he, rfl, hp⟩
    obtain ⟨⟨a, q⟩, he', rfl⟩ := List.mem_map.mp he
    obtain rfl := List.mem_singleton.mp hp
    exact he'
  · exact fun h => ⟨_, List.mem_map.mpr ⟨_, h, rfl⟩, rfl, List.mem_singleton.mpr rfl⟩

omit [DecidableEq σ] in
theorem exists_mem_row_map {τ : Type} (f : τ → σ) {r : Row τ α} (hr : (akeys r).Nodup)
    (a : Option α) (p : σ) :
    (∃ e ∈ r.map (fun e => (e.1, e.2.map f)), a = e.1 ∧ p ∈ e.2) ↔
      ∃ x ∈ (alookup a r).getD [], f x = p := by
  constructor
  · rintro ⟨_, he, rfl, hp⟩
    obtain ⟨⟨_, ts⟩, he', rfl⟩ := List.mem_map.mp he
    obtain ⟨x, hx, e⟩ := List.mem_map.mp hp
    exact ⟨x, (mem_getD_alookup_iff hr).mpr ⟨ts, he', hx⟩, e⟩
  · rintro ⟨x, hx, e⟩
    obtain ⟨ts, he, hx⟩ := (mem_getD_alookup_iff hr).mp hx
    exact ⟨_, List.mem_map.mpr ⟨(a, ts), he, rfl⟩, rfl, List.mem_map.mpr ⟨x, hx, e⟩⟩

omit [DecidableEq σ] [DecidableEq α] in
theorem rowOk_single {es : List (Option α × σ)} (h : ∀ e ∈ es, S e.1 ∧ T e.2) :
    RowOk S T (single es) := fun _ he =>
  let ⟨e, he', eq⟩ := List.mem_map.mp he
  eq ▸ ⟨(h e he').1, fun _ hp => List.mem_singleton.mp hp ▸ (h e he').2⟩

end Tbl

namespace NFA

theorem targets_eq_tgt (n : NFA σ α) (q : σ) (a : Option α) : n.targets q a = Tbl.tgt n.trans q a := rfl

/-- Symbols allowed as keys of a row: the empty string or a member of the alphabet. -/
def SymOk (syms : List α) (a : Option α) : Prop := ∀ x, a = some x → x ∈ syms

omit [DecidableEq α] in
theorem symOk_none (syms : List α) : SymOk syms none := fun _ h => nomatch h

omit [DecidableEq σ] [DecidableEq α] in
theorem wf_iff_ok (n : NFA σ α) :
    n.WF ↔ Tbl.Ok (SymOk n.syms) (· ∈ n.states) n.trans ∧ n.init ∈ n.states ∧
      (n.init ∈ akeys n.trans ∨ n.states.length ≤ 1) ∧ ∀ q ∈ n.finals, q ∈ n.states := by
  constructor
  · intro wf
    refine ⟨?_, wf.initOk, wf.initRow, wf.finalsOk⟩
    intro kv hkv e he
    refine ⟨?_, ?_⟩
    · intro x hx
      exact wf.symsOk kv hkv x (by rw [← hx]; exact List.mem_map.mpr ⟨e, he, rfl⟩)
    · exact wf.tgtOk kv hkv e.2 (List.mem_map.mpr ⟨e, he, rfl⟩)
  · rintro ⟨hok, hi, hr, hf⟩
    refine ⟨?_, ?_, hi, hr, hf⟩
    · intro kv hkv a ha
      obtain ⟨e, he, hea⟩ := List.mem_map.mp ha
      exact (hok kv hkv e he).1 a hea
    · intro kv hkv ts hts
      obtain ⟨e, he, hets⟩ := List.mem_map.mp hts
      rw [← hets]
      exact (hok kv hkv e he).2

omit [DecidableEq σ] [DecidableEq α] in
theorem WF.ok {n : NFA σ α} (wf : n.WF) : Tbl.Ok (SymOk n.syms) (· ∈ n.states) n.trans :=
  ((wf_iff_ok n).mp wf).1

theorem create_eq_ok (n : NFA σ α) (wf : n.WF) : create n = .ok n := by
  unfold create
  rw [(validate_eq_ok n).mpr wf]

theorem create_ok_wf {n m : NFA σ α} (h : create n = .ok m) : m = n ∧ n.WF := by
  unfold create at h
  cases hv : n.validate with
  | error e => simp [hv] at h
  | ok u =>
    simp only [hv] at h
    have e : n = m := by injection h
    subst e
    exact ⟨rfl, (validate_eq_ok n).mp hv⟩

/-- The strong notion of validity used by the C08 theorems: `validate()` passes and the
transition table is a dict of dicts (unique keys — a representation invariant of Python's
`dict`, not a restriction on automata). -/
structure Valid (n : NFA σ α) : Prop where
  wf : n.WF
  dict : Tbl.Dict n.trans

theorem Valid.validate {n : NFA σ α} (h : n.Valid) : n.validate = .ok () := (validate_eq_ok n).mpr h.wf

end NFA
end AV
