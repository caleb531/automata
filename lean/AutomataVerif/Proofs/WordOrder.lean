/-
Proofs/WordOrder.lean — the order in which a depth-first traversal of the tree of words over a
sorted alphabet meets the words: `preLt` (a word before its extensions = Python's `<` on strings
w.r.t. the key) and `postLt` (a word after its extensions = decreasing `<` for the negated key).
Both are restrictions of one order `evLt` on the events "enter / leave the subtree of `w`"; the
moves of a traversal (descend, next sibling, last sibling) go from an event to the next one
(the `cover_*` lemmas).  Core only.
-/

import AutomataVerif.Proofs.Basic

namespace AV
namespace WordOrder

variable {α : Type}

/-- Lexicographic order by the key, a proper prefix first (pre-order of the traversal). -/
def preLt (κ : α → Int) : List α → List α → Prop
  | _, [] => False
  | [], _ :: _ => True
  | a :: u, b :: v => κ a < κ b ∨ (a = b ∧ preLt κ u v)

/-- Lexicographic order by the key, a proper prefix last (post-order of the traversal). -/
def postLt (κ : α → Int) : List α → List α → Prop
  | [], _ => False
  | _ :: _, [] => True
  | a :: u, b :: v => κ a < κ b ∨ (a = b ∧ postLt κ u v)

@[simp] theorem preLt_nil_right (κ : α → Int) (u : List α) : preLt κ u [] ↔ False := by
  cases u <;> simp [preLt]
@[simp] theorem preLt_nil_cons (κ : α → Int) (b : α) (v : List α) : preLt κ [] (b :: v) ↔ True := by
  simp [preLt]
@[simp] theorem preLt_cons_cons (κ : α → Int) (a b : α) (u v : List α) :
    preLt κ (a :: u) (b :: v) ↔ κ a < κ b ∨ (a = b ∧ preLt κ u v) := by simp [preLt]
@[simp] theorem postLt_nil_left (κ : α → Int) (v : List α) : postLt κ [] v ↔ False := by
  simp [postLt]
@[simp] theorem postLt_cons_nil (κ : α → Int) (a : α) (u : List α) : postLt κ (a :: u) [] ↔ True := by
  simp [postLt]
@[simp] theorem postLt_cons_cons (κ : α → Int) (a b : α) (u v : List α) :
    postLt κ (a :: u) (b :: v) ↔ κ a < κ b ∨ (a = b ∧ postLt κ u v) := by simp [postLt]

theorem preLt_iff_lex (κ : α → Int) : ∀ u v : List α, preLt κ u v ↔ List.Lex (fun a b => κ a < κ b) u v
  | _, [] => by simp
  | [], _ :: _ => by simp
  | a :: u, b :: v => by rw [preLt_cons_cons, List.cons_lex_cons_iff, preLt_iff_lex κ u v]

theorem preLt_irrefl (κ : α → Int) : ∀ u : List α, ¬ preLt κ u u :=
  fun u h => List.lex_irrefl (fun a => Int.lt_irrefl (κ a)) u ((preLt_iff_lex κ u u).mp h)

theorem preLt_trans (κ : α → Int) {u v w : List α} (h1 : preLt κ u v) (h2 : preLt κ v w) :
    preLt κ u w :=
  (preLt_iff_lex κ u w).mpr
    (List.lex_trans Int.lt_trans ((preLt_iff_lex κ u v).mp h1) ((preLt_iff_lex κ v w).mp h2))

theorem postLt_iff_preLt_neg (κ : α → Int) :
    ∀ u v : List α, postLt κ u v ↔ preLt (fun a => - κ a) v u := by
  intro u
  induction u with
  | nil => intro v; simp
  | cons a u ih =>
    intro v
    cases v with
    | nil => simp
    | cons b v =>
      simp only [postLt_cons_cons, preLt_cons_cons, ih]
      constructor
      · rintro (h | ⟨rfl, h⟩)
        · exact Or.inl (by omega)
        · exact Or.inr ⟨rfl, h⟩
      · rintro (h | ⟨rfl, h⟩)
        · exact Or.inl (by omega)
        · exact Or.inr ⟨rfl, h⟩

theorem postLt_irrefl (κ : α → Int) (u : List α) : ¬ postLt κ u u :=
  fun h => preLt_irrefl _ u ((postLt_iff_preLt_neg κ u u).mp h)

theorem postLt_trans (κ : α → Int) {u v w : List α} (h1 : postLt κ u v) (h2 : postLt κ v w) :
    postLt κ u w :=
  (postLt_iff_preLt_neg κ u w).mpr
    (preLt_trans _ ((postLt_iff_preLt_neg κ v w).mp h2) ((postLt_iff_preLt_neg κ u v).mp h1))

def Over (S : List α) (w : List α) : Prop := ∀ c ∈ w, c ∈ S

theorem Over.tail {S : List α} {c : α} {w : List α} (h : Over S (c :: w)) : Over S w :=
  fun x hx => h x (List.mem_cons_of_mem _ hx)

theorem Over.head {S : List α} {c : α} {w : List α} (h : Over S (c :: w)) : c ∈ S :=
  h c List.mem_cons_self

def Inj (κ : α → Int) (S : List α) : Prop := ∀ a ∈ S, ∀ b ∈ S, κ a = κ b → a = b

structure IsFirst (κ : α → Int) (S : List α) (f : α) : Prop where
  mem : f ∈ S
  le : ∀ c ∈ S, κ f ≤ κ c

structure IsNext (κ : α → Int) (S : List α) (a b : α) : Prop where
  ha : a ∈ S
  hb : b ∈ S
  lt : κ a < κ b
  gap : ∀ c ∈ S, κ c ≤ κ a ∨ κ b ≤ κ c

structure IsLast (κ : α → Int) (S : List α) (a : α) : Prop where
  mem : a ∈ S
  ge : ∀ c ∈ S, κ c ≤ κ a

section sorted
variable {κ : α → Int} {S : List α} (hs : S.Pairwise fun a b => κ a < κ b)
include hs

theorem sorted_isFirst {f : α} (hf : S.head? = some f) : IsFirst κ S f := by
  obtain ⟨t, rfl⟩ := List.head?_eq_some_iff.mp hf
  rw [List.pairwise_cons] at hs
  refine ⟨List.mem_cons_self, ?_⟩
  intro c hc
  rcases List.mem_cons.mp hc with rfl | h
  · exact Int.le_refl _
  · exact Int.le_of_lt (hs.1 c h)

theorem sorted_isNext {l r : List α} {a b : α} (hS : S = l ++ a :: b :: r) : IsNext κ S a b := by
  subst hS
  rw [List.pairwise_append] at hs
  obtain ⟨_, h2, h3⟩ := hs
  rw [List.pairwise_cons] at h2
  obtain ⟨ha, h2⟩ := h2
  rw [List.pairwise_cons] at h2
  refine ⟨by simp, by simp, ha b List.mem_cons_self, ?_⟩
  intro c hc
  rcases List.mem_append.mp hc with h | h
  · exact Or.inl (Int.le_of_lt (h3 c h a List.mem_cons_self))
  · rcases List.mem_cons.mp h with rfl | h
    · exact Or.inl (Int.le_refl _)
    · rcases List.mem_cons.mp h with rfl | h
      · exact Or.inr (Int.le_refl _)
      · exact Or.inr (Int.le_of_lt (h2.1 c h))

theorem sorted_isLast {l : List α} {a : α} (hS : S = l ++ [a]) : IsLast κ S a := by
  subst hS
  rw [List.pairwise_append] at hs
  refine ⟨by simp, ?_⟩
  intro c hc
  rcases List.mem_append.mp hc with h | h
  · exact Int.le_of_lt (hs.2.2 c h a (by simp))
  · simp at h; subst h; exact Int.le_refl _

end sorted

/-- `w` comes after the whole subtree of `u` in pre-order. -/
def AfterF (κ : α → Int) (u w : List α) : Prop := preLt κ u w ∧ ¬ u <+: w

theorem afterF_nil (κ : α → Int) (w : List α) : ¬ AfterF κ [] w := by
  intro h; exact h.2 List.nil_prefix

theorem afterF_cons_cons (κ : α → Int) (a b : α) (u v : List α) :
    AfterF κ (a :: u) (b :: v) ↔ κ a < κ b ∨ (a = b ∧ AfterF κ u v) := by
  unfold AfterF
  simp only [preLt_cons_cons, List.cons_prefix_cons]
  constructor
  · rintro ⟨h | ⟨rfl, h⟩, hp⟩
    · exact Or.inl h
    · exact Or.inr ⟨rfl, h, fun hh => hp ⟨rfl, hh⟩⟩
  · rintro (h | ⟨rfl, h1, h2⟩)
    · refine ⟨Or.inl h, ?_⟩
      rintro ⟨rfl, _⟩
      exact Int.lt_irrefl _ h
    · exact ⟨Or.inr ⟨rfl, h1⟩, fun hh => h2 hh.2⟩

theorem afterF_cons_nil (κ : α → Int) (a : α) (u : List α) : ¬ AfterF κ (a :: u) [] := by
  intro h; simp [AfterF] at h

theorem preLt_of_prefix (κ : α → Int) {u w : List α} (hp : u <+: w) (hne : u ≠ w) : preLt κ u w :=
  (preLt_iff_lex κ u w).mpr (lex_of_prefix hp hne)

theorem postLt_of_prefix (κ : α → Int) {u w : List α} (hp : u <+: w) (hne : u ≠ w) : postLt κ w u :=
  (postLt_iff_preLt_neg κ w u).mpr (preLt_of_prefix _ hp hne)

theorem not_prefix_of_postLt (κ : α → Int) {u w : List α} (h : postLt κ u w) : ¬ u <+: w := by
  intro hp
  by_cases he : u = w
  · subst he; exact postLt_irrefl κ u h
  · exact postLt_irrefl κ u (postLt_trans κ h (postLt_of_prefix κ hp he))

/-- The depth-first traversal of the tree of words enters the subtree of `w` at the event
`(w, false)` and leaves it at `(w, true)`. -/
abbrev Ev (α : Type) := List α × Bool

/-- The order in which the traversal meets the events: entering the root is the first, leaving it
the last; behind a first letter, the key decides.  Restricted to entering (leaving) events it is
`preLt` (`postLt`). -/
def evLt (κ : α → Int) : Ev α → Ev α → Prop
  | ([], bu), x => bu = false ∧ x ≠ ([], false)
  | (_ :: _, _), ([], bw) => bw = true
  | (a :: u, bu), (c :: w, bw) => κ a < κ c ∨ (a = c ∧ evLt κ (u, bu) (w, bw))

def evLe (κ : α → Int) (e x : Ev α) : Prop := x = e ∨ evLt κ e x

@[simp] theorem evLt_nil (κ : α → Int) (bu : Bool) (x : Ev α) :
    evLt κ ([], bu) x ↔ bu = false ∧ x ≠ ([], false) := by
  obtain ⟨w, bw⟩ := x; cases w <;> simp [evLt]
@[simp] theorem evLt_cons_nil (κ : α → Int) (a : α) (u : List α) (bu bw : Bool) :
    evLt κ (a :: u, bu) ([], bw) ↔ bw = true := by simp [evLt]
@[simp] theorem evLt_cons_cons (κ : α → Int) (a c : α) (u w : List α) (bu bw : Bool) :
    evLt κ (a :: u, bu) (c :: w, bw) ↔ κ a < κ c ∨ (a = c ∧ evLt κ (u, bu) (w, bw)) := by simp [evLt]

theorem evLe_cons_nil (κ : α → Int) (a : α) (u : List α) (bu bw : Bool) :
    evLe κ (a :: u, bu) ([], bw) ↔ bw = true := by simp [evLe]
theorem evLe_cons_cons (κ : α → Int) (a c : α) (u w : List α) (bu bw : Bool) :
    evLe κ (a :: u, bu) (c :: w, bw) ↔ κ a < κ c ∨ (a = c ∧ evLe κ (u, bu) (w, bw)) := by
  simp only [evLe, evLt_cons_cons, Prod.mk.injEq, List.cons.injEq]
  constructor
  · rintro (⟨⟨rfl, h⟩, h'⟩ | h | ⟨rfl, h⟩)
    · exact Or.inr ⟨rfl, Or.inl ⟨h, h'⟩⟩
    · exact Or.inl h
    · exact Or.inr ⟨rfl, Or.inr h⟩
  · rintro (h | ⟨rfl, ⟨h, h'⟩ | h⟩)
    · exact Or.inr (Or.inl h)
    · exact Or.inl ⟨⟨rfl, h⟩, h'⟩
    · exact Or.inr (Or.inr ⟨rfl, h⟩)

/-- A covering `e ⋖ e'` is carried behind a common prefix. -/
theorem cover_lift {κ : α → Int} {S : List α} {e e' : Ev α}
    (base : ∀ x : Ev α, Over S x.1 → (evLt κ e x ↔ evLe κ e' x)) :
    ∀ (p : List α) (x : Ev α), Over S x.1 → (evLt κ (p ++ e.1, e.2) x ↔ evLe κ (p ++ e'.1, e'.2) x)
  | [], x, hx => base x hx
  | a :: p, ([], bw), _ => by rw [List.cons_append, List.cons_append, evLt_cons_nil, evLe_cons_nil]
  | a :: p, (c :: w, bw), hx => by
    rw [List.cons_append, List.cons_append, evLt_cons_cons, evLe_cons_cons,
      cover_lift base p (w, bw) (Over.tail hx)]

section cover
variable {κ : α → Int} {S : List α}

/-- The three ways in which one event of the traversal is followed immediately by another, each in
the form "what lies after `e` is `e'` or lies after `e'`" (for events over `S`): entering `u` is
followed by entering its first child `u·f`; leaving `p·a` by entering the next sibling `p·b`, or,
when `a` is the last symbol, by leaving `p`.  A move of the traversal therefore passes no event. -/
theorem cover_first {f : α} (hinj : Inj κ S) (hf : IsFirst κ S f) (u : List α) (x : Ev α)
    (hx : Over S x.1) : evLt κ (u, false) x ↔ evLe κ (u ++ [f], false) x := by
  have := cover_lift (κ := κ) (e := ([], false)) (e' := ([f], false)) ?_ u x hx
  · simpa using this
  rintro ⟨w, bw⟩ hw
  cases w with
  | nil => simp [evLe]
  | cons c w =>
    simp only [evLt_nil, evLe, evLt_cons_cons, true_and, ne_eq, Prod.mk.injEq, reduceCtorEq, false_and,
      not_false_eq_true, true_iff, List.cons.injEq]
    rcases Int.lt_or_eq_of_le (hf.le c hw.head) with h | h
    · exact Or.inr (Or.inl h)
    · obtain rfl := hinj f hf.mem c hw.head h
      by_cases hx : w = [] ∧ bw = false
      · exact Or.inl ⟨⟨rfl, hx.1⟩, hx.2⟩
      · exact Or.inr (Or.inr ⟨rfl, hx⟩)

theorem cover_next {a b : α} (hinj : Inj κ S) (hn : IsNext κ S a b) (p : List α) (x : Ev α)
    (hx : Over S x.1) : evLt κ (p ++ [a], true) x ↔ evLe κ (p ++ [b], false) x := by
  refine cover_lift (κ := κ) (e := ([a], true)) (e' := ([b], false)) ?_ p x hx
  rintro ⟨w, bw⟩ hw
  cases w with
  | nil => simp [evLe]
  | cons c w =>
    have hc := hw.head
    simp only [evLe, evLt_cons_cons, evLt_nil, reduceCtorEq, false_and, and_false, or_false,
      Prod.mk.injEq, List.cons.injEq, true_and]
    constructor
    · intro h
      rcases hn.gap c hc with h1 | h1
      · omega
      · rcases Int.lt_or_eq_of_le h1 with h2 | h2
        · exact Or.inr (Or.inl h2)
        · obtain rfl := hinj b hn.hb c hc h2
          by_cases hx : (w, bw) = ([], false)
          · exact Or.inl ⟨⟨rfl, (Prod.mk.inj hx).1⟩, (Prod.mk.inj hx).2⟩
          · exact Or.inr (Or.inr ⟨rfl, hx⟩)
    · rintro (⟨⟨rfl, _⟩, _⟩ | h | ⟨rfl, _⟩)
      · exact hn.lt
      · exact Int.lt_trans hn.lt h
      · exact hn.lt

theorem cover_last {a : α} (hl : IsLast κ S a) (p : List α) (x : Ev α)
    (hx : Over S x.1) : evLt κ (p ++ [a], true) x ↔ evLe κ (p, true) x := by
  have := cover_lift (κ := κ) (e := ([a], true)) (e' := ([], true)) ?_ p x hx
  · simpa using this
  rintro ⟨w, bw⟩ hw
  cases w with
  | nil => simp [evLe]
  | cons c w =>
    have := hl.ge c hw.head
    simp only [evLe, evLt_cons_cons, evLt_nil, reduceCtorEq, false_and, and_false, or_false,
      Prod.mk.injEq, iff_false]
    omega

theorem preLt_snoc_first {f : α} (hinj : Inj κ S) (hf : IsFirst κ S f) :
    ∀ (u w : List α), Over S u → Over S w → (preLt κ (u ++ [f]) (w ++ [f]) ↔ preLt κ u w)
  | [], [], _, _ => iff_of_false (preLt_irrefl κ _) (preLt_irrefl κ _)
  | [], c :: w, _, hw => by
    simp only [List.nil_append, List.cons_append, preLt_cons_cons, preLt_nil_cons, iff_true]
    rcases Int.lt_or_eq_of_le (hf.le c hw.head) with h | h
    · exact Or.inl h
    · exact Or.inr ⟨hinj f hf.mem c hw.head h, by cases w <;> simp⟩
  | a :: u, [], hu, _ => by
    have := hf.le a hu.head
    simp only [List.cons_append, List.nil_append, preLt_cons_cons, preLt_nil_right, and_false,
      or_false, iff_false]
    omega
  | a :: u, c :: w, hu, hw => by
    simp only [List.cons_append, preLt_cons_cons, preLt_snoc_first hinj hf u w hu.tail hw.tail]

end cover

theorem evLt_enter_enter (κ : α → Int) : ∀ u w : List α, evLt κ (u, false) (w, false) ↔ preLt κ u w
  | [], [] => by simp
  | [], _ :: _ => by simp
  | _ :: _, [] => by simp
  | a :: u, c :: w => by rw [evLt_cons_cons, preLt_cons_cons, evLt_enter_enter κ u w]

theorem evLt_leave_leave (κ : α → Int) : ∀ u w : List α, evLt κ (u, true) (w, true) ↔ postLt κ u w
  | [], _ => by simp
  | _ :: _, [] => by simp
  | a :: u, c :: w => by rw [evLt_cons_cons, postLt_cons_cons, evLt_leave_leave κ u w]

/-- Between entering and leaving the subtree of `u` lie the events of that subtree only. -/
theorem evLt_enter_iff (κ : α → Int) : ∀ (u : List α) (x : Ev α),
    evLt κ (u, false) x ↔ (u <+: x.1 ∧ x ≠ (u, false)) ∨ evLt κ (u, true) x
  | [], x => by simp
  | a :: u, ([], bw) => by simp
  | a :: u, (c :: w, bw) => by
    simp only [evLt_cons_cons, evLt_enter_iff κ u (w, bw), List.cons_prefix_cons, ne_eq, Prod.mk.injEq,
      List.cons.injEq]
    constructor
    · rintro (h | ⟨rfl, ⟨h, h'⟩ | h⟩)
      · exact Or.inr (Or.inl h)
      · exact Or.inl ⟨⟨rfl, h⟩, fun e => h' ⟨e.1.2, e.2⟩⟩
      · exact Or.inr (Or.inr ⟨rfl, h⟩)
    · rintro (⟨⟨rfl, h⟩, h'⟩ | h | ⟨rfl, h⟩)
      · exact Or.inr ⟨rfl, Or.inl ⟨h, fun e => h' ⟨⟨rfl, e.1⟩, e.2⟩⟩⟩
      · exact Or.inl h
      · exact Or.inr ⟨rfl, Or.inr h⟩

end WordOrder
end AV
