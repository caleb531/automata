/-
Proofs/Complete.lean — `to_complete` / `_to_complete` and `complement(minify=False)` (core only).

The run of `toCompleteCore d trap` (for `trap ∉ d.states`) is the run of `d` with the implicit sink
`none` replaced by the state `trap`, as long as the word stays inside the alphabet; a foreign symbol
kills both runs.  `complementPlain c` of a complete `c` accepts the words *over the alphabet* that
`c` rejects.  `fillRow`, `filledTrans`, `trapRow` name the sub-terms of `toCompleteCore` for the
proofs (`toCompleteCore_trans`); the model does not use them.
-/
import AutomataVerif.Proofs.ExpandValid
import AutomataVerif.Proofs.Rename

namespace AV
namespace C04
open DFA

variable {κ β σ α : Type} [DecidableEq κ] [DecidableEq σ] [DecidableEq α]

theorem alookup_append (k : κ) (l m : List (κ × β)) :
    alookup k (l ++ m) = match alookup k l with
      | some v => some v
      | none => alookup k m := by
  rw [alookup_append_or]
  cases alookup k l <;> rfl

omit [DecidableEq σ] in
/-- If no row "looks partial" (`len(row) != len(input_symbols)`) the DFA is complete — for
duplicate-free rows over the alphabet. -/
theorem isComplete_of_not_looksPartial {d : DFA σ α} (wf : d.WF) (p : d.PyShape)
    (h : d.looksPartial = false) : d.IsComplete := by
  intro kv hkv
  unfold looksPartial at h
  rw [List.any_eq_false] at h
  have hlen : kv.2.length = d.syms.length := by simpa using h kv hkv
  exact row_full_of_length (p.rows_nodup kv hkv) (wf.symsOk kv hkv) hlen

section toComplete
variable (d : DFA σ α) (trap : σ)

/-- The row `{**default_to_trap, **lookup}`. -/
def _root_.AV.DFA.fillRow (row : List (α × σ)) : List (α × σ) :=
  (d.syms.map fun a => (a, (alookup a row).getD trap)) ++ row.filter fun e => decide (e.1 ∉ d.syms)

/-- The dict comprehension of `_to_complete` before the trap row is stored. -/
def _root_.AV.DFA.filledTrans : List (σ × List (α × σ)) := d.trans.map fun kv => (kv.1, d.fillRow trap kv.2)

def _root_.AV.DFA.trapRow : List (α × σ) := d.syms.map fun a => (a, trap)

theorem toCompleteCore_trans :
    (d.toCompleteCore trap).trans = ainsert trap (d.trapRow trap) (d.filledTrans trap) := rfl

theorem toCompleteCore_states :
    (d.toCompleteCore trap).states = akeys (d.toCompleteCore trap).trans := rfl

omit [DecidableEq σ] in
theorem fillRow_eq {d : DFA σ α} {row : List (α × σ)} (h : ∀ a ∈ akeys row, a ∈ d.syms) :
    d.fillRow trap row = d.syms.map fun a => (a, (alookup a row).getD trap) := by
  unfold fillRow
  rw [filter_keys_eq_nil h, List.append_nil]

omit [DecidableEq σ] in
theorem akeys_filledTrans : akeys (d.filledTrans trap) = akeys d.trans :=
  akeys_map_val (d.fillRow trap) d.trans

theorem alookup_filledTrans (q : σ) :
    alookup q (d.filledTrans trap) = (alookup q d.trans).map (d.fillRow trap) :=
  alookup_map_val (d.fillRow trap) q d.trans

variable {d} {trap}

theorem mem_toCompleteCore_trans {kv : σ × List (α × σ)} (h : kv ∈ (d.toCompleteCore trap).trans) :
    kv = (trap, d.trapRow trap) ∨ ∃ kv₀ ∈ d.trans, kv = (kv₀.1, d.fillRow trap kv₀.2) := by
  rw [toCompleteCore_trans] at h
  rcases mem_ainsert h with h | h
  · exact Or.inl h
  · obtain ⟨kv₀, h₀, rfl⟩ := List.mem_map.mp h
    exact Or.inr ⟨kv₀, h₀, rfl⟩

theorem mem_toCompleteCore_states {q : σ} :
    q ∈ (d.toCompleteCore trap).states ↔ q = trap ∨ q ∈ akeys d.trans := by
  rw [toCompleteCore_states, toCompleteCore_trans, mem_akeys_ainsert, akeys_filledTrans]

theorem toCompleteCore_row_keys (wf : d.WF) {kv : σ × List (α × σ)}
    (h : kv ∈ (d.toCompleteCore trap).trans) : akeys kv.2 = d.syms := by
  rcases mem_toCompleteCore_trans h with rfl | ⟨kv₀, h₀, rfl⟩
  · exact akeys_tabulate _ _
  · show akeys (d.fillRow trap kv₀.2) = d.syms
    rw [fillRow_eq trap (wf.symsOk kv₀ h₀), akeys_tabulate]

theorem toCompleteCore_row_vals (wf : d.WF) {kv : σ × List (α × σ)}
    (h : kv ∈ (d.toCompleteCore trap).trans) {q : σ} (hq : q ∈ avals kv.2) :
    q = trap ∨ q ∈ d.states := by
  rcases mem_toCompleteCore_trans h with rfl | ⟨kv₀, h₀, rfl⟩
  · obtain ⟨e, he, rfl⟩ := List.mem_map.mp hq
    obtain ⟨a, _, rfl⟩ := List.mem_map.mp he
    exact Or.inl rfl
  · change q ∈ avals (d.fillRow trap kv₀.2) at hq
    rw [fillRow_eq trap (wf.symsOk kv₀ h₀)] at hq
    obtain ⟨e, he, rfl⟩ := List.mem_map.mp hq
    obtain ⟨a, _, rfl⟩ := List.mem_map.mp he
    cases hl : alookup a kv₀.2 with
    | none => exact Or.inl rfl
    | some t => exact Or.inr (wf.tgtOk kv₀ h₀ t (alookup_some_val_mem hl))

theorem toCompleteCore_wf (wf : d.WF) : (d.toCompleteCore trap).WF where
  rows := fun _ hq => hq
  complete := fun _ kv hkv a ha => by rw [toCompleteCore_row_keys wf hkv]; exact ha
  symsOk := fun kv hkv a ha => by rw [toCompleteCore_row_keys wf hkv] at ha; exact ha
  tgtOk := fun kv hkv q hq =>
    mem_toCompleteCore_states.mpr ((toCompleteCore_row_vals wf hkv hq).imp_right (wf.rows q))
  initOk := mem_toCompleteCore_states.mpr (Or.inr (wf.rows _ wf.initOk))
  finalsOk := fun q hq => mem_toCompleteCore_states.mpr (Or.inr (wf.rows _ (wf.finalsOk q hq)))

theorem toCompleteCore_pyShape (wf : d.WF) (p : d.PyShape) : (d.toCompleteCore trap).PyShape := by
  have hk : (akeys (d.toCompleteCore trap).trans).Nodup := by
    rw [toCompleteCore_trans]
    exact nodup_akeys_ainsert (by rw [akeys_filledTrans]; exact p.keys_nodup)
  exact ⟨hk, p.syms_nodup, p.finals_nodup, hk,
    fun kv hkv => by rw [toCompleteCore_row_keys wf hkv]; exact p.syms_nodup⟩

theorem toCompleteCore_step? (wf : d.WF) (ht : trap ∉ d.states) {s : Option σ} (hs : d.Good s)
    {a : α} (ha : a ∈ d.syms) :
    (d.toCompleteCore trap).step? (some (s.getD trap)) a = some ((d.step? s a).getD trap) := by
  cases s with
  | none =>
    simp only [Option.getD_none, step?, row, row?, toCompleteCore_trans, alookup_ainsert_self,
      Option.getD_some, trapRow]
    rw [alookup_tabulate]; simp [ha]
  | some q =>
    have hq : q ∈ d.states := hs
    have hne : q ≠ trap := fun e => ht (e ▸ hq)
    obtain ⟨r, hr⟩ := row?_some_of_mem wf hq
    have hr' : alookup q d.trans = some r := hr
    simp only [Option.getD_some, step?, row, row?, toCompleteCore_trans]
    rw [alookup_ainsert_ne _ _ hne, alookup_filledTrans, hr']
    simp only [Option.map_some, Option.getD_some]
    rw [fillRow_eq trap (wf.symsOk (q, r) (alookup_some_mem hr')), alookup_tabulate]
    simp [ha]

theorem toCompleteCore_isFinal (wf : d.WF) (ht : trap ∉ d.states) (s : Option σ) :
    (d.toCompleteCore trap).isFinal (some (s.getD trap)) = d.isFinal s := by
  cases s with
  | none =>
    have : trap ∉ d.finals := fun h => ht (wf.finalsOk _ h)
    simp [isFinal, toCompleteCore, this]
  | some q => rfl

theorem toCompleteCore_accepts (wf : d.WF) (ht : trap ∉ d.states) (w : List α) :
    (d.toCompleteCore trap).accepts w = d.accepts w :=
  accepts_eq_of_rel wf (toCompleteCore_wf wf) rfl (R := fun s t => t = some (s.getD trap))
    (fun _ _ hs e _ ha => e ▸ toCompleteCore_step? wf ht hs ha)
    (fun s _ _ e => e ▸ toCompleteCore_isFinal wf ht s) rfl w

end toComplete

theorem toComplete_of_not_partial (d : DFA σ α) (trap : σ) (custom : Bool)
    (h : d.looksPartial = false) : d.toComplete trap custom = .ok d := by
  simp [toComplete, h]

theorem toComplete_custom_taken (d : DFA σ α) (trap : σ) (h : d.looksPartial = true)
    (ht : trap ∈ d.states) : d.toComplete trap true = .error (.lib .invalidStateError) := by
  simp [toComplete, h, ht]

theorem toComplete_of_partial (d : DFA σ α) (trap : σ) (custom : Bool) (h : d.looksPartial = true)
    (ht : custom = false ∨ trap ∉ d.states) : d.toComplete trap custom = .ok (d.toCompleteCore trap) := by
  rcases ht with ht | ht
  · simp [toComplete, h, ht]
  · simp [toComplete, h, ht]

/-- The operand `complement` works on — `d` itself when it is declared complete, else
`d.to_complete()` with the trap id the code finds, whatever it is —: a valid duplicate-free
complete table over the same alphabet.  (That it keeps the verdicts needs `trap ∉ d.states`:
`toCompleteCore_accepts`.) -/
theorem complementOperand_shape {d : DFA σ α} (wf : d.WF) (p : d.PyShape) (trap : σ) :
    ∃ C, (if d.allowPartial then d.toComplete trap false else .ok d) = .ok C ∧
      C.WF ∧ C.PyShape ∧ C.syms = d.syms ∧ C.IsComplete ∧
      (C = d ∨ C = d.toCompleteCore trap) := by
  cases hap : d.allowPartial with
  | false => exact ⟨d, rfl, wf, p, rfl, wf.complete hap, .inl rfl⟩
  | true =>
    rw [if_pos rfl]
    cases hp : d.looksPartial with
    | false =>
      exact ⟨d, toComplete_of_not_partial d trap false hp, wf, p, rfl,
        isComplete_of_not_looksPartial wf p hp, .inl rfl⟩
    | true =>
      exact ⟨_, toComplete_of_partial d trap false hp (.inl rfl), toCompleteCore_wf wf,
        toCompleteCore_pyShape wf p, rfl, (toCompleteCore_wf wf).complete rfl, .inr rfl⟩

section complement
variable {c : DFA σ α}

omit [DecidableEq α] in
theorem complementPlain_wf (wf : c.WF) (hc : c.IsComplete) : c.complementPlain.WF :=
  ⟨wf.rows, fun _ => hc, wf.symsOk, wf.tgtOk, wf.initOk, fun _ hq => (List.mem_filter.mp hq).1⟩

omit [DecidableEq α] in
theorem complementPlain_pyShape (p : c.PyShape) : c.complementPlain.PyShape :=
  ⟨p.states_nodup, p.syms_nodup, List.Nodup.sublist List.filter_sublist p.states_nodup,
    p.keys_nodup, p.rows_nodup⟩

theorem complementPlain_run (s : Option σ) (w : List α) : c.complementPlain.run s w = c.run s w := rfl

theorem complementPlain_accepts (wf : c.WF) (hc : c.IsComplete) (w : List α) :
    c.complementPlain.accepts w = ((w.all fun a => decide (a ∈ c.syms)) && !c.accepts w) := by
  cases hw : (w.all fun a => decide (a ∈ c.syms)) with
  | false =>
    exact accepts_eq_false (complementPlain_wf wf hc) fun h =>
      Bool.false_ne_true (hw ▸ List.all_eq_true.mpr fun a ha => decide_eq_true (h a ha))
  | true =>
    obtain ⟨q', hr, hq'⟩ := run_over wf hc wf.initOk fun a ha =>
      of_decide_eq_true (List.all_eq_true.mp hw a ha)
    unfold accepts
    change c.complementPlain.isFinal (c.complementPlain.run (some c.init) w) = _
    rw [complementPlain_run, hr]
    simp only [isFinal, complementPlain, List.mem_filter, hq', true_and, Bool.true_and]
    by_cases hf : q' ∈ c.finals <;> simp [hf]

/-- **Complement of a complete DFA** (`minify=False`): a word is accepted iff all its symbols
are alphabet symbols and the operand rejects it (words with foreign symbols are in neither
language). -/
theorem complementPlain_result (wf : c.WF) (pc : c.PyShape) (hc : c.IsComplete) :
    Result c.syms c.complementPlain fun w => (w.all fun a => decide (a ∈ c.syms)) && !c.accepts w :=
  ⟨(validate_eq_ok _).mpr (complementPlain_wf wf hc), complementPlain_pyShape pc, rfl,
    complementPlain_accepts wf hc⟩

end complement

/-- The operand `C` that `complement` works on — `d` itself when it is declared complete, else
`d.to_complete()` — is a valid complete table over the alphabet of `d`, and its plain complement is
the complement of `d` relative to that alphabet. -/
theorem complement_operand (d : DFA σ α) (hd : d.validate = .ok ()) (pd : d.PyShape) (trap : σ)
    (ht : trap ∉ d.states) :
    ∃ C, (if d.allowPartial then d.toComplete trap false else .ok d) = .ok C ∧
      C.WF ∧ C.PyShape ∧ C.IsComplete ∧
      Result d.syms C.complementPlain fun w => (w.all fun a => decide (a ∈ d.syms)) && !d.accepts w := by
  have wf := (validate_eq_ok d).mp hd
  obtain ⟨C, hC, wfC, pC, hs, hc, h⟩ := complementOperand_shape wf pd trap
  have hl : ∀ w, C.accepts w = d.accepts w := by
    rcases h with rfl | rfl
    · exact fun _ => rfl
    · exact toCompleteCore_accepts wf ht
  exact ⟨C, hC, wfC, pC, hc, hs ▸ (complementPlain_result wfC pC hc).congr fun w => by rw [hs, hl]⟩

end C04
end AV
