/-
Proofs/GnfaBridge.lean — the two models of `GNFA.validate` (automata/fa/gnfa.py) agree:
`AV.GNFA.validateStr rxValid` (Model/GNFAValidate.lean; string labels, C12 and its driver) and
`AV.VA.GNFA.validate` (Model/ValidateAll.lean; abstract labels = characters + oracle verdict, C19).

`absGNFA rxValid g` reads a string-labelled GNFA as an abstract-labelled one.  The abstract verdict
can express one escaping exception only, `LexerError`; so the abstract model on `absGNFA rxValid g`
returns what the string model returns on `g` (same `ok`, same exception) once every exception
escaping the validator is read as `LexerError` (`validate_absGNFA_norm`).  For validators that let
nothing else escape that reading changes nothing (`validate_absGNFA`; `simpleRxValid` is one:
`GNFA.ReValidate.simpleRxValid_error`; `reValidate` is not, it can raise `ValueError`).
-/
import AutomataVerif.Model.GNFAValidate
import AutomataVerif.Model.ValidateAll
import AutomataVerif.Proofs.Basic

namespace AV.GnfaBridge
open AV AV.VA

/-- One character of a label: an input symbol, or the one-character string written literally. -/
def absChar (syms : List Char) (c : Char) : GChar Char :=
  if c ∈ syms then .sym c else .extra (String.singleton c)

/-- What `re._validate` does with the label, as a verdict. -/
def absVerdict : Res Bool → RegexVerdict
  | .ok true => .valid
  | .ok false => .invalid
  | .error _ => .lexerError

def absLabel (syms : List Char) (rxValid : Str → Res Bool) (s : Str) : GLabel Char :=
  { chars := s.map (absChar syms), verdict := absVerdict (rxValid s) }

variable {σ : Type}

def absRow (syms : List Char) (rxValid : Str → Res Bool) (paths : List (σ × Option Str)) :
    List (σ × Option (GLabel Char)) :=
  paths.map fun e => (e.1, e.2.map (absLabel syms rxValid))

theorem akeys_absRow (syms : List Char) (rxValid : Str → Res Bool) (paths : List (σ × Option Str)) :
    akeys (absRow syms rxValid paths) = akeys paths :=
  akeys_map_val _ paths

theorem avals_absRow (syms : List Char) (rxValid : Str → Res Bool) (paths : List (σ × Option Str)) :
    avals (absRow syms rxValid paths) = (avals paths).map (Option.map (absLabel syms rxValid)) :=
  avals_map_val _ paths

theorem alookup_absRow [DecidableEq σ] (syms : List Char) (rxValid : Str → Res Bool)
    (paths : List (σ × Option Str)) (q : σ) :
    alookup q (absRow syms rxValid paths) = (alookup q paths).map (Option.map (absLabel syms rxValid)) :=
  alookup_map_val _ q paths

theorem ahas_absRow [DecidableEq σ] (syms : List Char) (rxValid : Str → Res Bool)
    (paths : List (σ × Option Str)) (q : σ) : ahas q (absRow syms rxValid paths) = ahas q paths :=
  ahas_map_val _ q paths

/-- The string-labelled GNFA of C12 as an abstract-labelled GNFA of C19: same states, symbols,
initial and final state, same table shape (same keys in the same order), labels abstracted. -/
def absGNFA (rxValid : Str → Res Bool) (g : AV.GNFA σ Str) : VA.GNFA σ Char :=
  { states := g.states, syms := g.syms,
    trans := g.trans.map fun kv => (kv.1, absRow g.syms rxValid kv.2),
    init := g.init, final := g.final }

@[simp] theorem absGNFA_states (rxValid : Str → Res Bool) (g : AV.GNFA σ Str) :
    (absGNFA rxValid g).states = g.states := rfl
@[simp] theorem absGNFA_syms (rxValid : Str → Res Bool) (g : AV.GNFA σ Str) :
    (absGNFA rxValid g).syms = g.syms := rfl
@[simp] theorem absGNFA_init (rxValid : Str → Res Bool) (g : AV.GNFA σ Str) :
    (absGNFA rxValid g).init = g.init := rfl
@[simp] theorem absGNFA_final (rxValid : Str → Res Bool) (g : AV.GNFA σ Str) :
    (absGNFA rxValid g).final = g.final := rfl

/-- The literal of the source, as one-character strings of the five characters the string model
(`strLabelCheck`) writes out.  (`gnfaLabelExtra` is regenerated from the source: if the set of
the code changes, this fails.) -/
theorem gnfaLabelExtra_eq :
    Gen.Validate.gnfaLabelExtra = ['*', '|', '(', ')', '?'].map String.singleton := by decide

theorem singleton_mem_extra (c : Char) :
    String.singleton c ∈ Gen.Validate.gnfaLabelExtra ↔ c ∈ ['*', '|', '(', ')', '?'] := by
  rw [gnfaLabelExtra_eq, List.mem_map]
  constructor
  · rintro ⟨d, hd, he⟩
    rw [String.singleton_inj.mp he] at hd
    exact hd
  · intro h
    exact ⟨c, h, rfl⟩

variable [DecidableEq σ]

omit [DecidableEq σ] in
theorem charOk_absChar (rxValid : Str → Res Bool) (g : AV.GNFA σ Str) (c : Char) :
    (absGNFA rxValid g).charOk (absChar g.syms c) =
      decide (c ∈ g.syms ++ ['*', '|', '(', ')', '?']) := by
  unfold absChar
  by_cases hc : c ∈ g.syms
  · rw [if_pos hc]
    simp [VA.GNFA.charOk, absGNFA, hc]
  · rw [if_neg hc]
    simp only [VA.GNFA.charOk]
    rw [Bool.eq_iff_iff]
    simp only [decide_eq_true_eq, singleton_mem_extra, List.mem_append, hc, false_or]

omit [DecidableEq σ] in
theorem chars_all_absLabel (rxValid : Str → Res Bool) (g : AV.GNFA σ Str) (s : Str) :
    (!((absLabel g.syms rxValid s).chars.all (absGNFA rxValid g).charOk)) =
      s.any (fun c => decide (c ∉ g.syms ++ ['*', '|', '(', ')', '?'])) := by
  unfold absLabel
  simp only [List.all_map]
  rw [Bool.eq_iff_iff]
  simp only [Bool.not_eq_true', List.all_eq_false, List.any_eq_true, Function.comp_apply,
    charOk_absChar, decide_eq_true_eq]

/-- `rxValid` with every escaping exception read as `LexerError`: the abstract verdict has one
value (`lexerError`) for "an exception escapes `re._validate`". -/
def normRx (rxValid : Str → Res Bool) (s : Str) : Res Bool :=
  match rxValid s with
  | .error _ => .error (.lib .lexerError)
  | .ok b => .ok b

theorem normRx_eq_self (rxValid : Str → Res Bool)
    (hrx : ∀ s e, rxValid s = .error e → e = .lib .lexerError) : normRx rxValid = rxValid := by
  funext s
  unfold normRx
  cases hr : rxValid s with
  | error e => rw [hrx s e hr]
  | ok b => rfl

omit [DecidableEq σ] in
theorem validateLabel_abs (rxValid : Str → Res Bool) (g : AV.GNFA σ Str) (s : Str) :
    (absGNFA rxValid g).validateLabel (some (absLabel g.syms rxValid s)) =
      strLabelCheck (normRx rxValid) g.syms s := by
  have hemp : (!(absLabel g.syms rxValid s).chars.isEmpty) = (s != []) := by
    cases s <;> rfl
  simp only [VA.GNFA.validateLabel, strLabelCheck, chars_all_absLabel, hemp]
  split
  · rfl
  · simp only [absLabel, normRx]
    cases rxValid s with
    | error e => rfl
    | ok b => cases b <;> rfl

theorem rowComplete_abs (rxValid : Str → Res Bool) (g : AV.GNFA σ Str)
    (paths : List (σ × Option Str)) :
    (absGNFA rxValid g).rowComplete (absRow g.syms rxValid paths) = !g.missingTargets paths := by
  unfold VA.GNFA.rowComplete AV.GNFA.missingTargets
  rw [Bool.eq_iff_iff]
  simp only [ahas_absRow, absGNFA_states, absGNFA_init]
  simp only [List.all_eq_true, Bool.or_eq_true, ahas_iff, decide_eq_true_eq, Bool.not_eq_true',
    List.any_eq_false, Bool.and_eq_true]
  constructor
  · intro h q hq ⟨h1, h2⟩
    rcases h q hq with h' | h'
    · exact h1 h'
    · exact h2 (of_decide_eq_true h')
  · intro h q hq
    by_cases h1 : q ∈ akeys paths
    · exact Or.inl h1
    · by_cases h2 : q = g.init
      · exact Or.inr (decide_eq_true h2)
      · exact absurd ⟨h1, h2⟩ (h q hq)

theorem validateEndStates_abs (rxValid : Str → Res Bool) (g : AV.GNFA σ Str) (start : σ)
    (paths : List (σ × Option Str)) :
    (absGNFA rxValid g).validateEndStates start (absRow g.syms rxValid paths) =
      g.validateEndStates start paths := by
  unfold VA.GNFA.validateEndStates AV.GNFA.validateEndStates
  rw [rowComplete_abs]
  have hemp : (absRow g.syms rxValid paths).isEmpty = (paths.length == 0) := by
    cases paths <;> rfl
  rw [akeys_absRow, hemp]
  rfl

theorem validate_absGNFA_norm (rxValid : Str → Res Bool) (g : AV.GNFA σ Str) :
    (absGNFA rxValid g).validate = g.validateStr (normRx rxValid) := by
  unfold VA.GNFA.validate AV.GNFA.validateStr AV.GNFA.validate
  have htr : ∀ q, ahas q (absGNFA rxValid g).trans = ahas q g.trans := fun q =>
    ahas_map_val (fun (row : List (σ × Option Str)) => absRow g.syms rxValid row) q g.trans
  simp only [htr, absGNFA_states, absGNFA_init, absGNFA_final]
  -- the checks before and after the loop over the rows read states and row keys only
  refine congrArg _ (congrArg _ (congrArg _ (congrArg _ (congrArg (fun x => Res.andThen x _) ?_))))
  refine firstErr_map_congr _ fun kv _ => ?_
  simp only
  rw [validateEndStates_abs]
  congr 1
  · -- the labels of the row
    unfold AV.GNFA.validateLabels
    rw [avals_absRow]
    refine firstErr_map_congr _ fun l _ => ?_
    cases l with
    | none => rfl
    | some s => exact validateLabel_abs rxValid g s
  · -- `paths.get(self.initial_state) is not None`
    congr 2
    unfold VA.GNFA.entersInit
    rw [alookup_absRow, absGNFA_init]
    cases alookup g.init kv.2 with
    | none => rfl
    | some l => cases l <;> rfl

theorem validate_absGNFA (rxValid : Str → Res Bool)
    (hrx : ∀ s e, rxValid s = .error e → e = .lib .lexerError) (g : AV.GNFA σ Str) :
    (absGNFA rxValid g).validate = g.validateStr rxValid := by
  rw [validate_absGNFA_norm, normRx_eq_self rxValid hrx]

theorem strLabelCheck_normRx_ok (rxValid : Str → Res Bool) (syms : List Char) (r : Str) :
    strLabelCheck (normRx rxValid) syms r = .ok () ↔ strLabelCheck rxValid syms r = .ok () := by
  unfold strLabelCheck normRx
  split
  · exact Iff.rfl
  · cases rxValid r with
    | error e => exact ⟨nofun, nofun⟩
    | ok b => exact Iff.rfl

theorem validateStr_normRx_ok (rxValid : Str → Res Bool) (g : AV.GNFA σ Str) :
    g.validateStr (normRx rxValid) = .ok () ↔ g.validateStr rxValid = .ok () := by
  have hl : ∀ paths : List (σ × Option Str),
      AV.GNFA.validateLabels (strLabelCheck (normRx rxValid) g.syms) paths = .ok () ↔
        AV.GNFA.validateLabels (strLabelCheck rxValid g.syms) paths = .ok () := by
    intro paths
    unfold AV.GNFA.validateLabels
    simp only [firstErr_eq_ok]
    refine forall₂_congr fun l _ => ?_
    cases l with
    | none => exact Iff.rfl
    | some r => exact strLabelCheck_normRx_ok rxValid g.syms r
  unfold AV.GNFA.validateStr AV.GNFA.validate
  simp only [Res.andThen_eq_ok, firstErr_eq_ok, hl]

theorem validate_absGNFA_ok (rxValid : Str → Res Bool) (g : AV.GNFA σ Str) :
    (absGNFA rxValid g).validate = .ok () ↔ g.validateStr rxValid = .ok () := by
  rw [validate_absGNFA_norm, validateStr_normRx_ok]

end AV.GnfaBridge
