/-
Proofs/ValidateRules.lean — the documented validation rules of the eight classes as rule
systems: documented exception class (`kind`), position of the check in `validate` (`stage`),
and what it means for a definition to break the rule (`Violates`).  For every class:
`validate d = ok ↔ no rule is violated`, and an error raised by `validate` is the documented
class of a violated rule, no rule of an earlier stage being violated (core only).

`validate` is built from `guardE`, `Res.andThen`, `firstErr` and `if`: `Decides` says which rules
such a check decides (one lemma per combinator), `Staged` records the order of the groups of rules
along `andThen`, and `Staged.correct` compares the groups with the stages, once.  The three
Turing-machine validators are one check on a view (`TmView`).
-/
import AutomataVerif.Proofs.ValidateAll

namespace AV.VA
open AV

variable {σ α γ : Type} [DecidableEq σ] [DecidableEq α] [DecidableEq γ]

/-- The documented validation rules `ρ` of a class with definitions `δ`: `kind r` is the exception
class the documentation names for rule `r`, `stage r` the position of its check in `validate` (rules
tested in one loop share a stage), `Violates d r` what it means for `d` to break `r`. -/
structure RuleSys (δ ρ : Type) where
  kind : ρ → Gen.Err
  stage : ρ → Nat
  Violates : δ → ρ → Prop

/-- What is proved of every class: `validate` accepts exactly the definitions that break no rule,
and what it raises is the documented class of a broken rule, no rule of an earlier stage being broken
(among the broken rules of one stage the code's order decides). -/
structure RuleSys.Correct {δ ρ : Type} (S : RuleSys δ ρ) (validate : δ → Res Unit) : Prop where
  ok_iff : ∀ d, validate d = .ok () ↔ ∀ r, ¬ S.Violates d r
  error_kind : ∀ d e, validate d = .error e →
    ∃ r, S.Violates d r ∧ e = .lib (S.kind r) ∧ ∀ r', S.stage r' < S.stage r → ¬ S.Violates d r'

theorem RuleSys.Correct.corrupt_raises {δ ρ : Type} {S : RuleSys δ ρ} {validate : δ → Res Unit}
    (hc : S.Correct validate) (d : δ) (r : ρ) (hv : S.Violates d r)
    (hother : ∀ r', S.Violates d r' → S.kind r' = S.kind r ∨ S.stage r < S.stage r') :
    validate d = .error (.lib (S.kind r)) := by
  have hne : validate d ≠ .ok () := fun h => (hc.ok_iff d).mp h r hv
  obtain ⟨e, he⟩ := Res.ne_ok_iff.mp hne
  obtain ⟨r0, hv0, rfl, hmin⟩ := hc.error_kind d e he
  rw [he]
  rcases hother r0 hv0 with h | hlt
  · rw [h]
  · exact absurd hv (hmin r hlt)

/-- `r'`, if broken too, could be what `validate` reports instead of `r`: the side condition of
`raises`, a closed Boolean for concrete rules. -/
def RuleSys.preempts {δ ρ : Type} (S : RuleSys δ ρ) (r' r : ρ) : Bool :=
  S.kind r' != S.kind r && decide (S.stage r' ≤ S.stage r)

theorem RuleSys.Correct.raises {δ ρ : Type} {S : RuleSys δ ρ} {validate : δ → Res Unit}
    (hc : S.Correct validate) {d' : δ} (r : ρ) (hv : S.Violates d' r)
    (hother : ∀ r', S.preempts r' r = true → ¬ S.Violates d' r') :
    validate d' = .error (.lib (S.kind r)) :=
  hc.corrupt_raises d' r hv fun r' hv' => by
    refine Decidable.or_iff_not_imp_left.mpr fun hk => Nat.lt_of_not_le fun hs => hother r' ?_ hv'
    rw [RuleSys.preempts, Bool.and_eq_true]
    exact ⟨bne_iff_ne.mpr hk, decide_eq_true hs⟩

/-- `d` is valid, `d'` an edit of it.  For concrete rules `S.preempts r' r` is a closed Boolean, and
`S.Violates d' r' → S.Violates d r'` is `id` for every rule that reads only fields the edit leaves
alone. -/
theorem RuleSys.Correct.raises_of_valid {δ ρ : Type} {S : RuleSys δ ρ} {validate : δ → Res Unit}
    (hc : S.Correct validate) {d d' : δ} (hok : validate d = .ok ()) (r : ρ)
    (hv : S.Violates d' r)
    (hframe : ∀ r', S.preempts r' r = true → S.Violates d' r' → S.Violates d r') :
    validate d' = .error (.lib (S.kind r)) :=
  hc.raises r hv fun r' hp hv' => (hc.ok_iff d).mp hok r' (hframe r' hp hv')

/-- `d` is valid, and whatever its edit `d'` violates is violated by `d` or by what was put in (`New`;
the `*_frame` lemmas of Proofs/CorruptOps, CorruptOps2 and CorruptTm say so for their edit
operators, with no hypothesis on `d`). -/
theorem RuleSys.Correct.raises_of_frame {δ ρ : Type} {S : RuleSys δ ρ} {validate : δ → Res Unit}
    (hc : S.Correct validate) {d d' : δ} (hok : validate d = .ok ()) {New : ρ → Prop}
    (hframe : ∀ r', S.Violates d' r' → S.Violates d r' ∨ New r') (r : ρ) (hv : S.Violates d' r)
    (hnew : ∀ r', New r' → S.kind r' = S.kind r ∨ S.stage r < S.stage r') :
    validate d' = .error (.lib (S.kind r)) :=
  hc.corrupt_raises d' r hv fun r' hv' =>
    (hframe r' hv').elim (fun h => absurd h ((hc.ok_iff d).mp hok r')) (hnew r')

/-- Closes `S.preempts r' r = true → S.Violates d' r' → S.Violates d r'` for a concrete rule `r'` that
reads only fields on which `d'` and `d` agree (the two statements are then the same), or that cannot
pre-empt `r` (the hypothesis is `false = true`). -/
macro "rule_unaffected" : tactic => `(tactic| first | exact fun _ => id | exact fun h => absurd h Bool.false_ne_true)

/-- `V r`: rule `r` is violated.  The order in which `c` looks at the rules of `rs` is not recorded. -/
structure Decides {ρ : Type} (kind : ρ → Gen.Err) (V : ρ → Prop) (rs : List ρ) (c : Res Unit) : Prop where
  pass : c = .ok () → ∀ r ∈ rs, ¬ V r
  error : ∀ e, c = .error e → ∃ r ∈ rs, V r ∧ e = .lib (kind r)

namespace Decides
variable {ρ β : Type} {kind : ρ → Gen.Err} {V : ρ → Prop} {rs rs₁ rs₂ : List ρ} {c c₁ c₂ : Res Unit}

theorem guard (r : ρ) {b : Bool} (hV : V r ↔ b = false) :
    Decides kind V [r] (guardE b (.lib (kind r))) where
  pass h r' hr' hv := by
    rw [List.mem_singleton.mp hr', hV, guardE_eq_ok.mp h] at hv
    cases hv
  error e h := by
    obtain ⟨hb, rfl⟩ := guardE_eq_error.mp h
    exact ⟨r, List.mem_singleton_self r, hV.mpr hb, rfl⟩

theorem guard_decide (r : ρ) {p : Prop} [Decidable p] (hV : V r ↔ ¬ p) :
    Decides kind V [r] (guardE (decide p) (.lib (kind r))) :=
  guard r (hV.trans decide_eq_false_iff_not.symm)

theorem andThen (h₁ : Decides kind V rs₁ c₁) (h₂ : Decides kind V rs₂ c₂) :
    Decides kind V (rs₁ ++ rs₂) (c₁.andThen c₂) where
  pass h r hr := by
    obtain ⟨a, b⟩ := Res.andThen_eq_ok.mp h
    exact (List.mem_append.mp hr).elim (h₁.pass a r) (h₂.pass b r)
  error e h := by
    rcases Res.andThen_eq_error.mp h with h | ⟨_, h⟩
    · obtain ⟨r, hr, hv⟩ := h₁.error e h
      exact ⟨r, List.mem_append_left _ hr, hv⟩
    · obtain ⟨r, hr, hv⟩ := h₂.error e h
      exact ⟨r, List.mem_append_right _ hr, hv⟩

/-- `W x r`: what element `x` does to violate `r`. -/
theorem forEach {l : List β} {f : β → Res Unit} (W : β → ρ → Prop)
    (hW : ∀ r ∈ rs, V r ↔ ∃ x ∈ l, W x r) (h : ∀ x ∈ l, Decides kind (W x) rs (f x)) :
    Decides kind V rs (firstErr l f) where
  pass hok r hr hv := by
    obtain ⟨x, hx, hw⟩ := (hW r hr).mp hv
    exact (h x hx).pass ((firstErr_eq_ok l f).mp hok x hx) r hr hw
  error e he := by
    obtain ⟨x, hx, hfx⟩ := firstErr_eq_error he
    obtain ⟨r, hr, hw, hk⟩ := (h x hx).error e hfx
    exact ⟨r, hr, (hW r hr).mpr ⟨x, hx, hw⟩, hk⟩

theorem forEach_guard (r : ρ) {l : List β} {b : β → Bool} (hV : V r ↔ ∃ x ∈ l, b x = false) :
    Decides kind V [r] (firstErr l fun x => guardE (b x) (.lib (kind r))) :=
  forEach (fun x _ => b x = false) (fun r' hr' => by rw [List.mem_singleton.mp hr']; exact hV)
    fun _ _ => guard r Iff.rfl

theorem forEach_guard_decide (r : ρ) {l : List β} {p : β → Prop} [DecidablePred p]
    (hV : V r ↔ ∃ x ∈ l, ¬ p x) :
    Decides kind V [r] (firstErr l fun x => guardE (decide (p x)) (.lib (kind r))) :=
  forEach_guard r (by simpa only [decide_eq_false_iff_not] using hV)

theorem ok (h : ∀ r ∈ rs, ¬ V r) : Decides kind V rs (.ok ()) :=
  ⟨fun _ => h, fun _ he => nomatch he⟩

/-- `n₁`, `n₂`: the rules of the branch not taken are not violated. -/
theorem ite {p : Prop} [Decidable p] (h₁ : p → Decides kind V rs₁ c₁) (n₂ : p → ∀ r ∈ rs₂, ¬ V r)
    (h₂ : ¬ p → Decides kind V rs₂ c₂) (n₁ : ¬ p → ∀ r ∈ rs₁, ¬ V r) :
    Decides kind V (rs₁ ++ rs₂) (if p then c₁ else c₂) := by
  by_cases hp : p
  · rw [if_pos hp]
    exact ⟨fun h r hr => (List.mem_append.mp hr).elim ((h₁ hp).pass h r) (n₂ hp r),
      fun e he => let ⟨r, hr, hv⟩ := (h₁ hp).error e he; ⟨r, List.mem_append_left _ hr, hv⟩⟩
  · rw [if_neg hp]
    exact ⟨fun h r hr => (List.mem_append.mp hr).elim (n₁ hp r) ((h₂ hp).pass h r),
      fun e he => let ⟨r, hr, hv⟩ := (h₂ hp).error e he; ⟨r, List.mem_append_right _ hr, hv⟩⟩

theorem skipWhen {p : Prop} [Decidable p] (hp : p → ∀ r ∈ rs, ¬ V r) (h : ¬ p → Decides kind V rs c) :
    Decides kind V rs (if p then .ok () else c) :=
  ite (rs₁ := []) (fun _ => ok fun _ h => nomatch h) hp h fun _ _ h => nomatch h

theorem of_option (r : ρ) {p : β → Prop} [DecidablePred p] (x : Option β)
    (hnone : x = none → c = .ok ())
    (hsome : ∀ a, x = some a → c = guardE (decide (p a)) (.lib (kind r)))
    (hV : V r ↔ ∃ a, x = some a ∧ ¬ p a) : Decides kind V [r] c := by
  cases x with
  | none =>
    rw [hnone rfl]
    refine ⟨fun _ r' hr' hv => ?_, fun e he => nomatch he⟩
    rw [List.mem_singleton.mp hr', hV] at hv
    obtain ⟨_, h, _⟩ := hv
    cases h
  | some a =>
    rw [hsome a rfl]
    exact guard_decide r (hV.trans ⟨fun ⟨_, h, hn⟩ => by cases h; exact hn, fun hn => ⟨a, rfl, hn⟩⟩)

end Decides

/-- `c` runs the checks of the groups `gs` one group after the other (the checks of one group may be
interleaved: one loop): as `Decides` for every rule of `gs`, and an error is raised for a rule of a
group such that no rule of an earlier group is violated. -/
structure Staged {ρ : Type} (kind : ρ → Gen.Err) (V : ρ → Prop) (gs : List (List ρ)) (c : Res Unit) :
    Prop where
  pass : c = .ok () → ∀ g ∈ gs, ∀ r ∈ g, ¬ V r
  error : ∀ e, c = .error e → ∃ pre g post, gs = pre ++ g :: post ∧
    (∃ r ∈ g, V r ∧ e = .lib (kind r)) ∧ ∀ g' ∈ pre, ∀ r' ∈ g', ¬ V r'

namespace Staged
variable {δ ρ : Type} {kind : ρ → Gen.Err} {V : ρ → Prop} {rs : List ρ} {gs gs₁ gs₂ : List (List ρ)}
  {c c₁ c₂ : Res Unit}

theorem group (h : Decides kind V rs c) : Staged kind V [rs] c where
  pass hok _ hg := List.mem_singleton.mp hg ▸ h.pass hok
  error e he := ⟨[], rs, [], rfl, h.error e he, fun _ h => nomatch h⟩

theorem andThen (t₁ : Staged kind V gs₁ c₁) (t₂ : Staged kind V gs₂ c₂) :
    Staged kind V (gs₁ ++ gs₂) (c₁.andThen c₂) where
  pass hok g hg := by
    obtain ⟨a, b⟩ := Res.andThen_eq_ok.mp hok
    exact (List.mem_append.mp hg).elim (t₁.pass a g) (t₂.pass b g)
  error e he := by
    rcases Res.andThen_eq_error.mp he with he | ⟨hok, he⟩
    · obtain ⟨pre, g, post, rfl, hr, hpre⟩ := t₁.error e he
      exact ⟨pre, g, post ++ gs₂, List.append_assoc .., hr, hpre⟩
    · obtain ⟨pre, g, post, rfl, hr, hpre⟩ := t₂.error e he
      exact ⟨gs₁ ++ pre, g, post, (List.append_assoc ..).symm, hr, fun g' hg' =>
        (List.mem_append.mp hg').elim (t₁.pass hok g') (hpre g')⟩

theorem cons (h : Decides kind V rs c₁) (t : Staged kind V gs c₂) :
    Staged kind V (rs :: gs) (c₁.andThen c₂) :=
  (group h).andThen t

theorem map {ρ₂ : Type} {kind₂ : ρ₂ → Gen.Err} {V₂ : ρ₂ → Prop} {gs : List (List ρ₂)} (f : ρ₂ → ρ)
    (hk : ∀ b, kind (f b) = kind₂ b) (hV : ∀ b, V (f b) ↔ V₂ b) (t : Staged kind₂ V₂ gs c) :
    Staged kind V (gs.map (·.map f)) c where
  pass hok g hg r hr := by
    obtain ⟨g₂, hg₂, rfl⟩ := List.mem_map.mp hg
    obtain ⟨b, hb, rfl⟩ := List.mem_map.mp hr
    exact mt (hV b).mp (t.pass hok g₂ hg₂ b hb)
  error e he := by
    obtain ⟨pre, g, post, rfl, ⟨b, hb, hv, hke⟩, hpre⟩ := t.error e he
    refine ⟨pre.map (·.map f), g.map f, post.map (·.map f), by rw [List.map_append, List.map_cons],
      ⟨f b, List.mem_map_of_mem hb, (hV b).mpr hv, hk b ▸ hke⟩, fun g' hg' r' hr' => ?_⟩
    obtain ⟨g₂, hg₂, rfl⟩ := List.mem_map.mp hg'
    obtain ⟨b', hb', rfl⟩ := List.mem_map.mp hr'
    exact mt (hV b').mp (hpre g₂ hg₂ b' hb')

/-- A staged validator is correct for a rule system whose rules it covers (`hall`) and whose stages
number the groups (`hgrp`, `hord`).  The three are decided on the concrete list of groups; `kind` and
`stage` are the plain functions (`Rule.kind`, `Rule.stage`) they are decided on, tied to the rule
system by `hkind`, `hstage` (both `rfl`). -/
theorem correct {S : RuleSys δ ρ} {v : δ → Res Unit} {stage : ρ → Nat} (hkind : S.kind = kind)
    (hstage : S.stage = stage) (h : ∀ d, Staged kind (S.Violates d) gs (v d))
    (hall : ∀ r, r ∈ gs.flatten) (hgrp : ∀ g ∈ gs, ∀ r ∈ g, ∀ r' ∈ g, stage r' = stage r)
    (hord : gs.Pairwise fun g g' => ∀ r ∈ g, ∀ r' ∈ g', stage r < stage r') : S.Correct v where
  ok_iff d := by
    refine ⟨fun hok r => ?_, fun hno => ?_⟩
    · obtain ⟨g, hg, hr⟩ := List.mem_flatten.mp (hall r)
      exact (h d).pass hok g hg r hr
    · cases hv : v d with
      | ok u => rfl
      | error e =>
        obtain ⟨_, _, _, _, ⟨r, _, hr, _⟩, _⟩ := (h d).error e hv
        exact absurd hr (hno r)
  error_kind d e he := by
    subst hkind hstage
    obtain ⟨pre, g, post, hgs, ⟨r, hr, hv, hk⟩, hpre⟩ := (h d).error e he
    refine ⟨r, hv, hk, fun r' hlt => ?_⟩
    obtain ⟨g', hg', hr'⟩ := List.mem_flatten.mp (hall r')
    have hg : g ∈ gs := hgs ▸ List.mem_append_right _ List.mem_cons_self
    rw [hgs] at hg' hord
    rcases List.mem_append.mp hg' with hg' | hg'
    · exact hpre g' hg' r' hr'
    · rcases List.mem_cons.mp hg' with rfl | hg'
      · exact absurd hlt (hgrp g' hg r hr r' hr' ▸ Nat.lt_irrefl _)
      · exact absurd hlt (Nat.lt_asymm
          ((List.pairwise_cons.mp (List.pairwise_append.mp hord).2.1).1 g' hg' r hr r' hr'))

end Staged

namespace DFA
open AV.DFA
inductive Rule | missingRow | missingSymbol | unknownSymbol | unknownEndState | badInitial | badFinal
  deriving DecidableEq, Repr

def Rule.kind : Rule → Gen.Err
  | .missingRow => .missingStateError
  | .missingSymbol => .missingSymbolError
  | .unknownSymbol => .invalidSymbolError
  | .unknownEndState => .invalidStateError
  | .badInitial => .invalidStateError
  | .badFinal => .invalidStateError

def Rule.stage : Rule → Nat
  | .missingRow => 0
  | .missingSymbol => 1
  | .unknownSymbol => 1
  | .unknownEndState => 1
  | .badInitial => 2
  | .badFinal => 3

def rules : RuleSys (DFA σ α) Rule where
  kind := Rule.kind
  stage := Rule.stage
  Violates d
    | .missingRow => ∃ q ∈ d.states, q ∉ akeys d.trans
    | .missingSymbol => d.allowPartial = false ∧ ∃ kv ∈ d.trans, ∃ a ∈ d.syms, a ∉ akeys kv.2
    | .unknownSymbol => ∃ kv ∈ d.trans, ∃ a ∈ akeys kv.2, a ∉ d.syms
    | .unknownEndState => ∃ kv ∈ d.trans, ∃ q ∈ avals kv.2, q ∉ d.states
    | .badInitial => d.init ∉ d.states
    | .badFinal => ∃ q ∈ d.finals, q ∉ d.states

omit [DecidableEq σ] [DecidableEq α] in
theorem rules_stage : (rules : RuleSys (DFA σ α) Rule).stage = Rule.stage := rfl
set_option linter.unusedSectionVars false in
theorem rules_kind : (rules : RuleSys (DFA σ α) Rule).kind = Rule.kind := rfl

def RowViolates (d : DFA σ α) (paths : List (α × σ)) : Rule → Prop
  | .missingSymbol => d.allowPartial = false ∧ ∃ a ∈ d.syms, a ∉ akeys paths
  | .unknownSymbol => ∃ a ∈ akeys paths, a ∉ d.syms
  | .unknownEndState => ∃ q ∈ avals paths, q ∉ d.states
  | _ => False

theorem validateRow_decides (d : DFA σ α) (paths : List (α × σ)) :
    Decides Rule.kind (RowViolates d paths) [.missingSymbol, .unknownSymbol, .unknownEndState]
      (d.validateRow paths) :=
  .andThen (rs₁ := [.missingSymbol])
    (.skipWhen (fun hp r hr hv => by
        rw [List.mem_singleton.mp hr] at hv; exact Bool.noConfusion (hv.1.symm.trans hp))
      fun hp => .forEach_guard Rule.missingSymbol (by
        simp only [RowViolates, Bool.eq_false_iff.mpr hp, true_and, ahas_eq_false])) <|
  .andThen (rs₁ := [.unknownSymbol]) (.forEach_guard_decide Rule.unknownSymbol Iff.rfl) <|
  .forEach_guard_decide Rule.unknownEndState Iff.rfl

theorem rules_staged (d : DFA σ α) : Staged Rule.kind (rules.Violates d)
    [[.missingRow], [.missingSymbol, .unknownSymbol, .unknownEndState], [.badInitial], [.badFinal]]
    d.validate :=
  .cons (.forEach_guard Rule.missingRow (by simp only [rules, ahas_eq_false])) <|
  .cons (.forEach (fun kv => RowViolates d kv.2) (by
      simp only [List.mem_cons, List.not_mem_nil, or_false, forall_eq_or_imp, forall_eq]
      exact ⟨⟨fun ⟨hp, kv, hkv, h⟩ => ⟨kv, hkv, hp, h⟩, fun ⟨kv, hkv, hp, h⟩ => ⟨hp, kv, hkv, h⟩⟩,
        Iff.rfl, Iff.rfl⟩)
    fun kv _ => validateRow_decides d kv.2) <|
  .cons (.guard_decide Rule.badInitial Iff.rfl) <|
  -- the check `finals.all fun q => decide (q ∈ states)` is `subsetB finals states` unfolded
  .group (.guard Rule.badFinal subsetB_eq_false.symm)

theorem rules_correct : (rules : RuleSys (DFA σ α) Rule).Correct validate :=
  Staged.correct (stage := Rule.stage) rfl rfl rules_staged (by intro r; cases r <;> decide) (by decide)
    (by decide)

theorem wf_iff (d : DFA σ α) : d.WF ↔ ∀ r, ¬ rules.Violates d r :=
  (validate_eq_ok d).symm.trans (rules_correct.ok_iff d)

end DFA
namespace NFA
open AV.NFA
inductive Rule | unknownSymbol | unknownEndState | badInitial | initialNoRow | badFinal
  deriving DecidableEq, Repr

def Rule.kind : Rule → Gen.Err
  | .unknownSymbol => .invalidSymbolError
  | .unknownEndState => .invalidStateError
  | .badInitial => .invalidStateError
  | .initialNoRow => .missingStateError
  | .badFinal => .invalidStateError

def Rule.stage : Rule → Nat
  | .unknownSymbol => 0
  | .unknownEndState => 0
  | .badInitial => 1
  | .initialNoRow => 2
  | .badFinal => 3

def rules : RuleSys (NFA σ α) Rule where
  kind := Rule.kind
  stage := Rule.stage
  Violates n
    | .unknownSymbol => ∃ kv ∈ n.trans, ∃ a, some a ∈ akeys kv.2 ∧ a ∉ n.syms
    | .unknownEndState => ∃ kv ∈ n.trans, ∃ ts ∈ avals kv.2, ∃ q ∈ ts, q ∉ n.states
    | .badInitial => n.init ∉ n.states
    | .initialNoRow => n.init ∉ akeys n.trans ∧ 1 < n.states.length
    | .badFinal => ∃ q ∈ n.finals, q ∉ n.states

omit [DecidableEq σ] [DecidableEq α] in
theorem rules_stage : (rules : RuleSys (NFA σ α) Rule).stage = Rule.stage := rfl
set_option linter.unusedSectionVars false in
theorem rules_kind : (rules : RuleSys (NFA σ α) Rule).kind = Rule.kind := rfl

def RowViolates (n : NFA σ α) (paths : List (Option α × List σ)) : Rule → Prop
  | .unknownSymbol => ∃ a, some a ∈ akeys paths ∧ a ∉ n.syms
  | .unknownEndState => ∃ ts ∈ avals paths, ∃ q ∈ ts, q ∉ n.states
  | _ => False

theorem validateRow_decides (n : NFA σ α) (paths : List (Option α × List σ)) :
    Decides Rule.kind (RowViolates n paths) [.unknownSymbol, .unknownEndState] (n.validateRow paths) :=
  .andThen (rs₁ := [.unknownSymbol])
    (.forEach (fun x _ => ∃ a, x = some a ∧ a ∉ n.syms)
      (fun r hr => by
        rw [List.mem_singleton.mp hr]
        exact ⟨fun ⟨a, ha, h⟩ => ⟨_, ha, a, rfl, h⟩, fun ⟨_, hx, a, e, h⟩ => ⟨a, e ▸ hx, h⟩⟩)
      fun x _ => .of_option Rule.unknownSymbol x (fun h => by subst h; rfl)
        (fun a h => by subst h; rfl) Iff.rfl) <|
  .forEach (fun ts _ => ∃ q ∈ ts, q ∉ n.states) (fun r hr => by rw [List.mem_singleton.mp hr]; rfl)
    fun ts _ => .forEach_guard_decide Rule.unknownEndState Iff.rfl

theorem rules_staged (n : NFA σ α) : Staged Rule.kind (rules.Violates n)
    [[.unknownSymbol, .unknownEndState], [.badInitial], [.initialNoRow], [.badFinal]] n.validate :=
  .cons (.forEach (fun kv => RowViolates n kv.2) (by
      simp only [List.mem_cons, List.not_mem_nil, or_false, forall_eq_or_imp, forall_eq]; exact ⟨Iff.rfl, Iff.rfl⟩)
    fun kv _ => validateRow_decides n kv.2) <|
  .cons (.guard_decide Rule.badInitial Iff.rfl) <|
  .cons (.guard Rule.initialNoRow (by
    simp only [rules, Bool.or_eq_false_iff, ahas_eq_false, decide_eq_false_iff_not, Nat.not_le])) <|
  -- the check `finals.all fun q => decide (q ∈ states)` is `subsetB finals states` unfolded
  .group (.guard Rule.badFinal subsetB_eq_false.symm)

theorem rules_correct : (rules : RuleSys (NFA σ α) Rule).Correct validate :=
  Staged.correct (stage := Rule.stage) rfl rfl rules_staged (by intro r; cases r <;> decide) (by decide)
    (by decide)

theorem wf_iff (n : NFA σ α) : n.WF ↔ ∀ r, ¬ rules.Violates n r :=
  (validate_eq_ok n).symm.trans (rules_correct.ok_iff n)

end NFA

namespace GNFA
inductive Rule
  | badInitial | badFinal | initialEqualsFinal | missingRow
  | malformedLabel | labelLexerError | finalHasTransitions | missingEntry | unknownEndState
  | transitionIntoInitial | initialNoRow
  deriving DecidableEq, Repr

/-- A label the constructor rejects as malformed: it uses a character outside the input
symbols and `* | ( ) ?` (and is not empty), or the regex validator says it is invalid. -/
def Malformed (g : GNFA σ α) (l : GLabel α) : Prop :=
  ((∃ c ∈ l.chars, g.charOk c = false) ∧ l.chars ≠ []) ∨ l.verdict = .invalid

def Rule.kind : Rule → Gen.Err
  | .badInitial => .invalidStateError
  | .badFinal => .invalidStateError
  | .initialEqualsFinal => .invalidStateError
  | .missingRow => .missingStateError
  | .malformedLabel => .invalidRegexError
  | .labelLexerError => .lexerError
  | .finalHasTransitions => .invalidStateError
  | .missingEntry => .missingStateError
  | .unknownEndState => .invalidStateError
  | .transitionIntoInitial => .invalidStateError
  | .initialNoRow => .missingStateError

def Rule.stage : Rule → Nat
  | .badInitial => 0
  | .badFinal => 1
  | .initialEqualsFinal => 2
  | .missingRow => 3
  | .malformedLabel => 4
  | .labelLexerError => 4
  | .finalHasTransitions => 4
  | .missingEntry => 4
  | .unknownEndState => 4
  | .transitionIntoInitial => 4
  | .initialNoRow => 5

def rules : RuleSys (GNFA σ α) Rule where
  kind := Rule.kind
  stage := Rule.stage
  Violates g
    | .badInitial => g.init ∉ g.states
    | .badFinal => g.final ∉ g.states
    | .initialEqualsFinal => g.init = g.final
    | .missingRow => ∃ q ∈ g.states, q ≠ g.final ∧ q ∉ akeys g.trans
    | .malformedLabel => ∃ kv ∈ g.trans, ∃ l, some l ∈ avals kv.2 ∧ g.Malformed l
    | .labelLexerError => ∃ kv ∈ g.trans, ∃ l, some l ∈ avals kv.2 ∧ l.verdict = .lexerError
    | .finalHasTransitions => ∃ kv ∈ g.trans, kv.1 = g.final ∧ kv.2 ≠ []
    | .missingEntry => ∃ kv ∈ g.trans, kv.1 ≠ g.final ∧ ∃ q ∈ g.states, q ∉ akeys kv.2 ∧ q ≠ g.init
    | .unknownEndState => ∃ kv ∈ g.trans, ∃ q ∈ akeys kv.2, q ∉ g.states
    | .transitionIntoInitial => ∃ kv ∈ g.trans, g.entersInit kv.2 = true
    | .initialNoRow => g.init ∉ akeys g.trans ∧ 1 < g.states.length

theorem rules_stage : (rules : RuleSys (GNFA σ α) Rule).stage = Rule.stage := rfl
theorem rules_kind : (rules : RuleSys (GNFA σ α) Rule).kind = Rule.kind := rfl

omit [DecidableEq σ] in
theorem labelOk_iff (g : GNFA σ α) (l : GLabel α) :
    g.LabelOk (some l) ↔ ¬ g.Malformed l ∧ l.verdict ≠ .lexerError := by
  unfold LabelOk Malformed
  constructor
  · rintro ⟨h1, h2⟩
    refine ⟨?_, by simp [h2]⟩
    rintro (⟨⟨c, hc, hbad⟩, hne⟩ | h)
    · rcases h1 with h1 | h1
      · rw [h1 c hc] at hbad; cases hbad
      · exact hne h1
    · rw [h2] at h; cases h
  · rintro ⟨h1, h2⟩
    refine ⟨?_, ?_⟩
    · by_cases he : l.chars = []
      · exact Or.inr he
      · left
        intro c hc
        cases hcc : g.charOk c with
        | true => rfl
        | false => exact absurd (Or.inl ⟨⟨c, hc, hcc⟩, he⟩) h1
    · cases hv : l.verdict with
      | valid => rfl
      | invalid => exact absurd (Or.inr hv) h1
      | lexerError => exact absurd hv h2

omit [DecidableEq σ] in
theorem validateLabel_error (g : GNFA σ α) (l : Option (GLabel α)) (e : Exn)
    (h : g.validateLabel l = .error e) :
    ∃ l', l = some l' ∧ ((g.Malformed l' ∧ e = .lib .invalidRegexError) ∨
      (l'.verdict = .lexerError ∧ e = .lib .lexerError)) := by
  cases l with
  | none => simp [validateLabel] at h
  | some l =>
    refine ⟨l, rfl, ?_⟩
    simp only [validateLabel] at h
    by_cases hbad : ((!(l.chars.all g.charOk)) && !l.chars.isEmpty) = true
    · left
      rw [if_pos hbad] at h
      cases h
      simp only [Bool.and_eq_true, Bool.not_eq_true', List.all_eq_false, Bool.not_eq_true,
        List.isEmpty_eq_false_iff] at hbad
      exact ⟨Or.inl ⟨by simpa using hbad.1, hbad.2⟩, rfl⟩
    · rw [if_neg hbad] at h
      cases hv : l.verdict with
      | valid => rw [hv] at h; cases h
      | invalid => rw [hv] at h; cases h; exact Or.inl ⟨Or.inr hv, rfl⟩
      | lexerError => rw [hv] at h; cases h; exact Or.inr ⟨rfl, rfl⟩

def RowViolates (g : GNFA σ α) (kv : σ × List (σ × Option (GLabel α))) : Rule → Prop
  | .malformedLabel => ∃ l, some l ∈ avals kv.2 ∧ g.Malformed l
  | .labelLexerError => ∃ l, some l ∈ avals kv.2 ∧ l.verdict = .lexerError
  | .finalHasTransitions => kv.1 = g.final ∧ kv.2 ≠ []
  | .missingEntry => kv.1 ≠ g.final ∧ ∃ q ∈ g.states, q ∉ akeys kv.2 ∧ q ≠ g.init
  | .unknownEndState => ∃ q ∈ akeys kv.2, q ∉ g.states
  | .transitionIntoInitial => g.entersInit kv.2 = true
  | _ => False

theorem validateLabels_decides (g : GNFA σ α) (kv : σ × List (σ × Option (GLabel α))) :
    Decides Rule.kind (g.RowViolates kv) [.malformedLabel, .labelLexerError]
      (firstErr (avals kv.2) g.validateLabel) where
  pass hok r hr := by
    have ok := fun l hl => (labelOk_iff g l).mp
      ((validateLabel_eq_ok g _).mp ((firstErr_eq_ok _ _).mp hok (some l) hl))
    rcases List.mem_cons.mp hr with rfl | hr
    · rintro ⟨l, hl, hm⟩; exact (ok l hl).1 hm
    · rw [List.mem_singleton.mp hr]; rintro ⟨l, hl, hm⟩; exact (ok l hl).2 hm
  error e he := by
    obtain ⟨l, hl, hlab⟩ := firstErr_eq_error he
    obtain ⟨l', rfl, ⟨hm, rfl⟩ | ⟨hm, rfl⟩⟩ := validateLabel_error g l e hlab
    · exact ⟨_, .head _, ⟨l', hl, hm⟩, rfl⟩
    · exact ⟨_, .tail _ (.head _), ⟨l', hl, hm⟩, rfl⟩

theorem validateEndStates_decides (g : GNFA σ α) (kv : σ × List (σ × Option (GLabel α))) :
    Decides Rule.kind (g.RowViolates kv) [.finalHasTransitions, .missingEntry, .unknownEndState]
      (g.validateEndStates kv.1 kv.2) := by
  refine .andThen (rs₁ := [Rule.finalHasTransitions, .missingEntry])
    (.ite (rs₁ := [Rule.finalHasTransitions]) (rs₂ := [Rule.missingEntry])
      (fun h => .guard Rule.finalHasTransitions ?_) (fun h r hr hv => ?_)
      (fun h => .guard Rule.missingEntry ?_) (fun h r hr hv => ?_))
    (.forEach_guard_decide Rule.unknownEndState Iff.rfl)
  · simp only [RowViolates, h, true_and, ne_eq, ← List.isEmpty_iff, Bool.not_eq_true]
  · rw [List.mem_singleton.mp hr] at hv; exact hv.1 h
  · simp only [RowViolates, rowComplete, h, ne_eq, not_false_eq_true, true_and, List.all_eq_false,
      Bool.or_eq_true, ahas_iff, decide_eq_true_eq, not_or]
  · rw [List.mem_singleton.mp hr] at hv; exact h hv.1

theorem rules_correct : (rules : RuleSys (GNFA σ α) Rule).Correct validate :=
  Staged.correct (kind := Rule.kind) (stage := Rule.stage) rfl rfl (fun g =>
    .cons (.guard_decide Rule.badInitial Iff.rfl) <|
    .cons (.guard_decide Rule.badFinal Iff.rfl) <|
    .cons (.guard_decide (p := g.init ≠ g.final) Rule.initialEqualsFinal
      Classical.not_not.symm) <|
    .cons (.forEach_guard Rule.missingRow (by
      simp only [rules, Bool.or_eq_false_iff, decide_eq_false_iff_not, ahas_eq_false])) <|
    .cons (.forEach g.RowViolates
      (fun r hr => by cases r <;> first | exact Iff.rfl | exact absurd hr (by decide))
      fun kv _ => (validateLabels_decides g kv).andThen <|
        (validateEndStates_decides g kv).andThen <|
        .guard Rule.transitionIntoInitial (by simp [RowViolates])) <|
    .group (.guard Rule.initialNoRow (by
      simp only [rules, Bool.or_eq_false_iff, ahas_eq_false, decide_eq_false_iff_not, Nat.not_le])))
  (by intro r; cases r <;> decide) (by decide) (by decide)

theorem wf_iff (g : GNFA σ α) : g.WF ↔ ∀ r, ¬ rules.Violates g r :=
  (validate_eq_ok g).symm.trans (rules_correct.ok_iff g)

theorem WF.raises {g g' : GNFA σ α} (wf : g.WF) (r : Rule) (hv : rules.Violates g' r)
    (hframe : ∀ r', (rules (σ := σ) (α := α)).preempts r' r = true →
      rules.Violates g' r' → rules.Violates g r') :
    g'.validate = .error (.lib r.kind) :=
  rules_correct.raises_of_valid ((validate_eq_ok g).mpr wf) r hv hframe

end GNFA

inductive PdaRule
  | unknownInputSymbol | nondeterministic | unknownStackSymbol
  | badInitial | badInitialStackSymbol | badFinal | badAcceptanceMode
  deriving DecidableEq, Repr

def PdaRule.kind : PdaRule → Gen.Err
  | .unknownInputSymbol => .invalidSymbolError
  | .nondeterministic => .nondeterminismError
  | .unknownStackSymbol => .invalidSymbolError
  | .badInitial => .invalidStateError
  | .badInitialStackSymbol => .invalidSymbolError
  | .badFinal => .invalidStateError
  | .badAcceptanceMode => .invalidAcceptanceModeError

def PdaRule.stage : PdaRule → Nat
  | .unknownInputSymbol => 0
  | .nondeterministic => 0
  | .unknownStackSymbol => 0
  | .badInitial => 1
  | .badInitialStackSymbol => 2
  | .badFinal => 3
  | .badAcceptanceMode => 4

/-- `nd`: the row is not deterministic (a rule of the DPDA only). -/
def PdaRowViolates {β : Type} (syms : List α) (stackSyms : List γ) (nd : Prop)
    (paths : List (Option α × List (γ × β))) : PdaRule → Prop
  | .unknownInputSymbol => ∃ en ∈ paths, ∃ a, en.1 = some a ∧ a ∉ syms
  | .nondeterministic => nd
  | .unknownStackSymbol => ∃ en ∈ paths, ∃ g ∈ akeys en.2, g ∉ stackSyms
  | _ => False

def PdaEntryViolates {β : Type} (syms : List α) (stackSyms : List γ) (nd : Prop)
    (e : Option α × List (γ × β)) : PdaRule → Prop
  | .unknownInputSymbol => ∃ a, e.1 = some a ∧ a ∉ syms
  | .nondeterministic => e.1 = none ∧ e.2 ≠ [] ∧ nd
  | .unknownStackSymbol => ∃ g ∈ akeys e.2, g ∉ stackSyms
  | _ => False

def PdaKeyViolates (stackSyms : List γ) (nd : Prop) (o : Option α) (g : γ) : PdaRule → Prop
  | .nondeterministic => o = none ∧ nd
  | .unknownStackSymbol => g ∉ stackSyms
  | _ => False

/-- The common body of `DPDA.validateRow` and `NPDA.validateRow`.  `X o` is what is run for every stack symbol
of an entry keyed `o` before the symbol itself is tested: the determinism test of the DPDA for the λ-entry
(it looks at the whole row, so `nd` is a property of the row, found when a λ-entry is not empty), nothing
for the NPDA. -/
theorem pdaRowCheck_decides {β : Type} (syms : List α) (stackSyms : List γ) {nd : Prop}
    (paths : List (Option α × List (γ × β))) (X : Option α → Res Unit)
    (hX : ∀ o (V : PdaRule → Prop), (V .nondeterministic ↔ o = none ∧ nd) →
      Decides PdaRule.kind V [.nondeterministic] (X o))
    (hnd : nd → ∃ e ∈ paths, e.1 = none ∧ e.2 ≠ []) :
    Decides PdaRule.kind (PdaRowViolates syms stackSyms nd paths)
      [.unknownInputSymbol, .nondeterministic, .unknownStackSymbol]
      (firstErr paths fun e => (pdaInputSymOk syms e.1).andThen <|
        firstErr (akeys e.2) fun g =>
          (X e.1).andThen <| guardE (decide (g ∈ stackSyms)) (.lib .invalidSymbolError)) := by
  refine .forEach (PdaEntryViolates syms stackSyms nd) ?_ fun e _ =>
    .andThen (rs₁ := [PdaRule.unknownInputSymbol])
      (.of_option PdaRule.unknownInputSymbol e.1 (fun h => by rw [h]; rfl) (fun a h => by rw [h]; rfl) Iff.rfl)
      (.forEach (PdaKeyViolates stackSyms nd e.1) ?_ fun g _ =>
        .andThen (rs₁ := [PdaRule.nondeterministic]) (hX e.1 _ Iff.rfl)
          (.guard_decide PdaRule.unknownStackSymbol Iff.rfl))
  · simp only [List.mem_cons, List.not_mem_nil, or_false, forall_eq_or_imp, forall_eq]
    exact ⟨Iff.rfl, ⟨fun h => let ⟨e, he, h1, h2⟩ := hnd h; ⟨e, he, h1, h2, h⟩, fun ⟨_, _, _, _, h⟩ => h⟩, Iff.rfl⟩
  · simp only [List.mem_cons, List.not_mem_nil, or_false, forall_eq_or_imp, forall_eq]
    refine ⟨⟨fun ⟨h1, h2, h3⟩ => ?_, fun ⟨g, hg, h1, h3⟩ => ⟨h1, fun h => ?_, h3⟩⟩, Iff.rfl⟩
    · obtain ⟨x, hx⟩ := List.exists_mem_of_ne_nil _ h2
      exact ⟨x.1, List.mem_map_of_mem hx, h1, h3⟩
    · rw [h] at hg; cases hg

theorem pdaValidateTail_staged {V : PdaRule → Prop} (states : List σ) (stackSyms : List γ) (init : σ)
    (initStack : γ) (finals : List σ) (mode : String)
    (h1 : V .badInitial ↔ init ∉ states) (h2 : V .badInitialStackSymbol ↔ initStack ∉ stackSyms)
    (h3 : V .badFinal ↔ ∃ q ∈ finals, q ∉ states)
    (h4 : V .badAcceptanceMode ↔ mode ∉ Gen.Validate.pdaAcceptanceModes) :
    Staged PdaRule.kind V [[.badInitial], [.badInitialStackSymbol], [.badFinal], [.badAcceptanceMode]]
      (pdaValidateTail states stackSyms init initStack finals mode) :=
  .cons (.guard_decide PdaRule.badInitial h1) <|
  .cons (.guard_decide PdaRule.badInitialStackSymbol h2) <|
  .cons (.guard PdaRule.badFinal (h3.trans subsetB_eq_false.symm)) <|
  .group (.guard_decide PdaRule.badAcceptanceMode h4)

def pdaGroups : List (List PdaRule) :=
  [[.unknownInputSymbol, .nondeterministic, .unknownStackSymbol], [.badInitial], [.badInitialStackSymbol],
    [.badFinal], [.badAcceptanceMode]]

theorem pdaGroups_correct {δ : Type} {S : RuleSys δ PdaRule} {v : δ → Res Unit} (hkind : S.kind = PdaRule.kind)
    (hstage : S.stage = PdaRule.stage) (h : ∀ d, Staged PdaRule.kind (S.Violates d) pdaGroups (v d)) :
    S.Correct v :=
  Staged.correct hkind hstage h (by intro r; cases r <;> decide) (by decide) (by decide)

namespace DPDA

def rules : RuleSys (DPDA σ α γ) PdaRule where
  kind := PdaRule.kind
  stage := PdaRule.stage
  Violates d
    | .unknownInputSymbol => ∃ kv ∈ d.trans, ∃ e ∈ kv.2, ∃ a, e.1 = some a ∧ a ∉ d.syms
    | .nondeterministic => ∃ kv ∈ d.trans, ¬ RowDet kv.2
    | .unknownStackSymbol => ∃ kv ∈ d.trans, ∃ e ∈ kv.2, ∃ g ∈ akeys e.2, g ∉ d.stackSyms
    | .badInitial => d.init ∉ d.states
    | .badInitialStackSymbol => d.initStack ∉ d.stackSyms
    | .badFinal => ∃ q ∈ d.finals, q ∉ d.states
    | .badAcceptanceMode => d.mode ∉ Gen.Validate.pdaAcceptanceModes

omit [DecidableEq σ] [DecidableEq γ] in
theorem rules_stage : (rules : RuleSys (DPDA σ α γ) PdaRule).stage = PdaRule.stage := rfl
set_option linter.unusedSectionVars false in
theorem rules_kind : (rules : RuleSys (DPDA σ α γ) PdaRule).kind = PdaRule.kind := rfl

omit [DecidableEq σ] in
theorem lambdaSiblingsOk_error (paths : List (Option α × List (γ × (σ × List γ)))) (e : Exn)
    (h : lambdaSiblingsOk paths = .error e) : ¬ RowDet paths ∧ e = .lib .nondeterminismError := by
  refine ⟨fun hd => (nomatch ((lambdaSiblingsOk_eq_ok paths).mpr hd).symm.trans h), ?_⟩
  -- a loop of tests of one class is one test
  have : lambdaSiblingsOk paths = guardE (paths.all fun en => en.1.isNone ||
      (akeys en.2).all fun g' => !ahas g' (lamRow paths)) (.lib .nondeterminismError) := by
    rw [← firstErr_guardE]
    refine firstErr_congr fun en _ => ?_
    cases en.1
    · rfl
    · exact firstErr_guardE ..
  exact (guardE_eq_error.mp (this ▸ h)).2

theorem rules_staged (d : DPDA σ α γ) : Staged PdaRule.kind (rules.Violates d) pdaGroups d.validate :=
  .cons (.forEach
    (fun kv => PdaRowViolates d.syms d.stackSyms (¬ RowDet kv.2) kv.2) (by
      simp only [List.mem_cons, List.not_mem_nil, or_false, forall_eq_or_imp, forall_eq]
      exact ⟨Iff.rfl, Iff.rfl, Iff.rfl⟩)
    fun kv _ => pdaRowCheck_decides d.syms d.stackSyms kv.2
      (fun o => match o with | none => lambdaSiblingsOk kv.2 | some _ => .ok ())
      (fun o V hV => match o with
        | some _ => .ok fun r hr => by rw [List.mem_singleton.mp hr, hV]; exact fun h => nomatch h.1
        | none => ⟨fun hok r hr => by
            rw [List.mem_singleton.mp hr, hV]; exact fun h => h.2 ((lambdaSiblingsOk_eq_ok _).mp hok),
          fun e he => let ⟨h1, h2⟩ := lambdaSiblingsOk_error kv.2 e he; ⟨_, .head _, hV.mpr ⟨rfl, h1⟩, h2⟩⟩)
      fun h => Classical.not_not.mp fun hn => h (rowDet_of_no_lambda kv.2 hn)) <|
  pdaValidateTail_staged _ _ _ _ _ _ Iff.rfl Iff.rfl Iff.rfl Iff.rfl

theorem rules_correct : (rules : RuleSys (DPDA σ α γ) PdaRule).Correct validate :=
  pdaGroups_correct rfl rfl rules_staged

theorem wf_iff (d : DPDA σ α γ) : d.WF ↔ ∀ r, ¬ rules.Violates d r :=
  (validate_eq_ok d).symm.trans (rules_correct.ok_iff d)

end DPDA

namespace NPDA

def rules : RuleSys (NPDA σ α γ) PdaRule where
  kind := PdaRule.kind
  stage := PdaRule.stage
  Violates d
    | .unknownInputSymbol => ∃ kv ∈ d.trans, ∃ e ∈ kv.2, ∃ a, e.1 = some a ∧ a ∉ d.syms
    | .nondeterministic => False
    | .unknownStackSymbol => ∃ kv ∈ d.trans, ∃ e ∈ kv.2, ∃ g ∈ akeys e.2, g ∉ d.stackSyms
    | .badInitial => d.init ∉ d.states
    | .badInitialStackSymbol => d.initStack ∉ d.stackSyms
    | .badFinal => ∃ q ∈ d.finals, q ∉ d.states
    | .badAcceptanceMode => d.mode ∉ Gen.Validate.pdaAcceptanceModes

omit [DecidableEq σ] [DecidableEq α] [DecidableEq γ] in
theorem rules_stage : (rules : RuleSys (NPDA σ α γ) PdaRule).stage = PdaRule.stage := rfl
set_option linter.unusedSectionVars false in
theorem rules_kind : (rules : RuleSys (NPDA σ α γ) PdaRule).kind = PdaRule.kind := rfl

theorem rules_staged (d : NPDA σ α γ) : Staged PdaRule.kind (rules.Violates d) pdaGroups d.validate :=
  .cons (.forEach (fun kv => PdaRowViolates d.syms d.stackSyms False kv.2) (by
      simp only [List.mem_cons, List.not_mem_nil, or_false, forall_eq_or_imp, forall_eq]
      exact ⟨Iff.rfl, ⟨False.elim, fun ⟨_, _, h⟩ => h⟩, Iff.rfl⟩)
    fun kv _ => pdaRowCheck_decides d.syms d.stackSyms kv.2 (fun _ => .ok ())
      (fun _ V hV => .ok fun r hr => by rw [List.mem_singleton.mp hr, hV]; exact fun h => h.2)
      False.elim) <|
  pdaValidateTail_staged _ _ _ _ _ _ Iff.rfl Iff.rfl Iff.rfl Iff.rfl

theorem rules_correct : (rules : RuleSys (NPDA σ α γ) PdaRule).Correct validate :=
  pdaGroups_correct rfl rfl rules_staged

theorem wf_iff (d : NPDA σ α γ) : d.WF ↔ ∀ r, ¬ rules.Violates d r :=
  (validate_eq_ok d).symm.trans (rules_correct.ok_iff d)

end NPDA

inductive TmRule
  | inputNotProperSubset | badBlank
  | unknownTransitionState | badReadSymbol | unknownResultState | badWriteSymbol | badDirection
  | badInitial | initialNoRow | initialIsFinal | badFinal | finalHasTransitions | badTapeCount
  deriving DecidableEq, Repr

def TmRule.kind : TmRule → Gen.Err
  | .inputNotProperSubset => .missingSymbolError
  | .badBlank => .invalidSymbolError
  | .unknownTransitionState => .invalidStateError
  | .badReadSymbol => .invalidSymbolError
  | .unknownResultState => .invalidStateError
  | .badWriteSymbol => .invalidSymbolError
  | .badDirection => .invalidDirectionError
  | .badInitial => .invalidStateError
  | .initialNoRow => .missingStateError
  | .initialIsFinal => .initialStateError
  | .badFinal => .invalidStateError
  | .finalHasTransitions => .finalStateError
  | .badTapeCount => .inconsistentTapesException

def TmRule.stage : TmRule → Nat
  | .inputNotProperSubset => 0
  | .badBlank => 1
  | .unknownTransitionState => 2
  | .badReadSymbol => 2
  | .unknownResultState => 2
  | .badWriteSymbol => 2
  | .badDirection => 2
  | .badInitial => 3
  | .initialNoRow => 4
  | .initialIsFinal => 5
  | .badFinal => 6
  | .finalHasTransitions => 7
  | .badTapeCount => 8

/-- `Σ ⊊ Γ`. -/
def ProperSubset (syms tapeSyms : List γ) : Prop :=
  (∀ a ∈ syms, a ∈ tapeSyms) ∧ ∃ s ∈ tapeSyms, s ∉ syms

theorem properSubset_iff {syms tapeSyms : List γ} :
    ProperSubset syms tapeSyms ↔ (subsetB syms tapeSyms && !subsetB tapeSyms syms) = true := by
  simp only [ProperSubset, Bool.and_eq_true, subsetB_eq_true, Bool.not_eq_true', subsetB_eq_false]

omit [DecidableEq γ] in
theorem not_properSubset_cons (syms : List γ) {tapeSyms : List γ} {a : γ} (ha : a ∉ tapeSyms) :
    ¬ ProperSubset (a :: syms) tapeSyms := fun h => ha (h.1 a List.mem_cons_self)

omit [DecidableEq γ] in
theorem not_properSubset_self (tapeSyms : List γ) : ¬ ProperSubset tapeSyms tapeSyms :=
  fun ⟨_, _, hs, hns⟩ => hns hs

theorem tmValidateHead_staged {V : TmRule → Prop} (syms tapeSyms : List γ) (blank : γ)
    (h0 : V .inputNotProperSubset ↔ ¬ ProperSubset syms tapeSyms)
    (h1 : V .badBlank ↔ blank ∉ tapeSyms) :
    Staged TmRule.kind V [[.inputNotProperSubset], [.badBlank]] (tmValidateHead syms tapeSyms blank) :=
  .cons (.guard TmRule.inputNotProperSubset (by
    rw [h0, properSubset_iff, Bool.not_eq_true])) <|
  .group (.guard_decide TmRule.badBlank h1)

theorem tmValidateTail_staged {V : TmRule → Prop} (states keys : List σ) (init : σ) (finals : List σ)
    (h3 : V .badInitial ↔ init ∉ states) (h4 : V .initialNoRow ↔ init ∉ keys ∧ 1 < states.length)
    (h5 : V .initialIsFinal ↔ init ∈ finals) (h6 : V .badFinal ↔ ∃ q ∈ finals, q ∉ states)
    (h7 : V .finalHasTransitions ↔ ∃ f ∈ finals, f ∈ keys) :
    Staged TmRule.kind V
      [[.badInitial], [.initialNoRow], [.initialIsFinal], [.badFinal], [.finalHasTransitions]]
      (tmValidateTail states keys init finals) :=
  .cons (.guard_decide TmRule.badInitial h3) <|
  .cons (.guard TmRule.initialNoRow (by
    rw [h4]; simp only [Bool.or_eq_false_iff, decide_eq_false_iff_not, Nat.not_le])) <|
  .cons (.guard_decide (p := init ∉ finals) TmRule.initialIsFinal
    (h5.trans Classical.not_not.symm)) <|
  .cons (.guard TmRule.badFinal (h6.trans subsetB_eq_false.symm)) <|
  .group (.forEach_guard_decide (p := fun f => f ∉ keys) TmRule.finalHasTransitions (by
    simpa only [Classical.not_not] using h7))

def TmRowViolates (states : List σ) (tapeSyms : List γ) (dirs : List String) (key : σ)
    (reads : List γ) (results : List (TMResult σ γ)) : TmRule → Prop
  | .unknownTransitionState => key ∉ states
  | .badReadSymbol => ∃ s ∈ reads, s ∉ tapeSyms
  | .unknownResultState => ∃ r ∈ results, r.1 ∉ states
  | .badWriteSymbol => ∃ r ∈ results, r.2.1 ∉ tapeSyms
  | .badDirection => ∃ r ∈ results, r.2.2 ∉ dirs
  | _ => False

/-- The rules of `_validate_transition_result`. -/
def TmResultViolates (states : List σ) (tapeSyms : List γ) (dirs : List String) (r : TMResult σ γ) :
    TmRule → Prop
  | .unknownResultState => r.1 ∉ states
  | .badWriteSymbol => r.2.1 ∉ tapeSyms
  | .badDirection => r.2.2 ∉ dirs
  | _ => False

/-- The common body of the three model row checks `DTM/NTM/MNTM.validateRow` (one iteration of
`_validate_transitions`): the key, the symbols read, then every result.  Not part of the model: the
classes differ in how a row lists its reads and results; each `validateRow` is equal to it (`rfl` for
the DTM, `NTM.validateRow_eq`, `MNTM.validateRow_eq`). -/
def tmRowCheck (states : List σ) (tapeSyms : List γ) (dirs : List String) (key : σ)
    (reads : List γ) (results : List (TMResult σ γ)) : Res Unit :=
  (guardE (decide (key ∈ states)) (.lib .invalidStateError)).andThen <|
  (firstErr reads fun s => guardE (decide (s ∈ tapeSyms)) (.lib .invalidSymbolError)).andThen <|
  firstErr results (tmValidateResult states tapeSyms dirs)

theorem tmRowCheck_decides (states : List σ) (tapeSyms : List γ) (dirs : List String) (key : σ)
    (reads : List γ) (results : List (TMResult σ γ)) :
    Decides TmRule.kind (TmRowViolates states tapeSyms dirs key reads results)
      [.unknownTransitionState, .badReadSymbol, .unknownResultState, .badWriteSymbol, .badDirection]
      (tmRowCheck states tapeSyms dirs key reads results) :=
  .andThen (rs₁ := [.unknownTransitionState])
    (.guard_decide TmRule.unknownTransitionState Iff.rfl) <|
  .andThen (rs₁ := [.badReadSymbol]) (.forEach_guard_decide TmRule.badReadSymbol Iff.rfl) <|
  .forEach (TmResultViolates states tapeSyms dirs) (by
      simp only [List.cons_append, List.nil_append, List.mem_cons, List.not_mem_nil, or_false, forall_eq_or_imp, forall_eq]
      exact ⟨Iff.rfl, Iff.rfl, Iff.rfl⟩)
    fun r _ =>
      .andThen (rs₁ := [.unknownResultState]) (.guard_decide TmRule.unknownResultState Iff.rfl) <|
      .andThen (rs₁ := [.badWriteSymbol]) (.guard_decide TmRule.badWriteSymbol Iff.rfl) <|
      .guard_decide TmRule.badDirection Iff.rfl

/-- What `validate` of the three Turing-machine classes reads of a definition: the fields they share, the
rows through what is checked of them (their key, `reads`, `results`: the arguments of `tmRowCheck`), the
direction letters, and the outcome of the tape-count test.  Each class maps into it (`DTM.view`, …); its
`validate` is `check` of the view and its rules are `TmView.rules` of the view, so what is proved about
views holds for the three classes. -/
structure TmView (β σ γ : Type) where
  states : List σ
  syms : List γ
  tapeSyms : List γ
  blank : γ
  init : σ
  finals : List σ
  dirs : List String
  trans : List (σ × β)
  reads : σ × β → List γ
  results : σ × β → List (TMResult σ γ)
  tapesOk : Bool

namespace TmView
variable {β : Type}

def check (v : TmView β σ γ) : Res Unit :=
  (tmValidateHead v.syms v.tapeSyms v.blank).andThen <|
  (firstErr v.trans fun row =>
    tmRowCheck v.states v.tapeSyms v.dirs row.1 (v.reads row) (v.results row)).andThen <|
  (tmValidateTail v.states (akeys v.trans) v.init v.finals).andThen <|
  guardE v.tapesOk (.lib .inconsistentTapesException)

def rules : RuleSys (TmView β σ γ) TmRule where
  kind := TmRule.kind
  stage := TmRule.stage
  Violates v
    | .inputNotProperSubset => ¬ ProperSubset v.syms v.tapeSyms
    | .badBlank => v.blank ∉ v.tapeSyms
    | .unknownTransitionState => ∃ row ∈ v.trans, row.1 ∉ v.states
    | .badReadSymbol => ∃ row ∈ v.trans, ∃ s ∈ v.reads row, s ∉ v.tapeSyms
    | .unknownResultState => ∃ row ∈ v.trans, ∃ r ∈ v.results row, r.1 ∉ v.states
    | .badWriteSymbol => ∃ row ∈ v.trans, ∃ r ∈ v.results row, r.2.1 ∉ v.tapeSyms
    | .badDirection => ∃ row ∈ v.trans, ∃ r ∈ v.results row, r.2.2 ∉ v.dirs
    | .badInitial => v.init ∉ v.states
    | .initialNoRow => v.init ∉ akeys v.trans ∧ 1 < v.states.length
    | .initialIsFinal => v.init ∈ v.finals
    | .badFinal => ∃ q ∈ v.finals, q ∉ v.states
    | .finalHasTransitions => ∃ f ∈ v.finals, f ∈ akeys v.trans
    | .badTapeCount => v.tapesOk = false

theorem rules_correct : (rules : RuleSys (TmView β σ γ) TmRule).Correct check :=
  Staged.correct (kind := TmRule.kind) (stage := TmRule.stage) rfl rfl (fun v =>
    .andThen (tmValidateHead_staged _ _ _ Iff.rfl Iff.rfl) <|
    .cons (.forEach
      (fun row => TmRowViolates v.states v.tapeSyms v.dirs row.1 (v.reads row) (v.results row))
      (by
        simp only [List.mem_cons, List.not_mem_nil, or_false, forall_eq_or_imp, forall_eq]
        exact ⟨Iff.rfl, Iff.rfl, Iff.rfl, Iff.rfl, Iff.rfl⟩)
      fun _ _ => tmRowCheck_decides ..) <|
    .andThen (tmValidateTail_staged _ _ _ _ Iff.rfl Iff.rfl Iff.rfl Iff.rfl Iff.rfl) <|
    .group (.guard TmRule.badTapeCount Iff.rfl))
  (by intro r; cases r <;> decide) (by decide) (by decide)

end TmView

theorem RuleSys.Correct.of_view {δ ε ρ : Type} {S : RuleSys ε ρ} {v : ε → Res Unit} (hc : S.Correct v)
    {T : RuleSys δ ρ} {w : δ → Res Unit} (f : δ → ε) (hk : T.kind = S.kind) (hs : T.stage = S.stage)
    (hw : ∀ d, w d = v (f d)) (hV : ∀ d r, T.Violates d r ↔ S.Violates (f d) r) : T.Correct w where
  ok_iff d := by
    rw [hw, hc.ok_iff]
    exact forall_congr' fun r => not_congr (hV d r).symm
  error_kind d e he := by
    obtain ⟨r, hv, hk', hmin⟩ := hc.error_kind (f d) e (hw d ▸ he)
    exact ⟨r, (hV d r).mpr hv, hk ▸ hk', fun r' hlt => mt (hV d r').mp (hmin r' (hs ▸ hlt))⟩

namespace DTM

def rowReads (kv : σ × List (γ × TMResult σ γ)) : List γ := akeys kv.2
def rowResults (kv : σ × List (γ × TMResult σ γ)) : List (TMResult σ γ) := avals kv.2

def rules : RuleSys (DTM σ γ) TmRule where
  kind := TmRule.kind
  stage := TmRule.stage
  Violates d
    | .inputNotProperSubset => ¬ ProperSubset d.syms d.tapeSyms
    | .badBlank => d.blank ∉ d.tapeSyms
    | .unknownTransitionState => ∃ kv ∈ d.trans, kv.1 ∉ d.states
    | .badReadSymbol => ∃ kv ∈ d.trans, ∃ s ∈ rowReads kv, s ∉ d.tapeSyms
    | .unknownResultState => ∃ kv ∈ d.trans, ∃ r ∈ rowResults kv, r.1 ∉ d.states
    | .badWriteSymbol => ∃ kv ∈ d.trans, ∃ r ∈ rowResults kv, r.2.1 ∉ d.tapeSyms
    | .badDirection => ∃ kv ∈ d.trans, ∃ r ∈ rowResults kv, r.2.2 ∉ Gen.Validate.dtmDirections
    | .badInitial => d.init ∉ d.states
    | .initialNoRow => d.init ∉ akeys d.trans ∧ 1 < d.states.length
    | .initialIsFinal => d.init ∈ d.finals
    | .badFinal => ∃ q ∈ d.finals, q ∉ d.states
    | .finalHasTransitions => ∃ f ∈ d.finals, f ∈ akeys d.trans
    | .badTapeCount => False

omit [DecidableEq σ] [DecidableEq γ] in
theorem rules_stage : (rules : RuleSys (DTM σ γ) TmRule).stage = TmRule.stage := rfl
set_option linter.unusedSectionVars false in
theorem rules_kind : (rules : RuleSys (DTM σ γ) TmRule).kind = TmRule.kind := rfl

def view (d : DTM σ γ) : TmView (List (γ × TMResult σ γ)) σ γ :=
  { states := d.states, syms := d.syms, tapeSyms := d.tapeSyms, blank := d.blank, init := d.init,
    finals := d.finals, dirs := Gen.Validate.dtmDirections, trans := d.trans,
    reads := rowReads, results := rowResults, tapesOk := true }

theorem validate_eq_check (d : DTM σ γ) : d.validate = (view d).check := by
  rw [TmView.check, show guardE (view d).tapesOk _ = .ok () from rfl, Res.andThen_ok]
  rfl

theorem rules_correct : (rules : RuleSys (DTM σ γ) TmRule).Correct validate :=
  TmView.rules_correct.of_view view rfl rfl validate_eq_check
    fun _ r => by cases r <;> first | exact Iff.rfl | exact ⟨False.elim, Bool.noConfusion⟩

theorem wf_iff (d : DTM σ γ) : d.WF ↔ ∀ r, ¬ rules.Violates d r :=
  (validate_eq_ok d).symm.trans (rules_correct.ok_iff d)

end DTM

namespace NTM

def rowReads (kv : σ × List (γ × List (TMResult σ γ))) : List γ := akeys kv.2
def rowResults (kv : σ × List (γ × List (TMResult σ γ))) : List (TMResult σ γ) :=
  (avals kv.2).flatMap id

def rules : RuleSys (NTM σ γ) TmRule where
  kind := TmRule.kind
  stage := TmRule.stage
  Violates d
    | .inputNotProperSubset => ¬ ProperSubset d.syms d.tapeSyms
    | .badBlank => d.blank ∉ d.tapeSyms
    | .unknownTransitionState => ∃ kv ∈ d.trans, kv.1 ∉ d.states
    | .badReadSymbol => ∃ kv ∈ d.trans, ∃ s ∈ rowReads kv, s ∉ d.tapeSyms
    | .unknownResultState => ∃ kv ∈ d.trans, ∃ r ∈ rowResults kv, r.1 ∉ d.states
    | .badWriteSymbol => ∃ kv ∈ d.trans, ∃ r ∈ rowResults kv, r.2.1 ∉ d.tapeSyms
    | .badDirection => ∃ kv ∈ d.trans, ∃ r ∈ rowResults kv, r.2.2 ∉ Gen.Validate.ntmDirections
    | .badInitial => d.init ∉ d.states
    | .initialNoRow => d.init ∉ akeys d.trans ∧ 1 < d.states.length
    | .initialIsFinal => d.init ∈ d.finals
    | .badFinal => ∃ q ∈ d.finals, q ∉ d.states
    | .finalHasTransitions => ∃ f ∈ d.finals, f ∈ akeys d.trans
    | .badTapeCount => False

omit [DecidableEq σ] [DecidableEq γ] in
theorem rules_stage : (rules : RuleSys (NTM σ γ) TmRule).stage = TmRule.stage := rfl
set_option linter.unusedSectionVars false in
theorem rules_kind : (rules : RuleSys (NTM σ γ) TmRule).kind = TmRule.kind := rfl

theorem validateRow_eq (d : NTM σ γ) (kv : σ × List (γ × List (TMResult σ γ))) :
    d.validateRow kv =
      tmRowCheck d.states d.tapeSyms Gen.Validate.ntmDirections kv.1 (rowReads kv) (rowResults kv) := by
  rw [tmRowCheck, rowResults, firstErr_flatMap]
  rfl

def view (d : NTM σ γ) : TmView (List (γ × List (TMResult σ γ))) σ γ :=
  { states := d.states, syms := d.syms, tapeSyms := d.tapeSyms, blank := d.blank, init := d.init,
    finals := d.finals, dirs := Gen.Validate.ntmDirections, trans := d.trans,
    reads := rowReads, results := rowResults, tapesOk := true }

theorem validate_eq_check (d : NTM σ γ) : d.validate = (view d).check := by
  rw [TmView.check, show guardE (view d).tapesOk _ = .ok () from rfl, Res.andThen_ok, validate,
    funext (validateRow_eq d)]
  rfl

theorem rules_correct : (rules : RuleSys (NTM σ γ) TmRule).Correct validate :=
  TmView.rules_correct.of_view view rfl rfl validate_eq_check
    fun _ r => by cases r <;> first | exact Iff.rfl | exact ⟨False.elim, Bool.noConfusion⟩

theorem wf_iff (d : NTM σ γ) : d.WF ↔ ∀ r, ¬ rules.Violates d r :=
  (validate_eq_ok d).symm.trans (rules_correct.ok_iff d)

end NTM

namespace MNTM

/-- The symbols a row reads (every component of every read tuple) and the results it
lists: one `(state, symbol, direction)` per move of every transition, as the code checks them. -/
def rowReads (kv : σ × List (List γ × List (σ × List (γ × String)))) : List γ :=
  (akeys kv.2).flatMap id
def rowResults (kv : σ × List (List γ × List (σ × List (γ × String)))) : List (TMResult σ γ) :=
  (avals kv.2).flatMap fun rs => rs.flatMap fun r => r.2.map fun mv => (r.1, mv.1, mv.2)

omit [DecidableEq σ] [DecidableEq γ] in
theorem mem_rowResults {kv : σ × List (List γ × List (σ × List (γ × String)))} {x : TMResult σ γ} :
    x ∈ rowResults kv ↔ ∃ rs ∈ avals kv.2, ∃ r ∈ rs, ∃ mv ∈ r.2, x = (r.1, mv.1, mv.2) := by
  unfold rowResults
  simp only [List.mem_flatMap, List.mem_map]
  constructor
  · rintro ⟨rs, hrs, r, hr, mv, hmv, rfl⟩; exact ⟨rs, hrs, r, hr, mv, hmv, rfl⟩
  · rintro ⟨rs, hrs, r, hr, mv, hmv, rfl⟩; exact ⟨rs, hrs, r, hr, mv, hmv, rfl⟩

def rules : RuleSys (MNTM σ γ) TmRule where
  kind := TmRule.kind
  stage := TmRule.stage
  Violates d
    | .inputNotProperSubset => ¬ ProperSubset d.syms d.tapeSyms
    | .badBlank => d.blank ∉ d.tapeSyms
    | .unknownTransitionState => ∃ kv ∈ d.trans, kv.1 ∉ d.states
    | .badReadSymbol => ∃ kv ∈ d.trans, ∃ s ∈ rowReads kv, s ∉ d.tapeSyms
    | .unknownResultState => ∃ kv ∈ d.trans, ∃ r ∈ rowResults kv, r.1 ∉ d.states
    | .badWriteSymbol => ∃ kv ∈ d.trans, ∃ r ∈ rowResults kv, r.2.1 ∉ d.tapeSyms
    | .badDirection => ∃ kv ∈ d.trans, ∃ r ∈ rowResults kv, r.2.2 ∉ Gen.Validate.ntmDirections
    | .badInitial => d.init ∉ d.states
    | .initialNoRow => d.init ∉ akeys d.trans ∧ 1 < d.states.length
    | .initialIsFinal => d.init ∈ d.finals
    | .badFinal => ∃ q ∈ d.finals, q ∉ d.states
    | .finalHasTransitions => ∃ f ∈ d.finals, f ∈ akeys d.trans
    | .badTapeCount => (∃ kv ∈ d.trans, ∃ e ∈ kv.2, (e.1.length : Int) ≠ d.nTapes) ∨
        (∃ kv ∈ d.trans, ∃ e ∈ kv.2, ∃ r ∈ e.2, (r.2.length : Int) ≠ d.nTapes)

omit [DecidableEq σ] [DecidableEq γ] in
theorem rules_stage : (rules : RuleSys (MNTM σ γ) TmRule).stage = TmRule.stage := rfl
set_option linter.unusedSectionVars false in
theorem rules_kind : (rules : RuleSys (MNTM σ γ) TmRule).kind = TmRule.kind := rfl

theorem validateRow_eq (d : MNTM σ γ) (kv : σ × List (List γ × List (σ × List (γ × String)))) :
    d.validateRow kv =
      tmRowCheck d.states d.tapeSyms Gen.Validate.ntmDirections kv.1 (rowReads kv) (rowResults kv) := by
  rw [tmRowCheck, rowResults, firstErr_flatMap]
  simp only [firstErr_flatMap, firstErr_map]
  rfl

/-- `_validate_tapes_consistency` raises one class: it is a single test. -/
def tapesOk (d : MNTM σ γ) : Bool :=
  d.trans.all fun kv => kv.2.all fun e =>
    decide ((e.1.length : Int) = d.nTapes) && e.2.all fun r => decide ((r.2.length : Int) = d.nTapes)

omit [DecidableEq σ] [DecidableEq γ] in
theorem validateTapes_eq (d : MNTM σ γ) :
    d.validateTapes = guardE (tapesOk d) (.lib .inconsistentTapesException) := by
  simp only [validateTapes, tapesOk, firstErr_guardE, guardE_andThen_guardE]

omit [DecidableEq σ] [DecidableEq γ] in
theorem tapesOk_eq_false (d : MNTM σ γ) : tapesOk d = false ↔ rules.Violates d .badTapeCount := by
  rw [← Bool.not_eq_true, ← guardE_eq_ok (e := .lib .inconsistentTapesException), ← validateTapes_eq,
    validateTapes_eq_ok]
  simp only [rules, Classical.not_and_iff_not_or_not, Classical.not_forall, exists_prop, ne_eq]

def view (d : MNTM σ γ) : TmView (List (List γ × List (σ × List (γ × String)))) σ γ :=
  { states := d.states, syms := d.syms, tapeSyms := d.tapeSyms, blank := d.blank, init := d.init,
    finals := d.finals, dirs := Gen.Validate.ntmDirections, trans := d.trans,
    reads := rowReads, results := rowResults, tapesOk := tapesOk d }

theorem validate_eq_check (d : MNTM σ γ) : d.validate = (view d).check := by
  rw [validate, funext (validateRow_eq d), validateTapes_eq]
  rfl

theorem rules_correct : (rules : RuleSys (MNTM σ γ) TmRule).Correct validate :=
  TmView.rules_correct.of_view view rfl rfl validate_eq_check
    fun d r => by cases r <;> first | exact Iff.rfl | exact (tapesOk_eq_false d).symm

theorem wf_iff (d : MNTM σ γ) : d.WF ↔ ∀ r, ¬ rules.Violates d r :=
  (validate_eq_ok d).symm.trans (rules_correct.ok_iff d)

end MNTM

end AV.VA
