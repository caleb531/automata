/-
Proofs/SuccTerm.lean — termination of the traversal loop of `successors`
(Model/DFASucc.lean) when the depth of the traversal is bounded (a `max_length` is given, or
the language is finite): a potential that decreases with every loop iteration.  Core only.

The potential charges every candidate still to be tried at height `h` (levels available
below it) the cost `cCost h` of trying it, descending and coming back:
  `cCost 0 = 1`, `cCost (h+1) = 2 + |Σ| · cCost h`;
a descent, a move to the next sibling and a pop each lower the potential by at least 1.
-/
import AutomataVerif.Proofs.Succ

namespace AV
namespace DFA

variable {σ α : Type} [DecidableEq σ] [DecidableEq α]

/-- Cost of one candidate at height `h` over an alphabet of `n` symbols. -/
def cCost (n : Nat) : Nat → Nat
  | 0 => 1
  | h + 1 => 2 + n * cCost n h

theorem cCost_pos (n h : Nat) : 0 < cCost n h := by
  cases h <;> simp [cCost] <;> omega

/-- Number of candidates still to be tried, the current one included. -/
def remCand (S : List α) : Option α → Nat
  | none => 0
  | some a => S.length - S.idxOf a

/-- Number of siblings after `ch`. -/
def remAfter (S : List α) (ch : α) : Nat := S.length - S.idxOf ch - 1

/-- Potential of the levels below the top (`chars` top first; the entry `ch` with `rest` below
it sits at depth `rest.length`). -/
def below (S : List α) (D : Nat) : List α → Nat
  | [] => 0
  | ch :: rest => remAfter S ch * cCost S.length (D - rest.length) + 1 + below S D rest

def potential (S : List α) (D : Nat) (s : SuccState σ α) : Nat :=
  remCand S s.cand * cCost S.length (D - s.chars.length) + 1 + below S D s.chars

theorem idxOf_mid {l r : List α} {a : α} (h : a ∉ l) : (l ++ a :: r).idxOf a = l.length := by
  rw [List.idxOf_append, if_neg h, List.idxOf_cons_self, Nat.zero_add]

theorem remCand_mid {S l r : List α} {a : α} (hnd : S.Nodup) (hS : S = l ++ a :: r) :
    remCand S (some a) = r.length + 1 ∧ remCand S r.head? = r.length ∧ remAfter S a = r.length := by
  subst hS
  have ha : (l ++ a :: r).idxOf a = l.length :=
    idxOf_mid fun h => (List.nodup_append.mp hnd).2.2 a h a List.mem_cons_self rfl
  refine ⟨?_, ?_, ?_⟩
  · simp only [remCand, ha, List.length_append, List.length_cons]; omega
  · cases r with
    | nil => rfl
    | cons b r =>
      have hnd' : ((l ++ [a]) ++ b :: r).Nodup := by simpa using hnd
      have hb : (l ++ a :: b :: r).idxOf b = (l ++ [a]).length := by
        rw [show l ++ a :: b :: r = (l ++ [a]) ++ b :: r by simp]
        exact idxOf_mid fun h => (List.nodup_append.mp hnd').2.2 b h b List.mem_cons_self rfl
      simp only [List.head?_cons, remCand, hb, List.length_append, List.length_cons, List.length_nil]
      omega
  · simp only [remAfter, ha, List.length_append, List.length_cons]; omega

/-- The traversal descends only from depths below `D`. -/
def DepthBound (d : DFA σ α) (o : SuccOpts) (c : SuccCfg σ α) (D : Nat) : Prop :=
  ∀ (top : Option σ) (rest : List (Option σ)) (chars : List α) (a : α),
    StackOK d (top :: rest) chars →
    (viable c (d.step? top a) && belowMax o chars.length) = true → chars.length < D

theorem depthBound_of_maxLen {d : DFA σ α} {o : SuccOpts} {c : SuccCfg σ α} {m : Nat}
    (hm : o.maxLen = some m) : DepthBound d o c m :=
  fun _ _ _ _ _ hb => belowMax_iff.mp (Bool.and_eq_true_iff.mp hb).2 m hm

/-- A descent below `p·a` means an accepted word with that prefix, longer than `p`. -/
theorem depthBound_of_bounded {d : DFA σ α} {κ : α → Int} {S : List α} {c : SuccCfg σ α} {o : SuccOpts}
    (hd : d.IsDict) (cok : CfgOK d κ S c) {M : Nat} (hM : ∀ w, d.accepts w = true → w.length ≤ M) :
    DepthBound d o c M := fun _ _ _ a hst hb => by
  obtain ⟨x, hx⟩ := (viable_iff hd cok hst a).mp (Bool.and_eq_true_iff.mp hb).1
  exact Nat.lt_of_lt_of_le (by simp) (hM _ hx)

theorem step_decreases {d : DFA σ α} {S : List α} {c : SuccCfg σ α} {o : SuccOpts} {D : Nat}
    (tbl : SuccTable S c) (hnd : S.Nodup) (hD : DepthBound d o c D)
    {s : SuccState σ α} (inv : SInv d S s) (hloop : ¬ (s.chars = [] ∧ s.cand = none)) :
    ∃ y s', succStep d o c s = (y, .ok s') ∧ SInv d S s' ∧ potential S D s' < potential S D s := by
  obtain ⟨y, s', hstep, hmove, inv'⟩ := succStep_move tbl inv hloop
  refine ⟨y, s', hstep, inv', ?_⟩
  cases hmove with
  | @descend top rest chars a sy l r hS hb =>
    have hdepth := hD top rest chars a inv.stack hb
    obtain ⟨h1, _, h3⟩ := remCand_mid hnd hS
    have h0 : remCand S (some c.first) = S.length := by
      obtain ⟨t, ht⟩ := List.head?_eq_some_iff.mp tbl.first
      simp only [remCand, ht, List.idxOf_cons_self, Nat.sub_zero]
    obtain ⟨h', hh⟩ : ∃ h', D - chars.length = h' + 1 := ⟨D - chars.length - 1, by omega⟩
    simp only [potential, below, List.length_cons, h0, h1, h3, hh,
      show D - (chars.length + 1) = h' by omega, cCost, Nat.succ_mul]
    generalize r.length * (2 + S.length * cCost S.length h') = x
    generalize S.length * cCost S.length h' = y
    omega
  | @sibling top rest chars a sy l r hS hb =>
    obtain ⟨h1, h2, _⟩ := remCand_mid hnd hS
    have := cCost_pos S.length (D - chars.length)
    simp only [potential, h1, h2, Nat.succ_mul]
    omega
  | @pop top rest ch chars sy l r hS =>
    obtain ⟨_, h2, h3⟩ := remCand_mid hnd hS
    simp only [potential, below, h2, h3, show remCand S none = 0 from rfl, Nat.zero_mul]
    omega

theorem loop_finishes {d : DFA σ α} {S : List α} {c : SuccCfg σ α} {o : SuccOpts} {D : Nat}
    (tbl : SuccTable S c) (hnd : S.Nodup) (hD : DepthBound d o c D) :
    ∀ (fuel : Nat) (s : SuccState σ α), SInv d S s → potential S D s < fuel →
      (succLoop d o c fuel s).2 = .finished := by
  intro fuel
  induction fuel with
  | zero => intro s _ h; omega
  | succ fuel ih =>
    intro s inv hpot
    by_cases hexit : s.chars = [] ∧ s.cand = none
    · rw [succLoop_exit (atExit_iff.mpr hexit)]
      rcases succFinal_shape d o s with ⟨hst, _⟩ | ⟨_, _, _, h⟩
      · exact absurd hst inv.stack.ne_nil
      · rw [h]
    · obtain ⟨y, s', hstep, inv', hlt⟩ := step_decreases tbl hnd hD inv hexit
      rw [succLoop_step (not_atExit hexit) hstep]
      exact ih s' inv' (by omega)

end DFA
end AV
