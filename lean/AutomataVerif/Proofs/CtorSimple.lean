/-
Proofs/CtorSimple.lean — universal / empty language, count_mod, of_length (C15). Core only.
-/
import AutomataVerif.Proofs.CtorBasic

namespace AV.Ctor

variable {α : Type} [DecidableEq α] {σ : Type} [DecidableEq σ]

/-- Number of symbols of `w` that belong to `cnt` (`symbols_to_count`). -/
def countIn (cnt : List α) (w : List α) : Nat := w.countP fun a => decide (a ∈ cnt)

@[simp] theorem countIn_nil (cnt : List α) : countIn cnt [] = 0 := rfl

theorem countIn_cons (cnt : List α) (a : α) (w : List α) :
    countIn cnt (a :: w) = countIn cnt w + if a ∈ cnt then 1 else 0 := by
  unfold countIn; rw [List.countP_cons]; simp

theorem countIn_append (cnt : List α) (u v : List α) :
    countIn cnt (u ++ v) = countIn cnt u + countIn cnt v := by
  unfold countIn; exact List.countP_append

theorem countIn_all {syms w : List α} (h : Over syms w) : countIn syms w = w.length :=
  List.countP_eq_length.mpr fun a ha => decide_eq_true (h a ha)

theorem countIn_replicate_mem {cnt : List α} {a : α} (ha : a ∈ cnt) (n : Nat) :
    countIn cnt (List.replicate n a) = n :=
  (countIn_all (over_replicate ha n)).trans List.length_replicate

theorem countIn_eq_zero_of_disjoint {syms cnt : List α} (h : ∀ a ∈ syms, a ∉ cnt) {w : List α}
    (hw : Over syms w) : countIn cnt w = 0 :=
  List.countP_eq_zero.mpr fun a ha hd => h a (hw a ha) (of_decide_eq_true hd)

section loop
variable (z : σ) (syms : List α) (b : Bool)

omit [DecidableEq σ] in
theorem loop_sim : Sim syms [()] (fun _ => z) (fun _ => rowOf syms fun _ => z) fun _ _ => () :=
  Sim.ofRowOf (fun _ _ _ => rfl) _ fun _ hk _ _ => ⟨rfl, hk⟩

omit [DecidableEq σ] in
theorem loop_fin : ∀ q ∈ (if b then [z] else []), ∃ k ∈ [()], q = z := by
  cases b <;> simp

theorem loopDFA_minimal : MinimalShape (loopDFA z syms b) :=
  (loop_sim z syms).minimal (List.pairwise_singleton _ _) (List.mem_singleton.mpr rfl) false
    (fun _ => id) ⟨fun _ _ => ⟨[], over_nil _, rfl⟩, fun _ _ _ _ hne => absurd rfl hne⟩

end loop

section countMod
variable (syms : List α) (kn : Nat) (cnt : List α)

def countModStep (i : Nat) (a : α) : Nat := if a ∈ cnt then (i + 1) % kn else i

def countModRow (i : Nat) : List (α × Int) :=
  rowOf syms fun a => if a ∈ cnt then nat ((i + 1) % kn) else nat i

def countModDFA (fin : List Int) : DFA Int α :=
  tableDFA syms (List.range kn) nat (countModRow syms kn cnt) 0 fin

theorem countMod_eq (k : Int) (hk : 0 < k) (rem : Option (List Int)) (count : Option (List α)) :
    countMod syms k rem count = build (countModDFA syms k.toNat (count.getD syms) (rem.getD [0])) := by
  unfold countMod
  rw [if_neg (by omega)]
  rfl

theorem countMod_sim (hk : 0 < kn) :
    Sim syms (List.range kn) nat (countModRow syms kn cnt) (countModStep kn cnt) :=
  Sim.ofRowOf (fun _ _ => nat_inj.mp) _ fun i hi a _ => by
    unfold countModStep
    split
    · exact ⟨rfl, List.mem_range.mpr (Nat.mod_lt _ hk)⟩
    · exact ⟨rfl, hi⟩

theorem countMod_fin {fin : List Int} (hfin : ∀ r ∈ fin, 0 ≤ r ∧ r < kn) :
    ∀ r ∈ fin, ∃ k ∈ List.range kn, r = nat k :=
  fun r hr => exists_nat_of_bounds (hfin r hr).1 (hfin r hr).2

theorem countMod_fold (w : List α) (i : Nat) :
    w.foldl (countModStep kn cnt) (i % kn) = (i + countIn cnt w) % kn := by
  induction w generalizing i with
  | nil => rfl
  | cons a w ih =>
    rw [List.foldl_cons, countIn_cons, countModStep]
    split
    · rw [Nat.mod_add_mod, ih, Nat.add_right_comm, Nat.add_assoc]
    · rw [ih, Nat.add_zero]

theorem countMod_fold_zero (w : List α) :
    w.foldl (countModStep kn cnt) 0 = countIn cnt w % kn := by
  have := countMod_fold kn cnt w 0
  rwa [Nat.zero_mod, Nat.zero_add] at this

end countMod

section ofLength
variable (syms : List α) (n : Nat) (cnt : List α)

def ofLengthStep (i : Nat) (a : α) : Nat := if i < n ∧ a ∈ cnt then i + 1 else i

def ofLengthRow (i : Nat) : List (α × Int) := rowOf syms fun a => nat (ofLengthStep n cnt i a)

def ofLengthDFA (fin : List Int) : DFA Int α :=
  tableDFA syms (List.range (n + 1)) nat (ofLengthRow syms n cnt) 0 fin

/-- The ladder as the code builds it: counting rows `0 … n-1`, then `transitions[n]`. -/
theorem ofLengthTable_eq :
    ainsert (nat n) (rowOf syms fun _ => nat n)
      ((List.range n).map fun i => (nat i, rowOf syms fun a => if a ∈ cnt then nat i + 1 else nat i)) =
    tableOf (List.range (n + 1)) nat (ofLengthRow syms n cnt) := by
  rw [← ainsert_ladder (v := rowOf syms fun _ => nat n)]
  · refine congrArg _ (tableOf_congr fun i hi => congrArg _ (funext fun a => ?_))
    by_cases h : a ∈ cnt <;> simp [ofLengthStep, List.mem_range.mp hi, h]
  · exact congrArg _ (funext fun a => by simp [ofLengthStep])

theorem ofLength_sim : Sim syms (List.range (n + 1)) nat (ofLengthRow syms n cnt) (ofLengthStep n cnt) :=
  Sim.ofRowOf (fun _ _ => nat_inj.mp) _ fun i hi a _ => by
    refine ⟨rfl, ?_⟩
    rw [List.mem_range] at hi ⊢
    unfold ofLengthStep
    split
    · next h => exact Nat.succ_lt_succ h.1
    · exact hi

theorem ofLength_fold (w : List α) (i : Nat) (hi : i ≤ n) :
    w.foldl (ofLengthStep n cnt) i = min n (i + countIn cnt w) := by
  induction w generalizing i with
  | nil => exact (Nat.min_eq_right hi).symm
  | cons a w ih =>
    rw [List.foldl_cons, countIn_cons, ofLengthStep]
    split
    · next h => rw [ih _ h.1, if_pos h.2]; congr 1; omega
    · next h =>
      rw [ih _ hi]
      split
      · next h2 =>
        have : i = n := Nat.le_antisymm hi (Nat.not_lt.mp fun h3 => h ⟨h3, h2⟩)
        omega
      · rfl

theorem ofLength_fin {fin : List Int} (hfin : ∀ r ∈ fin, 0 ≤ r ∧ r ≤ n) :
    ∀ r ∈ fin, ∃ k ∈ List.range (n + 1), r = nat k :=
  fun r hr => exists_nat_of_bounds (hfin r hr).1 (by have := (hfin r hr).2; omega)

theorem ofLengthDFA_minimal (fin : List Int) (c : α) (hc : c ∈ syms) (hcc : c ∈ cnt)
    (hd : ∀ i j, i < j → j ≤ n → ∃ t,
      ¬ (nat (min n (i + t)) ∈ fin ↔ nat (min n (j + t)) ∈ fin)) :
    MinimalShape (ofLengthDFA syms n cnt fin) := by
  have fold : ∀ i t, i ≤ n → (List.replicate t c).foldl (ofLengthStep n cnt) i = min n (i + t) :=
    fun i t hi => by rw [ofLength_fold n cnt _ i hi, countIn_replicate_mem hcc]
  refine (ofLength_sim syms n cnt).minimal_ladder (Nat.succ_pos n) ?_ ?_
  · intro i hi
    refine ⟨List.replicate i c, over_replicate hc i, ?_⟩
    rw [fold 0 i (Nat.zero_le n), Nat.zero_add]
    exact Nat.min_eq_right (Nat.le_of_lt_succ hi)
  · intro i j hij hj
    have hj := Nat.le_of_lt_succ hj
    obtain ⟨t, ht⟩ := hd i j hij hj
    refine ⟨List.replicate t c, over_replicate hc t, ?_⟩
    rwa [fold i t (by omega), fold j t hj]

end ofLength

/-! The three branches of `of_length`: two early returns (commit bcfb456), then the ladder. -/

section ofLengthArgs
variable (syms : List α) (minLen : Int) (maxLen : Option Int) (cnt : List α)

theorem isDisjoint_iff : isDisjoint syms cnt = true ↔ ∀ a ∈ syms, a ∉ cnt := by
  simp [isDisjoint]

theorem isDisjoint_eq_false_iff : isDisjoint syms cnt = false ↔ ∃ a, a ∈ syms ∧ a ∈ cnt := by
  rw [← Bool.not_eq_true, isDisjoint_iff]
  simp

theorem zeroInRange_iff :
    zeroInRange minLen maxLen = true ↔ minLen ≤ 0 ∧ ∀ mx, maxLen = some mx → 0 ≤ mx := by
  cases maxLen <;> simp [zeroInRange]

theorem emptyRange_some {minLen mx : Int} :
    emptyRange minLen (some mx) = false ↔ minLen ≤ mx ∧ 0 ≤ mx := by
  rw [emptyRange, decide_eq_false_iff_not, Int.not_lt, Int.max_le]

theorem emptyRange_iff :
    emptyRange minLen maxLen = true ↔ ∃ mx, maxLen = some mx ∧ (mx < minLen ∨ mx < 0) := by
  cases maxLen with
  | none => exact ⟨fun e => (nomatch e), fun ⟨_, e, _⟩ => (nomatch e)⟩
  | some mx =>
    rw [← Bool.not_eq_false, emptyRange_some, Decidable.not_and_iff_not_or_not, Int.not_le,
      Int.not_le]
    exact ⟨fun h => ⟨mx, rfl, h⟩, fun ⟨_, e, h⟩ => Option.some.inj e ▸ h⟩

/-- `len(length_range) - 1`: the height of the ladder. -/
def ofLengthTop : Option Int → Nat
  | none => minLen.toNat
  | some mx => (mx + 1).toNat

/-- `final_states` of the ladder: `{min_length}` resp. `range(min_length, max_length + 1)`. -/
def ofLengthFinals : Option Int → List Int
  | none => [nat minLen.toNat]
  | some mx => (List.range (mx + 1 - minLen).toNat).map fun j => minLen + nat j

theorem ofLengthCore_eq :
    ofLengthCore syms minLen maxLen cnt =
      build (ofLengthDFA syms (ofLengthTop minLen maxLen) cnt (ofLengthFinals minLen maxLen)) := by
  unfold ofLengthCore ofLengthDFA tableDFA
  cases maxLen <;> simp only [ofLengthTable_eq] <;> rfl

variable (count : Option (List α))

theorem ofLength_eq_disjoint (h : isDisjoint syms (count.getD syms) = true) :
    ofLength syms minLen maxLen count = build (loopDFA 0 syms (zeroInRange minLen maxLen)) := by
  unfold ofLength
  simp only [h]
  cases zeroInRange minLen maxLen <;> rfl

theorem ofLength_eq_emptyRange (h : isDisjoint syms (count.getD syms) = false)
    (h2 : emptyRange minLen maxLen = true) :
    ofLength syms minLen maxLen count = build (loopDFA 0 syms false) := by
  unfold ofLength
  simp only [h, h2]
  rfl

theorem ofLength_eq (h : isDisjoint syms (count.getD syms) = false)
    (h2 : emptyRange minLen maxLen = false) :
    ofLength syms minLen maxLen count =
      build (ofLengthDFA syms (ofLengthTop minLen maxLen) (count.getD syms)
        (ofLengthFinals minLen maxLen)) := by
  rw [← ofLengthCore_eq]
  unfold ofLength
  simp only [h, h2]

theorem ofLength_cases :
    (isDisjoint syms (count.getD syms) = true ∧
      ofLength syms minLen maxLen count = build (loopDFA 0 syms (zeroInRange minLen maxLen))) ∨
    (isDisjoint syms (count.getD syms) = false ∧ emptyRange minLen maxLen = true ∧
      ofLength syms minLen maxLen count = build (loopDFA 0 syms false)) ∨
    (isDisjoint syms (count.getD syms) = false ∧ emptyRange minLen maxLen = false ∧
      ofLength syms minLen maxLen count =
        build (ofLengthDFA syms (ofLengthTop minLen maxLen) (count.getD syms)
          (ofLengthFinals minLen maxLen))) := by
  cases h : isDisjoint syms (count.getD syms) with
  | true => exact Or.inl ⟨rfl, ofLength_eq_disjoint syms minLen maxLen count h⟩
  | false =>
    cases h2 : emptyRange minLen maxLen with
    | true => exact Or.inr (Or.inl ⟨rfl, rfl, ofLength_eq_emptyRange syms minLen maxLen count h h2⟩)
    | false => exact Or.inr (Or.inr ⟨rfl, rfl, ofLength_eq syms minLen maxLen count h h2⟩)

variable {minLen maxLen}

theorem mem_ofLengthFinals (h : emptyRange minLen maxLen = false) {k : Nat}
    (hk : k ≤ ofLengthTop minLen maxLen) :
    nat k ∈ ofLengthFinals minLen maxLen ↔
      minLen ≤ k ∧ ∀ mx, maxLen = some mx → (k : Int) ≤ mx := by
  cases maxLen with
  | none =>
    simp only [ofLengthFinals, ofLengthTop, List.mem_singleton, nat_inj, reduceCtorEq,
      false_implies, implies_true, and_true] at hk ⊢
    rw [← Int.toNat_le]
    exact ⟨fun e => e ▸ Nat.le_refl _, Nat.le_antisymm hk⟩
  | some mx =>
    obtain ⟨hm, h0⟩ := emptyRange_some.mp h
    simp only [ofLengthFinals, List.mem_map, List.mem_range, Option.some.injEq, forall_eq',
      nat_cast]
    clear h hk
    constructor
    · rintro ⟨j, hj, e⟩; omega
    · intro ⟨h1, h2⟩; exact ⟨(k - minLen).toNat, by omega, by omega⟩

/-- Counting only up to the top of the ladder loses nothing. -/
theorem inRange_min_top (h : emptyRange minLen maxLen = false) (c : Nat) :
    (minLen ≤ (min (ofLengthTop minLen maxLen) c : Nat) ∧
      ∀ mx, maxLen = some mx → ((min (ofLengthTop minLen maxLen) c : Nat) : Int) ≤ mx) ↔
    (minLen ≤ c ∧ ∀ mx, maxLen = some mx → (c : Int) ≤ mx) := by
  cases maxLen with
  | none =>
    simp only [ofLengthTop, reduceCtorEq, false_implies, implies_true, and_true, ← Int.toNat_le]
    exact ⟨fun h => Nat.le_trans h (Nat.min_le_right _ _),
      fun h => Nat.le_min.mpr ⟨Nat.le_refl _, h⟩⟩
  | some mx =>
    obtain ⟨hm, h0⟩ := emptyRange_some.mp h
    simp only [ofLengthTop, Option.some.injEq, forall_eq']
    clear h
    omega

/-- The final states are states, unless `min_length < 0 ≤ max_length`. -/
theorem ofLengthFinals_bounds (h : emptyRange minLen maxLen = false)
    (hmin : 0 ≤ minLen ∨ maxLen = none) :
    ∀ r ∈ ofLengthFinals minLen maxLen, 0 ≤ r ∧ r ≤ ofLengthTop minLen maxLen := by
  cases maxLen with
  | none =>
    intro r hr
    rw [ofLengthFinals, List.mem_singleton] at hr
    rw [hr]
    exact ⟨nat_nonneg _, Int.le_refl _⟩
  | some mx =>
    have hmin : 0 ≤ minLen := hmin.resolve_right fun e => nomatch e
    obtain ⟨hm, h0⟩ := emptyRange_some.mp h
    intro r hr
    simp only [ofLengthFinals, List.mem_map, List.mem_range, nat_cast] at hr
    obtain ⟨j, hj, rfl⟩ := hr
    rw [ofLengthTop]
    clear h
    omega

theorem ofLength_fold_range (h : emptyRange minLen maxLen = false) (w : List α) :
    nat (w.foldl (ofLengthStep (ofLengthTop minLen maxLen) cnt) 0) ∈ ofLengthFinals minLen maxLen ↔
      (minLen ≤ countIn cnt w ∧ ∀ mx, maxLen = some mx → (countIn cnt w : Int) ≤ mx) := by
  rw [ofLength_fold _ cnt w 0 (Nat.zero_le _), Nat.zero_add,
    mem_ofLengthFinals h (Nat.min_le_left _ _), inRange_min_top h]

/-- Two counters `i < j` are told apart by as many counted symbols as bring `j` to the top
(no maximum) resp. `i` to the maximum. -/
theorem ofLengthDFA_minimal_range (h : emptyRange minLen maxLen = false) (c : α) (hc : c ∈ syms)
    (hcc : c ∈ cnt) :
    MinimalShape
      (ofLengthDFA syms (ofLengthTop minLen maxLen) cnt (ofLengthFinals minLen maxLen)) := by
  refine ofLengthDFA_minimal syms _ cnt _ c hc hcc fun i j hij hj => ?_
  cases maxLen with
  | none =>
    refine ⟨minLen.toNat - j, ?_⟩
    simp only [ofLengthTop, ofLengthFinals, List.mem_singleton, nat_inj] at hj ⊢
    rw [Nat.add_sub_cancel' hj, Nat.min_self, iff_true_right rfl, Nat.min_def]
    split <;> omega
  | some mx =>
    obtain ⟨hm, h0⟩ := emptyRange_some.mp h
    have hN : ofLengthTop minLen (some mx) = mx.toNat + 1 := Int.toNat_add_nat h0 1
    have hmx : (mx.toNat : Int) = mx := Int.toNat_of_nonneg h0
    rw [hN] at hj
    refine ⟨mx.toNat - i, ?_⟩
    have hi : i ≤ mx.toNat := Nat.le_of_lt_succ (Nat.lt_of_lt_of_le hij hj)
    rw [mem_ofLengthFinals h (Nat.min_le_left _ _), mem_ofLengthFinals h (Nat.min_le_left _ _), hN,
      Nat.add_sub_cancel' hi, Nat.min_eq_right (Nat.le_succ _),
      Nat.min_eq_left (by omega : mx.toNat + 1 ≤ j + (mx.toNat - i))]
    simp only [Option.some.injEq, forall_eq', Int.natCast_add, hmx]
    omega

end ofLengthArgs

end AV.Ctor
