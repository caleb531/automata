/-
Proofs/CtorKMP.lean — from_substring / from_suffix (C15): the failure-link search, the
construction of `kmp_table` (strong failure links) and the transition function `kmpNext`, which
keeps "longest prefix of the pattern that is a suffix of the input" (`kmpNext_spec`).  Core only.
-/
import AutomataVerif.Proofs.CtorKMPSpec

namespace AV.Ctor.KMP

variable {α : Type} [DecidableEq α]

theorem pyGet_nat {β : Type} (l : List β) (i : Nat) (h : i < l.length) :
    pyGet l (nat i) = .ok l[i] := by
  unfold pyGet
  have h1 : ¬ nat i < 0 := by have := nat_nonneg i; omega
  have h2 : (nat i).toNat = i := by rw [nat_cast]; omega
  simp only [h1, if_false, h2, List.getElem?_eq_getElem h]

theorem pyGet_nat' {β : Type} (l : List β) (i : Nat) (x : β) (h : l[i]? = some x) :
    pyGet l (nat i) = .ok x := by
  obtain ⟨hi, e⟩ := List.getElem?_eq_some_iff.mp h
  rw [pyGet_nat l i hi, e]

theorem pyGet_mem {β : Type} (l : List β) (i : Int) (x : β) (h : pyGet l i = .ok x) : x ∈ l := by
  unfold pyGet at h
  generalize (if i < 0 then i + nat l.length else i) = j at h
  by_cases hj : j < 0
  · simp [hj] at h
  · simp only [hj, if_false] at h
    cases hy : l[j.toNat]? with
    | none => rw [hy] at h; cases h
    | some y => rw [hy] at h; cases h; exact List.mem_of_getElem? hy

section search
variable (p : List α) (tbl : List Int) (a : α)

theorem kmpFwd_spec : ∀ (j : Nat), j < p.length →
    (∀ i, i ≤ j → ∃ t, tbl[i]? = some t ∧ Strong p i t) →
    ∀ fuel, j + 2 ≤ fuel → ∃ r, kmpFwd p tbl a fuel (nat j) = .ok r ∧ Best p j a r := by
  intro j
  induction j using Nat.strongRecOn with
  | _ j ih =>
    intro hj htbl fuel hfuel
    obtain ⟨f, rfl⟩ : ∃ f, fuel = f + 1 := ⟨fuel - 1, by omega⟩
    unfold kmpFwd
    have hne : nat j ≠ -1 := by have := nat_nonneg j; omega
    simp only [hne, ne_eq, not_false_eq_true, if_true]
    rw [pyGet_nat p j hj]
    simp only
    by_cases hpa : p[j] = a
    · simp only [hpa, not_true_eq_false, if_false]
      exact ⟨nat j, rfl, Best.here p (Nat.le_of_lt hj) (by rw [List.getElem?_eq_getElem hj, hpa])⟩
    · simp only [hpa, not_false_eq_true, if_true]
      obtain ⟨t, ht, hs⟩ := htbl j (Nat.le_refl _)
      rw [pyGet_nat' tbl j t ht]
      simp only
      have hne' : p[j]? ≠ some a := by
        rw [List.getElem?_eq_getElem hj]; intro e; exact hpa (Option.some.inj e)
      obtain ⟨h1, h2⟩ := Best.of_strong p hj hne' hs
      rcases hs with ⟨e, _⟩ | ⟨k, e, hk, _⟩
      · subst e
        obtain ⟨f', rfl⟩ : ∃ f', f = f' + 1 := ⟨f - 1, by omega⟩
        refine ⟨-1, ?_, h1 rfl⟩
        unfold kmpFwd; simp
      · subst e
        obtain ⟨r, hr, hb⟩ := ih k hk (by omega) (fun i hi => htbl i (by omega)) f (by omega)
        exact ⟨r, hr, h2 k r rfl hb⟩

/-- The search loop of the table construction computes the same function (its guard is
`candidate >= 0` instead of `candidate != -1`; all table entries are `≥ -1`). -/
theorem kmpBack_eq (hge : ∀ x ∈ tbl, -1 ≤ x) : ∀ fuel (cand : Int), -1 ≤ cand →
    kmpBack p tbl a fuel cand = kmpFwd p tbl a fuel cand := by
  intro fuel
  induction fuel with
  | zero => intro cand _; rfl
  | succ f ih =>
    intro cand hc
    unfold kmpBack kmpFwd
    by_cases h : cand = -1
    · subst h; simp
    · have h0 : cand ≥ 0 := by omega
      simp only [h0, if_true, ne_eq, h, not_false_eq_true]
      cases hp : pyGet p cand with
      | error e => rfl
      | ok pc =>
        simp only
        by_cases hpc : a = pc
        · subst hpc; simp
        · have hpc' : ¬ pc = a := fun e => hpc e.symm
          simp only [hpc, hpc', not_false_eq_true, if_true]
          cases ht : pyGet tbl cand with
          | error e => rfl
          | ok k =>
            simp only
            exact ih k (hge k (pyGet_mem tbl cand k ht))

end search

section table
variable (p : List α)

/-- Loop invariant before iteration `i ≥ 1` of the `enumerate` loop. -/
structure TInv (i : Nat) (st : List Int × Int) : Prop where
  len : st.1.length = p.length
  ge : ∀ x ∈ st.1, -1 ≤ x
  strong : ∀ i', i' < i → ∃ t, st.1[i']? = some t ∧ Strong p i' t
  cand : ∃ b, st.2 = nat b ∧ WeakB p i b

omit [DecidableEq α] in
theorem TInv.set_strong {i : Nat} {st : List Int × Int} (inv : TInv p i st) (hi : i < p.length)
    {t : Int} (hs : Strong p i t) :
    ∀ i', i' < i + 1 → ∃ t', (st.1.set i t)[i']? = some t' ∧ Strong p i' t' := by
  intro i' hi'
  by_cases h : i' = i
  · exact ⟨t, by rw [h, List.getElem?_set_self (inv.len ▸ hi)], h ▸ hs⟩
  · obtain ⟨t', ht', hs'⟩ := inv.strong i' (Nat.lt_of_le_of_ne (Nat.le_of_lt_succ hi') h)
    exact ⟨t', by rw [List.getElem?_set_ne fun e => h e.symm]; exact ht', hs'⟩

omit [DecidableEq α] in
theorem TInv.set_ge {i : Nat} {st : List Int × Int} (inv : TInv p i st) {t : Int}
    (hs : Strong p i t) : ∀ x ∈ st.1.set i t, -1 ≤ x :=
  fun x hx => (List.mem_or_eq_of_mem_set hx).elim (inv.ge x) fun h => h ▸ hs.ge p

omit [DecidableEq α] in
theorem TInv.set {i : Nat} {st : List Int × Int} (inv : TInv p i st) (hi : i < p.length) {t : Int}
    (hs : Strong p i t) {c : Int} (hc : ∃ b, c = nat b ∧ WeakB p (i + 1) b) :
    TInv p (i + 1) (st.1.set i t, c) :=
  ⟨by rw [List.length_set]; exact inv.len, inv.set_ge p hs, inv.set_strong p hi hs, hc⟩

theorem tableStep (i : Nat) (hi1 : 1 ≤ i) (hi : i < p.length) (st : List Int × Int)
    (inv : TInv p i st) :
    ∃ st', kmpTableStep p st p[i] i = .ok st' ∧ TInv p (i + 1) st' := by
  obtain ⟨b, hb, hw⟩ := inv.cand
  have hbm : b < p.length := Nat.lt_trans hw.1 hi
  have hii : p[i]? = some p[i] := List.getElem?_eq_getElem hi
  have hbb : p[b]? = some p[b] := List.getElem?_eq_getElem hbm
  unfold kmpTableStep
  rw [if_neg (Nat.ne_of_gt hi1), hb, pyGet_nat p b hbm]
  by_cases hc : p[i] = p[b]
  · -- the border extends: copy the strong link of the border
    obtain ⟨t, ht, hst⟩ := inv.strong b hw.1
    simp only [hc, if_true, pyGet_nat' st.1 b t ht]
    exact ⟨_, rfl, inv.set p hi (hst.copy p hw (by rw [hbb, hii, hc]))
      (hw.step p hi (Best.here p (Nat.le_of_lt hbm) (by rw [hbb, hc])))⟩
  · -- mismatch: the link is the border itself, then search for the next candidate
    have hs : Strong p i (nat b) :=
      Strong.of_weak p hw (by rw [hbb, hii]; exact fun e => hc (Option.some.inj e).symm)
    obtain ⟨r, hr, hbest⟩ := kmpFwd_spec p (st.1.set i (nat b)) p[i] b hbm
      (fun i' hi' => inv.set_strong p hi hs i' (Nat.lt_succ_of_lt (Nat.lt_of_le_of_lt hi' hw.1)))
      (p.length + 1) (by omega)
    simp only [hc, if_false, kmpBack_eq p _ p[i] (inv.set_ge p hs) (p.length + 1) (nat b)
      (by have := nat_nonneg b; omega), hr]
    exact ⟨_, rfl, inv.set p hi hs (hw.step p hi hbest)⟩

theorem tableLoop : ∀ (n i : Nat), 1 ≤ i → i + n = p.length → ∀ st, TInv p i st →
    ∃ st', kmpTableLoop p (p.drop i) i st = .ok st' ∧ TInv p p.length st' := by
  intro n
  induction n with
  | zero =>
    intro i _ hin st inv
    have : i = p.length := by omega
    subst this
    rw [List.drop_length]
    exact ⟨st, rfl, inv⟩
  | succ n ih =>
    intro i hi1 hin st inv
    have hi : i < p.length := by omega
    rw [List.drop_eq_getElem_cons hi]
    unfold kmpTableLoop
    obtain ⟨st', h1, inv'⟩ := tableStep p i hi1 hi st inv
    rw [h1]
    exact ih (i + 1) (by omega) (by omega) st' inv'

structure TableOK (T : List Int) : Prop where
  len : T.length = p.length + 1
  strong : ∀ i, i < p.length → ∃ t, T[i]? = some t ∧ Strong p i t
  last : p ≠ [] → ∃ b, T[p.length]? = some (nat b) ∧ WeakB p p.length b

theorem kmpTable_ok : ∃ T, kmpTable p = .ok T ∧ TableOK p T := by
  cases hp : p with
  | nil =>
    refine ⟨[0], rfl, ⟨rfl, ?_, ?_⟩⟩
    · intro i hi; simp at hi
    · intro h; exact absurd rfl h
  | cons c q =>
    rw [← hp]
    have hpos : 0 < p.length := by rw [hp]; simp
    -- iteration 0 is `continue`
    have inv1 : TInv p 1 (p.map fun _ => (-1 : Int), 0) := by
      refine ⟨by simp, ?_, ?_, ⟨0, rfl, by omega, Bd.zero p (by omega), fun k hk _ => by omega⟩⟩
      · intro x hx
        simp only [List.mem_map] at hx
        obtain ⟨_, _, rfl⟩ := hx; omega
      · intro i' hi'
        have : i' = 0 := by omega
        subst this
        refine ⟨-1, ?_, Or.inl ⟨rfl, fun k hk _ => by omega⟩⟩
        rw [List.getElem?_map, List.getElem?_eq_getElem hpos]; rfl
    obtain ⟨st', h1, inv⟩ := tableLoop p (p.length - 1) 1 (Nat.le_refl _) (by omega) _ inv1
    obtain ⟨b, hb, hw⟩ := inv.cand
    refine ⟨st'.1 ++ [st'.2], ?_, ?_⟩
    · unfold kmpTable
      have e : kmpTableLoop p p 0 (p.map fun _ => (-1 : Int), 0) =
          kmpTableLoop p (p.drop 1) 1 (p.map fun _ => (-1 : Int), 0) := by
        conv => lhs; rw [hp]
        rw [kmpTableLoop]
        simp only [kmpTableStep, if_true]
        rw [hp]; rfl
      rw [e, h1]
    · refine ⟨by simp [inv.len], ?_, ?_⟩
      · intro i hi
        obtain ⟨t, ht, hs⟩ := inv.strong i hi
        refine ⟨t, ?_, hs⟩
        rw [List.getElem?_append_left (by rw [inv.len]; exact hi)]
        exact ht
      · intro _
        refine ⟨b, ?_, hw⟩
        rw [List.getElem?_append_right (by rw [inv.len]; omega), inv.len, hb]
        simp

end table

omit [DecidableEq α] in
theorem Best.succ_range {p : List α} {j : Nat} {a : α} {r : Int} (h : Best p j a r) :
    ∃ k, r + 1 = nat k ∧ k ≤ p.length := by
  rcases h with ⟨rfl, _⟩ | ⟨k, rfl, _, h2, _⟩
  · exact ⟨0, rfl, Nat.zero_le _⟩
  · exact ⟨k + 1, nat_succ k, (List.getElem?_eq_some_iff.mp h2).1⟩

/-- From a state `i` of the automaton (`i = |p|` only in suffix mode, for a non-empty pattern)
`kmpNext` returns a state `k ≤ |p|`, and if `i` was the longest prefix of the pattern that is a
suffix of the input, `k` is that for the input extended by `a`. -/
theorem kmpNext_spec (p : List α) (T : List Int) (hT : TableOK p T) (i : Nat)
    (hi : i < p.length ∨ (i = p.length ∧ p ≠ [])) (a : α) :
    ∃ k, kmpNext p T i a = .ok (nat k) ∧ k ≤ p.length ∧
      ∀ w, IsLps p w i → IsLps p (w ++ [a]) k := by
  have search : ∀ j, j < p.length → ∃ r, kmpFwd p T a (p.length + 2) (nat j) = .ok r ∧ Best p j a r :=
    fun j hj => kmpFwd_spec p T a j hj (fun i' hi' => hT.strong i' (by omega)) _ (by omega)
  unfold kmpNext
  rcases hi with hi | ⟨rfl, hp⟩
  · obtain ⟨r, hr, hb⟩ := search i hi
    obtain ⟨k, hk, hkm⟩ := hb.succ_range
    rw [if_pos hi]
    simp only [hr, hk]
    refine ⟨k, rfl, hkm, fun w hw => ?_⟩
    have := lps_snoc_lt p hw hb
    rwa [hk] at this
  · obtain ⟨b, hb, hw⟩ := hT.last hp
    obtain ⟨r, hr, hbest⟩ := search b hw.1
    obtain ⟨k, hk, hkm⟩ := hbest.succ_range
    rw [if_neg (Nat.lt_irrefl _), pyGet_nat' T p.length (nat b) hb]
    simp only [hr, hk]
    refine ⟨k, rfl, hkm, fun w hl => ?_⟩
    have := lps_snoc_full p hl hw hbest
    rwa [hk] at this

end AV.Ctor.KMP
