/-
Proofs/PdaEps.lean — C02 speaks of tables whose λ-moves cannot run forever (`EpsTerminates`).  For such a
table every run tree has an empty level: the converse of the one-move relation is well
founded (unread input, then the λ-move order) and `_get_next_configurations` returns a finite set.
Per word the condition is also necessary (`dies_out_iff`).  Also a sufficient condition, for the
examples: all λ-entries pop.
-/
import AutomataVerif.Proofs.PdaNpda
import AutomataVerif.Proofs.PdaDpda

namespace AV.PDA

variable {σ α γ τ : Type}

theorem EpsStep.input_eq {Δ : Moves σ α γ} {c c' : Config σ α γ} (h : EpsStep Δ c c') :
    c'.input = c.input := by
  cases h; rfl

theorem EpsStep.step {Δ : Moves σ α γ} {c c' : Config σ α γ} (h : EpsStep Δ c c') : Step Δ c c' := by
  cases h with | mk h => exact .eps h

theorem step_read_or_eps {Δ : Moves σ α γ} {c c' : Config σ α γ} (h : Step Δ c c') :
    c'.input.length < c.input.length ∨ EpsStep Δ c c' := by
  cases h with
  | read h => left; simp
  | eps h => right; exact .mk h

/-- If no configuration of a set closed under moves (e.g. those reachable from a start
configuration) starts an infinite λ-sequence, none of them starts an infinite run: the converse of
the one-move relation is well founded there (unread input first, λ-move order second). -/
theorem acc_step_of_eps_on {Δ : Moves σ α γ} (P : Config σ α γ → Prop)
    (hP : ∀ c c', P c → Step Δ c c' → P c')
    (h : ∀ c, P c → Acc (fun c' c => EpsStep Δ c c') c) :
    ∀ c, P c → Acc (fun c' c => Step Δ c c') c := by
  have main : ∀ n, ∀ c : Config σ α γ, P c → c.input.length = n → Acc (fun c' c => Step Δ c c') c := by
    intro n
    induction n using Nat.strongRecOn with
    | _ n ih =>
      intro c hc
      have hacc := h c hc
      induction hacc with
      | intro c _ ih2 =>
        intro hn
        constructor
        intro c' hs
        rcases step_read_or_eps hs with hlt | he
        · exact ih c'.input.length (hn ▸ hlt) c' (hP c c' hc hs) rfl
        · exact ih2 c' he (hP c c' hc hs) (by rw [he.input_eq, hn])
  intro c hc
  exact main _ c hc rfl

theorem acc_eps_of_dies_out {Δ : Moves σ α γ} {c₀ : Config σ α γ} {K : Nat}
    (hK : ∀ c, ¬ StepN Δ K c₀ c) :
    ∀ k c, StepN Δ k c₀ c → Acc (fun c' c => EpsStep Δ c c') c := by
  have main : ∀ n k c, StepN Δ k c₀ c → K - k ≤ n → Acc (fun c' c => EpsStep Δ c c') c := by
    intro n
    induction n with
    | zero =>
      intro k c hc hle
      exact absurd hc (stepN_none_mono hK (by omega) c)
    | succ n ih =>
      intro k c hc hle
      constructor
      intro c' he
      have hlt : k < K := by
        rcases Nat.lt_or_ge k K with h | h
        · exact h
        · exact absurd hc (stepN_none_mono hK h c)
      exact ih (k + 1) c' (.succ hc he.step) (by omega)
  intro k c hc
  exact main (K - k) k c hc (Nat.le_refl _)

/-- A finitely branching move relation whose converse is accessible at `c₀` has an empty level:
there is a bound on the length of the runs from `c₀`. -/
theorem dies_out_of_acc {Δ : Moves σ α γ} (succs : Config σ α γ → List (Config σ α γ))
    (hfin : ∀ c c', Step Δ c c' → c' ∈ succs c) {c₀ : Config σ α γ}
    (h : Acc (fun c' c => Step Δ c c') c₀) : ∃ k, ∀ c, ¬ StepN Δ k c₀ c := by
  induction h with
  | intro c _ ih =>
    have key : ∀ l : List (Config σ α γ),
        ∃ K, ∀ c' ∈ l, Step Δ c c' → ∀ d, ¬ StepN Δ K c' d := by
      intro l
      induction l with
      | nil => exact ⟨0, by simp⟩
      | cons x l ihl =>
        obtain ⟨K, hK⟩ := ihl
        by_cases hx : Step Δ c x
        · obtain ⟨kx, hkx⟩ := ih x hx
          refine ⟨max K kx, ?_⟩
          intro c' hc' hs
          rcases List.mem_cons.mp hc' with rfl | hmem
          · exact stepN_none_mono hkx (Nat.le_max_right _ _)
          · exact stepN_none_mono (hK c' hmem hs) (Nat.le_max_left _ _)
        · refine ⟨K, ?_⟩
          intro c' hc' hs
          rcases List.mem_cons.mp hc' with rfl | hmem
          · exact absurd hs hx
          · exact hK c' hmem hs
    obtain ⟨K, hK⟩ := key (succs c)
    refine ⟨K + 1, ?_⟩
    intro d hd
    obtain ⟨c', s, hN⟩ := stepN_succ_head.mp hd
    exact hK c' (hfin c c' s) s d hN

theorem epsTerminates_of_measure {Δ : Moves σ α γ} (μ : Config σ α γ → Nat)
    (hμ : ∀ c c', EpsStep Δ c c' → μ c' < μ c) : EpsTerminates Δ := by
  intro c
  have hwf : Acc (fun a b : Config σ α γ => μ a < μ b) c := (measure μ).wf.apply c
  exact Subrelation.accessible (fun {a b} hab => hμ b a hab) hwf

theorem epsTerminates_of_pops {Δ : Moves σ α γ} (h : ∀ q X p push, Δ q none X p push → push = []) :
    EpsTerminates Δ := by
  apply epsTerminates_of_measure (fun c => c.stack.length)
  intro c c' hs
  cases hs with
  | mk hm => obtain rfl := h _ _ _ _ hm; simp

variable [DecidableEq σ] [DecidableEq α] [DecidableEq γ]

theorem NPDA.dies_out_iff (M : NPDA σ α γ) (c₀ : Config σ α γ) :
    (∃ k, ∀ c, ¬ StepN M.moves k c₀ c) ↔
      ∀ k c, StepN M.moves k c₀ c → Acc (fun c' c => EpsStep M.moves c c') c := by
  constructor
  · rintro ⟨K, hK⟩
    exact acc_eps_of_dies_out hK
  · intro h
    exact dies_out_of_acc M.nextConfigs (fun c c' s => (M.mem_nextConfigs c c').mpr s)
      (acc_step_of_eps_on (fun c => ∃ k, StepN M.moves k c₀ c)
        (fun _ _ ⟨k, hk⟩ s => ⟨k + 1, .succ hk s⟩) (fun c ⟨k, hk⟩ => h k c hk) c₀ ⟨0, .zero _⟩)

theorem NPDA.dies_out (M : NPDA σ α γ) (h : EpsTerminates M.moves) (c₀ : Config σ α γ) :
    ∃ k, ∀ c, ¬ StepN M.moves k c₀ c :=
  (M.dies_out_iff c₀).mpr fun _ c _ => h c

theorem DPDA.dies_out_iff (M : DPDA σ α γ) (c₀ : Config σ α γ) :
    (∃ k, ∀ c, ¬ StepN M.moves k c₀ c) ↔
      ∀ k c, StepN M.moves k c₀ c → Acc (fun c' c => EpsStep M.moves c c') c := by
  have := M.lift.dies_out_iff c₀
  rwa [M.lift_moves_eq] at this

theorem DPDA.dies_out (M : DPDA σ α γ) (h : EpsTerminates M.moves) (c₀ : Config σ α γ) :
    ∃ k, ∀ c, ¬ StepN M.moves k c₀ c :=
  (M.dies_out_iff c₀).mpr fun _ c _ => h c

theorem NPDA.epsTerminates_of_lambda_pops (M : NPDA σ α γ)
    (h : ∀ kv ∈ M.trans, ∀ e ∈ kv.2, e.1 = none → ∀ x ∈ e.2, ∀ t ∈ x.2, t.2 = []) :
    EpsTerminates M.moves :=
  epsTerminates_of_pops fun _ _ _ _ hm => by
    obtain ⟨row, sp, ts, h1, h2, h3, hmem⟩ := M.movesMem_of_moves hm
    exact h _ h1 _ h2 rfl _ h3 _ hmem

theorem DPDA.epsTerminates_of_lambda_pops (M : DPDA σ α γ)
    (h : ∀ kv ∈ M.trans, ∀ e ∈ kv.2, e.1 = none → ∀ x ∈ e.2, x.2.2 = []) :
    EpsTerminates M.moves :=
  epsTerminates_of_pops fun _ _ _ _ hm => by
    obtain ⟨row, sp, h1, h2, h3⟩ := M.entry?_some_mem hm
    exact h _ h1 _ h2 rfl _ h3

end AV.PDA
