/-
Proofs/MinLen.lean — the queue BFS of `minimum_word_length()` (Model/DFAQuery.lean), read on the
paths of a given length of Proofs/PathLen.lean.  Core only.
-/
import AutomataVerif.Proofs.Query
import AutomataVerif.Proofs.PathLen

namespace AV
namespace DFA
variable {σ α : Type} [DecidableEq σ] [DecidableEq α]

theorem mem_rowSucc_iff {d : DFA σ α} (hr : ∀ kv ∈ d.trans, (akeys kv.2).Nodup) {q t : σ} :
    t ∈ d.rowSucc q ↔ ∃ a, d.step? (some q) a = some t :=
  mem_avals_row_iff hr

theorem pathLen_iff_run {d : DFA σ α} (hd : d.IsDict) {n : Nat} {q r : σ} :
    PathLen d q n r ↔ ∃ w : List α, w.length = n ∧ d.run (some q) w = some r :=
  ⟨run_of_pathLen hd.rowKeys, fun ⟨_, hl, hw⟩ => hl ▸ pathLen_of_run hw⟩

theorem pathLen_final_iff {d : DFA σ α} (hd : d.IsDict) {q : σ} {n : Nat} :
    (∃ f ∈ d.finals, PathLen d q n f) ↔ ∃ w : List α, w.length = n ∧ d.acceptsFrom q w = true := by
  constructor
  · rintro ⟨f, hf, hp⟩
    obtain ⟨w, hl, hr⟩ := (pathLen_iff_run hd).mp hp
    exact ⟨w, hl, (isFinal_iff d _).mpr ⟨f, hf, hr⟩⟩
  · rintro ⟨w, hl, ha⟩
    obtain ⟨f, hf, hr⟩ := (isFinal_iff d _).mp ha
    exact ⟨f, hf, (pathLen_iff_run hd).mpr ⟨w, hl, hr⟩⟩

theorem noPath_iff {d : DFA σ α} (hd : d.IsDict) :
    (∀ n f, f ∈ d.finals → ¬ PathLen d d.init n f) ↔ ∀ w : List α, d.accepts w = false := by
  constructor
  · intro h w
    refine Bool.eq_false_iff.mpr fun hw => ?_
    obtain ⟨f, hf, hp⟩ := (pathLen_final_iff hd).mpr ⟨w, rfl, hw⟩
    exact h _ f hf hp
  · intro h n f hf hp
    obtain ⟨w, _, hw⟩ := (pathLen_final_iff hd).mp ⟨f, hf, hp⟩
    rw [← accepts_eq_acceptsFrom, h w] at hw; cases hw

omit [DecidableEq α] in
theorem mem_gedges {d : DFA σ α} {q t : σ} (h : t ∈ d.rowSucc q) : (q, t) ∈ d.gedges := by
  unfold rowSucc at h
  obtain ⟨e, he, rfl⟩ := List.mem_map.mp h
  unfold gedges
  exact List.mem_flatMap.mpr ⟨(q, d.row q), row_mem_trans he, List.mem_map.mpr ⟨e, he, rfl⟩⟩

omit [DecidableEq α] in
theorem gedges_mem_gnodes {d : DFA σ α} {q t : σ} (h : (q, t) ∈ d.gedges) :
    q ∈ d.gnodes ∧ t ∈ d.gnodes := by
  unfold gnodes
  simp only [mem_dedup, List.mem_append, List.mem_flatMap]
  exact ⟨Or.inr ⟨(q, t), h, by simp⟩, Or.inr ⟨(q, t), h, by simp⟩⟩

omit [DecidableEq α] in
theorem rowSucc_mem_gnodes {d : DFA σ α} {q t : σ} (h : t ∈ d.rowSucc q) : t ∈ d.gnodes :=
  (gedges_mem_gnodes (mem_gedges h)).2

theorem minLenExpand_spec (dq : Nat) (ts : List σ) :
    ∀ (queue : List σ) (dist : List (σ × Nat)),
      ∃ new : List σ,
        minLenExpand dq ts (queue, dist) = (queue ++ new, dist ++ new.map fun t => (t, dq + 1)) ∧
        new.Nodup ∧ ∀ t, t ∈ new ↔ t ∈ ts ∧ t ∉ akeys dist := by
  induction ts with
  | nil => intro queue dist; exact ⟨[], by simp [minLenExpand], List.nodup_nil, by simp⟩
  | cons t ts ih =>
    intro queue dist
    unfold minLenExpand
    cases ht : ahas t dist with
    | true =>
      obtain ⟨new, h1, h2, h3⟩ := ih queue dist
      have htk : t ∈ akeys dist := ahas_iff.mp ht
      refine ⟨new, h1, h2, fun x => (h3 x).trans (and_congr_left fun hk => ?_)⟩
      exact ⟨List.mem_cons_of_mem _, fun hx => (List.mem_cons.mp hx).resolve_left fun e => hk (e ▸ htk)⟩
    | false =>
      have htk : t ∉ akeys dist := fun h => by rw [ahas_iff.mpr h] at ht; cases ht
      obtain ⟨new, h1, h2, h3⟩ := ih (queue ++ [t]) (dist ++ [(t, dq + 1)])
      have hk : ∀ x, x ∉ akeys (dist ++ [(t, dq + 1)]) ↔ x ∉ akeys dist ∧ x ≠ t := fun x => by
        simp [akeys, not_or]
      refine ⟨t :: new, by simp only; rw [h1]; simp,
        List.nodup_cons.mpr ⟨fun hm => ((hk t).mp ((h3 t).mp hm).2).2 rfl, h2⟩, fun x => ?_⟩
      rw [List.mem_cons, h3 x, hk x, List.mem_cons]
      by_cases hxt : x = t
      · subst hxt; simp [htk]
      · simp [hxt]

/-- Invariant of the `while queue:` loop of `minimum_word_length` (`dist` is the `distances` dict).
`keysNodup`, `queueSub`, `inUniv` and the second half of `processed` make up the work-list
invariant `BfsInv` (`BInv.toBfs`), which bounds the number of pops by the fuel.
`initIn`, `shortest`: the start is recorded, and a recorded distance is the length of a shortest
path from the start.
`sorted`, `span`: the queue is in order of distance and holds at most two consecutive levels, so
every state nearer than its head has left it; with the first half of `processed` (what has left the
queue is not final) the first final state popped is a nearest one. -/
structure BInv (d : DFA σ α) (queue : List σ) (dist : List (σ × Nat)) : Prop where
  keysNodup : (akeys dist).Nodup
  initIn : alookup d.init dist = some 0
  queueSub : ∀ q ∈ queue, q ∈ akeys dist
  shortest : ∀ q n, alookup q dist = some n →
    PathLen d d.init n q ∧ ∀ n', PathLen d d.init n' q → n ≤ n'
  sorted : queue.Pairwise fun a b => dget dist a ≤ dget dist b
  span : ∀ a ∈ queue, ∀ b ∈ queue, dget dist b ≤ dget dist a + 1
  processed : ∀ q ∈ akeys dist, q ∉ queue → q ∉ d.finals ∧ ∀ t ∈ d.rowSucc q, t ∈ akeys dist
  inUniv : ∀ q ∈ akeys dist, q ∈ d.init :: d.gnodes

theorem dget_of_lookup {dist : List (σ × Nat)} {q : σ} {n : Nat} (h : alookup q dist = some n) :
    dget dist q = n := by simp [dget, h]

theorem lookup_of_mem_keys {dist : List (σ × Nat)} {q : σ} (h : q ∈ akeys dist) :
    alookup q dist = some (dget dist q) := by
  obtain ⟨n, hl⟩ := exists_alookup h
  simp [dget, hl]

omit [DecidableEq α] in
theorem BInv.settled {d : DFA σ α} {h : σ} {rest : List σ} {dist : List (σ × Nat)}
    (inv : BInv d (h :: rest) dist) {n : Nat} {q : σ} (hn : n < dget dist h)
    (hp : PathLen d d.init n q) (hk : q ∈ akeys dist) :
    q ∉ d.finals ∧ ∀ t ∈ d.rowSucc q, t ∈ akeys dist := by
  refine inv.processed q hk fun hmem => ?_
  have hle : dget dist q ≤ n := (inv.shortest q _ (lookup_of_mem_keys hk)).2 n hp
  have := head_le_of_sorted inv.sorted hmem
  omega

omit [DecidableEq α] in
theorem BInv.discovered_of_closed {d : DFA σ α} {queue : List σ} {dist : List (σ × Nat)}
    (inv : BInv d queue dist) (N : Nat)
    (hcl : ∀ n q, n < N → PathLen d d.init n q → q ∈ akeys dist → ∀ t ∈ d.rowSucc q, t ∈ akeys dist) :
    ∀ n q, n ≤ N → PathLen d d.init n q → q ∈ akeys dist := by
  intro n
  induction n with
  | zero =>
    intro q _ hp
    rw [hp.zero_eq]
    exact alookup_some_key_mem inv.initIn
  | succ n ih =>
    intro q hn hp
    obtain ⟨p, hpp, hq⟩ := hp.unsnoc
    exact hcl n p hn hpp (ih p (Nat.le_of_succ_le hn) hpp) q hq

set_option linter.unusedSectionVars false in
theorem BInv.discovered {d : DFA σ α} {h : σ} {rest : List σ} {dist : List (σ × Nat)}
    (inv : BInv d (h :: rest) dist) :
    ∀ n q, n ≤ dget dist h → PathLen d d.init n q → q ∈ akeys dist :=
  inv.discovered_of_closed _ fun _ _ hn hp hk => (inv.settled hn hp hk).2

omit [DecidableEq α] in
theorem BInv.all_discovered {d : DFA σ α} {dist : List (σ × Nat)} (inv : BInv d [] dist)
    (n : Nat) (q : σ) (hp : PathLen d d.init n q) : q ∈ akeys dist :=
  inv.discovered_of_closed n (fun _ p _ _ hk => (inv.processed p hk (by simp)).2) n q
    (Nat.le_refl n) hp

omit [DecidableEq α] in
theorem BInv.init (d : DFA σ α) : BInv d [d.init] [(d.init, 0)] where
  keysNodup := by simp [akeys]
  initIn := by simp [alookup_cons]
  queueSub := by simp [akeys]
  shortest := by
    intro q n h
    simp only [alookup_cons, alookup_nil] at h
    split at h
    · rename_i e; cases h; subst e; exact ⟨.nil _, fun _ _ => Nat.zero_le _⟩
    · cases h
  sorted := by simp
  span := by simp
  processed := by
    intro q hq hnq
    simp [akeys] at hq hnq
    exact absurd hq hnq
  inUniv := by
    intro q hq
    simp [akeys] at hq
    subst hq
    exact List.mem_cons_self

omit [DecidableEq α] in
theorem BInv.toBfs {d : DFA σ α} {queue : List σ} {dist : List (σ × Nat)} (inv : BInv d queue dist) :
    BfsInv (fun u v => v ∈ d.rowSucc u) (d.init :: d.gnodes) queue (akeys dist) :=
  ⟨inv.keysNodup, inv.inUniv, inv.queueSub, fun u hu hnu => (inv.processed u hu hnu).2⟩

theorem BInv.pop {d : DFA σ α} {h : σ} {rest : List σ} {dist : List (σ × Nat)}
    (inv : BInv d (h :: rest) dist) (hnf : h ∉ d.finals) (new : List σ) (hnd : new.Nodup)
    (hnew : ∀ t, t ∈ new ↔ t ∈ d.rowSucc h ∧ t ∉ akeys dist) :
    BInv d (rest ++ new) (dist ++ new.map fun t => (t, dget dist h + 1)) := by
  have hhk : h ∈ akeys dist := inv.queueSub h List.mem_cons_self
  have hkeys : akeys (dist ++ new.map fun t => (t, dget dist h + 1)) = akeys dist ++ new := by
    rw [akeys_append, akeys_tabulate]
  have hb := inv.toBfs.step (fun _ _ _ hv => List.mem_cons_of_mem _ (rowSucc_mem_gnodes hv)) hnd hnew
  rw [← hkeys] at hb
  have hold : ∀ q, q ∈ akeys dist →
      alookup q (dist ++ new.map fun t => (t, dget dist h + 1)) = alookup q dist := by
    intro q hq
    rw [alookup_append_or, lookup_of_mem_keys hq, Option.some_or]
  have hnewl : ∀ t, t ∈ new →
      alookup t (dist ++ new.map fun t => (t, dget dist h + 1)) = some (dget dist h + 1) := by
    intro t ht
    have hk := ((hnew t).mp ht).2
    rw [alookup_append_or, alookup_eq_none_iff.mpr hk, Option.none_or,
      alookup_tabulate _ (fun _ => dget dist h + 1), if_pos ht]
  -- the queue holds the levels `m`, `m + 1` in order
  obtain ⟨hval, hsorted⟩ := fifo_levels (lv' := dget (dist ++ new.map fun t => (t, dget dist h + 1)))
    inv.sorted (fun b hb => inv.span h List.mem_cons_self b (List.mem_cons_of_mem _ hb))
    (fun a ha => congrArg (fun o => Option.getD o 0)
      (hold a (inv.queueSub a (List.mem_cons_of_mem _ ha))))
    (fun t ht => congrArg (fun o => Option.getD o 0) (hnewl t ht))
  refine
    { keysNodup := hb.nodup, initIn := ?_, queueSub := hb.work_sub, shortest := ?_,
      sorted := hsorted,
      span := fun a ha b hb => by have := hval a ha; have := hval b hb; omega,
      processed := fun q hq hnq => ⟨?_, hb.closed q hq hnq⟩, inUniv := hb.sub }
  · rw [hold _ (alookup_some_key_mem inv.initIn)]; exact inv.initIn
  · intro q n hl
    by_cases hq : q ∈ akeys dist
    · rw [hold q hq] at hl
      exact inv.shortest q n hl
    · have hqn : q ∈ new := by
        have := alookup_some_key_mem hl
        rw [hkeys] at this
        exact (List.mem_append.mp this).resolve_left hq
      rw [hnewl q hqn] at hl
      cases hl
      have hph := (inv.shortest h _ (lookup_of_mem_keys hhk)).1
      refine ⟨hph.snoc ((hnew q).mp hqn).1, ?_⟩
      intro n' hp'
      by_cases hle : n' ≤ dget dist h
      · exact absurd (inv.discovered n' q hle hp') hq
      · omega
  · by_cases hqh : q = h
    · exact hqh ▸ hnf
    · have hq' : q ∈ akeys dist := by
        rw [hkeys] at hq
        exact (List.mem_append.mp hq).resolve_right fun h1 => hnq (List.mem_append_right _ h1)
      exact (inv.processed q hq' fun hm => (List.mem_cons.mp hm).elim hqh
        fun e => hnq (List.mem_append_left _ e)).1

theorem minLenLoop_spec {d : DFA σ α} :
    ∀ (fuel : Nat) (queue : List σ) (dist : List (σ × Nat)), BInv d queue dist →
      queue.length + (d.init :: d.gnodes).length < fuel + (akeys dist).length →
      (∃ m f, d.minLenLoop fuel queue dist = .ok m ∧ f ∈ d.finals ∧ PathLen d d.init m f ∧
          ∀ n g, g ∈ d.finals → PathLen d d.init n g → m ≤ n) ∨
      (d.minLenLoop fuel queue dist = .error (.lib .emptyLanguageException) ∧
          ∀ n g, g ∈ d.finals → ¬ PathLen d d.init n g) := by
  intro fuel
  induction fuel with
  | zero => intro queue dist inv hf; have := inv.toBfs.length_le; omega
  | succ fuel ih =>
    intro queue dist inv hf
    cases queue with
    | nil =>
      right
      refine ⟨rfl, ?_⟩
      intro n g hg hp
      exact (inv.processed g (inv.all_discovered n g hp) (by simp)).1 hg
    | cons h rest =>
      unfold minLenLoop
      by_cases hfin : h ∈ d.finals
      · left
        have hhk : h ∈ akeys dist := inv.queueSub h List.mem_cons_self
        have hsh := inv.shortest h _ (lookup_of_mem_keys hhk)
        refine ⟨dget dist h, h, by simp [hfin], hfin, hsh.1, ?_⟩
        intro n g hg hp
        refine Nat.le_of_not_lt fun hlt => ?_
        exact (inv.settled hlt hp (inv.discovered n g (Nat.le_of_lt hlt) hp)).1 hg
      · simp only [hfin, decide_false]
        obtain ⟨new, he, hnd, hnew⟩ := minLenExpand_spec (dget dist h) (d.rowSucc h) rest dist
        rw [he]
        refine ih _ _ (inv.pop hfin new hnd hnew) ?_
        rw [akeys_append, akeys_tabulate]
        exact BfsInv.fuel_step hf

omit [DecidableEq α] in
theorem minLenLoop_error (d : DFA σ α) : ∀ (fuel : Nat) (queue : List σ) (dist : List (σ × Nat)) (e : Exn),
    d.minLenLoop fuel queue dist = .error e → e = .lib .emptyLanguageException
  | 0, _, _, _, h => (Except.error.inj h).symm
  | _ + 1, [], _, _, h => (Except.error.inj h).symm
  | fuel + 1, q :: queue, dist, e, h => by
    unfold minLenLoop at h
    cases hq : decide (q ∈ d.finals) with
    | true => rw [hq] at h; cases h
    | false => rw [hq] at h; exact minLenLoop_error d fuel _ _ e h

omit [DecidableEq α] in
theorem minimumWordLength_error {d : DFA σ α} {e : Exn} (h : d.minimumWordLength = .error e) :
    e = .lib .emptyLanguageException :=
  minLenLoop_error d _ _ _ e h

theorem minimumWordLength_path (d : DFA σ α) :
    (∃ m f, d.minimumWordLength = .ok m ∧ f ∈ d.finals ∧ PathLen d d.init m f ∧
        ∀ n g, g ∈ d.finals → PathLen d d.init n g → m ≤ n) ∨
    (d.minimumWordLength = .error (.lib .emptyLanguageException) ∧
        ∀ n g, g ∈ d.finals → ¬ PathLen d d.init n g) := by
  unfold minimumWordLength
  apply minLenLoop_spec _ _ _ (BInv.init d)
  simp only [akeys, List.map_cons, List.map_nil, List.length_cons, List.length_nil]
  omega

/-- `minimum_word_length()` returns the length of a shortest accepted word, or raises
`EmptyLanguageException` when no word is accepted. -/
theorem minimumWordLength_spec {d : DFA σ α} (hd : d.IsDict) :
    (∃ m, d.minimumWordLength = .ok m ∧ (∃ w : List α, w.length = m ∧ d.accepts w = true) ∧
        ∀ w : List α, d.accepts w = true → m ≤ w.length) ∨
    (d.minimumWordLength = .error (.lib .emptyLanguageException) ∧
        ∀ w : List α, d.accepts w = false) := by
  rcases minimumWordLength_path d with ⟨m, f, h1, hf, hp, hmin⟩ | ⟨h1, hno⟩
  · left
    refine ⟨m, h1, (pathLen_final_iff hd).mp ⟨f, hf, hp⟩, ?_⟩
    intro w hw
    obtain ⟨g, hg, hpg⟩ := (pathLen_final_iff hd).mpr ⟨w, rfl, hw⟩
    exact hmin _ g hg hpg
  · exact Or.inr ⟨h1, (noPath_iff hd).mp hno⟩

end DFA
end AV
