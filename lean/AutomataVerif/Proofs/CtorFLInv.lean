/-
Proofs/CtorFLInv.lean — from_finite_language (C15): the invariant of the incremental
construction ("the table is a quotient of the trie of the words added so far; the prefixes of
the current word up to `k` are still trie nodes, everything else is registered"), its
preservation by `add_to_trie`, and what it gives at any point: runs of the table follow the
trie.  Core only.
-/
import AutomataVerif.Proofs.CtorFLAdd

namespace AV.Ctor.FL

variable {α : Type} [DecidableEq α]

/-- `p` is a prefix of an added word (a node of the trie of `added`). -/
def InTrie (added : List (List α)) (p : List α) : Prop := ∃ w ∈ added, p <+: w

omit [DecidableEq α] in
theorem inTrie_append (added : List (List α)) (next p : List α) :
    InTrie (added ++ [next]) p ↔ InTrie added p ∨ p <+: next := by
  unfold InTrie
  constructor
  · rintro ⟨w, hw, hp⟩
    rcases List.mem_append.mp hw with h | h
    · exact Or.inl ⟨w, h, hp⟩
    · simp only [List.mem_singleton] at h; subst h; exact Or.inr hp
  · rintro (⟨w, hw, hp⟩ | hp)
    · exact ⟨w, List.mem_append_left _ hw, hp⟩
    · exact ⟨next, by simp, hp⟩

set_option linter.unusedSectionVars false in
theorem InTrie.prefix {added : List (List α)} {p q : List α} (h : InTrie added p) (hq : q <+: p) :
    InTrie added q := by
  obtain ⟨w, hw, hp⟩ := h; exact ⟨w, hw, hq.trans hp⟩

open Classical in
/-- Extension of the ghost map by the identity on new trie nodes. -/
noncomputable def extφ (added : List (List α)) (φ : List α → List α) (p : List α) : List α :=
  if InTrie added p then φ p else p

omit [DecidableEq α] in
theorem extφ_old {added : List (List α)} {φ : List α → List α} {p : List α} (h : InTrie added p) :
    extφ added φ p = φ p := by unfold extφ; simp [h]

omit [DecidableEq α] in
theorem extφ_new {added : List (List α)} {φ : List α → List α} {p : List α} (h : ¬ InTrie added p) :
    extφ added φ p = p := by unfold extφ; simp [h]

open Classical in
/-- The invariant.  `φ` (ghost) maps every trie node to the state that represents it. -/
structure FLInv (added : List (List α)) (cur : List α) (k : Nat) (s : FLState α)
    (φ : List α → List α) : Prop where
  kle : k ≤ cur.length
  curTrie : added ≠ [] → cur ∈ added
  keysNodup : (akeys s.trans).Nodup
  rowsNodup : ∀ q row, alookup q s.trans = some row → (akeys row).Nodup
  active : ∀ i, i ≤ k → φ (cur.take i) = cur.take i
  activeOnly : ∀ p, InTrie added p → ∀ i, i ≤ k → φ p = cur.take i → p = cur.take i
  dom : ∀ p, InTrie added p → φ p ∈ akeys s.trans
  surj : ∀ q ∈ akeys s.trans, ∃ p, InTrie added p ∧ φ p = q
  step : ∀ p a, InTrie added p →
    look s (φ p) a = if InTrie added (p ++ [a]) then some (φ (p ++ [a])) else none
  fin : ∀ p, InTrie added p → (φ p ∈ s.finals ↔ p ∈ added)
  finKeys : ∀ q ∈ s.finals, q ∈ akeys s.trans
  regIff : ∀ q, q ∈ avals s.sigs ↔ (q ∈ akeys s.trans ∧ ∀ i, i ≤ k → q ≠ cur.take i)
  sigOK : ∀ e ∈ s.sigs, ∃ row, alookup e.2 s.trans = some row ∧ e.1 = (decide (e.2 ∈ s.finals), row)
  regClosed : ∀ q ∈ avals s.sigs, ∀ a t, look s q a = some t → t ∈ avals s.sigs
  activeKids : ∀ i, i ≤ k → ∀ a t, look s (cur.take i) a = some t →
    (i < k ∧ cur[i]? = some a ∧ t = cur.take (i + 1)) ∨ t ∈ avals s.sigs
  backSup : ∀ q a t, look s q a = some t → ∃ b, alookup t s.back = some b ∧ q ∈ b
  backKeys : ∀ q ∈ akeys s.trans, q ∈ akeys s.back
  backActive : ∀ i, 1 ≤ i → i ≤ k → alookup (cur.take i) s.back = some [cur.take (i - 1)]
  namesT : ∀ q ∈ akeys s.trans, InTrie added q
  namesB : ∀ q ∈ akeys s.back, q = [] ∨ InTrie added q
  rootBack : ([] : List α) ∈ akeys s.back

/-- The initial state of the construction. -/
def s0 : FLState α := { trans := [], back := [([], [])], finals := [], sigs := [] }

omit [DecidableEq α] in
theorem not_inTrie_nil {p : List α} : ¬ InTrie ([] : List (List α)) p := fun ⟨_, hw, _⟩ => nomatch hw

theorem inv_init : FLInv ([] : List (List α)) [] 0 s0 id :=
  { kle := Nat.le_refl _
    curTrie := fun h => absurd rfl h
    keysNodup := List.nodup_nil
    rowsNodup := fun _ _ h => nomatch h
    active := fun _ _ => rfl
    activeOnly := fun _ hp => absurd hp not_inTrie_nil
    dom := fun _ hp => absurd hp not_inTrie_nil
    surj := fun _ hq => nomatch hq
    step := fun _ _ hp => absurd hp not_inTrie_nil
    fin := fun _ hp => absurd hp not_inTrie_nil
    finKeys := fun _ hq => nomatch hq
    regIff := fun _ => ⟨fun h => (nomatch h), fun h => (nomatch h.1)⟩
    sigOK := fun _ he => nomatch he
    regClosed := fun _ hq => nomatch hq
    activeKids := fun _ _ _ _ h => nomatch h
    backSup := fun _ _ _ h => nomatch h
    backKeys := fun _ hq => nomatch hq
    backActive := fun _ h1 h2 => absurd h1 (Nat.not_succ_le_zero 0 ∘ fun h => Nat.le_trans h h2)
    namesT := fun _ hq => nomatch hq
    namesB := fun _ hq => Or.inl (List.mem_singleton.mp hq)
    rootBack := List.mem_singleton_self _ }

omit [DecidableEq α] in
theorem take_of_take_eq {u v : List α} {k j : Nat} (h : u.take k = v.take k) (hj : j ≤ k) :
    u.take j = v.take j := by
  have := congrArg (List.take j) h
  rwa [List.take_take, List.take_take, Nat.min_eq_left hj] at this

omit [DecidableEq α] in
theorem getElem?_of_take_eq {u v : List α} {k j : Nat} (h : u.take k = v.take k) (hj : j < k) :
    u[j]? = v[j]? := by
  have := congrArg (fun l => l[j]?) h
  simp only [List.getElem?_take, hj, if_true] at this
  exact this

/-- `add_to_trie(next)` leaves the rows and the finality of the registered states alone: none of
them lies on the path of `next`. -/
theorem add_frozen {added : List (List α)} {cur : List α} {k : Nat} {s : FLState α}
    {φ : List α → List α} (inv : FLInv added cur k s φ) (next : List α)
    (hk : next.take k = cur.take k)
    (hfresh : ∀ q, q <+: next → k < q.length → ¬ InTrie added q)
    (hnew : ¬ InTrie added next) {q : List α} (hq : q ∈ avals s.sigs) :
    alookup q (flAddWord s next).trans = alookup q s.trans ∧
      (q ∈ (flAddWord s next).finals ↔ q ∈ s.finals) := by
  have e := flAddWord_effect s next
  obtain ⟨hkey, hne⟩ := (inv.regIff q).mp hq
  refine ⟨e.row q fun j hj e1 => ?_, ?_⟩
  · have hjk : j ≤ k := by
      apply Classical.byContradiction; intro h
      refine hfresh _ (List.take_prefix j next) ?_ (e1 ▸ inv.namesT _ hkey)
      rw [List.length_take]; omega
    exact hne j hjk (take_of_take_eq hk hjk ▸ e1)
  · rw [e.finals, mem_sinsert]
    exact or_iff_right fun e' => hnew (e' ▸ inv.namesT _ hkey)

omit [DecidableEq α] in
theorem snoc_prefix_iff {p w : List α} {a : α} :
    p ++ [a] <+: w ↔ ∃ j, j < w.length ∧ p = w.take j ∧ w[j]? = some a := by
  constructor
  · rintro ⟨t, rfl⟩
    exact ⟨p.length, by simp, by simp, by simp⟩
  · rintro ⟨j, hj, rfl, ha⟩
    have : w.take j ++ [a] = w.take (j + 1) := by rw [List.take_add_one, ha]; rfl
    rw [this]; exact List.take_prefix _ _

open Classical in
/-- `add_to_trie(next)` preserves the invariant, when `next` shares exactly its first `k`
symbols with the trie (`hk`: at least, `hfresh`: at most; sortedness gives both to the caller). -/
theorem add_inv {added : List (List α)} {cur : List α} {k : Nat} {s : FLState α}
    {φ : List α → List α} (inv : FLInv added cur k s φ) (next : List α)
    (hk : next.take k = cur.take k) (hkn : k ≤ next.length)
    (hfresh : ∀ q, q <+: next → k < q.length → ¬ InTrie added q)
    (hnew : ¬ InTrie added next) :
    ∃ φ', FLInv (added ++ [next]) next next.length (flAddWord s next) φ' := by
  have e := flAddWord_effect s next
  have F1 : ∀ j, j ≤ k → next.take j = cur.take j := fun j hj => take_of_take_eq hk hj
  have F2 : ∀ j, j ≤ next.length → InTrie added (next.take j) → j ≤ k := by
    intro j hj hin
    apply Classical.byContradiction; intro h
    exact hfresh _ (List.take_prefix _ _) (by rw [List.length_take]; omega) hin
  have F3 : ∀ j, j ≤ next.length → next.take j ∈ akeys s.trans → j ≤ k :=
    fun j hj hm => F2 j hj (inv.namesT _ hm)
  have hnextkey : next ∉ akeys s.trans := fun h => hnew (inv.namesT _ h)
  have F4 := inTrie_append added next
  refine ⟨extφ added φ, ?_⟩
  have hne_next : ∀ q, q ∈ akeys s.trans → q ≠ next := fun q hq e' => hnextkey (e' ▸ hq)
  have hkeep : ∀ t, t ∈ akeys s.back → t ∈ akeys (flAddWord s next).back := by
    intro t ht
    rw [← alookup_isSome_iff] at ht ⊢
    rw [e.back]
    split
    · rfl
    · exact ht
  -- the prefixes of next represent themselves, and nothing else does
  have hact : ∀ i, i ≤ next.length → extφ added φ (next.take i) = next.take i := by
    intro i hi
    by_cases h : InTrie added (next.take i)
    · rw [extφ_old h, F1 i (F2 i hi h)]; exact inv.active i (F2 i hi h)
    · exact extφ_new h
  have hactOnly : ∀ p, InTrie (added ++ [next]) p → ∀ i, i ≤ next.length →
      extφ added φ p = next.take i → p = next.take i := by
    intro p hp i hi hφ
    by_cases h : InTrie added p
    · rw [extφ_old h] at hφ
      have hik : i ≤ k := F3 i hi (hφ ▸ inv.dom p h)
      rw [F1 i hik] at hφ ⊢
      exact inv.activeOnly p h i hik hφ
    · rwa [extφ_new h] at hφ
  -- without a trie edge there is no old transition
  have hnoedge : ∀ p a, InTrie (added ++ [next]) p → ¬ InTrie added (p ++ [a]) →
      look s (extφ added φ p) a = none := by
    intro p a hp h2
    by_cases h : InTrie added p
    · rw [extφ_old h, inv.step p a h, if_neg h2]
    · rw [extφ_new h]; exact look_of_not_key (fun hm => h (inv.namesT _ hm)) a
  refine
    { kle := Nat.le_refl _
      curTrie := fun _ => List.mem_append_right _ (List.mem_singleton_self _)
      keysNodup := e.keysNodup inv.keysNodup
      rowsNodup := e.rowsNodup inv.rowsNodup
      active := hact
      activeOnly := hactOnly
      dom := ?dom
      surj := ?surj
      step := ?step
      fin := ?fin
      finKeys := ?finKeys
      regIff := ?regIff
      sigOK := ?sigOK
      regClosed := ?regClosed
      activeKids := ?activeKids
      backSup := ?backSup
      backKeys := ?backKeys
      backActive := ?backActive
      namesT := ?namesT
      namesB := ?namesB
      rootBack := hkeep _ inv.rootBack }
  case dom =>
    intro p hp
    rw [e.keys]
    by_cases h : InTrie added p
    · rw [extφ_old h]; exact Or.inl (inv.dom p h)
    · rw [extφ_new h]
      have h1 := ((F4 p).mp hp).resolve_left h
      exact Or.inr ⟨p.length, h1.length_le, List.prefix_iff_eq_take.mp h1⟩
  case surj =>
    intro q hq
    rcases (e.keys q).mp hq with h | ⟨j, hj, rfl⟩
    · obtain ⟨p, hp, hφ⟩ := inv.surj q h
      exact ⟨p, (F4 p).mpr (Or.inl hp), by rw [extφ_old hp]; exact hφ⟩
    · exact ⟨next.take j, (F4 _).mpr (Or.inr (List.take_prefix _ _)), hact j hj⟩
  case step =>
    intro p a hp
    -- the walk adds the edge `p —a→ p ++ [a]` exactly along next
    have hwalk : (∃ j, j < next.length ∧ extφ added φ p = next.take j ∧ next[j]? = some a) ↔
        p ++ [a] <+: next := by
      rw [snoc_prefix_iff]
      refine exists_congr fun j => and_congr_right fun hj => and_congr_left fun _ =>
        ⟨hactOnly p hp j (Nat.le_of_lt hj), fun h => ?_⟩
      rw [h]; exact hact j (Nat.le_of_lt hj)
    rw [e.look]
    by_cases h2 : InTrie added (p ++ [a])
    · have h : InTrie added p := h2.prefix (List.prefix_append _ _)
      rw [extφ_old h, if_neg (hne_next _ (inv.dom p h)), inv.step p a h, if_pos h2,
        if_pos ((F4 _).mpr (Or.inl h2)), extφ_old h2]
    · rw [hnoedge p a hp h2]
      by_cases h3 : p ++ [a] <+: next
      · have hpre : p <+: next := (List.prefix_append p [a]).trans h3
        have hφp : extφ added φ p = p := by
          rw [List.prefix_iff_eq_take.mp hpre]; exact hact _ hpre.length_le
        have hpn : p ≠ next := by
          intro e'; have := h3.length_le
          rw [e', List.length_append, List.length_singleton] at this; omega
        rw [hφp, if_neg hpn]
        rw [hφp] at hwalk
        simp only [if_pos (hwalk.mpr h3), if_pos ((F4 _).mpr (Or.inr h3)), extφ_new h2]
      · have hnin : ¬ InTrie (added ++ [next]) (p ++ [a]) := fun h4 => ((F4 _).mp h4).elim h2 h3
        simp only [if_neg (fun h => h3 (hwalk.mp h)), if_neg hnin, ite_self]
  case fin =>
    intro p hp
    rw [e.finals, mem_sinsert, List.mem_append, List.mem_singleton]
    by_cases h : InTrie added p
    · rw [extφ_old h]
      have h1 : φ p ≠ next := fun e' => hnextkey (e' ▸ inv.dom p h)
      have h2 : p ≠ next := fun e' => hnew (e' ▸ h)
      rw [or_iff_right h1, or_iff_left h2]
      exact inv.fin p h
    · rw [extφ_new h]
      have h1 : p ∉ s.finals := fun hm => h (inv.namesT _ (inv.finKeys _ hm))
      have h2 : p ∉ added := fun hm => h ⟨p, hm, List.prefix_refl _⟩
      rw [or_iff_left h1, or_iff_right h2]
  case finKeys =>
    intro q hq
    rw [e.finals, mem_sinsert] at hq
    rw [e.keys]
    rcases hq with rfl | hq
    · exact Or.inr ⟨q.length, Nat.le_refl _, (List.take_length).symm⟩
    · exact Or.inl (inv.finKeys q hq)
  case regIff =>
    intro q
    rw [e.sigs, inv.regIff, e.keys]
    constructor
    · rintro ⟨h1, h2⟩
      refine ⟨Or.inl h1, fun i hi e' => ?_⟩
      have hik : i ≤ k := F3 i hi (e' ▸ h1)
      exact h2 i hik (F1 i hik ▸ e')
    · rintro ⟨h1 | ⟨j, hj, rfl⟩, h2⟩
      · exact ⟨h1, fun i hi e' => h2 i (by omega) (F1 i hi ▸ e')⟩
      · exact absurd rfl (h2 j hj)
  case sigOK =>
    intro x hx
    rw [e.sigs] at hx
    obtain ⟨row, hr, hs⟩ := inv.sigOK x hx
    obtain ⟨h1, h2⟩ := add_frozen inv next hk hfresh hnew (List.mem_map.mpr ⟨x, hx, rfl⟩)
    exact ⟨row, h1.trans hr, by rw [hs, decide_eq_decide.mpr h2]⟩
  case regClosed =>
    intro q hq a t ht
    rw [e.sigs] at hq ⊢
    rw [look, (add_frozen inv next hk hfresh hnew hq).1] at ht
    exact inv.regClosed q hq a t ht
  case activeKids =>
    intro i hi a t ht
    rw [e.sigs]
    obtain ⟨hin, h0 | ⟨_, j, hj, e1, e2, rfl⟩⟩ := e.look_some ht
    · -- an old edge from an active node
      have hilt : i < next.length := by
        apply Classical.byContradiction; intro h
        exact hin (List.take_of_length_le (by omega))
      have hik : i ≤ k := F3 i hi (key_of_look h0)
      rw [F1 i hik] at h0
      rcases inv.activeKids i hik a t h0 with ⟨h1, h2, h3⟩ | h1
      · exact Or.inl ⟨hilt, by rw [getElem?_of_take_eq hk h1]; exact h2,
          by rw [h3, F1 (i + 1) (by omega)]⟩
      · exact Or.inr h1
    · obtain rfl : j = i := by
        have := congrArg List.length e1
        rw [List.length_take, List.length_take] at this; omega
      exact Or.inl ⟨hj, e2, rfl⟩
  case backSup =>
    intro q a t ht
    rw [e.back]
    obtain ⟨_, h0 | ⟨_, j, hj, e1, _, rfl⟩⟩ := e.look_some ht
    · obtain ⟨b, hb, hqb⟩ := inv.backSup q a t h0
      split
      · exact ⟨_, rfl, by rw [hb]; exact mem_sinsert.mpr (Or.inr hqb)⟩
      · exact ⟨b, hb, hqb⟩
    · rw [if_pos ⟨j, hj, rfl⟩]
      refine ⟨_, rfl, mem_sinsert.mpr (Or.inl ?_)⟩
      rw [e1, List.take_add_one, List.getElem?_eq_getElem hj]
      exact List.dropLast_concat.symm
  case backKeys =>
    intro q hq
    rcases (e.keys q).mp hq with h | ⟨j, hj, rfl⟩
    · exact hkeep q (inv.backKeys q h)
    · cases j with
      | zero => exact hkeep _ inv.rootBack
      | succ j => rw [← alookup_isSome_iff, e.back, if_pos ⟨j, by omega, rfl⟩]; rfl
  case backActive =>
    intro i h1 hi
    rw [e.back]
    obtain ⟨j, rfl⟩ : ∃ j, i = j + 1 := ⟨i - 1, by omega⟩
    rw [if_pos ⟨j, by omega, rfl⟩]
    have hjlt : j < next.length := by omega
    have hdl : (next.take (j + 1)).dropLast = next.take j := by
      rw [List.take_add_one, List.getElem?_eq_getElem hjlt]
      exact List.dropLast_concat
    rw [hdl, Nat.add_sub_cancel]
    by_cases hjk : j + 1 ≤ k
    · rw [F1 (j + 1) hjk, inv.backActive (j + 1) (by omega) hjk, F1 j (by omega)]
      simp [sinsert]
    · have : next.take (j + 1) ∉ akeys s.back := by
        intro hm
        rcases inv.namesB _ hm with h | h
        · have := congrArg List.length h
          rw [List.length_take, List.length_nil] at this; omega
        · exact hjk (F2 (j + 1) hi h)
      rw [alookup_eq_none_iff.mpr this]
      simp [sinsert]
  case namesT =>
    intro q hq
    rcases (e.keys q).mp hq with h | ⟨j, hj, rfl⟩
    · exact (F4 q).mpr (Or.inl (inv.namesT q h))
    · exact (F4 _).mpr (Or.inr (List.take_prefix _ _))
  case namesB =>
    intro q hq
    rw [← alookup_isSome_iff, e.back] at hq
    split at hq
    · rename_i hex
      obtain ⟨j, hj, rfl⟩ := hex
      exact Or.inr ((F4 _).mpr (Or.inr (List.take_prefix _ _)))
    · exact (inv.namesB q (alookup_isSome_iff.mp hq)).imp_right fun h => (F4 q).mpr (Or.inl h)

/-- Finality of the outcome of a run (`none`: the run left the table). -/
def finO (s : FLState α) : Option (List α) → Bool
  | some t => decide (t ∈ s.finals)
  | none => false

def accFrom (s : FLState α) (q : List α) (w : List α) : Bool := finO s (runO (look s) (some q) w)

theorem accFrom_cons_some {s : FLState α} {q t : List α} {a : α} (h : look s q a = some t)
    (w : List α) : accFrom s q (a :: w) = accFrom s t w := by
  unfold accFrom; rw [runO_cons, Option.bind_some, h]

theorem accFrom_cons_none {s : FLState α} {q : List α} {a : α} (h : look s q a = none)
    (w : List α) : accFrom s q (a :: w) = false := by
  unfold accFrom; rw [runO_cons, Option.bind_some, h, runO_none]; rfl

theorem dist_of_look_ne {s : FLState α} {q1 q2 : List α} {a : α} (hne : look s q1 a ≠ look s q2 a)
    (hlive : ∀ t, look s q1 a = some t ∨ look s q2 a = some t → ∃ u, accFrom s t u = true)
    (hdist : ∀ t1 t2, look s q1 a = some t1 → look s q2 a = some t2 → t1 ≠ t2 →
      ∃ u, accFrom s t1 u ≠ accFrom s t2 u) : ∃ w, accFrom s q1 w ≠ accFrom s q2 w := by
  cases h1 : look s q1 a with
  | none =>
    cases h2 : look s q2 a with
    | none => exact absurd (h1.trans h2.symm) hne
    | some t2 =>
      obtain ⟨u, hu⟩ := hlive t2 (Or.inr h2)
      exact ⟨a :: u, by rw [accFrom_cons_none h1, accFrom_cons_some h2, hu]; exact Bool.noConfusion⟩
  | some t1 =>
    cases h2 : look s q2 a with
    | none =>
      obtain ⟨u, hu⟩ := hlive t1 (Or.inl h1)
      exact ⟨a :: u, by rw [accFrom_cons_some h1, accFrom_cons_none h2, hu]; exact Bool.noConfusion⟩
    | some t2 =>
      obtain ⟨u, hu⟩ := hdist t1 t2 h1 h2 fun e => hne (by rw [h1, h2, e])
      exact ⟨a :: u, by rwa [accFrom_cons_some h1, accFrom_cons_some h2]⟩

def RegDist (s : FLState α) : Prop :=
  ∀ q1 ∈ avals s.sigs, ∀ q2 ∈ avals s.sigs, q1 ≠ q2 → ∃ w, accFrom s q1 w ≠ accFrom s q2 w

section general
variable {added : List (List α)} {cur : List α} {k : Nat} {s : FLState α} {φ : List α → List α}
variable (inv : FLInv added cur k s φ)
include inv

open Classical in
theorem runO_spec (w : List α) : ∀ p, InTrie added p →
    runO (look s) (some (φ p)) w = if InTrie added (p ++ w) then some (φ (p ++ w)) else none := by
  induction w with
  | nil => intro p hp; rw [List.append_nil, if_pos hp]; rfl
  | cons a w ih =>
    intro p hp
    rw [runO_cons, Option.bind_some, inv.step p a hp, show p ++ a :: w = p ++ [a] ++ w by simp]
    by_cases h : InTrie added (p ++ [a])
    · rw [if_pos h, ih (p ++ [a]) h]
    · rw [if_neg h, runO_none, if_neg fun h2 => h (h2.prefix (List.prefix_append _ _))]

theorem accFrom_trie {p : List α} (hp : InTrie added p) (u : List α) :
    accFrom s (φ p) u = true ↔ p ++ u ∈ added := by
  classical
  unfold accFrom
  rw [runO_spec inv u p hp]
  by_cases h : InTrie added (p ++ u)
  · rw [if_pos h]; exact decide_eq_true_iff.trans (inv.fin _ h)
  · rw [if_neg h]; exact ⟨fun e => (nomatch e), fun hm => absurd ⟨_, hm, List.prefix_refl _⟩ h⟩

theorem key_live (q : List α) (hq : q ∈ akeys s.trans) : ∃ u, accFrom s q u = true := by
  obtain ⟨p, hp, rfl⟩ := inv.surj q hq
  obtain ⟨w, hw, u, rfl⟩ := hp
  exact ⟨u, (accFrom_trie inv ⟨_, hw, List.prefix_append _ _⟩ u).mpr hw⟩

end general

end AV.Ctor.FL
