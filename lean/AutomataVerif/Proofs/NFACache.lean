/-
Proofs/NFACache.lean — the cached NFA instance (Model/NFACache.lean) refines the stateless
reference: the memoised closure table, once present, is the table computed from the definition;
reading through it gives what Model/NFA.lean computes directly (`nstep_sim`, `nhistory_sim`).  Core only.
-/
import AutomataVerif.Model.NFACache
import AutomataVerif.Proofs.Basic

namespace AV
namespace NFA
namespace CacheProofs

variable {σ α : Type} [DecidableEq σ] [DecidableEq α]

def NMemoOK (n : NFA σ α) (s : NInst σ) : Prop := ∀ t, s.closures = some t → t = n.closureTable

theorem nmemoOK_fresh (n : NFA σ α) : NMemoOK n (NInst.fresh : NInst σ) := by
  intro t h; cases h

theorem cClosures_spec {n : NFA σ α} {s : NInst σ} (h : NMemoOK n s) :
    NMemoOK n (n.cClosures s).1 ∧ (n.cClosures s).2 = n.closureTable := by
  unfold cClosures
  cases hc : s.closures with
  | some t => exact ⟨h, h t hc⟩
  | none => exact ⟨fun t ht => by cases ht; rfl, rfl⟩

theorem tableGet_closureTable (n : NFA σ α) (q : σ) : tableGet n.closureTable q = n.closureE q := by
  unfold tableGet closureTable closureE
  rw [alookup_tabulate]
  by_cases h : q ∈ n.states <;> simp [h]

theorem nextStatesT_closureTable (n : NFA σ α) (cur : List σ) (a : α) :
    n.nextStatesT n.closureTable cur a = n.nextStatesE cur a := by
  unfold nextStatesT nextStatesE
  simp only [tableGet_closureTable]
  rfl

theorem cReadAux_spec {n : NFA σ α} (w : List α) :
    ∀ {s : NInst σ} (cur : List σ), NMemoOK n s →
      NMemoOK n (n.cReadAux s cur w).1 ∧ (n.cReadAux s cur w).2 = n.readAux cur w := by
  induction w with
  | nil => intro s cur h; exact ⟨h, rfl⟩
  | cons a w ih =>
    intro s cur h
    have h1 := cClosures_spec h
    simp only [cReadAux, readAux]
    rw [h1.2, nextStatesT_closureTable]
    cases n.nextStatesE cur a with
    | error e => exact ⟨h1.1, rfl⟩
    | ok nxt =>
      have h2 := ih nxt h1.1
      exact ⟨h2.1, by simp only; rw [h2.2]⟩

theorem cReadStepwise_spec {n : NFA σ α} {s : NInst σ} (h : NMemoOK n s) (w : List α) :
    NMemoOK n (n.cReadStepwise s w).1 ∧ (n.cReadStepwise s w).2 = n.readStepwise w := by
  have h1 := cClosures_spec h
  simp only [cReadStepwise, readStepwise]
  rw [h1.2, tableGet_closureTable]
  cases n.closureE n.init with
  | error e => exact ⟨h1.1, rfl⟩
  | ok c0 =>
    have h2 := cReadAux_spec w c0 h1.1
    exact ⟨h2.1, by simp only; rw [h2.2]⟩

theorem acceptsOf_readStepwise (n : NFA σ α) (w : List α) :
    acceptsOf (n.readStepwise w) = n.acceptsInput w := rfl

theorem nstep_sim {n : NFA σ α} (ext : NExt σ) {s : NInst σ} (h : NMemoOK n s) (q : NQuery α) :
    NMemoOK n (n.nstep ext s q).1 ∧ (n.nstep ext s q).2 = n.nstepPure ext q := by
  cases q with
  | accepts w =>
    have h1 := cReadStepwise_spec h w
    exact ⟨h1.1, by simp only [nstep, nstepPure]; rw [h1.2, acceptsOf_readStepwise]⟩
  | readStepwise w =>
    have h1 := cReadStepwise_spec h w
    exact ⟨h1.1, by simp only [nstep, nstepPure]; rw [h1.2]⟩
  | viaClosures tag =>
    have h1 := cClosures_spec h
    exact ⟨h1.1, by simp only [nstep, nstepPure]; rw [h1.2]⟩
  | other tag => exact ⟨h, rfl⟩

theorem nhistory_sim (n : NFA σ α) (ext : NExt σ) (qs : List (NQuery α)) :
    ∀ (s : NInst σ), NMemoOK n s →
      NMemoOK n (n.nafterHistory ext s qs) ∧ n.nrunHistory ext s qs = qs.map (n.nstepPure ext) := by
  induction qs with
  | nil => intro s h; exact ⟨h, rfl⟩
  | cons q qs ih =>
    intro s h
    have h1 := nstep_sim ext h q
    have h2 := ih _ h1.1
    exact ⟨h2.1, by simp only [nrunHistory, List.map_cons, h1.2, h2.2]⟩

end CacheProofs
end NFA
end AV
