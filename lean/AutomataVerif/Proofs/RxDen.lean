/-
Proofs/RxDen.lean — the bounded repetition of the builder proofs in terms of Mathlib's `Language`
operations (Mathlib has no shuffle: `shuffleLang` is defined here from `Interleave`), and the
denotation of an expression tree as a `Language`.
-/
import AutomataVerif.Proofs.RxSyms
import AutomataVerif.Proofs.RxInter
import AutomataVerif.Proofs.EpsOpsA

namespace AV.Rx

variable {α : Type}

def shuffleLang (L M : Language α) : Language α :=
  {w | ∃ u ∈ L, ∃ v ∈ M, Interleave u v w}

theorem LShuffle_iff (L M : Language α) (w : List α) :
    LShuffle (· ∈ L) (· ∈ M) w ↔ w ∈ shuffleLang L M :=
  ⟨fun ⟨u, v, hu, hv, hi⟩ => ⟨u, hu, v, hv, hi⟩, fun ⟨u, hu, v, hv, hi⟩ => ⟨u, v, hu, hv, hi⟩⟩

open EpsOps (LPow_iff mem_kstar_iff_pow)

theorem RepDen_iff (L : Language α) (lo : Nat) (hi : Option Nat) (w : List α) :
    Builder.RepDen (fun x => x ∈ L) lo hi w ↔ ∃ k, lo ≤ k ∧ (∀ h, hi = some h → k ≤ h) ∧ w ∈ L ^ k :=
  exists_congr fun k => and_congr_right fun _ => and_congr_right fun _ => LPow_iff L k w

theorem RepDen_none_iff (L : Language α) (lo : Nat) (w : List α) :
    Builder.RepDen (fun x => x ∈ L) lo none w ↔ w ∈ L ^ lo * KStar.kstar L := by
  rw [RepDen_iff, Language.mem_mul]
  constructor
  · rintro ⟨k, h1, _, hk⟩
    obtain ⟨m, rfl⟩ := Nat.exists_eq_add_of_le h1
    rw [pow_add, Language.mem_mul] at hk
    obtain ⟨u, hu, v, hv, rfl⟩ := hk
    exact ⟨u, hu, v, (mem_kstar_iff_pow _ v).mpr ⟨m, hv⟩, rfl⟩
  · rintro ⟨u, hu, v, hv, rfl⟩
    obtain ⟨k, hk⟩ := (mem_kstar_iff_pow _ v).mp hv
    refine ⟨lo + k, Nat.le_add_right _ _, fun _ e => (nomatch e), ?_⟩
    rw [pow_add, Language.mem_mul]
    exact ⟨u, hu, v, hk, rfl⟩

theorem RepDen_some_iff (L : Language α) (lo h0 : Nat) (w : List α) :
    Builder.RepDen (fun x => x ∈ L) lo (some h0) w ↔ ∃ k, lo ≤ k ∧ k ≤ h0 ∧ w ∈ L ^ k := by
  rw [RepDen_iff]
  exact exists_congr fun k => and_congr_right fun _ => and_congr_left'
    ⟨fun h => h h0 rfl, fun h _ e => Option.some.inj e ▸ h⟩

theorem RepDen_star (L : Language α) (w : List α) :
    Builder.RepDen (fun x => x ∈ L) 0 none w ↔ w ∈ KStar.kstar L := by
  rw [RepDen_none_iff, pow_zero, one_mul]

theorem RepDen_plus (L : Language α) (w : List α) :
    Builder.RepDen (fun x => x ∈ L) 1 none w ↔ w ∈ L * KStar.kstar L := by
  rw [RepDen_none_iff, pow_one]

theorem RepDen_opt (L : Language α) (w : List α) :
    Builder.RepDen (fun x => x ∈ L) 0 (some 1) w ↔ w ∈ 1 + L := by
  rw [RepDen_some_iff, Language.mem_add, Language.mem_one]
  constructor
  · rintro ⟨k, _, h2, hk⟩
    rcases Nat.le_one_iff_eq_zero_or_eq_one.mp h2 with rfl | rfl
    · left; simpa using hk
    · right; simpa using hk
  · rintro (rfl | h)
    · exact ⟨0, Nat.le_refl _, Nat.zero_le _, by simp⟩
    · exact ⟨1, Nat.zero_le _, Nat.le_refl _, by simpa using h⟩

/-- The language an expression denotes over the alphabet `syms` (only the wildcard looks at the
alphabet).  Mathlib's `Language` operations: `*` concatenation, `+` union, `⊓` intersection,
`KStar.kstar` Kleene star, `^` power; `shuffleLang` is the interleaving product. -/
def den (syms : List α) : Rx α → Language α
  | .lit a => {[a]}
  | .wildcard => {w | ∃ a, a ∈ syms ∧ w = [a]}
  | .eps => 1
  | .cat e f => den syms e * den syms f
  | .union e f => den syms e + den syms f
  | .inter e f => den syms e ⊓ den syms f
  | .shuffle e f => shuffleLang (den syms e) (den syms f)
  | .star e => KStar.kstar (den syms e)
  | .plus e => den syms e * KStar.kstar (den syms e)
  | .opt e => 1 + den syms e
  | .rep e lo none => den syms e ^ lo * KStar.kstar (den syms e)
  | .rep e lo (some hi) => {w | ∃ k, lo ≤ k ∧ k ≤ hi ∧ w ∈ den syms e ^ k}

end AV.Rx
