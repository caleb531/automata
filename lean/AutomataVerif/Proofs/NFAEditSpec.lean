/-
Proofs/NFAEditSpec.lean — table-level specification of `NFA.edit_distance`
(Model/NFAEdit.lean): totality and validity on admissible arguments, and
the reading of the constructed grid table.  Both loops only ever do "`setdefault` a state, then
add edges out of it", so the table is a fold of `Tbl.addRow` over a list of rows
`(state, outgoing edges)`, and everything is read off that list.  Core only.
-/
import AutomataVerif.Model.NFAEdit
import AutomataVerif.Proofs.NFATable
import AutomataVerif.Proofs.NFAOpsUnary

open AV.AL

namespace AV
namespace NFA
namespace EditT

variable {σ α : Type} [DecidableEq σ] [DecidableEq α]

theorem addTargets_single (t : Tbl σ α) (q : σ) (a : Option α) (p : σ) :
    Tbl.addTargets t q a [p] = Tbl.addEdges t q (Tbl.single [(a, p)]) := rfl

theorem addAny_eq (syms : List α) (t : Tbl (Nat × Nat) α) (q tg : Nat × Nat) :
    addAny syms t q tg = Tbl.addEdges t q (Tbl.single (syms.map fun s => (some s, tg))) := by
  rw [addAny, Tbl.addEdges, Tbl.single, List.foldl_map, List.foldl_map]

/-- The edges the first loop adds for the cell `c = ((symbol, i), e)`. -/
def cellEdges (syms : List α) (K : Nat) (ins del sub : Bool) (c : (α × Nat) × Nat) :
    List (Option α × (Nat × Nat)) :=
  (some c.1.1, (c.1.2 + 1, c.2)) ::
    if c.2 < K then
      (if ins = true then syms.map fun s => (some s, (c.1.2, c.2 + 1)) else []) ++
      (if del = true then [(none, (c.1.2 + 1, c.2 + 1))] else []) ++
      (if sub = true then syms.map fun s => (some s, (c.1.2 + 1, c.2 + 1)) else [])
    else []

/-- The edges the second loop adds for the last-column state `(n, e)`. -/
def lastEdges (syms : List α) (n K : Nat) (ins : Bool) (e : Nat) : List (Option α × (Nat × Nat)) :=
  if (ins && decide (e < K)) = true then syms.map fun s => (some s, (n, e + 1)) else []

theorem editCell_eq (syms : List α) (K : Nat) (ins del sub : Bool) (t : Tbl (Nat × Nat) α)
    (c : (α × Nat) × Nat) :
    editCell syms K ins del sub t c =
      Tbl.addRow t ((c.1.2, c.2), Tbl.single (cellEdges syms K ins del sub c)) := by
  simp only [editCell, addAny_eq, addTargets_single, Tbl.addEdges_ite]
  simp only [Tbl.addEdges_append]
  simp only [Tbl.addRow, cellEdges, Tbl.single, List.map_cons, List.map_append, List.map_nil,
    apply_ite (List.map _), List.cons_append, List.nil_append]
  split <;> rfl

theorem editLast_eq (syms : List α) (n K : Nat) (ins : Bool)
    (acc : Tbl (Nat × Nat) α × List (Nat × Nat)) (e : Nat) :
    editLast syms n K ins acc e =
      (Tbl.addRow acc.1 ((n, e), Tbl.single (lastEdges syms n K ins e)), sinsert (n, e) acc.2) := by
  simp only [editLast, addAny_eq, Tbl.addEdges_ite]
  simp only [Tbl.addRow, lastEdges, Tbl.single, apply_ite (List.map _), List.map_nil]

end EditT

open EditT

/-- The record `edit_distance` passes to the constructor. -/
def editRaw {α : Type} [DecidableEq α] (syms ref : List α) (K : Nat) (ins del sub : Bool) :
    NFA (Nat × Nat) α :=
  { states := lprod (List.range (ref.length + 1)) (List.range (K + 1)), syms := syms, init := (0, 0),
    finals := ((List.range (K + 1)).foldl (editLast syms ref.length K ins)
      ((lprod ref.zipIdx (List.range (K + 1))).foldl (editCell syms K ins del sub) [], [])).2,
    trans := ((List.range (K + 1)).foldl (editLast syms ref.length K ins)
      ((lprod ref.zipIdx (List.range (K + 1))).foldl (editCell syms K ins del sub) [], [])).1 }

variable {α : Type} [DecidableEq α]

theorem editDistance_eq (syms ref : List α) (k : Int) (ins del sub : Bool) (hk : 0 ≤ k)
    (hflag : (ins || del || sub) = true) :
    editDistance syms ref k ins del sub = create (editRaw syms ref k.toNat ins del sub) := by
  unfold editDistance
  simp only [Int.not_lt.mpr hk, if_false, hflag, Bool.not_true, Bool.false_eq_true]
  rfl

omit [DecidableEq α] in
theorem exists_getElem?_eq_some {l : List α} {i : Nat} : (∃ x, l[i]? = some x) ↔ i < l.length :=
  ⟨fun ⟨_, h⟩ => (List.getElem?_eq_some_iff.mp h).1, fun h => ⟨_, List.getElem?_eq_getElem h⟩⟩

omit [DecidableEq α] in
theorem mem_cells (ref : List α) (K : Nat) (c : (α × Nat) × Nat) :
    c ∈ lprod ref.zipIdx (List.range (K + 1)) ↔ ref[c.1.2]? = some c.1.1 ∧ c.2 ≤ K := by
  obtain ⟨⟨x, i⟩, e⟩ := c
  rw [AL.mem_lprod, List.mem_zipIdx_iff_getElem?, List.mem_range, Nat.lt_succ_iff]

theorem mem_editRaw_states (syms ref : List α) (K : Nat) (ins del sub : Bool) (i e : Nat) :
    (i, e) ∈ (editRaw syms ref K ins del sub).states ↔ i ≤ ref.length ∧ e ≤ K := by
  simp only [editRaw, AL.mem_lprod, List.mem_range, Nat.lt_succ_iff]

def gridRows (syms ref : List α) (K : Nat) (ins del sub : Bool) :
    List ((Nat × Nat) × Row (Nat × Nat) α) :=
  ((lprod ref.zipIdx (List.range (K + 1))).map fun c =>
    ((c.1.2, c.2), Tbl.single (cellEdges syms K ins del sub c))) ++
  (List.range (K + 1)).map fun e => ((ref.length, e), Tbl.single (lastEdges syms ref.length K ins e))

theorem foldl_editLast (syms : List α) (n K : Nat) (ins : Bool) (l : List Nat)
    (acc : Tbl (Nat × Nat) α × List (Nat × Nat)) :
    l.foldl (editLast syms n K ins) acc =
      ((l.map fun e => ((n, e), Tbl.single (lastEdges syms n K ins e))).foldl Tbl.addRow acc.1,
        l.foldl (fun f e => sinsert (n, e) f) acc.2) := by
  induction l generalizing acc with
  | nil => rfl
  | cons e l ih => rw [List.foldl_cons, ih, editLast_eq]; rfl

theorem editRaw_trans (syms ref : List α) (K : Nat) (ins del sub : Bool) :
    (editRaw syms ref K ins del sub).trans =
      (gridRows syms ref K ins del sub).foldl Tbl.addRow [] := by
  simp only [editRaw, gridRows, foldl_editLast, List.foldl_append, List.foldl_map]
  congr 2
  funext t c
  exact editCell_eq ..

theorem mem_editRaw_finals (syms ref : List α) (K : Nat) (ins del sub : Bool) (q : Nat × Nat) :
    q ∈ (editRaw syms ref K ins del sub).finals ↔ ∃ e ≤ K, q = (ref.length, e) := by
  simp only [editRaw, foldl_editLast]
  rw [foldl_or (X := fun f => q ∈ f) (P := fun e => q = (ref.length, e))
    (fun _ _ => by rw [mem_sinsert, or_comm])]
  simp only [List.not_mem_nil, false_or, List.mem_range, Nat.lt_succ_iff]

omit [DecidableEq α] in
theorem mem_cellEdges_some (syms : List α) (K : Nat) (ins del sub : Bool) (c : (α × Nat) × Nat)
    (x : α) (p : Nat × Nat) :
    (some x, p) ∈ cellEdges syms K ins del sub c ↔
      (x = c.1.1 ∧ p = (c.1.2 + 1, c.2)) ∨ (c.2 < K ∧ ins = true ∧ x ∈ syms ∧ p = (c.1.2, c.2 + 1)) ∨
      (c.2 < K ∧ sub = true ∧ x ∈ syms ∧ p = (c.1.2 + 1, c.2 + 1)) := by
  simp only [cellEdges, List.mem_cons, List.mem_ite_nil_right, List.mem_append, List.mem_map,
    Prod.mk.injEq, Option.some.injEq, List.not_mem_nil, or_false, reduceCtorEq, false_and,
    and_false, eq_comm (b := p), and_or_left]
  simp only [← and_assoc, exists_and_right, exists_eq_right]

omit [DecidableEq α] in
theorem mem_cellEdges_none (syms : List α) (K : Nat) (ins del sub : Bool) (c : (α × Nat) × Nat)
    (p : Nat × Nat) :
    (none, p) ∈ cellEdges syms K ins del sub c ↔
      c.2 < K ∧ del = true ∧ p = (c.1.2 + 1, c.2 + 1) := by
  simp only [cellEdges, List.mem_cons, List.mem_ite_nil_right, List.mem_append, List.mem_map,
    Prod.mk.injEq, reduceCtorEq, false_and, exists_false, and_false, false_or, or_false,
    List.not_mem_nil, true_and]

omit [DecidableEq α] in
theorem mem_lastEdges (syms : List α) (n K : Nat) (ins : Bool) (e : Nat) (a : Option α)
    (p : Nat × Nat) :
    (a, p) ∈ lastEdges syms n K ins e ↔
      ins = true ∧ e < K ∧ ∃ x ∈ syms, a = some x ∧ p = (n, e + 1) := by
  simp only [lastEdges, List.mem_ite_nil_right, Bool.and_eq_true, decide_eq_true_eq, List.mem_map,
    Prod.mk.injEq, and_assoc, eq_comm (b := p), eq_comm (b := a)]

omit [DecidableEq α] in
theorem mem_gridRows (syms ref : List α) (K : Nat) (ins del sub : Bool)
    (r : (Nat × Nat) × Row (Nat × Nat) α) :
    r ∈ gridRows syms ref K ins del sub ↔
      (∃ c, (ref[c.1.2]? = some c.1.1 ∧ c.2 ≤ K) ∧
        ((c.1.2, c.2), Tbl.single (cellEdges syms K ins del sub c)) = r) ∨
      ∃ e, e ≤ K ∧ ((ref.length, e), Tbl.single (lastEdges syms ref.length K ins e)) = r := by
  simp only [gridRows, List.mem_append, List.mem_map, mem_cells, List.mem_range, Nat.lt_succ_iff]

theorem editRaw_tgt (syms ref : List α) (K : Nat) (ins del sub : Bool) (i e : Nat) (a : Option α)
    (t : Nat × Nat) :
    t ∈ (editRaw syms ref K ins del sub).targets (i, e) a ↔
      e ≤ K ∧ ((∃ x, ref[i]? = some x ∧ (a, t) ∈ cellEdges syms K ins del sub ((x, i), e)) ∨
        (i = ref.length ∧ (a, t) ∈ lastEdges syms ref.length K ins e)) := by
  rw [targets_eq_tgt, editRaw_trans, Tbl.mem_tgt_addRows]
  constructor
  · rintro (h | ⟨r, hr, hq, he⟩)
    · cases h
    · rcases (mem_gridRows ..).mp hr with ⟨⟨⟨x, i'⟩, e'⟩, ⟨h1, h2⟩, rfl⟩ | ⟨e', h2, rfl⟩ <;> cases hq
      · exact ⟨h2, Or.inl ⟨x, h1, Tbl.exists_mem_single.mp he⟩⟩
      · exact ⟨h2, Or.inr ⟨rfl, Tbl.exists_mem_single.mp he⟩⟩
  · rintro ⟨hK, ⟨x, hx, he⟩ | ⟨rfl, he⟩⟩
    · exact Or.inr ⟨_, (mem_gridRows ..).mpr (Or.inl ⟨((x, i), e), ⟨hx, hK⟩, rfl⟩), rfl,
        Tbl.exists_mem_single.mpr he⟩
    · exact Or.inr ⟨_, (mem_gridRows ..).mpr (Or.inr ⟨e, hK, rfl⟩), rfl, Tbl.exists_mem_single.mpr he⟩

/-- `S` is arbitrary because the refusal of a reference string outside the alphabet
(Proofs/NFAEditRefuse.lean) needs the target half alone. -/
theorem editRaw_ext (syms ref : List α) (K : Nat) (ins del sub : Bool) {S : Option α → Prop}
    (hn : S none) (hS : ∀ x ∈ syms, S (some x)) (hr : ∀ x ∈ ref, S (some x)) :
    Tbl.Ext S (· ∈ (editRaw syms ref K ins del sub).states) []
      (editRaw syms ref K ins del sub).trans := by
  rw [editRaw_trans]
  refine Tbl.Ext.addRows (fun r hrow => ?_) []
  have grid : ∀ {i e}, i ≤ ref.length → e ≤ K → (i, e) ∈ (editRaw syms ref K ins del sub).states :=
    fun hi he => (mem_editRaw_states ..).mpr ⟨hi, he⟩
  rcases (mem_gridRows ..).mp hrow with ⟨⟨⟨x, i⟩, e⟩, ⟨h1, h2⟩, rfl⟩ | ⟨e, h2, rfl⟩ <;>
    refine Tbl.rowOk_single ?_ <;> rintro ⟨a, p⟩ he
  · have hi : i < ref.length := (List.getElem?_eq_some_iff.mp h1).1
    cases a with
    | none =>
      obtain ⟨hK, _, rfl⟩ := (mem_cellEdges_none ..).mp he
      exact ⟨hn, grid hi hK⟩
    | some y =>
      rcases (mem_cellEdges_some ..).mp he with ⟨rfl, rfl⟩ | ⟨hK, _, hy, rfl⟩ | ⟨hK, _, hy, rfl⟩
      · exact ⟨hr _ (List.mem_of_getElem? h1), grid hi h2⟩
      · exact ⟨hS y hy, grid (Nat.le_of_lt hi) hK⟩
      · exact ⟨hS y hy, grid hi hK⟩
  · obtain ⟨_, hK, x, hx, rfl, rfl⟩ := (mem_lastEdges ..).mp he
    exact ⟨hS x hx, grid (Nat.le_refl _) hK⟩

theorem editRaw_valid (syms ref : List α) (K : Nat) (ins del sub : Bool)
    (href : ∀ c ∈ ref, c ∈ syms) : (editRaw syms ref K ins del sub).Valid := by
  refine Valid.of_ext (editRaw_ext syms ref K ins del sub (fun _ h => nomatch h)
      (fun x hx _ h => Option.some.inj h ▸ hx) (fun x hx _ h => Option.some.inj h ▸ href x hx))
    Tbl.dict_nil Tbl.ok_nil ((mem_editRaw_states ..).mpr ⟨Nat.zero_le _, Nat.zero_le _⟩) ?_ ?_
  · show (0, 0) ∈ _
    rw [editRaw_trans, Tbl.mem_akeys_addRows]
    refine Or.inr ?_
    cases ref with
    | nil => exact ⟨_, (mem_gridRows ..).mpr (Or.inr ⟨0, Nat.zero_le _, rfl⟩), rfl⟩
    | cons x ref =>
      exact ⟨_, (mem_gridRows ..).mpr (Or.inl ⟨((x, 0), 0), ⟨rfl, Nat.zero_le _⟩, rfl⟩), rfl⟩
  · intro q hq
    obtain ⟨e, he, rfl⟩ := (mem_editRaw_finals ..).mp hq
    exact (mem_editRaw_states ..).mpr ⟨Nat.le_refl _, he⟩

theorem editDistance_spec (syms ref : List α) (k : Int) (ins del sub : Bool) (hk : 0 ≤ k)
    (hflag : (ins || del || sub) = true) (href : ∀ c ∈ ref, c ∈ syms) :
    ∃ R : NFA (Nat × Nat) α, editDistance syms ref k ins del sub = .ok R ∧ R.validate = .ok () ∧
      R.init = (0, 0) ∧ R.syms = syms ∧
      (∀ i e c t, i ≤ ref.length → e ≤ k.toNat → (t ∈ R.targets (i, e) (some c) ↔
        (ref[i]? = some c ∧ t = (i + 1, e)) ∨
        (e < k.toNat ∧ ins = true ∧ c ∈ syms ∧ t = (i, e + 1)) ∨
        (i < ref.length ∧ e < k.toNat ∧ sub = true ∧ c ∈ syms ∧ t = (i + 1, e + 1)))) ∧
      (∀ i e t, i ≤ ref.length → e ≤ k.toNat → (t ∈ R.targets (i, e) none ↔
        i < ref.length ∧ e < k.toNat ∧ del = true ∧ t = (i + 1, e + 1))) ∧
      (∀ i e, i ≤ ref.length → e ≤ k.toNat → ((i, e) ∈ R.finals ↔ i = ref.length)) := by
  have hv := editRaw_valid syms ref k.toNat ins del sub href
  refine ⟨_, by rw [editDistance_eq syms ref k ins del sub hk hflag, create_eq_ok _ hv.wf],
    hv.validate, rfl, rfl, ?_, ?_, ?_⟩
  · intro i e c t hi he
    simp only [editRaw_tgt, he, true_and, mem_cellEdges_some, mem_lastEdges]
    constructor
    · rintro (⟨x, hx, ⟨rfl, ht⟩ | h | ⟨hK, h⟩⟩ | ⟨rfl, hins, hK, x, hx, hcx, ht⟩)
      · exact Or.inl ⟨hx, ht⟩
      · exact Or.inr (Or.inl h)
      · exact Or.inr (Or.inr ⟨(List.getElem?_eq_some_iff.mp hx).1, hK, h⟩)
      · cases hcx
        exact Or.inr (Or.inl ⟨hK, hins, hx, ht⟩)
    · rintro (⟨hx, ht⟩ | ⟨hK, hins, hc, ht⟩ | ⟨hl, h⟩)
      · exact Or.inl ⟨c, hx, Or.inl ⟨rfl, ht⟩⟩
      · rcases Nat.lt_or_eq_of_le hi with hl | rfl
        · exact Or.inl ⟨_, List.getElem?_eq_getElem hl, Or.inr (Or.inl ⟨hK, hins, hc, ht⟩)⟩
        · exact Or.inr ⟨rfl, hins, hK, c, hc, rfl, ht⟩
      · exact Or.inl ⟨_, List.getElem?_eq_getElem hl, Or.inr (Or.inr h)⟩
  · intro i e t hi he
    simp only [editRaw_tgt, he, true_and, mem_cellEdges_none, mem_lastEdges, exists_and_right,
      exists_getElem?_eq_some, reduceCtorEq, false_and, and_false, exists_false, or_false]
  · intro i e hi he
    rw [mem_editRaw_finals]
    exact ⟨fun ⟨_, _, h⟩ => (Prod.mk.inj h).1, fun h => ⟨e, he, h ▸ rfl⟩⟩

end NFA
end AV
