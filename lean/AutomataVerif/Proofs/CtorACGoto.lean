/-
Proofs/CtorACGoto.lean — from_substrings (C15), phase 3: the goto function and the second BFS
(`acTransBfs`) that tabulates it.  Core only.
-/
import AutomataVerif.Proofs.CtorACBfs

namespace AV.Ctor.AC

variable {α : Type} [DecidableEq α]

set_option linter.unusedSectionVars false in
theorem IsLongest.unique {paths : List (List α)} {w y y' : List α} (h : IsLongest paths w y)
    (h' : IsLongest paths w y') : y = y' := by
  have h1 := h.2.2 y' h'.1 h'.2.1
  have h2 := h'.2.2 y h.1 h.2.1
  have hs : y <:+ y' := List.suffix_of_suffix_length_le h.1 h'.1 h2
  exact hs.eq_of_length (by omega)

section goto
variable {pats : List (List α)} {nodes : List (ACNode α)} {paths : List (List α)}

theorem acGoto_spec (hL : Linked pats nodes paths) (cur : Nat) (x : List α)
    (hcur : paths[cur]? = some x) (a : α) :
    ∃ g y, acGoto nodes cur a = .ok (nat g) ∧ paths[g]? = some y ∧ IsLongest paths (x ++ [a]) y := by
  have h := hL.trie
  have hdepth := h.depth_lt hcur
  obtain ⟨r, hr, ht⟩ := acFollow_spec h a hL.rootfail (nodes.length + 1) x (some cur) (by omega) hcur
    fun v z hv hz _ => (hL.ok v z hv hz).1
  unfold acGoto
  rw [hr]
  simp only
  cases hfl : alookup a (acGet nodes (r.getD 0)).succ with
  | none => rw [hfl] at ht; exact ⟨0, [], rfl, h.root, ht⟩
  | some c => rw [hfl] at ht; obtain ⟨y, _, hc, hl⟩ := ht; exact ⟨c, y, rfl, hc, hl⟩

/-- The goto function as a total function on node indices (`acGoto` never fails on a linked trie,
`gotoN_spec`). -/
def gotoN (nodes : List (ACNode α)) (v : Nat) (a : α) : Nat := (KMP.getOk (acGoto nodes v a)).toNat

theorem gotoN_spec (hL : Linked pats nodes paths) (v : Nat) (x : List α) (hv : paths[v]? = some x) (a : α) :
    acGoto nodes v a = .ok (nat (gotoN nodes v a)) ∧
    ∃ y, paths[gotoN nodes v a]? = some y ∧ IsLongest paths (x ++ [a]) y := by
  obtain ⟨g, y, h1, h2, h3⟩ := acGoto_spec hL v x hv a
  have : gotoN nodes v a = g := by
    unfold gotoN; rw [h1]; simp only [KMP.getOk]; rw [nat_cast]; omega
  rw [this]
  exact ⟨h1, y, h2, h3⟩

end goto

section trans
variable {pats : List (List α)} {nodes : List (ACNode α)} {paths : List (List α)}
variable (syms : List α)

/-- The row the second BFS writes for node `v`. -/
def acRow (nodes : List (ACNode α)) (v : Nat) : List (α × Int) :=
  rowOf syms fun a => nat (gotoN nodes v a)

theorem rowOfM_goto (hL : Linked pats nodes paths) (v : Nat) (x : List α) (hv : paths[v]? = some x) :
    rowOfM (acGoto nodes v) syms = .ok (acRow syms nodes v) := by
  rw [rowOfM_ok (acGoto nodes v) syms (fun a _ => ⟨_, (gotoN_spec hL v x hv a).1⟩)]
  unfold acRow
  congr 2
  funext a
  rw [(gotoN_spec hL v x hv a).1]; rfl

/-- The nodes the second BFS reaches (it only follows symbols of the alphabet): those whose
string is over the alphabet.  A pattern with a symbol outside the alphabet leaves trie nodes
that have a label but are never visited (no row). -/
def Vis (paths : List (List α)) (v : Nat) : Prop := ∃ x, paths[v]? = some x ∧ Over syms x

structure TInv (pats : List (List α)) (nodes : List (ACNode α)) (paths : List (List α))
    (queue visited : List Nat) (acc : List (Int × List (α × Int)) × List Int) : Prop where
  nodup : (queue ++ visited).Nodup
  inrange : ∀ v ∈ queue ++ visited, v < nodes.length
  vis : ∀ v ∈ queue ++ visited, Vis syms paths v
  keys : ∀ q : Int, q ∈ akeys acc.1 ↔ ∃ v ∈ visited, q = nat v
  keysNodup : (akeys acc.1).Nodup
  rows : ∀ v ∈ visited, alookup (nat v) acc.1 = some (acRow syms nodes v)
  finals : ∀ q : Int, q ∈ acc.2 ↔ ∃ v ∈ visited, q = nat v ∧ (acGet nodes v).out ≠ []
  root : 0 ∈ queue ++ visited
  closed : ∀ u ∈ visited, ∀ a ∈ syms, ∀ (c : Nat), alookup a (acGet nodes u).succ = some c → c ∈ queue ++ visited
  origin : ∀ v ∈ queue ++ visited, v = 0 ∨ ∃ u ∈ visited, ∃ a : α, alookup a (acGet nodes u).succ = some v

theorem filterMap_children (hL : Linked pats nodes paths) (hsyms : syms.Nodup)
    (cur : Nat) (x : List α) (hcur : paths[cur]? = some x) :
    (syms.filterMap fun a => alookup a (acGet nodes cur).succ).Nodup := by
  refine List.Pairwise.filterMap _ (fun a b hab c ha c' hb e => hab ?_) hsyms
  have p := ((hL.trie.child cur x a c hcur).mp ha).symm.trans (e ▸ (hL.trie.child cur x b c' hcur).mp hb)
  exact (List.append_singleton_inj.mp (Option.some.inj p)).2

theorem tbfs_step (hL : Linked pats nodes paths) (hsyms : syms.Nodup)
    {cur : Nat} {rest visited : List Nat}
    {acc : List (Int × List (α × Int)) × List Int}
    (inv : TInv syms pats nodes paths (cur :: rest) visited acc) :
    rowOfM (acGoto nodes cur) syms = .ok (acRow syms nodes cur) ∧
    TInv syms pats nodes paths (rest ++ syms.filterMap fun a => alookup a (acGet nodes cur).succ)
      (cur :: visited)
      (ainsert (nat cur) (acRow syms nodes cur) acc.1,
        if (acGet nodes cur).out.isEmpty then acc.2 else sinsert (nat cur) acc.2) := by
  have h := hL.trie
  have hcurmem : cur ∈ (cur :: rest) ++ visited := List.mem_append_left _ (List.mem_cons_self ..)
  obtain ⟨x, hcur, hxover⟩ := inv.vis cur hcurmem
  refine ⟨rowOfM_goto syms hL cur x hcur, ?_⟩
  have hcur_nv : cur ∉ visited := not_mem_done inv.nodup
  have hkmem : ∀ c, c ∈ (syms.filterMap fun a => alookup a (acGet nodes cur).succ) ↔
      ∃ a ∈ syms, alookup a (acGet nodes cur).succ = some c := fun c => List.mem_filterMap
  have hfresh : ∀ c ∈ (syms.filterMap fun a => alookup a (acGet nodes cur).succ),
      c ∉ (cur :: rest) ++ visited := by
    intro c hc hmem
    obtain ⟨a, _, ha⟩ := (hkmem c).mp hc
    rcases inv.origin c hmem with rfl | ⟨u, hu, b, hub⟩
    · exact ne_nil_of_snoc_path ((h.child cur x a 0 hcur).mp ha) h.root rfl
    · obtain ⟨xu, hxu, _⟩ := inv.vis u (List.mem_append_right _ hu)
      exact hcur_nv (h.parent_unique hxu hcur hub ha ▸ hu)
  have hnat : ∀ v ∈ visited, ¬ nat cur = nat v := fun v hv e => hcur_nv (nat_inj.mp e ▸ hv)
  refine
    { nodup := nodup_rotate inv.nodup (filterMap_children syms hL hsyms cur x hcur) hfresh
      inrange := ?inrange
      vis := ?vis
      keys := ?keys
      keysNodup := nodup_akeys_ainsert inv.keysNodup
      rows := ?rows
      finals := ?finals
      root := mem_rotate.mpr (Or.inl inv.root)
      closed := ?closed
      origin := ?origin }
  case inrange =>
    intro v hv
    rcases mem_rotate.mp hv with h1 | h1
    · exact inv.inrange v h1
    · obtain ⟨a, _, ha⟩ := (hkmem v).mp h1
      exact h.lt ((h.child cur x a v hcur).mp ha)
  case vis =>
    intro v hv
    rcases mem_rotate.mp hv with h1 | h1
    · exact inv.vis v h1
    · obtain ⟨a, has, ha⟩ := (hkmem v).mp h1
      exact ⟨x ++ [a], (h.child cur x a v hcur).mp ha, over_append.mpr ⟨hxover, by simpa using has⟩⟩
  case keys =>
    intro q
    show q ∈ akeys (ainsert _ _ _) ↔ _
    rw [mem_akeys_ainsert, inv.keys]
    constructor
    · rintro (h1 | ⟨v, hv, e⟩)
      · exact ⟨cur, List.mem_cons_self .., h1⟩
      · exact ⟨v, List.mem_cons_of_mem _ hv, e⟩
    · rintro ⟨v, hv, e⟩
      rcases List.mem_cons.mp hv with rfl | h1
      · exact Or.inl e
      · exact Or.inr ⟨v, h1, e⟩
  case rows =>
    intro v hv
    show alookup _ (ainsert _ _ _) = _
    rw [alookup_ainsert]
    rcases List.mem_cons.mp hv with rfl | h1
    · rw [if_pos rfl]
    · rw [if_neg (hnat v h1)]; exact inv.rows v h1
  case finals =>
    intro q
    have hold : (∃ v ∈ visited, q = nat v ∧ (acGet nodes v).out ≠ []) ∨
          (q = nat cur ∧ (acGet nodes cur).out ≠ []) ↔
        ∃ v ∈ cur :: visited, q = nat v ∧ (acGet nodes v).out ≠ [] := by
      constructor
      · rintro (⟨v, hv, e⟩ | e)
        · exact ⟨v, List.mem_cons_of_mem _ hv, e⟩
        · exact ⟨cur, List.mem_cons_self .., e⟩
      · rintro ⟨v, hv, e⟩
        rcases List.mem_cons.mp hv with rfl | h1
        · exact Or.inr e
        · exact Or.inl ⟨v, h1, e⟩
    rw [← hold]
    by_cases he : (acGet nodes cur).out.isEmpty = true
    · have hout : (acGet nodes cur).out = [] := List.isEmpty_iff.mp he
      show q ∈ (if _ then acc.2 else _) ↔ _
      rw [if_pos he, inv.finals]
      exact ⟨Or.inl, fun | .inl p => p | .inr ⟨_, e⟩ => absurd hout e⟩
    · have hout : (acGet nodes cur).out ≠ [] := fun e => he (List.isEmpty_iff.mpr e)
      show q ∈ (if _ then _ else sinsert _ acc.2) ↔ _
      rw [if_neg he, mem_sinsert, inv.finals, or_comm]
      exact or_congr Iff.rfl ⟨fun e => ⟨e, hout⟩, fun e => e.1⟩
  case closed =>
    intro u hu a has c hc
    rcases List.mem_cons.mp hu with rfl | h1
    · exact mem_rotate.mpr (Or.inr ((hkmem c).mpr ⟨a, has, hc⟩))
    · exact mem_rotate.mpr (Or.inl (inv.closed u h1 a has c hc))
  case origin =>
    intro v hv
    rcases mem_rotate.mp hv with h1 | h1
    · rcases inv.origin v h1 with h0 | ⟨u, hu, b, hub⟩
      · exact Or.inl h0
      · exact Or.inr ⟨u, List.mem_cons_of_mem _ hu, b, hub⟩
    · obtain ⟨a, _, ha⟩ := (hkmem v).mp h1
      exact Or.inr ⟨cur, List.mem_cons_self .., a, ha⟩

theorem tbfs_loop (hL : Linked pats nodes paths) (hsyms : syms.Nodup) :
    ∀ (fuel : Nat) (queue visited : List Nat)
    (acc : List (Int × List (α × Int)) × List Int), TInv syms pats nodes paths queue visited acc →
    nodes.length + 1 ≤ fuel + visited.length →
    ∃ acc' visited', acTransBfs syms nodes fuel queue acc = .ok acc' ∧
      TInv syms pats nodes paths [] visited' acc' := by
  intro fuel
  induction fuel with
  | zero =>
    intro queue visited acc inv hf
    cases queue with
    | nil => exact ⟨acc, visited, rfl, inv⟩
    | cons cur rest =>
      exfalso
      have := count_range inv.nodup inv.inrange
      simp only [List.length_append, List.length_cons] at this
      omega
  | succ f ih =>
    intro queue visited acc inv hf
    cases queue with
    | nil => exact ⟨acc, visited, rfl, inv⟩
    | cons cur rest =>
      obtain ⟨h1, inv1⟩ := tbfs_step syms hL hsyms inv
      simp only [acTransBfs, h1]
      exact ih _ _ _ inv1 (by rw [List.length_cons]; omega)

structure Tabulated (pats : List (List α)) (nodes : List (ACNode α)) (paths : List (List α))
    (acc : List (Int × List (α × Int)) × List Int) : Prop where
  keys : ∀ q : Int, q ∈ akeys acc.1 ↔ ∃ v, Vis syms paths v ∧ q = nat v
  keysNodup : (akeys acc.1).Nodup
  rows : ∀ v, Vis syms paths v → alookup (nat v) acc.1 = some (acRow syms nodes v)
  finals : ∀ q : Int, q ∈ acc.2 ↔ ∃ v, Vis syms paths v ∧ q = nat v ∧ (acGet nodes v).out ≠ []

theorem tabulated_of_final (hL : Linked pats nodes paths) {visited : List Nat}
    {acc : List (Int × List (α × Int)) × List Int}
    (inv : TInv syms pats nodes paths [] visited acc) : Tabulated syms pats nodes paths acc := by
  -- every node whose string is over the alphabet has been visited
  have hvis : ∀ v, Vis syms paths v → v ∈ visited := by
    rintro v ⟨x, hx, hov⟩
    exact hL.trie.closed_mem (· ∈ syms) (· ∈ visited) inv.root
      (fun u hu a ha c hc => inv.closed u hu a ha c hc) x v hx hov
  have hvis' : ∀ v ∈ visited, Vis syms paths v := fun v hv => inv.vis v (by simpa using hv)
  refine ⟨?_, inv.keysNodup, fun v hv => inv.rows v (hvis v hv), ?_⟩
  · intro q
    rw [inv.keys]
    constructor
    · rintro ⟨v, hv, e⟩; exact ⟨v, hvis' v hv, e⟩
    · rintro ⟨v, hv, e⟩; exact ⟨v, hvis v hv, e⟩
  · intro q
    rw [inv.finals]
    constructor
    · rintro ⟨v, hv, e1, e2⟩; exact ⟨v, hvis' v hv, e1, e2⟩
    · rintro ⟨v, hv, e1, e2⟩; exact ⟨v, hvis v hv, e1, e2⟩

theorem acTransBfs_spec (hL : Linked pats nodes paths) (hsyms : syms.Nodup) :
    ∃ acc, acTransBfs syms nodes (nodes.length + 1) [0] ([], []) = .ok acc ∧
      Tabulated syms pats nodes paths acc := by
  have inv0 : TInv syms pats nodes paths [0] [] (([] : List (Int × List (α × Int))), ([] : List Int)) := by
    refine ⟨by simp, ?_, ?_, ?_, by simp [akeys], (fun v hv => nomatch hv), ?_, by simp,
      (fun u hu => nomatch hu), ?_⟩
    · intro v hv
      simp only [List.append_nil, List.mem_singleton] at hv
      rw [hv]; exact hL.trie.pos
    · intro v hv
      simp only [List.append_nil, List.mem_singleton] at hv
      rw [hv]; exact ⟨[], hL.trie.root, over_nil syms⟩
    · intro q; simp [akeys]
    · intro q; simp
    · intro v hv
      simp only [List.append_nil, List.mem_singleton] at hv
      exact Or.inl hv
  obtain ⟨acc, visited, h1, inv⟩ := tbfs_loop syms hL hsyms (nodes.length + 1) [0] [] _ inv0 (by simp)
  exact ⟨acc, h1, tabulated_of_final syms hL inv⟩

end trans

end AV.Ctor.AC
