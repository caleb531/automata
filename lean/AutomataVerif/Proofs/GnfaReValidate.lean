/-
Proofs/GnfaReValidate.lean — the two models of `re._validate` agree: `simpleRxValid`
(Model/GNFAValidate.lean, character level) is `reValidate` (Model/GNFARe.lean, on C10's `lex` and
`validateTokens`) on every string without `{`; and for an alphabet without `{` the label check of
`GNFA.validate` never asks about such a string, so `from_dfa` / `from_nfa` built on either model are
the same function.
-/
import AutomataVerif.Model.GNFARe
import AutomataVerif.Proofs.RxLexTotal

namespace AV.GNFA.ReValidate
open AV AV.GNFA AV.Rx

/-- `pyIsSpace` of the stand-alone model is the C10 lexer's `isPySpace` (`str.isspace` on one
character). -/
theorem pyIsSpace_eq_isPySpace (c : Char) : pyIsSpace c = isPySpace c := rfl

/-- The token class `validate_tokens` sees (`isinstance` against the five base classes). -/
def clsB : Base → RxTok
  | .literal => .lit
  | .infixOp => .infix
  | .postfixOp => .postfix
  | .lparen => .lparen
  | .rparen => .rparen
  | .unknown => .lit

def cls (t : Tok Char) : RxTok := clsB t.base

/-- The token of a character that is neither white space nor `{`: its operator token, or itself
as a symbol. -/
def tokC (c : Char) : Tok Char := (opTok c).getD (.str [c])

/-- One iteration of the lexer loop on a character other than `{` (`Rx.lexAux_cons` without the
quantifier branch; no operator character is white space). -/
theorem lexAux_cons {c : Char} (hc : c ≠ '{') (rest : List Char) (fuel : Nat) :
    lexAux (fuel + 1) (c :: rest) =
      if isPySpace c = true then
        if isBlank c = true then lexAux fuel rest else .error (.lib .lexerError)
      else push (tokC c) (lexAux fuel rest) := by
  rw [Rx.lexAux_cons, tokC]
  cases hop : opTok c with
  | some t =>
    simp only [(opTok_some hop).2.2.2, Bool.false_eq_true, if_false, Option.getD_some]
  | none => simp only [if_neg hc, Option.getD_none]

theorem lexSimple_cons (c : Char) (s : Str) :
    lexSimple (c :: s) =
      match lexSimple s with
      | .error e => .error e
      | .ok ts =>
        if isPySpace c = true then
          if isBlank c = true then .ok ts else .error (.lib .lexerError)
        else .ok (cls (tokC c) :: ts) := by
  rw [lexSimple]
  cases lexSimple s with
  | error e => rfl
  | ok ts =>
    simp only
    by_cases hop : c ∈ ['(', ')', '|', '&', '^', '*', '+', '?', '.', ' ', '\t']
    · simp only [List.mem_cons, List.not_mem_nil, or_false] at hop
      rcases hop with rfl | rfl | rfl | rfl | rfl | rfl | rfl | rfl | rfl | rfl | rfl <;> rfl
    · simp only [List.mem_cons, List.not_mem_nil, or_false, not_or] at hop
      have hb : isBlank c = false := by simp [isBlank, hop]
      have hsp := pyIsSpace_eq_isPySpace c
      simp [hop, tokC, opTok, cls, clsB, hb, hsp]

theorem lexSimple_error (s : Str) (e : Exn) (h : lexSimple s = .error e) :
    e = .lib .lexerError := by
  induction s with
  | nil => cases h
  | cons c s ih =>
    rw [lexSimple_cons] at h
    cases hs : lexSimple s with
    | error e' => simp only [hs] at h; cases h; exact ih hs
    | ok ts =>
      simp only [hs] at h
      -- the one `.error` of the three branches
      split at h
      · split at h <;> cases h
        rfl
      · cases h

theorem simpleRxValid_error (s : Str) (e : Exn) (h : simpleRxValid s = .error e) :
    e = .lib .lexerError := by
  unfold simpleRxValid at h
  cases hl : lexSimple s with
  | error e' => rw [hl] at h; cases h; exact lexSimple_error s e hl
  | ok ts => rw [hl] at h; cases h

theorem lexSimple_eq (s : Str) (hs : '{' ∉ s) : ∀ fuel, s.length ≤ fuel →
    lexSimple s =
      match lexAux fuel s with
      | .ok ts => .ok (ts.map cls)
      | .error e => .error e := by
  induction s with
  | nil => intro fuel _; cases fuel <;> rfl
  | cons c rest ih =>
    intro fuel hf
    obtain ⟨f, rfl⟩ : ∃ f, fuel = f + 1 := ⟨fuel - 1, by simp at hf; omega⟩
    have ih := ih (fun h => hs (List.mem_cons_of_mem _ h)) f (by simp at hf; omega)
    rw [lexSimple_cons, lexAux_cons (fun h => hs (by simp [h])), ih]
    by_cases hsp : isPySpace c = true
    · by_cases hb : isBlank c = true
      · simp only [if_pos hsp, if_pos hb]; cases lexAux f rest <;> rfl
      · simp only [if_pos hsp, if_neg hb]
        -- `lexSimple` reads the rest first: its exception, if any, is a `LexerError` as well
        cases hr : lexAux f rest with
        | ok ts => rfl
        | error e => rw [hr] at ih; rw [lexSimple_error rest e ih]
    · simp only [if_neg hsp]; cases lexAux f rest <;> rfl

/- `clsB` keeps apart exactly the four classes `validate_tokens` asks about. -/
theorem clsB_infix {b : Base} : clsB b = .infix ↔ b = .infixOp := by cases b <;> decide
theorem clsB_postfix {b : Base} : clsB b = .postfix ↔ b = .postfixOp := by cases b <;> decide
theorem clsB_lparen {b : Base} : clsB b = .lparen ↔ b = .lparen := by cases b <;> decide
theorem clsB_rparen {b : Base} : clsB b = .rparen ↔ b = .rparen := by cases b <;> decide

theorem validateStep_cls (cnt : Int) (prev curr : Option (Tok Char)) :
    validateStep cnt (prev, curr) =
      match validatePair (prev.map cls) (curr.map cls) cnt with
      | none => .error (.lib .invalidRegexError)
      | some p => .ok p := by
  have push : ∀ (c : Prop) [Decidable c] (x : Int),
      (match (if c then none else some x : Option Int) with
        | none => (.error (.lib .invalidRegexError) : Res Int)
        | some p => .ok p) = if c then .error (.lib .invalidRegexError) else .ok x := by
    intro c _ x
    by_cases h : c <;> simp [h]
  have hcls : ∀ o : Option (Tok Char), o.map cls = (o.map Tok.base).map clsB := fun o => by
    cases o <;> rfl
  rw [validateStep_eq, hcls, hcls]
  generalize prev.map Tok.base = pb
  generalize curr.map Tok.base = cb
  rcases pb with _ | (_ | _ | _ | _ | _ | _) <;> rcases cb with _ | cb <;>
    simp [stepB, validatePair, clsB_infix, clsB_postfix, clsB_rparen, clsB_lparen, push, or_assoc]

theorem scan_eq (ts : List (Tok Char)) : ∀ (prev : Option (Tok Char)) (cnt : Int),
    (match scan prev cnt ts with
      | .error e => (.error e : Res Unit)
      | .ok c => if c != 0 then .error (.lib .invalidRegexError) else .ok ()) =
    if validateTokensAux (prev.map cls) (ts.map cls) cnt then .ok ()
    else .error (.lib .invalidRegexError) := by
  induction ts with
  | nil =>
    intro prev cnt
    simp only [scan, validateStep_cls, List.map_nil, validateTokensAux, Option.map_none]
    cases validatePair (prev.map cls) none cnt with
    | none => simp
    | some p => by_cases hp : p = 0 <;> simp [hp]
  | cons t ts ih =>
    intro prev cnt
    simp only [scan, validateStep_cls, List.map_cons, validateTokensAux, Option.map_some]
    cases validatePair (prev.map cls) (some (cls t)) cnt with
    | none => simp
    | some p => exact ih (some t) p

theorem validateTokens_agree (ts : List (Tok Char)) :
    AV.Rx.validateTokens ts =
      if AV.validateTokens (ts.map cls) then .ok () else .error (.lib .invalidRegexError) := by
  rw [validateTokens_eq_scan]
  exact scan_eq ts none 0

theorem simpleRxValid_eq_reValidate (s : Str) (hs : '{' ∉ s) :
    simpleRxValid s = reValidate s := by
  unfold simpleRxValid reValidate AV.Rx.validate lex
  have hlex := lexSimple_eq s hs s.length (Nat.le_refl _)
  rw [hlex]
  cases h : lexAux s.length s with
  | error e => rw [h] at hlex; cases lexSimple_error s e hlex; rfl
  | ok ts =>
    simp only [validateTokens_agree]
    cases AV.validateTokens (ts.map cls) <;> rfl

/-- When `{` is not an input symbol, `_validate_transition_invalid_symbols` rejects a label
containing `{` before it calls `re._validate`: the two instances of the label check are the same
function. -/
theorem strLabelCheck_congr {syms : List Char} (h : '{' ∉ syms) :
    strLabelCheck simpleRxValid syms = strLabelCheck reValidate syms := by
  funext regex
  unfold strLabelCheck
  split
  · rfl
  · rename_i hc
    have hno : '{' ∉ regex := by
      intro hmem
      apply hc
      simp only [Bool.and_eq_true, List.any_eq_true, decide_eq_true_eq, bne_iff_ne, ne_eq]
      refine ⟨⟨'{', hmem, ?_⟩, ?_⟩
      · intro hin
        rcases List.mem_append.mp hin with h' | h'
        · exact h h'
        · revert h'; decide
      · intro h0; subst h0; simp at hmem
    rw [simpleRxValid_eq_reValidate regex hno]

variable {σ : Type} [DecidableEq σ]

theorem validateStr_congr (g : GNFA σ Str) (h : '{' ∉ g.syms) :
    g.validateStr simpleRxValid = g.validateStr reValidate := by
  unfold validateStr
  rw [strLabelCheck_congr h]

theorem finishBuild_congr (natName : Nat → σ) (src : List σ) (syms : List Char)
    (rows : List (σ × List (σ × Option Str))) (init : σ) (finals : List σ) (h : '{' ∉ syms) :
    finishBuild simpleRxValid natName src syms rows init finals =
      finishBuild reValidate natName src syms rows init finals := by
  unfold finishBuild
  simp only
  split
  · rfl
  · split
    · rfl
    · rw [validateStr_congr _ h]

theorem fromDFA_congr (natName : Nat → σ) (d : DFA σ Char) (h : '{' ∉ d.syms) :
    fromDFA simpleRxValid natName d = fromDFA reValidate natName d :=
  finishBuild_congr natName _ _ _ _ _ h

theorem fromNFA_congr (natName : Nat → σ) (n : NFA σ Char) (h : '{' ∉ n.syms) :
    fromNFA simpleRxValid natName n = fromNFA reValidate natName n :=
  finishBuild_congr natName _ _ _ _ _ h

end AV.GNFA.ReValidate
