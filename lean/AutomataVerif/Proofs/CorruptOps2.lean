/-
Proofs/CorruptOps2.lean — edit operators on the transition tables of DPDA, NPDA, DTM and GNFA
definitions (Python dict assignments `transitions[q][…] = …`), what the rows of the edited table
look like, when the edit keeps a DPDA row deterministic (`DPDA.rowDet_rowSetMove_iff`), and what
`transitions[q][t] = l` on a GNFA can violate (`GNFA.setEntry_frame`).
-/
import AutomataVerif.Proofs.CorruptOps

namespace AV.VA
open AV

variable {σ α γ : Type} [DecidableEq σ] [DecidableEq α] [DecidableEq γ]

/-- The edited row: the entry for `a` (created when missing) gets `g ↦ r`. -/
def rowSetMove {τ : Type} (a : Option α) (g : γ) (r : τ) (row : List (Option α × List (γ × τ))) :
    List (Option α × List (γ × τ)) :=
  ainsert a (ainsert g r ((alookup a row).getD [])) row

section rowSetMove
variable {τ : Type} (a : Option α) (g : γ) (r : τ) (row : List (Option α × List (γ × τ)))

theorem rowSetMove_mem_self : (a, ainsert g r ((alookup a row).getD [])) ∈ rowSetMove a g r row :=
  mem_ainsert_self _ _ _

theorem mem_rowSetMove (e : Option α × List (γ × τ)) (he : e ∈ rowSetMove a g r row) :
    e = (a, ainsert g r ((alookup a row).getD [])) ∨ e ∈ row :=
  mem_ainsert he

theorem rowSetMove_mem_of_ne (e : Option α × List (γ × τ)) (he : e ∈ row) (hne : e.1 ≠ a) :
    e ∈ rowSetMove a g r row :=
  mem_ainsert_of_ne he hne

theorem rowSetMove_new_keys (x : γ) (hx : x ∈ akeys (ainsert g r ((alookup a row).getD []))) :
    x = g ∨ ∃ m, (a, m) ∈ row ∧ x ∈ akeys m := by
  rcases mem_akeys_ainsert.mp hx with rfl | hx
  · exact Or.inl rfl
  · rcases getD_alookup_nil_or_mem a row with h | h
    · rw [h] at hx; simp [akeys] at hx
    · exact Or.inr ⟨_, h, hx⟩

end rowSetMove

namespace DPDA

/-- `transitions[q].setdefault(a, {})[g] = r` on a DPDA definition. -/
def setMove (d : DPDA σ α γ) (q : σ) (a : Option α) (g : γ) (r : σ × List γ) : DPDA σ α γ :=
  { d with trans := editRow q (rowSetMove a g r) d.trans }

omit [DecidableEq σ] in
theorem lamRow_rowSetMove_none (g : γ) (r : σ × List γ) (row : List (Option α × List (γ × (σ × List γ)))) :
    lamRow (rowSetMove none g r row) = ainsert g r (lamRow row) := by
  unfold lamRow rowSetMove
  rw [alookup_ainsert_self]; rfl

omit [DecidableEq σ] in
theorem lamRow_rowSetMove_some (a : α) (g : γ) (r : σ × List γ)
    (row : List (Option α × List (γ × (σ × List γ)))) :
    lamRow (rowSetMove (some a) g r row) = lamRow row := by
  unfold lamRow rowSetMove
  rw [alookup_ainsert_ne _ _ (by simp)]

omit [DecidableEq σ] [DecidableEq γ] in
theorem lamRow_mem (row : List (Option α × List (γ × (σ × List γ)))) :
    lamRow row = [] ∨ (none, lamRow row) ∈ row :=
  getD_alookup_nil_or_mem none row

/-- A move on `e` and stack symbol `g` clashes with `row`: a λ-move where an input symbol already
moves on `g`, or a move on an input symbol where a λ-move on `g` exists. -/
def Clash (e : Option α) (g : γ) (row : List (Option α × List (γ × (σ × List γ)))) : Prop :=
  (e = none ∧ ∃ en ∈ row, ∃ a, en.1 = some a ∧ g ∈ akeys en.2) ∨
    (∃ a, e = some a ∧ g ∈ akeys (lamRow row))

omit [DecidableEq σ] in
theorem rowDet_rowSetMove_iff (e : Option α) (g : γ) (r : σ × List γ)
    {row : List (Option α × List (γ × (σ × List γ)))} (hdet : RowDet row) :
    RowDet (rowSetMove e g r row) ↔ ¬ Clash e g row := by
  constructor
  · rintro h (⟨rfl, en, hen, a, ha, hg⟩ | ⟨a, rfl, hg⟩)
    · -- the entry on `a` is still there, and `g` now has a λ-move
      have := h en (rowSetMove_mem_of_ne none g r row en hen (ha ▸ Option.some_ne_none a)) a ha g hg
      rw [lamRow_rowSetMove_none] at this
      exact this (mem_akeys_ainsert.mpr (.inl rfl))
    · have := h _ (rowSetMove_mem_self (some a) g r row) a rfl g (mem_akeys_ainsert.mpr (.inl rfl))
      rw [lamRow_rowSetMove_some] at this
      exact this hg
  · intro hno en hen a ha x hx hxl
    rcases mem_rowSetMove e g r row en hen with rfl | hen0
    · -- the new entry is on the input symbol `a`: its stack symbols are `g` or old ones
      cases ha
      rw [lamRow_rowSetMove_some] at hxl
      rcases rowSetMove_new_keys (some a) g r row x hx with rfl | ⟨m, hm, hxm⟩
      · exact hno (Or.inr ⟨a, rfl, hxl⟩)
      · exact hdet _ hm a rfl x hxm hxl
    · cases e with
      | some b => rw [lamRow_rowSetMove_some] at hxl; exact hdet en hen0 a ha x hx hxl
      | none =>
        rw [lamRow_rowSetMove_none] at hxl
        rcases mem_akeys_ainsert.mp hxl with rfl | hxl
        · exact hno (Or.inl ⟨rfl, en, hen0, a, ha, hx⟩)
        · exact hdet en hen0 a ha x hx hxl

theorem setMove_rows (d : DPDA σ α γ) (q : σ) (a : Option α) (g : γ) (r : σ × List γ)
    (kv' : σ × List (Option α × List (γ × (σ × List γ)))) (h : kv' ∈ (setMove d q a g r).trans) :
    ∃ kv ∈ d.trans, (kv' = kv ∨ (kv.1 = q ∧ kv'.2 = rowSetMove a g r kv.2)) ∧
      ∀ en ∈ kv'.2, en = (a, ainsert g r ((alookup a kv.2).getD [])) ∨ en ∈ kv.2 := by
  obtain ⟨kv, hkv, _, h2⟩ := mem_editRow q (rowSetMove a g r) d.trans kv' h
  refine ⟨kv, hkv, h2, ?_⟩
  rcases h2 with rfl | ⟨_, h2⟩
  · exact fun en hen => Or.inr hen
  · exact h2 ▸ mem_rowSetMove a g r kv.2

theorem setMove_det (d : DPDA σ α γ) (hdet : ∀ kv ∈ d.trans, RowDet kv.2) (q : σ) (a : Option α) (g : γ)
    (r : σ × List γ) (hno : ∀ kv ∈ d.trans, kv.1 = q → ¬ Clash a g kv.2)
    (kv' : σ × List (Option α × List (γ × (σ × List γ)))) (h : kv' ∈ (setMove d q a g r).trans) :
    RowDet kv'.2 := by
  obtain ⟨kv, hkv, h2, _⟩ := setMove_rows d q a g r kv' h
  rcases h2 with rfl | ⟨hq, h2⟩
  · exact hdet kv' hkv
  · exact h2 ▸ (rowDet_rowSetMove_iff a g r (hdet kv hkv)).mpr (hno kv hkv hq)

end DPDA

namespace NPDA

/-- `transitions[q].setdefault(a, {})[g] = rs` on an NPDA definition. -/
def setMove (d : NPDA σ α γ) (q : σ) (a : Option α) (g : γ) (rs : List (σ × List γ)) : NPDA σ α γ :=
  { d with trans := editRow q (rowSetMove a g rs) d.trans }

end NPDA

namespace DTM

/-- `transitions[q][s] = r` on a DTM definition. -/
def setEntry (d : DTM σ γ) (q : σ) (s : γ) (r : TMResult σ γ) : DTM σ γ :=
  { d with trans := editRow q (ainsert s r) d.trans }

/-- `transitions[f] = {}` for a name without a row (a new key goes to the end of the dict). -/
def addEmptyRow (d : DTM σ γ) (f : σ) : DTM σ γ :=
  { d with trans := d.trans ++ [(f, [])] }

end DTM

namespace GNFA

def setEntry (g : GNFA σ α) (q t : σ) (l : Option (GLabel α)) : GNFA σ α :=
  { g with trans := editRow q (ainsert t l) g.trans }

omit [DecidableEq α] in
theorem setEntry_keys (g : GNFA σ α) (q t : σ) (l : Option (GLabel α)) :
    akeys (setEntry g q t l).trans = akeys g.trans :=
  editRow_keys q _ g.trans

/-- What the new entry of `transitions[q][t] = l`, or the place it is put in, does to violate a rule. -/
def EntryViolates (g : GNFA σ α) (q t : σ) (l : Option (GLabel α)) : Rule → Prop
  | .malformedLabel => ∃ l', l = some l' ∧ g.Malformed l'
  | .labelLexerError => ∃ l', l = some l' ∧ l'.verdict = .lexerError
  | .finalHasTransitions => q = g.final
  | .unknownEndState => t ∉ g.states
  | .transitionIntoInitial => t = g.init
  | _ => False

theorem setEntry_frame (g : GNFA σ α) (q t : σ) (l : Option (GLabel α)) (r' : Rule)
    (h : rules.Violates (setEntry g q t l) r') : rules.Violates g r' ∨ g.EntryViolates q t l r' := by
  cases r'
  case missingRow => exact .inl (h.imp fun x hx => ⟨hx.1, hx.2.1, setEntry_keys g q t l ▸ hx.2.2⟩)
  case initialNoRow => exact .inl ⟨setEntry_keys g q t l ▸ h.1, h.2⟩
  case badInitial | badFinal | initialEqualsFinal => exact .inl h
  all_goals
    obtain ⟨kv', hkv', h⟩ := h
    obtain ⟨kv, hkv, h1, hkeys, hvals, hsup⟩ := mem_editRow_ainsert q t l g.trans kv' hkv'
  · obtain ⟨l', hl', hm⟩ := h
    exact (hvals _ hl').elim (fun e => .inr ⟨l', e.symm, hm⟩) fun h => .inl ⟨kv, hkv, l', h, hm⟩
  · obtain ⟨l', hl', hm⟩ := h
    exact (hvals _ hl').elim (fun e => .inr ⟨l', e.symm, hm⟩) fun h => .inl ⟨kv, hkv, l', h, hm⟩
  · obtain ⟨kv, hkv, h1, h2⟩ := mem_editRow q (ainsert t l) g.trans kv' hkv'
    exact h2.elim (fun e => .inl ⟨kv, hkv, e ▸ h⟩) fun h2 => .inr (h2.1 ▸ h1 ▸ h.1)
  · obtain ⟨hnf, x, hx, hnx, hxi⟩ := h
    exact .inl ⟨kv, hkv, h1 ▸ hnf, x, hx, fun h => hnx (hsup x h), hxi⟩
  · obtain ⟨x, hx, hnx⟩ := h
    exact (hkeys x hx).elim (fun e => .inr (e ▸ hnx)) fun h => .inl ⟨kv, hkv, x, h, hnx⟩
  · obtain ⟨kv, hkv, _, h2⟩ := mem_editRow q (ainsert t l) g.trans kv' hkv'
    by_cases hti : t = g.init
    · exact .inr hti
    · refine .inl ⟨kv, hkv, h2.elim (fun e => e ▸ h) fun h2 => ?_⟩
      -- `paths.get(init)` after `paths[t] = l`, `t ≠ init`
      rw [← g.entersInit_congr (alookup_ainsert_ne l kv.2 fun e => hti e.symm), ← h2.2]
      exact h

end GNFA

end AV.VA
