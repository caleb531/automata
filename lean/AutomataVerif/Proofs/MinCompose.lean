/-
Proofs/MinCompose.lean — what the `minify=True` paths hand to `_minify` (`minifyCore`):
`_expand_dfa(..., minify=True)` (the Boolean operations, `from_nfa`) its whole result,
`complementMin` and `toPartialMin` a kept set of the operand (core only).

`MinifyGuarantee` says that every admissible call (`MinifyCall`, Proofs/MinifyCorrect.lean) gets
`MinifyCoreOk`; it is proved in Proofs/MinGlue.lean (`minifyGuarantee`).  The state sets that
`to_partial(minify=True)` and `complement(minify=True)` hand to `_minify` (`partialStates`, the
reachable states) are `Kept` (Proofs/MinPrepass.lean), which makes their arguments sources
(`Kept.source`).
-/
import AutomataVerif.Proofs.MinifyCorrect
import AutomataVerif.Proofs.Partial

namespace AV
namespace C04
open DFA

variable {σ α : Type} [DecidableEq σ] [DecidableEq α]

/-- C05's guarantee for every admissible call of `_minify` (`minifyGuarantee`,
Proofs/MinGlue.lean). -/
def MinifyGuarantee : Prop :=
  ∀ (σ α : Type) [DecidableEq σ] [DecidableEq α] (kept : List σ) (syms : List α)
    (trans : List (σ × List (α × σ))) (init : σ) (finals : List σ) (pick : List Nat → Nat),
    MinifyCall kept syms trans init finals → MinifyCoreOk kept syms trans init finals pick

/-- A result all of whose states are reached, handed to `_minify` whole (`kept = states`), is a
source describing itself. -/
theorem Result.minSource {S : List α} {P : DFA σ α} {L : List α → Bool} (r : Result S P L)
    (t : AllReached P) : MinSource P P.states P.finals :=
  minSource_of_trim r.wf r.pyShape t.reach

/-- `_expand_dfa(..., minify=True)`: `_minify` is handed all states of the expanded DFA, every one
of which is reached by a word. -/
theorem _root_.AV.DFA.expand_minSource {S : Type} [DecidableEq S] {succ : S → List (α × S)}
    {univ : List S} {fuel : Nat} {init : S} (isFin : S → Bool) (syms : List α)
    (h : ExpandHyp succ univ fuel init) (hsyms : syms.Nodup)
    (hkeys : ∀ u ∈ univ, ∀ a ∈ akeys (succ u), a ∈ syms) :
    MinSource (expand succ isFin syms fuel init) (expand succ isFin syms fuel init).states
      (expand succ isFin syms fuel init).finals :=
  let ⟨r, t⟩ := expand_result isFin syms h hkeys hsyms
  r.minSource t

section complementMin
variable {c : DFA σ α}

/-- `_bfs_states(initial_state, lambda state: transitions[state].items())`: the `kept` argument
of `complementMin`, named for the proofs (`complementMin_eq`). -/
def _root_.AV.DFA.reachStates (c : DFA σ α) : List σ :=
  bfsStates (fun q => c.row q) (c.graphNodes.length + 1) c.init

omit [DecidableEq α] in
/-- The BFS over the rows is the computation of `accessible` (and of the complete branch of
`minifyKept`, and of `isempty`): the lemmas about `accessible` speak of it. -/
theorem reachStates_eq_accessible (c : DFA σ α) : c.reachStates = c.accessible := rfl

theorem complementMin_eq (pick : List Nat → Nat) :
    c.complementMin pick = minifyCore c.reachStates c.syms c.trans c.init
      (c.reachStates.filter fun q => decide (q ∉ c.finals)) pick := rfl

/-- The arguments of `complement(minify=True)` on a complete table (whatever its flag says)
describe the plain complement. -/
theorem complementMin_minSource (wf : c.WF) (p : c.PyShape) (hc : c.IsComplete) :
    MinSource c.complementPlain c.reachStates
      (c.reachStates.filter fun q => decide (q ∉ c.finals)) :=
  reachStates_eq_accessible c ▸ complementPlain_source wf hc p

theorem complementMin_noTrap (wf : c.WF) (hc : c.IsComplete) :
    needTrap c.reachStates c.syms c.trans = false :=
  reachStates_eq_accessible c ▸ noTrap_accessible wf hc

end complementMin

section toPartialMin
variable {d : DFA σ α}

theorem toPartialMin_eq (pick : List Nat → Nat) :
    d.toPartialMin pick = minifyCore d.partialStates d.syms d.trans d.init
      (d.finals.filter fun q => decide (q ∈ d.partialStates)) pick := rfl

theorem toPartialMin_minSource (wf : d.WF) (p : d.PyShape) :
    MinSource d d.partialStates (d.finals.filter fun q => decide (q ∈ d.partialStates)) :=
  (kept_partialStates wf).source_filter wf p

end toPartialMin

end C04
end AV
