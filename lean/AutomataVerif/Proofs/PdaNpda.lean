/-
Proofs/PdaNpda.lean — the level-by-level loop of `NPDA.read_input_stepwise` against the `k`-move
reachability relation `StepN`; a decided run does not depend on the fuel; the driver's size-guarded run.
-/
import AutomataVerif.Proofs.Pda

namespace AV.PDA

variable {σ α γ τ : Type}

variable [DecidableEq σ] [DecidableEq α] [DecidableEq γ]

theorem NPDA.moves_lambda (M : NPDA σ α γ) (q : σ) (X : γ) (p : σ) (push : List γ)
    (h : M.moves q none X p push) : (M.entry? q none X).isSome = true := by
  obtain ⟨ts, hts, _⟩ := h
  rw [hts]; rfl

/-- The guard `elif self._has_lambda_transition(...)` is redundant: a configuration with no
input left and no λ-transition for its stack top has no successor anyway. -/
theorem NPDA.mem_addSuccessors (M : NPDA σ α γ) (acc : List (Config σ α γ)) (c x : Config σ α γ) :
    x ∈ M.addSuccessors acc c ↔ x ∈ acc ∨ x ∈ M.nextConfigs c := by
  unfold NPDA.addSuccessors
  cases hi : c.input with
  | cons a w => exact mem_sunion
  | nil =>
    cases hl : M.hasLambdaTransition c.state (Stack.top c.stack) with
    | true => exact mem_sunion
    | false =>
      have : x ∉ M.nextConfigs c := fun hx =>
        no_step_of_guard M M.moves_lambda hi hl ((M.mem_nextConfigs c x).mp hx)
      simp [this]

theorem NPDA.nodup_addSuccessors (M : NPDA σ α γ) {acc : List (Config σ α γ)} (h : acc.Nodup)
    (c : Config σ α γ) : (M.addSuccessors acc c).Nodup := by
  unfold NPDA.addSuccessors
  split
  · exact nodup_sunion h
  · split
    · exact nodup_sunion h
    · exact h

theorem NPDA.run_singleton (M : NPDA σ α γ) (fuel : Nat) (c : Config σ α γ) :
    M.run (fuel + 1) [c] =
      match M.hasAccepted c with
      | true => ([], .returned)
      | false =>
        (M.addSuccessors [] c :: (M.run fuel (M.addSuccessors [] c)).1, (M.run fuel (M.addSuccessors [] c)).2) := by
  cases h : M.hasAccepted c <;> simp [NPDA.run, NPDA.expandLevel, h]

theorem NPDA.expandLevel_eq_none (M : NPDA σ α γ) (cur acc : List (Config σ α γ)) :
    M.expandLevel cur acc = none ↔ ∃ c ∈ cur, M.hasAccepted c = true := by
  induction cur generalizing acc with
  | nil => simp [NPDA.expandLevel]
  | cons c rest ih =>
    unfold NPDA.expandLevel
    cases h : M.hasAccepted c with
    | true => simp [h]
    | false => simp only [ih]; simp [h]

theorem NPDA.expandLevel_eq_some (M : NPDA σ α γ) (cur acc nxt : List (Config σ α γ))
    (h : M.expandLevel cur acc = some nxt) (c' : Config σ α γ) :
    c' ∈ nxt ↔ c' ∈ acc ∨ ∃ c ∈ cur, c' ∈ M.nextConfigs c := by
  induction cur generalizing acc with
  | nil => cases h; simp
  | cons c rest ih =>
    unfold NPDA.expandLevel at h
    cases ha : M.hasAccepted c with
    | true => rw [ha] at h; cases h
    | false =>
      rw [ha] at h
      simp only [ih _ h, M.mem_addSuccessors, List.mem_cons, exists_eq_or_imp, or_assoc]

/-- What `run fuel cur` does when `cur` is the set of configurations reachable from `c₀` in
exactly `j` moves. -/
structure NPDA.RunSpec (M : NPDA σ α γ) (c₀ : Config σ α γ) (fuel j : Nat)
    (r : List (List (Config σ α γ)) × Outcome) : Prop where
  len : r.1.length ≤ fuel
  level : ∀ i L, r.1[i]? = some L → ∀ c, c ∈ L ↔ StepN M.moves (j + 1 + i) c₀ c
  before : ∀ i, i < r.1.length →
    (∃ c, StepN M.moves (j + i) c₀ c) ∧ ∀ c, StepN M.moves (j + i) c₀ c → M.hasAccepted c = false
  returned : r.2 = .returned ↔
    r.1.length < fuel ∧ ∃ c, StepN M.moves (j + r.1.length) c₀ c ∧ M.hasAccepted c = true
  rejected : r.2 = .raised (.lib .rejectionException) ↔
    r.1.length < fuel ∧ ¬ ∃ c, StepN M.moves (j + r.1.length) c₀ c
  fuelOut : r.2 = .outOfFuel ↔ r.1.length = fuel
  onlyRej : ∀ e, r.2 = .raised e → e = .lib .rejectionException

section
variable {M : NPDA σ α γ} {c₀ : Config σ α γ} {fuel j : Nat}

theorem NPDA.RunSpec.of_no_fuel : NPDA.RunSpec M c₀ 0 j ([], .outOfFuel) :=
  { len := Nat.le_refl _, level := fun _ _ h => (nomatch h), before := fun _ h => (nomatch h),
    returned := by simp, rejected := by simp, fuelOut := by simp, onlyRej := fun _ h => (nomatch h) }

theorem NPDA.RunSpec.of_empty (hne : ¬ ∃ c, StepN M.moves j c₀ c) :
    NPDA.RunSpec M c₀ (fuel + 1) j ([], .raised (.lib .rejectionException)) :=
  { len := Nat.zero_le _, level := fun _ _ h => (nomatch h), before := fun _ h => (nomatch h),
    returned := ⟨fun h => (nomatch h), fun h => absurd ⟨_, h.2.choose_spec.1⟩ hne⟩,
    rejected := ⟨fun _ => ⟨Nat.succ_pos _, hne⟩, fun _ => rfl⟩,
    fuelOut := ⟨fun h => (nomatch h), fun h => (nomatch h)⟩,
    onlyRej := fun _ h => by cases h; rfl }

theorem NPDA.RunSpec.of_accepting {c : Config σ α γ} (hc : StepN M.moves j c₀ c)
    (ha : M.hasAccepted c = true) : NPDA.RunSpec M c₀ (fuel + 1) j ([], .returned) :=
  { len := Nat.zero_le _, level := fun _ _ h => (nomatch h), before := fun _ h => (nomatch h),
    returned := ⟨fun _ => ⟨Nat.succ_pos _, c, hc, ha⟩, fun _ => rfl⟩,
    rejected := ⟨fun h => (nomatch h), fun h => absurd ⟨c, hc⟩ h.2⟩,
    fuelOut := ⟨fun h => (nomatch h), fun h => (nomatch h)⟩,
    onlyRej := fun _ h => (nomatch h) }

end

theorem NPDA.RunSpec.cons {M : NPDA σ α γ} {c₀ : Config σ α γ} {fuel j : Nat} {nxt : List (Config σ α γ)} {r : List (List (Config σ α γ)) × Outcome}
    (hne : ∃ c, StepN M.moves j c₀ c) (hna : ∀ c, StepN M.moves j c₀ c → M.hasAccepted c = false)
    (hnxt : ∀ c, c ∈ nxt ↔ StepN M.moves (j + 1) c₀ c) (IH : NPDA.RunSpec M c₀ fuel (j + 1) r) :
    NPDA.RunSpec M c₀ (fuel + 1) j (nxt :: r.1, r.2) := by
  have hj : ∀ n, j + (n + 1) = j + 1 + n := fun n => by omega
  refine { len := Nat.succ_le_succ IH.len, level := ?_, before := ?_, returned := ?_, rejected := ?_,
           fuelOut := ?_, onlyRej := IH.onlyRej }
  · rintro (_ | i) L hL c
    · cases hL; exact hnxt c
    · rw [show j + 1 + (i + 1) = j + 1 + 1 + i by omega]; exact IH.level i L hL c
  · rintro (_ | i) hi
    · exact ⟨hne, hna⟩
    · rw [hj]; exact IH.before i (Nat.lt_of_succ_lt_succ hi)
  · rw [List.length_cons, hj, Nat.succ_lt_succ_iff]; exact IH.returned
  · rw [List.length_cons, hj, Nat.succ_lt_succ_iff]; exact IH.rejected
  · rw [List.length_cons, Nat.succ.injEq]; exact IH.fuelOut

theorem NPDA.run_spec (M : NPDA σ α γ) (c₀ : Config σ α γ) :
    ∀ (fuel j : Nat) (cur : List (Config σ α γ)), (∀ c, c ∈ cur ↔ StepN M.moves j c₀ c) →
      NPDA.RunSpec M c₀ fuel j (M.run fuel cur) := by
  intro fuel
  induction fuel with
  | zero => intro j cur _; exact .of_no_fuel
  | succ fuel ih =>
    intro j cur hcur
    cases cur with
    | nil =>
      exact .of_empty fun ⟨c, hc⟩ => nomatch (hcur c).mpr hc
    | cons c₁ rest =>
      rw [NPDA.run]
      cases hx : M.expandLevel (c₁ :: rest) [] with
      | none =>
        obtain ⟨c, hc, hacc⟩ := (M.expandLevel_eq_none _ _).mp hx
        exact .of_accepting ((hcur c).mp hc) hacc
      | some nxt =>
        have hna : ∀ c, StepN M.moves j c₀ c → M.hasAccepted c = false := fun c hc =>
          Bool.eq_false_iff.mpr fun h => by
            have := (M.expandLevel_eq_none (c₁ :: rest) []).mpr ⟨c, (hcur c).mpr hc, h⟩
            rw [hx] at this; cases this
        have hnxt : ∀ c, c ∈ nxt ↔ StepN M.moves (j + 1) c₀ c := by
          intro c
          simp only [M.expandLevel_eq_some _ _ _ hx, stepN_succ_iff, List.not_mem_nil, false_or, hcur,
            M.mem_nextConfigs]
        exact NPDA.RunSpec.cons ⟨c₁, (hcur c₁).mp (List.mem_cons_self ..)⟩ hna hnxt (ih (j + 1) nxt hnxt)

theorem NPDA.run_spec_start (M : NPDA σ α γ) (fuel : Nat) (w : List α) :
    NPDA.RunSpec M (M.start w) fuel 0 (M.run fuel [M.start w]) :=
  M.run_spec _ fuel 0 _ fun c => by rw [stepN_zero_iff, List.mem_singleton]

theorem NPDA.run_mono (M : NPDA σ α γ) :
    ∀ (fuel : Nat) (cur : List (Config σ α γ)) (d : Nat), (M.run fuel cur).2 ≠ .outOfFuel →
      M.run (fuel + d) cur = M.run fuel cur := by
  refine fun fuel cur d h => stable_of_step (loop := M.run) (fun _ h => absurd rfl h) (fun cur => ?_) fuel cur h d
  cases cur with
  | nil => exact .inl ⟨_, fun _ => rfl⟩
  | cons c rest =>
    cases hx : M.expandLevel (c :: rest) [] with
    | none => exact .inl ⟨([], .returned), fun _ => by simp only [NPDA.run, hx]⟩
    | some nxt => exact .inr ⟨[nxt], nxt, fun _ => by simp only [NPDA.run, hx, List.singleton_append]⟩

theorem NPDA.readStepwise_mono (M : NPDA σ α γ) (fuel fuel' : Nat) (w : List α)
    (h : (M.readStepwise fuel w).2 ≠ .outOfFuel) (hle : fuel ≤ fuel') :
    M.readStepwise fuel' w = M.readStepwise fuel w := by
  obtain ⟨d, rfl⟩ := Nat.le.dest hle
  unfold NPDA.readStepwise at h ⊢
  simp only at h ⊢
  rw [M.run_mono fuel _ d h]

theorem NPDA.readStepwise_eq_of_decided (M : NPDA σ α γ) {f f' : Nat} {w : List α}
    (h : (M.readStepwise f w).2 ≠ .outOfFuel) (h' : (M.readStepwise f' w).2 ≠ .outOfFuel) :
    M.readStepwise f w = M.readStepwise f' w :=
  eq_of_decided (r := fun f => M.readStepwise f w) (fun f f' => M.readStepwise_mono f f' w) h h'

theorem NPDA.guardedRun_eq_run (M : NPDA σ α γ) (cap : Nat) :
    ∀ (fuel : Nat) (cur : List (Config σ α γ)), ∃ fuel', fuel' ≤ fuel ∧
      M.guardedRun cap fuel cur = M.run fuel' cur := by
  intro fuel
  induction fuel with
  | zero => intro cur; exact ⟨0, Nat.le_refl _, rfl⟩
  | succ fuel ih =>
    intro cur
    cases cur with
    | nil => exact ⟨1, by omega, by simp [NPDA.guardedRun, NPDA.run]⟩
    | cons c rest =>
      cases hx : M.expandLevel (c :: rest) [] with
      | none => exact ⟨1, by omega, by simp [NPDA.guardedRun, NPDA.run, hx]⟩
      | some nxt =>
        cases hc : decide (cap < nxt.length) with
        | true => exact ⟨1, by omega, by simp [NPDA.guardedRun, NPDA.run, hx, hc]⟩
        | false =>
          obtain ⟨f', hf', h⟩ := ih nxt
          exact ⟨f' + 1, by omega, by simp [NPDA.guardedRun, NPDA.run, hx, hc, h]⟩

theorem NPDA.guardedReadStepwise_eq (M : NPDA σ α γ) (cap fuel : Nat) (w : List α) :
    ∃ fuel', fuel' ≤ fuel ∧ M.guardedReadStepwise cap fuel w = M.readStepwise fuel' w := by
  obtain ⟨f', hf', h⟩ := M.guardedRun_eq_run cap fuel [M.start w]
  exact ⟨f', hf', by simp [NPDA.guardedReadStepwise, NPDA.readStepwise, h]⟩

end AV.PDA
