/-
Proofs/GnfaBuild.lean — `GNFA.from_dfa` / `GNFA.from_nfa` (model: `fromDFA`, `fromNFA`).
The second half of both constructors (`Built`): fresh names, ε-edges, `None` fill.  The
label-merging loops: the label of a target is the left fold of the merge function over the
symbols leading to it (`alookup_foldl_merge`), so what a label is becomes a statement about a list
of symbols (`nfaLabel_spec`; `from_dfa` merges as `from_nfa` does on real symbols).
-/
import AutomataVerif.Proofs.GnfaAlphabet
import AutomataVerif.Proofs.Validate
import AutomataVerif.Proofs.Read

namespace AV.GNFA
open AV AV.GnfaSpec

variable {σ : Type} [DecidableEq σ]

theorem addNewState_fresh (natName : Nat → σ) (hinj : Function.Injective natName) (S : List σ)
    (start : Nat) : natName (addNewState natName S start) ∉ S :=
  firstFree_fresh hinj (fun _ => rfl) (fun _ _ => rfl) start (Nat.le_succ _)

/-- The disjunction: a state listed twice is rewritten twice, which is harmless when the list has
no duplicate (`fillNone`: the state list of the GNFA) or `f` is idempotent (`addFinalEdges`: `finals` may
repeat a state). -/
theorem updRows_spec {ρ : Type} (f : ρ → ρ) :
    ∀ (l : List σ) (rows : List (σ × ρ)),
      (l.Nodup ∨ ∀ row, f (f row) = f row) →
      (∀ q ∈ l, (alookup q rows).isSome) →
      ∃ rows', updRows f l rows = .ok rows' ∧ akeys rows' = akeys rows ∧
        ∀ p, alookup p rows' = if p ∈ l then (alookup p rows).map f else alookup p rows := by
  intro l
  unfold updRows
  induction l with
  | nil => intro rows _ _; exact ⟨rows, rfl, rfl, fun _ => rfl⟩
  | cons q l ih =>
    intro rows hf hrows
    obtain ⟨row, hrow⟩ := Option.isSome_iff_exists.mp (hrows q List.mem_cons_self)
    obtain ⟨rows', hfold, hkeys, hget⟩ := ih (ainsert q (f row) rows)
      (hf.imp (fun h => (List.nodup_cons.mp h).2) id)
      (fun q' hq' => by
        by_cases h : q' = q
        · rw [h, alookup_ainsert_self]; rfl
        · rw [alookup_ainsert_ne _ _ h]; exact hrows q' (List.mem_cons_of_mem _ hq'))
    refine ⟨rows', ?_, hkeys.trans (akeys_ainsert_of_mem (alookup_some_key_mem hrow)), fun p => ?_⟩
    · rw [List.foldlM_cons]
      simp only [hrow, bind, Except.bind]
      exact hfold
    · rw [hget, alookup_ainsert]
      by_cases hpq : p = q
      · subst hpq
        rw [if_pos rfl, if_pos List.mem_cons_self, hrow, Option.map_some]
        by_cases hpl : p ∈ l
        · rw [if_pos hpl, Option.map_some]
          exact hf.elim (fun h => absurd hpl (List.nodup_cons.mp h).1) (fun h => by rw [h])
        · rw [if_neg hpl]; rfl
      · rw [if_neg (Ne.symm hpq)]
        by_cases hpl : p ∈ l
        · rw [if_pos hpl, if_pos (List.mem_cons_of_mem _ hpl)]
        · rw [if_neg hpl, if_neg (fun h => (List.mem_cons.mp h).elim hpq hpl)]

theorem alookup_fillRow (gstates : List σ) (qi : σ) (row : List (σ × Option Str)) (r : σ) :
    alookup r (fillRow gstates qi row) =
      if (alookup r row).isSome then alookup r row
      else if r ∈ gstates ∧ r ≠ qi then some none else none := by
  unfold fillRow
  rw [List.foldl_ite_left, alookup_foldl_ainsert (fun _ => none)]
  simp only [List.mem_filter, decide_eq_true_eq, ← alookup_isSome_iff]
  by_cases h : (alookup r row).isSome
  · rw [if_pos h, if_neg (fun c => c.1.2 h)]
  · rw [if_neg h]
    by_cases h2 : r ∈ gstates ∧ r ≠ qi
    · rw [if_pos h2, if_pos ⟨⟨h2.1, h⟩, h2.2⟩]
    · rw [if_neg h2, if_neg (fun c => h2 ⟨c.1.1, c.2⟩), Option.not_isSome_iff_eq_none.mp h]

theorem isSome_fillRow (G : List σ) (qi : σ) (row : List (σ × Option Str)) (r : σ) :
    (alookup r (fillRow G qi row)).isSome ↔ ((alookup r row).isSome ∨ (r ∈ G ∧ r ≠ qi)) := by
  rw [alookup_fillRow]
  by_cases h : (alookup r row).isSome
  · simp [h]
  · by_cases h2 : r ∈ G ∧ r ≠ qi <;> simp [h, h2]

theorem join_fillRow (G : List σ) (qi : σ) (row : List (σ × Option Str)) (r : σ) :
    (alookup r (fillRow G qi row)).join = (alookup r row).join := by
  rw [alookup_fillRow]
  by_cases h : (alookup r row).isSome
  · rw [if_pos h]
  · rw [if_neg h, Option.not_isSome_iff_eq_none.mp h]
    by_cases h2 : r ∈ G ∧ r ≠ qi
    · rw [if_pos h2]; rfl
    · rw [if_neg h2]

theorem nodup_akeys_fillRow {G : List σ} {qi : σ} {row : List (σ × Option Str)}
    (h : (akeys row).Nodup) : (akeys (fillRow G qi row)).Nodup := by
  unfold fillRow
  rw [List.foldl_ite_left]
  exact nodup_akeys_foldl_ainsert (fun _ t => t) (fun _ _ => none) _ _ h

/-- What the second half of `from_dfa` / `from_nfa` makes of the rows `rows` of a source with
states `src`: two fresh states, an ε-edge from the new initial state to `init` and from every
state of `finals` to the new final state, `None` for every other pair.  The last three fields say
what the source is: a row for exactly its states, targets and `init` among them. -/
structure Built (src : List σ) (rows : Table σ Str) (init : σ) (finals : List σ)
    (g : GNFA σ Str) : Prop where
  init_fresh : g.init ∉ src
  final_fresh : g.final ∉ src
  ne : g.init ≠ g.final
  states : g.states = dedup src ++ [g.init] ++ [g.final]
  keys : akeys g.trans = akeys (ainsert g.init [(init, (some [] : Option Str))] rows)
  row : ∀ p, alookup p g.trans =
    if p = g.init then some (fillRow g.states g.init [(init, some [])])
    else if p ∈ src then
      (alookup p rows).map fun row =>
        fillRow g.states g.init (if p ∈ finals then ainsert g.final (some []) row else row)
    else none
  rows_src : ∀ p, (alookup p rows).isSome ↔ p ∈ src
  tgt_src : ∀ p r, (get2 rows p r).isSome → r ∈ src
  init_src : init ∈ src

/-- The two row loops, for arbitrary fresh names `qi`, `qf`. -/
theorem buildRows_spec {src : List σ} {rows : Table σ Str} {finals : List σ} {qi qf : σ}
    (init : σ) (syms : List Char) (hqi : qi ∉ src) (hqf : qf ∉ src) (hne : qi ≠ qf)
    (hrows : ∀ p, (alookup p rows).isSome ↔ p ∈ src)
    (htgt : ∀ p r, (get2 rows p r).isSome → r ∈ src) (hinit : init ∈ src)
    (hfin : ∀ q ∈ finals, q ∈ src) :
    ∃ rows2 rows3, addFinalEdges qf finals (ainsert qi [(init, some [])] rows) = .ok rows2 ∧
      fillNone (dedup src ++ [qi] ++ [qf]) qi qf rows2 = .ok rows3 ∧
      Built src rows init finals
        { states := dedup src ++ [qi] ++ [qf], syms := syms, trans := rows3, init := qi,
          final := qf } := by
  have hget1 : ∀ p, alookup p (ainsert qi [(init, (some [] : Option Str))] rows) =
      if p = qi then some [(init, some [])] else alookup p rows :=
    fun p => (alookup_ainsert _ _ _ _).trans (if_congr eq_comm rfl rfl)
  have hsome1 : ∀ p, p ∈ src ∨ p = qi →
      (alookup p (ainsert qi [(init, (some [] : Option Str))] rows)).isSome := by
    intro p hp
    rw [hget1]
    by_cases hpq : p = qi
    · rw [if_pos hpq]; rfl
    · rw [if_neg hpq]; exact (hrows p).mpr (hp.resolve_right hpq)
  obtain ⟨rows2, hfe, hkeys2, hget2⟩ := updRows_spec (fun row => ainsert qf (some ([] : Str)) row)
    finals _ (Or.inr fun row => ainsert_ainsert _ _ _) fun q hq => hsome1 q (Or.inl (hfin q hq))
  have memG' : ∀ p, p ∈ ((dedup src ++ [qi] ++ [qf]).filter fun q => decide (q ≠ qf)) ↔
      (p ∈ src ∨ p = qi) := by
    intro p
    rw [mem_filter_ne, List.mem_append, List.mem_append, mem_dedup, List.mem_singleton,
      List.mem_singleton]
    constructor
    · rintro ⟨h1 | h1, h2⟩
      exacts [h1, absurd h1 h2]
    · rintro (h1 | h1)
      · exact ⟨Or.inl (Or.inl h1), fun hc => hqf (hc ▸ h1)⟩
      · exact ⟨Or.inl (Or.inr h1), fun hc => hne (h1.symm.trans hc)⟩
  have hndG : ((dedup src ++ [qi] ++ [qf]).filter fun q => decide (q ≠ qf)).Nodup := by
    refine List.Nodup.filter _ (List.nodup_append.mpr ⟨List.nodup_append.mpr
      ⟨nodup_dedup _, List.nodup_singleton _, ?_⟩, List.nodup_singleton _, ?_⟩)
    · intro a ha b hb hab
      rw [List.mem_singleton.mp hb] at hab
      exact hqi (mem_dedup.mp (hab ▸ ha))
    · intro a ha b hb hab
      rw [List.mem_singleton.mp hb] at hab
      rcases List.mem_append.mp ha with h | h
      · exact hqf (mem_dedup.mp (hab ▸ h))
      · exact hne ((List.mem_singleton.mp h).symm.trans hab)
  obtain ⟨rows3, hfn, hkeys3, hget3⟩ := updRows_spec (fillRow (dedup src ++ [qi] ++ [qf]) qi) _ rows2
    (Or.inl hndG) (by
      intro q hq
      rw [hget2]
      have := hsome1 q ((memG' q).mp hq)
      by_cases hqf' : q ∈ finals
      · rw [if_pos hqf', Option.isSome_map]; exact this
      · rw [if_neg hqf']; exact this)
  refine ⟨rows2, rows3, hfe, hfn, hqi, hqf, hne, rfl, hkeys3.trans hkeys2, fun p => ?_, hrows,
    htgt, hinit⟩
  show alookup p rows3 = _
  rw [hget3, hget2, hget1]
  by_cases hpqi : p = qi
  · rw [if_pos ((memG' p).mpr (Or.inr hpqi)), if_pos hpqi, if_pos hpqi,
      if_neg (fun hc => hqi (hpqi ▸ hfin p hc))]
    rfl
  · rw [if_neg hpqi, if_neg hpqi]
    by_cases hps : p ∈ src
    · rw [if_pos ((memG' p).mpr (Or.inl hps)), if_pos hps]
      by_cases hpf : p ∈ finals
      · rw [if_pos hpf, Option.map_map]; simp only [if_pos hpf]; rfl
      · rw [if_neg hpf]; simp only [if_neg hpf]
    · rw [if_neg (fun h => (not_or.mpr ⟨hps, hpqi⟩) ((memG' p).mp h)), if_neg hps,
        if_neg (fun hc => hps (hfin p hc))]
      exact Option.not_isSome_iff_eq_none.mp ((hrows p).not.mpr hps)

/-- `from_dfa` / `from_nfa` computed step by step: with the two fresh state numbers `k₀`, `k₁` and
the two row-filling loops evaluated, what is left is the validating constructor on the explicit
definition.  (For examples too: evaluating `finishBuild` as a whole on an automaton with symbolic
labels is slow, the fresh states are recomputed at every occurrence.) -/
theorem finishBuild_of_steps (rxValid : Str → Res Bool)
    {natName : Nat → σ} {src : List σ} (syms : List Char)
    {rows rows₁ rows₂ : List (σ × List (σ × Option Str))} {init : σ} {finals : List σ}
    {k₀ k₁ : Nat} (h₀ : addNewState natName (dedup src) 0 = k₀)
    (h₁ : addNewState natName (dedup src ++ [natName k₀]) k₀ = k₁)
    (h₂ : addFinalEdges (natName k₁) finals (ainsert (natName k₀) [(init, some [])] rows) =
      .ok rows₁)
    (h₃ : fillNone (dedup src ++ [natName k₀] ++ [natName k₁]) (natName k₀) (natName k₁) rows₁ =
      .ok rows₂) :
    finishBuild rxValid natName src syms rows init finals =
      mk' (strLabelCheck rxValid syms)
        ⟨dedup src ++ [natName k₀] ++ [natName k₁], syms, rows₂, natName k₀, natName k₁⟩ := by
  subst h₀ h₁
  simp only [finishBuild, h₂, h₃]
  rfl

/-- `finishBuild` on a well-formed source: the definition `g₀` it builds (the same for every
validator model), returned exactly when `GNFA.validate` accepts it. -/
theorem finishBuild_ok_iff (natName : Nat → σ) (hinj : Function.Injective natName)
    (srcStates : List σ) (syms : List Char) (rows : List (σ × List (σ × Option Str))) (init : σ)
    (finals : List σ) (hrows : ∀ p, (alookup p rows).isSome ↔ p ∈ srcStates)
    (htgt : ∀ p r, (get2 rows p r).isSome → r ∈ srcStates) (hinit : init ∈ srcStates)
    (hfin : ∀ q ∈ finals, q ∈ srcStates) :
    ∃ g₀ : GNFA σ Str, Built srcStates rows init finals g₀ ∧ g₀.syms = syms ∧
      ∀ (rxValid : Str → Res Bool) (g : GNFA σ Str),
        finishBuild rxValid natName srcStates syms rows init finals = .ok g ↔
          g = g₀ ∧ g₀.validateStr rxValid = .ok () := by
  have hqi := addNewState_fresh natName hinj (dedup srcStates) 0
  have hqf := addNewState_fresh natName hinj
    (dedup srcStates ++ [natName (addNewState natName (dedup srcStates) 0)])
    (addNewState natName (dedup srcStates) 0)
  rw [List.mem_append, not_or, List.mem_singleton, mem_dedup] at hqf
  obtain ⟨rows2, rows3, hfe, hfn, hB⟩ := buildRows_spec init syms (mt mem_dedup.mpr hqi) hqf.1
    (Ne.symm hqf.2) hrows htgt hinit hfin
  refine ⟨_, hB, rfl, fun rxValid g => ?_⟩
  rw [finishBuild_of_steps rxValid syms rfl rfl hfe hfn]
  exact mk'_eq_ok

section
variable {src : List σ} {rows : Table σ Str} {init : σ} {finals : List σ} {g : GNFA σ Str}

theorem Built.mem_states (hB : Built src rows init finals g) {x : σ} :
    x ∈ g.states ↔ x ∈ src ∨ x = g.init ∨ x = g.final := by
  rw [hB.states, List.mem_append, List.mem_append, mem_dedup, List.mem_singleton,
    List.mem_singleton, or_assoc]

theorem Built.mem_states_ne_final (hB : Built src rows init finals g) {x : σ} :
    (x ∈ g.states ∧ x ≠ g.final) ↔ (x = g.init ∨ x ∈ src) := by
  rw [hB.mem_states]
  constructor
  · rintro ⟨h1 | h1 | h1, h2⟩
    exacts [Or.inr h1, Or.inl h1, absurd h1 h2]
  · rintro (h1 | h1)
    · exact ⟨Or.inr (Or.inl h1), h1 ▸ hB.ne⟩
    · exact ⟨Or.inl h1, fun hc => hB.final_fresh (hc ▸ h1)⟩

theorem Built.mem_states_ne_init (hB : Built src rows init finals g) {x : σ} :
    (x ∈ g.states ∧ x ≠ g.init) ↔ (x ∈ src ∨ x = g.final) := by
  rw [hB.mem_states]
  constructor
  · rintro ⟨h1 | h1 | h1, h2⟩
    exacts [Or.inl h1, absurd h1 h2, Or.inr h1]
  · rintro (h1 | h1)
    · exact ⟨Or.inl h1, fun hc => hB.init_fresh (hc ▸ h1)⟩
    · exact ⟨Or.inr (Or.inr h1), fun hc => hB.ne (hc.symm.trans h1)⟩

theorem Built.isSome_get2 (hB : Built src rows init finals g) (p r : σ) :
    (get2 g.trans p r).isSome ↔ (p ∈ g.states ∧ p ≠ g.final) ∧ r ∈ g.states ∧ r ≠ g.init := by
  have hG := hB.mem_states_ne_init (x := r)
  have htgt := hB.tgt_src
  rw [hB.mem_states_ne_final, hG]
  unfold get2 at htgt ⊢
  rw [hB.row]
  by_cases hp : p = g.init
  · rw [if_pos hp, Option.bind_some, isSome_fillRow, hG, alookup_cons, alookup_nil]
    refine ⟨fun h => ⟨Or.inl hp, h.elim (fun h => ?_) id⟩, fun h => Or.inr h.2⟩
    by_cases hr : init = r
    · exact Or.inl (hr ▸ hB.init_src)
    · rw [if_neg hr] at h; cases h
  · rw [if_neg hp]
    by_cases hps : p ∈ src
    · rw [if_pos hps]
      obtain ⟨row, hrow⟩ := Option.isSome_iff_exists.mp ((hB.rows_src p).mpr hps)
      rw [hrow, Option.map_some, Option.bind_some, isSome_fillRow, hG]
      refine ⟨fun h => ⟨Or.inr hps, h.elim (fun h => ?_) id⟩, fun h => Or.inr h.2⟩
      have h0 := htgt p r
      rw [hrow] at h0
      by_cases hpf : p ∈ finals
      · rw [if_pos hpf, alookup_ainsert] at h
        by_cases hrf : r = g.final
        · exact Or.inr hrf
        · rw [if_neg (Ne.symm hrf)] at h; exact Or.inl (h0 h)
      · rw [if_neg hpf] at h; exact Or.inl (h0 h)
    · rw [if_neg hps]
      exact ⟨fun h => (Bool.false_ne_true h).elim, fun h => (h.1.elim hp hps).elim⟩

theorem Built.lab_eq (hB : Built src rows init finals g) (p r : σ) :
    lab g.trans p r =
      if p = g.init then (if r = init then some [] else none)
      else if p ∈ src then (if p ∈ finals ∧ r = g.final then some [] else lab rows p r)
      else none := by
  unfold lab get2
  rw [hB.row]
  by_cases hp : p = g.init
  · rw [if_pos hp, if_pos hp, Option.bind_some, join_fillRow, alookup_cons, alookup_nil]
    by_cases hr : init = r
    · rw [if_pos hr, if_pos hr.symm]; rfl
    · rw [if_neg hr, if_neg (Ne.symm hr)]; rfl
  · rw [if_neg hp, if_neg hp]
    by_cases hps : p ∈ src
    · obtain ⟨row, hrow⟩ := Option.isSome_iff_exists.mp ((hB.rows_src p).mpr hps)
      rw [if_pos hps, if_pos hps, hrow, Option.map_some, Option.bind_some, Option.bind_some,
        join_fillRow]
      by_cases hpf : p ∈ finals
      · rw [if_pos hpf, alookup_ainsert]
        by_cases hrf : r = g.final
        · rw [if_pos hrf.symm, if_pos ⟨hpf, hrf⟩]; rfl
        · rw [if_neg (Ne.symm hrf), if_neg (fun h => hrf h.2)]
      · rw [if_neg hpf, if_neg (fun h => hpf h.1)]
    · rw [if_neg hps, if_neg hps]; rfl

theorem Built.shape (hB : Built src rows init finals g) :
    Shape (dedup g.states) g.init g.final g.trans := by
  refine ⟨nodup_dedup _, mem_dedup.mpr (hB.mem_states.mpr (Or.inr (Or.inl rfl))),
    mem_dedup.mpr (hB.mem_states.mpr (Or.inr (Or.inr rfl))), hB.ne, fun p => ?_, fun p r => ?_⟩
  · rw [mem_dedup, hB.mem_states_ne_final, hB.row]
    by_cases hp : p = g.init
    · rw [if_pos hp]; exact ⟨fun _ => Or.inl hp, fun _ => rfl⟩
    · rw [if_neg hp]
      by_cases hps : p ∈ src
      · rw [if_pos hps, Option.isSome_map]; exact ⟨fun _ => Or.inr hps, fun _ => (hB.rows_src p).mpr hps⟩
      · rw [if_neg hps]
        exact ⟨fun h => (Bool.false_ne_true h).elim, fun h => (h.elim hp hps).elim⟩
  · rw [hB.isSome_get2, mem_dedup, mem_dedup, and_assoc]

end

def symsTo {ι : Type} (l : List (ι × σ)) (t : σ) : List ι :=
  (l.filter fun e => decide (e.2 = t)).map Prod.fst

theorem mem_symsTo {ι : Type} {l : List (ι × σ)} {t : σ} {x : ι} : x ∈ symsTo l t ↔ (x, t) ∈ l := by
  unfold symsTo
  simp only [List.mem_map, List.mem_filter, decide_eq_true_eq]
  exact ⟨fun ⟨e, ⟨he, ht⟩, hx⟩ => by rw [← hx, ← ht]; exact he, fun h => ⟨(x, t), ⟨h, rfl⟩, rfl⟩⟩

/-- The label a merging loop with merge function `m` builds for a target reached by the symbols
`xs`, in this order (`none` = no entry yet). -/
def labelOf {ι : Type} (m : Option Str → ι → Str) (xs : List ι) : Option Str :=
  xs.foldl (fun o x => some (m o x)) none

theorem labelOf_concat {ι : Type} (m : Option Str → ι → Str) (xs : List ι) (x : ι) :
    labelOf m (xs ++ [x]) = some (m (labelOf m xs) x) := by
  unfold labelOf
  rw [List.foldl_append]; rfl

/-- Both merging loops are `acc[t] = m(acc.get(t), x)` for the pairs `(x, t)` of a row: every
target is merged on its own, so its label is the fold of `m` over the symbols leading to it,
starting from its entry in `acc` (`labelOf m` when the loop starts from the empty row). -/
theorem alookup_foldl_merge {ι : Type} (m : Option Str → ι → Str) (t : σ) :
    ∀ (l : List (ι × σ)) (acc : List (σ × Str)),
      alookup t (l.foldl (fun acc e => ainsert e.2 (m (alookup e.2 acc) e.1) acc) acc) =
        (symsTo l t).foldl (fun o x => some (m o x)) (alookup t acc) := by
  intro l
  induction l with
  | nil => intro acc; rfl
  | cons e l ih =>
    intro acc
    rw [List.foldl_cons, ih, alookup_ainsert]
    unfold symsTo
    rw [List.filter_cons]
    by_cases h : e.2 = t
    · rw [if_pos h, if_pos (decide_eq_true h), h]; rfl
    · rw [if_neg h, if_neg (by rwa [decide_eq_true_eq])]

theorem labelOf_eq_none {ι : Type} {m : Option Str → ι → Str} {xs : List ι} :
    labelOf m xs = none ↔ xs = [] := by
  induction xs using List.reverseRecOn with
  | nil => exact ⟨fun _ => rfl, fun _ => rfl⟩
  | append_singleton xs x _ =>
    rw [labelOf_concat]
    exact ⟨fun h => (Option.some_ne_none _ h).elim,
      fun h => absurd h (List.append_ne_nil_of_right_ne_nil _ (List.cons_ne_nil _ _))⟩

theorem nodup_symsTo {ι : Type} {l : List (ι × σ)} (h : l.Nodup) (t : σ) : (symsTo l t).Nodup := by
  refine (h.filter _).map_on fun a ha b hb hab => Prod.ext hab ?_
  rw [of_decide_eq_true (List.mem_filter.mp ha).2, of_decide_eq_true (List.mem_filter.mp hb).2]

/-- `UP e s`: `s` is `p₁|p₂|…|pₖ` with every `pᵢ` a postfix-level string — the only shape
of label `from_nfa` produces. -/
inductive UP : Rx → Str → Prop
  | one {e : Rx} {s : Str} : Renders .P e s → UP e s
  | more {e₁ e₂ : Rx} {s₁ s₂ : Str} : UP e₁ s₁ → Renders .P e₂ s₂ → UP (.union e₁ e₂) (s₁ ++ '|' :: s₂)

theorem UP.toU {e : Rx} {s : Str} (h : UP e s) : Renders .U e s := by
  induction h with
  | one h => exact Renders.ofC (Renders.ofP h)
  | more _ h2 ih => exact Renders.union ih (Renders.ofP h2)

theorem UP.toP {e : Rx} {s : Str} (h : UP e s) (hb : isBracketReq s = false) : Renders .P e s := by
  cases h with
  | one h => exact h
  | more h1 h2 => rw [isBracketReq_union h1.toU] at hb; exact absurd hb (by simp)

def symsLang (xs : List (Option Char)) : Language Char := {w | ∃ x ∈ xs, w = symStr x}

theorem mem_symsLang {xs : List (Option Char)} {w : List Char} :
    w ∈ symsLang xs ↔ ∃ x ∈ xs, w = symStr x := Iff.rfl

theorem symsLang_nil : symsLang [] = 0 := by
  ext w
  exact ⟨fun ⟨_, h, _⟩ => absurd h List.not_mem_nil, fun h => absurd h (Language.notMem_zero w)⟩

theorem symsLang_concat (xs : List (Option Char)) (x : Option Char) :
    symsLang (xs ++ [x]) = symsLang xs + {symStr x} := by
  ext w
  rw [Language.mem_add, mem_symsLang, mem_symsLang]
  constructor
  · rintro ⟨y, hy, rfl⟩
    rcases List.mem_append.mp hy with h | h
    · exact Or.inl ⟨y, h, rfl⟩
    · rw [List.mem_singleton.mp h]; exact Or.inr rfl
  · rintro (⟨y, hy, rfl⟩ | h)
    · exact ⟨y, List.mem_append_left _ hy, rfl⟩
    · exact ⟨x, List.mem_append_right _ List.mem_cons_self, h⟩

omit [DecidableEq σ] in
/-- The paths of a symbol graph `X` (the symbols, ε included, on each edge), read in the path
calculus of Proofs/EpsPath. -/
theorem walk_symsLang_iff {X : σ → σ → List (Option Char)} {p f : σ} {w : List Char} :
    Walk (fun p r => symsLang (X p r)) p f w ↔ Rx.Path (fun p o r => o ∈ X p r) p w f := by
  constructor
  · intro h
    induction h with
    | nil p => exact .nil p
    | cons hu _ ih =>
      obtain ⟨o, ho, rfl⟩ := hu
      cases o with
      | none => exact .eps ho ih
      | some a => exact .sym ho ih
  · intro h
    induction h with
    | nil s => exact Walk.nil s
    | eps hs _ ih => exact Walk.cons (u := []) ⟨none, hs, rfl⟩ ih
    | sym hs _ ih => exact Walk.cons (u := [_]) ⟨some _, hs, rfl⟩ ih

theorem symsLang_eq_one {xs : List (Option Char)} (h1 : ∀ x ∈ xs, x = none) (h2 : xs ≠ []) :
    symsLang xs = 1 := by
  ext w
  rw [mem_symsLang, Language.mem_one]
  constructor
  · rintro ⟨x, hx, rfl⟩; rw [h1 x hx]; rfl
  · rintro rfl
    obtain ⟨x, hx⟩ := List.exists_mem_of_ne_nil xs h2
    exact ⟨x, hx, by rw [h1 x hx]; rfl⟩

/-- The symbol graph of the GNFA built from a source with symbol graph `X`: ε from `qi` to `init`,
ε from every final state to `qf`. -/
def srcX (src : List σ) (X : σ → σ → List (Option Char)) (init : σ) (finals : List σ) (qi qf : σ) :
    σ → σ → List (Option Char) := fun p r =>
  if p = qi then (if r = init then [none] else [])
  else if p ∈ src then (if r = qf then (if p ∈ finals then [none] else []) else X p r)
  else []

theorem symsLang_eps : symsLang [none] = 1 :=
  symsLang_eq_one (fun _ h => List.mem_singleton.mp h) (List.cons_ne_nil _ _)

theorem Built.denotes {src : List σ} {rows : Table σ Str} {init : σ} {finals : List σ}
    {g : GNFA σ Str} (hB : Built src rows init finals g) {X : σ → σ → List (Option Char)}
    (hX : ∀ p ∈ src, ∀ r, LabO (symsLang (X p r)) (lab rows p r)) :
    Denotes Lab g.trans fun p r => symsLang (srcX src X init finals g.init g.final p r) := by
  intro p r
  rw [RO_Lab, hB.lab_eq]
  show LabO (symsLang (srcX src X init finals g.init g.final p r)) _
  unfold srcX
  by_cases hp : p = g.init
  · rw [if_pos hp, if_pos hp]
    by_cases hr : r = init
    · rw [if_pos hr, if_pos hr]; exact Lab.nil_iff.mpr symsLang_eps
    · rw [if_neg hr, if_neg hr]; exact symsLang_nil
  · rw [if_neg hp, if_neg hp]
    by_cases hps : p ∈ src
    · rw [if_pos hps, if_pos hps]
      by_cases hrf : r = g.final
      · rw [if_pos hrf]
        by_cases hpf : p ∈ finals
        · rw [if_pos hpf, if_pos ⟨hpf, hrf⟩]; exact Lab.nil_iff.mpr symsLang_eps
        · rw [if_neg hpf, if_neg (fun h => hpf h.1), lab_of_get2_none
            (Option.not_isSome_iff_eq_none.mp fun h => hB.final_fresh (hrf ▸ hB.tgt_src p r h))]
          exact symsLang_nil
      · rw [if_neg hrf, if_neg (fun h => hrf h.2)]; exact hX p hps r
    · rw [if_neg hps, if_neg hps]; exact symsLang_nil

/-- The two fresh states add nothing to the language: a silent source before `init`
(`Acc.new_source`) and a silent sink after the final states (`Acc.concat_on`). -/
theorem acc_srcX {src : List σ} {X : σ → σ → List (Option Char)} {init : σ} {finals : List σ}
    {qi qf : σ} (hqi : qi ∉ src) (hqf : qf ∉ src) (hne : qi ≠ qf)
    (hX : ∀ p r, X p r ≠ [] → r ∈ src) (hinit : init ∈ src) (w : List Char) :
    Rx.Acc (fun p o r => o ∈ srcX src X init finals qi qf p r) (· = qf) qi w ↔
      Rx.Acc (fun p o r => o ∈ X p r) (· ∈ finals) init w := by
  -- `qf` has no move
  have hsink : ∀ v, Rx.Acc (fun p o r => o ∈ srcX src X init finals qi qf p r) (· = qf) qf v ↔
      v = [] := by
    intro v
    have h0 : ∀ a t, a ∉ srcX src X init finals qi qf qf t := by
      intro a t; unfold srcX; rw [if_neg hne.symm, if_neg hqf]; exact List.not_mem_nil
    rw [Rx.Acc.eps_source (fun a t => h0 _ t)]
    exact ⟨fun h => h.elim (·.2) fun ⟨s, hs, _⟩ => absurd hs (h0 _ s),
      fun h => Or.inl ⟨rfl, h⟩⟩
  refine (Rx.Acc.new_source (J := (· = init)) (fun a t => by
    unfold srcX; rw [if_pos rfl]
    split
    · next h => simp [h]
    · next h => simp [h])).trans ?_
  rw [or_iff_right (fun h => hne h.1), exists_eq_left]
  refine (Rx.Acc.concat_on (step := fun p o r => o ∈ X p r)
    (Fin := (· ∈ finals)) (S := (· ∈ src)) id qf (fun q _ a t h => hX q t (List.ne_nil_of_mem h))
    (fun q hq a t' => ?_) (fun q hq (e : q = qf) => hqf (e ▸ hq)) hinit).trans ?_
  rotate_left
  · exact ⟨fun ⟨u, v, hu, hv, e⟩ => by rw [e, (hsink v).mp hv, List.append_nil]; exact hu,
      fun h => ⟨w, [], h, (hsink []).mpr rfl, (List.append_nil w).symm⟩⟩
  · show a ∈ srcX src X init finals qi qf q t' ↔ _
    unfold srcX
    rw [if_neg (fun e : q = qi => hqi (e ▸ hq)), if_pos hq]
    by_cases ht : t' = qf
    · rw [if_pos ht]
      have hno : X q t' = [] := by
        by_contra hc; exact hqf (ht ▸ hX q t' hc)
      constructor
      · intro h
        by_cases hf : q ∈ finals
        · rw [if_pos hf] at h; exact Or.inr ⟨List.mem_singleton.mp h, hf, ht⟩
        · rw [if_neg hf] at h; cases h
      · rintro (⟨t, h, rfl⟩ | ⟨rfl, hf, _⟩)
        · rw [hno] at h; cases h
        · rw [if_pos hf]; exact List.mem_singleton.mpr rfl
    · rw [if_neg ht]
      exact ⟨fun h => Or.inl ⟨t', h, rfl⟩, fun h => h.elim (fun ⟨t, h, e⟩ => e ▸ h)
        fun ⟨_, _, e⟩ => absurd e ht⟩

theorem GLang_srcX {src : List σ} {X : σ → σ → List (Option Char)} {init : σ} {finals : List σ}
    {qi qf : σ} (hqi : qi ∉ src) (hqf : qf ∉ src) (hne : qi ≠ qf)
    (hX : ∀ p r, X p r ≠ [] → r ∈ src) (hinit : init ∈ src) (w : List Char) :
    w ∈ GLang (fun p r => symsLang (srcX src X init finals qi qf p r)) qi qf ↔
      Rx.Acc (fun p o r => o ∈ X p r) (· ∈ finals) init w :=
  Iff.trans ⟨fun h => ⟨qf, rfl, walk_symsLang_iff.mp h⟩,
    fun ⟨_, e, h⟩ => walk_symsLang_iff.mpr (e ▸ h)⟩ (acc_srcX hqi hqf hne hX hinit w)

/-- `from_nfa`: the label written when `input_symbol` is merged into the entry `o`. -/
def nfaMerge : Option Str → Option Char → Str
  | none, sym => symStr sym
  | some old, sym => mergeNfaLabel old sym

/-- What a label of `from_nfa` is: the empty string when only ε leads to the target so far,
otherwise a union of atoms for the edge words. -/
def NLab (xs : List (Option Char)) (s : Str) : Prop :=
  (s = [] ∧ ∀ x ∈ xs, x = none) ∨ (s ≠ [] ∧ ∃ e, UP e s ∧ e.den = symsLang xs)

theorem NLab.toLab {xs : List (Option Char)} {s : Str} (h : NLab xs s) (hx : xs ≠ []) :
    Lab (symsLang xs) s := by
  rcases h with ⟨hs, hall⟩ | ⟨_, e, hup, hd⟩
  · exact Or.inl ⟨hs, symsLang_eq_one hall hx⟩
  · exact Or.inr ⟨e, hup.toU, hd⟩

theorem nfaLabel_spec (syms : List Char) (xs : List (Option Char)) (hnone : xs.count none ≤ 1)
    (hlit : ∀ a, some a ∈ xs → IsLit a) (hsyms : ∀ a, some a ∈ xs → a ∈ syms) :
    ∀ s, labelOf nfaMerge xs = some s → NLab xs s ∧ Alphabet.Chars syms s := by
  have op : ∀ {c : Char}, c ∈ ['*', '|', '(', ')', '?'] → c ∈ syms ++ ['*', '|', '(', ')', '?'] :=
    Alphabet.op_mem syms
  induction xs using List.reverseRecOn with
  | nil => intro s h; cases h
  | append_singleton xs x ih =>
    intro s hs
    rw [labelOf_concat] at hs
    cases hs
    rw [List.count_append] at hnone
    have hlitx : ∀ a, x = some a → IsLit a := fun a ha => hlit a (ha ▸ by simp)
    have hsymx : ∀ a, x = some a → a ∈ syms ++ ['*', '|', '(', ')', '?'] := fun a ha =>
      List.mem_append_left _ (hsyms a (ha ▸ by simp))
    cases ho : labelOf nfaMerge xs with
    | none =>
      rw [labelOf_eq_none.mp ho]
      cases x with
      | none => exact ⟨Or.inl ⟨rfl, fun y hy => by simpa using hy⟩, Alphabet.Chars.nil _⟩
      | some a =>
        refine ⟨Or.inr ⟨List.cons_ne_nil _ _, .sym a, UP.one (Renders.sym (hlitx a rfl)), ?_⟩,
          Alphabet.Chars.cons (hsymx a rfl) (Alphabet.Chars.nil _)⟩
        rw [symsLang_concat, symsLang_nil, zero_add]; rfl
    | some old =>
      have hx : xs ≠ [] := fun h => by rw [h] at ho; cases ho
      obtain ⟨ihN, ihC⟩ := ih (by omega) (fun a ha => hlit a (List.mem_append_left _ ha))
        (fun a ha => hsyms a (List.mem_append_left _ ha)) old ho
      rcases ihN with ⟨rfl, hall⟩ | ⟨hold, e, hup, hd⟩
      · -- only ε so far: the new symbol is a real one, the label becomes `a?`
        obtain ⟨y, hy⟩ := List.exists_mem_of_ne_nil xs hx
        have h1 : 0 < xs.count none := List.count_pos_iff.mpr (hall y hy ▸ hy)
        cases x with
        | none => simp at hnone; omega
        | some a =>
          have hval : nfaMerge (some []) (some a) = [a] ++ ['?'] := by
            simp [nfaMerge, mergeNfaLabel, symStr]
          rw [hval]
          refine ⟨Or.inr ⟨by simp, .opt (.sym a),
            UP.one (Renders.opt (Renders.sym (hlitx a rfl))), ?_⟩,
            Alphabet.Chars.cons (hsymx a rfl) (Alphabet.Chars.ops _ (by decide))⟩
          rw [symsLang_concat, symsLang_eq_one hall hx]; rfl
      · cases x with
        | none =>
          have hval : nfaMerge (some old) none =
              if isBracketReq old then '(' :: old ++ [')', '?'] else old ++ ['?'] := by
            simp [nfaMerge, mergeNfaLabel, symStr, hold]
          have hq : Alphabet.Chars syms ['?'] := Alphabet.Chars.ops _ (by decide)
          rw [hval]
          refine ⟨Or.inr ⟨by split <;> simp, .opt e, ?_, ?_⟩, ?_⟩
          · by_cases hb : isBracketReq old = true
            · rw [if_pos hb]
              exact (by simp : ('(' :: old ++ [')']) ++ ['?'] = '(' :: old ++ [')', '?']) ▸
                UP.one (Renders.opt (Renders.paren hup.toU))
            · rw [if_neg hb]
              exact UP.one (Renders.opt (hup.toP (by simpa using hb)))
          · rw [symsLang_concat, ← hd, add_comm]; rfl
          · split
            · exact Alphabet.Chars.cons (op (by decide))
                (ihC.append (Alphabet.Chars.ops _ (by decide)))
            · exact ihC.append hq
        | some a =>
          have hval : nfaMerge (some old) (some a) = old ++ '|' :: [a] := by
            simp [nfaMerge, mergeNfaLabel, symStr, hold]
          rw [hval]
          refine ⟨Or.inr ⟨by simp, .union e (.sym a), UP.more hup (Renders.sym (hlitx a rfl)), ?_⟩,
            ihC.append (Alphabet.Chars.cons (op (by decide))
              (Alphabet.Chars.cons (hsymx a rfl) (Alphabet.Chars.nil _)))⟩
          rw [symsLang_concat, ← hd]; rfl

/-- `from_dfa`: the label written when `input_symbol` is merged into the entry `o`. -/
def dfaMerge : Option Str → Char → Str
  | none, a => [a]
  | some old, a => old ++ '|' :: [a]

/-- On real symbols `from_nfa` merges as `from_dfa` does: a label is never empty then, and a
non-empty label gets `|a` appended. -/
theorem dfaLabel_eq (xs : List Char) :
    labelOf dfaMerge xs = labelOf nfaMerge (xs.map some) ∧
      ∀ s, labelOf dfaMerge xs = some s → s ≠ [] := by
  induction xs using List.reverseRecOn with
  | nil => exact ⟨rfl, fun s h => by cases h⟩
  | append_singleton xs a ih =>
    rw [List.map_append, List.map_singleton, labelOf_concat, labelOf_concat, ← ih.1]
    cases ho : labelOf dfaMerge xs with
    | none => exact ⟨rfl, fun s h => by cases h; exact List.cons_ne_nil _ _⟩
    | some old =>
      have hold := ih.2 old ho
      refine ⟨?_, fun s h => by cases h; simp [dfaMerge]⟩
      simp [dfaMerge, nfaMerge, mergeNfaLabel, symStr, hold]

theorem nfaLabel_labO (syms : List Char) (xs : List (Option Char)) (hnone : xs.count none ≤ 1)
    (hlit : ∀ a, some a ∈ xs → IsLit a) (hsyms : ∀ a, some a ∈ xs → a ∈ syms) :
    LabO (symsLang xs) (labelOf nfaMerge xs) ∧
      ∀ s, labelOf nfaMerge xs = some s → Alphabet.Chars syms s := by
  refine ⟨?_, fun s hs => (nfaLabel_spec syms xs hnone hlit hsyms s hs).2⟩
  cases h : labelOf nfaMerge xs with
  | none => show symsLang xs = 0; rw [labelOf_eq_none.mp h, symsLang_nil]
  | some s =>
    exact (nfaLabel_spec syms xs hnone hlit hsyms s h).1.toLab fun hx => by rw [hx] at h; cases h

theorem alookup_castRow (row : List (σ × Str)) (r : σ) :
    alookup r (castRow row) = (alookup r row).map some :=
  alookup_map_val some r row

omit [DecidableEq σ] in
theorem akeys_castRow (row : List (σ × Str)) : akeys (castRow row) = akeys row :=
  akeys_map_val some row

/-- `rows` is what the first loop of `from_dfa` / `from_nfa` builds: the merged row `M q`, cast,
for every source state `q`. -/
structure RowsOf (states : List σ) (M : σ → List (σ × Str)) (rows : Table σ Str) : Prop where
  row : ∀ p, alookup p rows = if p ∈ states then some (castRow (M p)) else none
  nodup : (akeys rows).Nodup

theorem rowsOf_foldl (states : List σ) (M : σ → List (σ × Str)) :
    RowsOf states M ((dedup states).foldl (fun rows q => ainsert q (castRow (M q)) rows) []) :=
  ⟨fun p => by rw [alookup_foldl_ainsert fun q => castRow (M q)]; simp only [mem_dedup, alookup_nil],
    nodup_akeys_foldl_ainsert (fun _ q => q) (fun _ q => castRow (M q)) _ _ List.nodup_nil⟩

section
variable {states : List σ} {M : σ → List (σ × Str)} {rows : Table σ Str}

theorem RowsOf.isSome (h : RowsOf states M rows) (p : σ) : (alookup p rows).isSome ↔ p ∈ states := by
  rw [h.row]
  by_cases hp : p ∈ states
  · rw [if_pos hp]; exact ⟨fun _ => hp, fun _ => rfl⟩
  · rw [if_neg hp]; exact ⟨fun h => (Bool.false_ne_true h).elim, fun h => (hp h).elim⟩

theorem RowsOf.get2_eq (h : RowsOf states M rows) (p r : σ) :
    get2 rows p r = if p ∈ states then (alookup r (M p)).map some else none := by
  rw [get2, h.row]
  by_cases hp : p ∈ states
  · rw [if_pos hp, if_pos hp, Option.bind_some, alookup_castRow]
  · rw [if_neg hp, if_neg hp]; rfl

theorem RowsOf.lab_eq (h : RowsOf states M rows) {p : σ} (hp : p ∈ states) (r : σ) :
    lab rows p r = alookup r (M p) := by
  rw [lab, h.get2_eq, if_pos hp]
  cases alookup r (M p) <;> rfl

end

theorem mergeDfaRow_eq (row : List (Char × σ)) :
    mergeDfaRow row =
      row.foldl (fun acc e => ainsert e.2 (dfaMerge (alookup e.2 acc) e.1) acc) [] := by
  unfold mergeDfaRow
  congr 1
  funext acc e
  unfold mergeDfaStep
  cases alookup e.2 acc <;> rfl

theorem alookup_mergeDfaRow (row : List (Char × σ)) (t : σ) :
    alookup t (mergeDfaRow row) = labelOf nfaMerge ((symsTo row t).map some) := by
  rw [← (dfaLabel_eq _).1, mergeDfaRow_eq]
  exact alookup_foldl_merge dfaMerge t row []

theorem mergeDfaRow_nodup (row : List (Char × σ)) : (akeys (mergeDfaRow row)).Nodup := by
  rw [mergeDfaRow_eq]
  exact nodup_akeys_foldl_ainsert (fun _ e => e.2) (fun acc e => dfaMerge (alookup e.2 acc) e.1)
    row [] List.nodup_nil

theorem dfaRows_rowsOf (d : DFA σ Char) :
    RowsOf d.states (fun p => mergeDfaRow (d.row p)) (dfaRows d) := by
  have : dfaRowFor d = fun p => castRow (mergeDfaRow (d.row p)) := by
    funext p
    unfold dfaRowFor DFA.row DFA.row?
    cases alookup p d.trans <;> rfl
  unfold dfaRows
  rw [this]
  exact rowsOf_foldl _ _

def flatRow (row : List (Option Char × List σ)) : List (Option Char × σ) :=
  row.flatMap fun e => e.2.map fun t => (e.1, t)

omit [DecidableEq σ] in
theorem mem_flatRow {row : List (Option Char × List σ)} {sym : Option Char} {t : σ} :
    (sym, t) ∈ flatRow row ↔ ∃ ts, (sym, ts) ∈ row ∧ t ∈ ts := by
  unfold flatRow
  simp only [List.mem_flatMap, List.mem_map, Prod.mk.injEq]
  constructor
  · rintro ⟨e, he, t', ht', h1, rfl⟩
    exact ⟨e.2, by rw [← h1]; exact he, ht'⟩
  · rintro ⟨ts, hmem, ht⟩
    exact ⟨(sym, ts), hmem, t, ht, rfl, rfl⟩

omit [DecidableEq σ] in
theorem nodup_flatRow {row : List (Option Char × List σ)} (hk : (akeys row).Nodup)
    (ht : ∀ e ∈ row, e.2.Nodup) : (flatRow row).Nodup := by
  unfold flatRow
  rw [List.nodup_flatMap]
  constructor
  · intro e he
    exact (List.nodup_map_iff (fun _ _ h => (Prod.mk.inj h).2)).mpr (ht e he)
  · unfold akeys at hk
    rw [List.nodup_iff_pairwise_ne, List.pairwise_map] at hk
    refine hk.imp ?_
    intro a b hab
    show List.Disjoint _ _
    intro x hxa hxb
    obtain ⟨_, _, rfl⟩ := List.mem_map.mp hxa
    obtain ⟨_, _, h2⟩ := List.mem_map.mp hxb
    exact hab (Prod.mk.inj h2).1.symm

theorem mergeNfaRow_eq (row : List (Option Char × List σ)) :
    mergeNfaRow row =
      (flatRow row).foldl (fun acc e => ainsert e.2 (nfaMerge (alookup e.2 acc) e.1) acc) [] := by
  unfold mergeNfaRow flatRow
  rw [List.foldl_flatMap]
  congr 1
  funext acc e
  rw [List.foldl_map]
  congr 1
  funext acc t
  unfold mergeNfaStep
  cases alookup t acc <;> rfl

theorem alookup_mergeNfaRow (row : List (Option Char × List σ)) (t : σ) :
    alookup t (mergeNfaRow row) = labelOf nfaMerge (symsTo (flatRow row) t) := by
  rw [mergeNfaRow_eq]
  exact alookup_foldl_merge nfaMerge t _ []

theorem mergeNfaRow_nodup (row : List (Option Char × List σ)) :
    (akeys (mergeNfaRow row)).Nodup := by
  rw [mergeNfaRow_eq]
  exact nodup_akeys_foldl_ainsert (fun _ (e : Option Char × σ) => e.2)
    (fun acc e => nfaMerge (alookup e.2 acc) e.1) _ [] List.nodup_nil

theorem NFA.nodup_flatRow_row {n : NFA σ Char} (hkeys : ∀ kv ∈ n.trans, (akeys kv.2).Nodup)
    (htgts : ∀ kv ∈ n.trans, ∀ e ∈ kv.2, e.2.Nodup) (p : σ) : (flatRow (n.row p)).Nodup := by
  by_cases hrow : n.row p = []
  · rw [hrow]; exact List.nodup_nil
  · obtain ⟨e, he⟩ := List.exists_mem_of_ne_nil _ hrow
    exact nodup_flatRow (hkeys _ (NFA.row_mem_trans he)) (htgts _ (NFA.row_mem_trans he))

theorem nfaRows_rowsOf (n : NFA σ Char) :
    RowsOf n.states (fun p => mergeNfaRow (n.row p)) (nfaRows n) := by
  have : nfaRowFor n = fun p => castRow (mergeNfaRow (n.row p)) := by
    funext p
    rw [nfaRowFor, NFA.row_eq]
    cases alookup p n.trans <;> rfl
  unfold nfaRows
  rw [this]
  exact rowsOf_foldl _ _

end AV.GNFA
