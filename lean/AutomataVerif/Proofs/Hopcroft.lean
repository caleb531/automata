/-
Proofs/Hopcroft.lean — `hopcroft_nerode`: for every pop order, the partition computed by the
model of the `_minify` loop is a partition of the universe whose blocks are exactly the
Myhill–Nerode classes of the refinement system `(mdelta, mfin)`.
-/
import AutomataVerif.Proofs.HopcroftLoop
import AutomataVerif.Proofs.MinSystem

namespace AV
namespace DFA

variable {σ α : Type} [DecidableEq σ] [DecidableEq α]
variable {kept : List σ} {syms : List α} {trans : List (σ × List (α × σ))} {init : σ} {finals : List σ}

theorem mem_finals_iff (x : Option σ) : x ∈ finals.map some ↔ mfin finals x = true := by
  cases x with
  | none => simp [mfin]
  | some q => simp [mfin]

theorem init_ids (U : List (Option σ)) : (Part.init U).ids = [0] := rfl

theorem init_get (U : List (Option σ)) (x : Option σ) : x ∈ (Part.init U).get 0 ↔ x ∈ U :=
  mem_dedup

theorem init_wf {U : List (Option σ)} (hU : U ≠ []) : (Part.init U).WF U := by
  have h0 : ∀ {i}, i ∈ (Part.init U).ids → i = 0 := List.mem_singleton.mp
  refine ⟨List.pairwise_singleton _ _, fun i hi => h0 hi ▸ Nat.zero_lt_one, fun i hi => ?_,
    fun i hi => h0 hi ▸ nodup_dedup U, fun x => ?_, fun i hi j hj _ _ _ => (h0 hi).trans (h0 hj).symm⟩
  · obtain ⟨x, hx⟩ := List.exists_mem_of_ne_nil U hU
    exact h0 hi ▸ List.ne_nil_of_mem ((init_get U x).mpr hx)
  · exact ⟨fun hx => ⟨0, List.mem_singleton_self 0, (init_get U x).mpr hx⟩,
      fun ⟨i, hi, hx⟩ => (init_get U x).mp (h0 hi ▸ hx)⟩

/-- `final_states_id`. -/
def firstId (out : List (Nat × Nat)) : Nat :=
  match out with
  | pr :: _ => pr.1
  | [] => 0

theorem hopcroft_eq (kept : List σ) (syms : List α) (trans : List (σ × List (α × σ)))
    (finals : List σ) (pick : List Nat → Nat) :
    hopcroft kept syms trans finals pick =
      hopLoop (muniverse kept syms trans) (mdelta kept trans) syms pick
        (2 * (muniverse kept syms trans).length + 2)
        ((Part.init (muniverse kept syms trans)).refine (finals.map some)).1
        [firstId ((Part.init (muniverse kept syms trans)).refine (finals.map some)).2] := rfl

/-- At the start the blocks are the final and the non-final elements of the universe (block `0`
refined by `finals`), so images that lie in different blocks differ in finality, and the one
block of final elements, whose id is `firstId`, tells them apart: it may wait alone.  If nothing
was split, all images share block `0` and `witness` asks nothing. -/
theorem init_inv (h : MinHyp kept syms trans init finals) :
    Inv (muniverse kept syms trans) (mdelta kept trans) syms (MEquiv kept trans finals) (mfin finals)
      [] [] ((Part.init (muniverse kept syms trans)).refine (finals.map some)).1
      [firstId ((Part.init (muniverse kept syms trans)).refine (finals.map some)).2] := by
  have hU := h.muniverse_ne_nil
  have hclosed : ∀ x ∈ muniverse kept syms trans, ∀ a ∈ syms,
      mdelta kept trans x a ∈ muniverse kept syms trans := fun x hx a ha => mdelta_closed hx ha
  generalize muniverse kept syms trans = U at hU hclosed ⊢
  have hwf0 := init_wf hU
  have hs := Part.refine_spec hwf0 (finals.map some)
  generalize ((Part.init U).refine (finals.map some)).1 = r at hs ⊢
  generalize ((Part.init U).refine (finals.map some)).2 = out at hs ⊢
  have hwf : r.WF U := hs.wf hwf0
  have hsame0 : ∀ {x y}, x ∈ U → y ∈ U → (Part.init U).Same x y := by
    intro x y hx hy
    exact (Part.same_iff hwf0.ids_nodup).mpr
      ⟨0, List.mem_singleton_self 0, (init_get U x).mpr hx, (init_get U y).mpr hy⟩
  have hsame : ∀ {x y}, r.Same x y ↔ (Part.init U).Same x y ∧ (x ∈ finals.map some ↔ y ∈ finals.map some) :=
    hs.same_iff hwf0
  have hfin : ∀ {x y : Option σ}, (x ∈ finals.map some ↔ y ∈ finals.map some) ↔ mfin finals x = mfin finals y := by
    intro x y
    rw [mem_finals_iff, mem_finals_iff]
    exact Bool.eq_iff_iff.symm
  constructor
  · exact hwf
  · exact List.pairwise_singleton _ _
  · intro i hi
    rw [List.mem_singleton.mp hi]
    cases out with
    | nil => exact hs.mem_ids.mpr (Or.inl (List.mem_singleton_self 0))
    | cons pr rest => exact hs.mem_ids.mpr (Or.inr ⟨pr, List.mem_cons_self, rfl⟩)
  · intro x hx y hy hxy
    exact hsame.mpr ⟨hsame0 hx hy, hfin.mpr (hxy [])⟩
  · intro x y hxy
    exact hfin.mp (hsame.mp hxy).2
  · exact fun _ _ _ => ⟨nofun, nofun⟩
  · intro x y hxy a ha hns
    left
    obtain ⟨hxU, hyU⟩ := hwf.same_mem hxy
    have huU := hclosed x hxU a ha
    have hvU := hclosed y hyU a ha
    have hnF : ¬ (mdelta kept trans x a ∈ finals.map some ↔ mdelta kept trans y a ∈ finals.map some) :=
      fun hF => hns (hsame.mpr ⟨hsame0 huU hvU, hF⟩)
    obtain ⟨n, hn, h1, _⟩ := hs.sep_new (List.mem_singleton_self 0) ((init_get U _).mpr huU)
      ((init_get U _).mpr hvU) hnF
    -- block 0 is the only one that can be split, so `out` is the single pair `(n, 0)`
    cases out with
    | nil => cases hn
    | cons pr rest =>
      have hpr2 : pr.2 = 0 := by
        simpa [init_ids] using (hs.out_spec pr List.mem_cons_self).2.1.1
      have : pr.1 = n := hs.fst_unique pr List.mem_cons_self (n, 0) hn hpr2
      exact ⟨pr.1, List.mem_singleton_self _, this ▸ h1⟩

omit [DecidableEq σ] [DecidableEq α] in
theorem stable_of_witness {U : List (Option σ)} {delta : Option σ → α → Option σ} {syms : List α}
    {E : Option σ → Option σ → Prop} {fin : Option σ → Bool} {p : Part (Option σ)}
    (inv : Inv U delta syms E fin [] [] p []) {x y : Option σ} (hxy : p.Same x y) {a : α}
    (ha : a ∈ syms) : p.Same (delta x a) (delta y a) := by
  apply Classical.byContradiction
  intro hns
  rcases inv.witness x y hxy a ha hns with ⟨i, hi, _⟩ | ⟨hb, _⟩
  · cases hi
  · cases hb

theorem same_imp_mequiv (h : MinHyp kept syms trans init finals) {p : Part (Option σ)}
    (inv : Inv (muniverse kept syms trans) (mdelta kept trans) syms (MEquiv kept trans finals)
      (mfin finals) [] [] p []) :
    ∀ (w : List α) (x y : Option σ), p.Same x y →
      mfin finals (mrun kept trans x w) = mfin finals (mrun kept trans y w) := by
  intro w
  induction w with
  | nil => intro x y hxy; exact inv.fin_ok x y hxy
  | cons a w ih =>
    intro x y hxy
    rw [mrun_cons_eq, mrun_cons_eq]
    by_cases ha : a ∈ syms
    · exact ih _ _ (stable_of_witness inv hxy ha)
    · rw [mdelta_foreign h.keys ha x, mdelta_foreign h.keys ha y]

/-- C05, first half: for every pop order the loop of `_minify` ends (within the fuel of the
model) with the partition of the universe into Myhill–Nerode classes. -/
theorem hopcroft_nerode (h : MinHyp kept syms trans init finals) (pick : List Nat → Nat) :
    HopcroftCorrect kept syms trans finals pick := by
  unfold HopcroftCorrect
  rw [hopcroft_eq]
  -- the fuel `2 * |U| + 2` of the model: the work-list starts with one id and the partition with at
  -- least one block, so the potential of `hopLoop_inv` starts below it
  have inv := hopLoop_inv (E := MEquiv kept trans finals) (fin := mfin finals)
    (fun x hx a ha => mdelta_closed hx ha) (fun x y a hxy => hxy.step a) pick
    (2 * (muniverse kept syms trans).length + 2) _ _ (init_inv h)
    (Nat.lt_of_lt_of_le (Nat.add_lt_add_left Nat.one_lt_two _) (Nat.le_add_right _ _))
  refine ⟨inv.wf.isPartitionOf, ?_⟩
  intro x hx y hy
  constructor
  · intro hxy w
    exact same_imp_mequiv h inv w x y hxy
  · intro hxy
    exact inv.coarser x hx y hy hxy

/-- Non-vacuity: the hypotheses hold for a concrete partial DFA (the trap is needed), and the
theorem then speaks about a partition with more than one block. -/
example : MinHyp (σ := Nat) (α := Nat) [0, 1, 2] [0, 1]
    [(0, [(0, 1), (1, 2)]), (1, [(0, 1)]), (2, [(0, 1)])] 0 [1] where
  kept_nodup := by decide
  syms_nodup := by decide
  init_mem := by decide
  finals_sub := by decide
  rows := by decide
  keys := by
    intro q r hr a ha
    have hm := alookup_some_mem hr
    simp only [List.mem_cons, Prod.mk.injEq, List.not_mem_nil, or_false] at hm
    rcases hm with ⟨_, rfl⟩ | ⟨_, rfl⟩ | ⟨_, rfl⟩ <;> revert a <;> decide

example : (hopcroft (σ := Nat) (α := Nat) [0, 1, 2] [0, 1]
    [(0, [(0, 1), (1, 2)]), (1, [(0, 1)]), (2, [(0, 1)])] [1] (fun _ => 0)).blocks.length = 4 := by
  decide

end DFA
end AV
