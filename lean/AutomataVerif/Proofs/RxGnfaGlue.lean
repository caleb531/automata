/-
Proofs/RxGnfaGlue.lean — C12's concrete syntax (`Spec/GnfaRx.lean`) read by the C10 parser model.
The parser obligation `C12_parser_full` that Props/C12.lean leaves open, for `compile s` = the
language of `NFA.from_regex(s)`, and its form for `NFA.from_regex(s, input_symbols=Σ)`, from the
compilation theorems of C10 (hence the import of Props/C10).  `tr`, `mapLvl`, `translate` of this
namespace are in Proofs/GnfaValid.lean, which needs only the token grammar and so stays free of
Proofs/RxDen.  Unprefixed `Rx`, `Lvl`, `Renders` are C10's (token level); C12's carry the prefix
`GnfaSpec.`.
-/
import AutomataVerif.Props.C10
import AutomataVerif.Proofs.GnfaAlphabet
import AutomataVerif.Proofs.GnfaValid

namespace AV.Rx.GnfaGlue
open AV AV.Rx

theorem den_tr (syms : List Char) (e : GnfaSpec.Rx) : den syms (tr e) = e.den := by
  induction e with
  | eps => rfl
  | sym c => rfl
  | cat a b iha ihb => simp only [tr, den, GnfaSpec.Rx.den, iha, ihb]
  | union a b iha ihb => simp only [tr, den, GnfaSpec.Rx.den, iha, ihb]
  | star a iha => simp only [tr, den, GnfaSpec.Rx.den, iha]
  | opt a iha => simp only [tr, den, GnfaSpec.Rx.den, iha]

/-- The language of the NFA the library builds from a regex string (`none` when it raises). -/
def compile (s : List Char) : Option (Language Char) :=
  match fromRegex s none with
  | .ok N => some {w | N.accepts w = true}
  | .error _ => none

theorem compile_eq_some {s : List Char} {N : NFA Nat Char} {L : Language Char}
    (hN : fromRegex s none = .ok N) (hacc : ∀ w, N.accepts w = true ↔ w ∈ L) :
    compile s = some L := by
  unfold compile
  rw [hN]
  exact congrArg some (Set.ext hacc)

theorem of_compile_eq_some {s : List Char} {L : Language Char} (h : compile s = some L) :
    ∃ N, fromRegex s none = .ok N ∧ ∀ w, w ∈ L ↔ N.accepts w = true := by
  unfold compile at h
  cases hN : fromRegex s none with
  | error e => rw [hN] at h; cases h
  | ok N => rw [hN] at h; cases h; exact ⟨N, rfl, fun _ => Iff.rfl⟩

/-- The parser obligation at the level of labels: a string that denotes `L` compiles
(`NFA.from_regex`, default alphabet) to `L`. -/
theorem compile_of_lab {L : Language Char} {s : List Char} (h : GnfaSpec.Lab L s) :
    compile s = some L := by
  rcases h with ⟨rfl, rfl⟩ | ⟨e, hr, rfl⟩
  · obtain ⟨N, hN, -, -, hacc⟩ := (AV.Props.C10.C10_blank_only [] fun _ h => nomatch h).2
    exact compile_eq_some hN fun w => (hacc w).trans (Language.mem_one w).symm
  · obtain ⟨N, hN, _, hacc⟩ :=
      AV.Props.C10.C10_compile_default (GnfaSpec.renders_rchars hr.rchars) (translate hr)
    exact compile_eq_some hN fun w => den_tr (defaultSyms s) e ▸ hacc w

theorem parser_of_C10 :
    compile [] = some 1 ∧ ∀ e s, GnfaSpec.Renders .U e s → compile s = some e.den :=
  ⟨compile_of_lab (.inl ⟨rfl, rfl⟩), fun e _ hr => compile_of_lab (.inr ⟨e, hr, rfl⟩)⟩

/-- **The parser obligation with the source alphabet**: a string that denotes `L` and whose
characters are symbols of `Σ` or operator characters compiles with
`NFA.from_regex(s, input_symbols=Σ)` — `Σ` made of literal characters — to a valid NFA for `L`
(from `C10_compile`, and `C10_blank_only` for the empty string). -/
theorem compile_explicit {L : Language Char} {s : List Char} (h : GnfaSpec.Lab L s)
    (syms : List Char) (hlit : ∀ a ∈ syms, GnfaSpec.IsLit a)
    (hch : GNFA.Alphabet.Chars syms s) :
    ∃ N, fromRegex s (some syms) = .ok N ∧ N.validate = .ok () ∧
      ∀ w, N.accepts w = true ↔ w ∈ L := by
  have hres : ∀ c ∈ syms, isReserved c = false := fun c hc =>
    (GnfaSpec.symChar_of_isLit (hlit c hc)).2
  rcases h with ⟨rfl, rfl⟩ | ⟨e, hr, rfl⟩
  · obtain ⟨N, hN, hv, hacc⟩ := (AV.Props.C10.C10_blank_only [] fun _ h => nomatch h).1 syms hres
    exact ⟨N, hN, hv, fun w => (hacc w).trans (Language.mem_one w).symm⟩
  have hrend := GnfaSpec.renders_rchars hr.rchars
  have hlits : ∀ a ∈ (tr e).lits, a ∈ syms := by
    intro a ha
    obtain ⟨hmem, hnr⟩ := mem_defaultSyms.mp (renders_str_mem hrend a (lits_mem_tokens (translate hr) a ha))
    rcases List.mem_append.mp (hch a hmem) with h | h
    · exact h
    · -- the operator characters are reserved
      rw [(by decide : ∀ c ∈ ['*', '|', '(', ')', '?'], isReserved c = true) a h] at hnr
      cases hnr
  obtain ⟨N, hN, hv, hacc⟩ := AV.Props.C10.C10_compile hrend (translate hr) syms hres hlits
  exact ⟨N, hN, hv, fun w => by rw [hacc, den_tr]⟩

end AV.Rx.GnfaGlue
