/-
Proofs/ConvertE.lean — lemmas for Props/C19h.lean: the failure-tracking models of
Model/ConvertE.lean succeed and agree with the total models of Model/Convert.lean.
-/
import AutomataVerif.Model.ConvertE
import AutomataVerif.Proofs.OpsE
import AutomataVerif.Proofs.Subset
import AutomataVerif.Proofs.Read

namespace AV

open AV.C07

section alist
variable {κ : Type} [DecidableEq κ]

set_option linter.unusedSectionVars false in
@[simp] theorem akeys_map_pair {γ : Type} (f : κ → γ) (l : List κ) :
    akeys (l.map fun s => (s, f s)) = l :=
  akeys_tabulate l f

end alist

namespace DFA
variable {S α : Type} [DecidableEq S] [DecidableEq α]

/-- The loop state as a function of the list `sts` of discovered states, the rows `R` written so
far and the number `k` of states that have left the queue: `transitions` tabulates `R` on `sts`,
the queue is the rest of `sts`. -/
def tabSt (isFin : S → Bool) (sts : List S) (R : S → List (α × S)) (k : Nat) : ExpSt S α :=
  { trans := sts.map fun s => (s, R s), states := sts, finals := sts.filter isFin,
    queue := sts.drop k }

omit [DecidableEq S] [DecidableEq α] in
theorem tabSt_congr (isFin : S → Bool) {sts : List S} {R R' : S → List (α × S)} (k : Nat)
    (h : ∀ s ∈ sts, R s = R' s) : tabSt isFin sts R k = tabSt isFin sts R' k := by
  unfold tabSt
  rw [List.map_congr_left fun s hs => by rw [h s hs]]

def setRow (R : S → List (α × S)) (cur : S) (row : List (α × S)) (s : S) : List (α × S) :=
  if s = cur then row else R s

theorem expEdgeE_mk (isFin : S → Bool) (cur : S) (T : List (S × List (α × S))) (sts F Q : List S)
    (a : α) (t : S) :
    expEdgeE isFin cur ⟨T, sts, F, Q⟩ (a, t) =
      match alookup cur (if t ∈ sts then T else ainsert t [] T) with
      | none => .error (.py .keyError)
      | some row => .ok ⟨ainsert cur (ainsert a t row) (if t ∈ sts then T else ainsert t [] T),
          sinsert t sts, if isFin t then sinsert t F else F, if t ∈ sts then Q else Q ++ [t]⟩ := rfl

theorem expEdgeE_tab (isFin : S → Bool) {sts : List S} {R : S → List (α × S)} {k : Nat} {cur : S}
    (row : List (α × S)) (a : α) (t : S) (hnd : sts.Nodup) (hcur : cur ∈ sts)
    (hk : k ≤ sts.length) (hR : ∀ s, s ∉ sts → R s = []) :
    expEdgeE isFin cur (tabSt isFin sts (setRow R cur row) k) (a, t) =
      .ok (tabSt isFin (sinsert t sts) (setRow R cur (ainsert a t row)) k) := by
  have hcur' : cur ∈ sinsert t sts := mem_sinsert.mpr (Or.inr hcur)
  -- the table after `if tgt not in states: …; transitions[tgt] = {}`
  have h1 : (if t ∈ sts then sts.map fun s => (s, setRow R cur row s)
      else ainsert t [] (sts.map fun s => (s, setRow R cur row s))) =
      (sinsert t sts).map fun s => (s, setRow R cur row s) := by
    by_cases ht : t ∈ sts
    · rw [if_pos ht, sinsert_of_mem ht]
    · have hne : t ≠ cur := fun e => ht (e ▸ hcur)
      rw [if_neg ht, sinsert_of_not_mem ht, ainsert_of_not_mem (by rw [akeys_tabulate]; exact ht),
        List.map_append, List.map_singleton, setRow, if_neg hne, hR t ht]
  rw [tabSt, expEdgeE_mk, h1, ← filter_sinsert, ← drop_sinsert t hk,
    alookup_tabulate, if_pos hcur']
  dsimp only
  rw [ainsert_tab _ cur _ (nodup_sinsert hnd) hcur', tabSt]
  congr 3
  funext s
  unfold setRow
  rw [if_pos rfl]
  split <;> rfl

/-- All edges of `cur`: its row grows by `es`, the new targets are discovered in order. -/
theorem foldlE_tab (isFin : S → Bool) {R : S → List (α × S)} {k : Nat} {cur : S}
    (es : List (α × S)) : ∀ (row : List (α × S)) (sts : List S), sts.Nodup → cur ∈ sts →
      k ≤ sts.length → (∀ s, s ∉ sts → R s = []) → (akeys (row ++ es)).Nodup →
      foldlE (expEdgeE isFin cur) (tabSt isFin sts (setRow R cur row) k) es =
        .ok (tabSt isFin (sunion sts (avals es)) (setRow R cur (row ++ es)) k) := by
  induction es with
  | nil => intro row sts _ _ _ _ _; rw [List.append_nil]; rfl
  | cons e es ih =>
    obtain ⟨a, t⟩ := e
    intro row sts hnd hcur hk hR hkeys
    have ha : a ∉ akeys row := fun h => by
      rw [akeys, List.map_append] at hkeys
      exact (List.nodup_append.mp hkeys).2.2 a h a List.mem_cons_self rfl
    rw [foldlE, expEdgeE_tab isFin row a t hnd hcur hk hR, ainsert_of_not_mem ha]
    dsimp only
    rw [ih (row ++ [(a, t)]) (sinsert t sts) (nodup_sinsert hnd)
      (mem_sinsert.mpr (.inr hcur)) (Nat.le_trans hk (length_le_sinsert t sts))
      (fun s hs => hR s fun h => hs (mem_sinsert.mpr (.inr h)))
      (by rwa [List.append_assoc]), List.append_assoc]
    rfl

theorem expLoopE_nil (succE : S → Res (List (α × S))) (isFin : S → Bool) (n : Nat)
    {st : ExpSt S α} (h : st.queue = []) : expLoopE succE isFin (n + 1) st = .ok st := by
  rw [expLoopE, h]

theorem expLoopE_cons {succE : S → Res (List (α × S))} (isFin : S → Bool) (n : Nat)
    {st : ExpSt S α} {q : S} {work : List S} {es : List (α × S)} (h : st.queue = q :: work)
    (hs : succE q = .ok es) :
    expLoopE succE isFin (n + 1) st =
      match foldlE (expEdgeE isFin q) ⟨st.trans, st.states, st.finals, work⟩ es with
      | .error e => .error e
      | .ok st' => expLoopE succE isFin n st' := by
  rw [expLoopE, h]
  simp only [hs]
  rfl

theorem expLoopE_succ_ok {succE : S → Res (List (α × S))} {isFin : S → Bool} {n : Nat}
    {st st' : ExpSt S α} (h : expLoopE succE isFin (n + 1) st = .ok st') :
    (st.queue = [] ∧ st' = st) ∨ ∃ q work es st1, st.queue = q :: work ∧ succE q = .ok es ∧
      foldlE (expEdgeE isFin q) ⟨st.trans, st.states, st.finals, work⟩ es = .ok st1 ∧
      expLoopE succE isFin n st1 = .ok st' := by
  cases hq : st.queue with
  | nil => rw [expLoopE_nil succE isFin n hq] at h; exact .inl ⟨rfl, (Except.ok.inj h).symm⟩
  | cons q work =>
    cases hs : succE q with
    | error e => rw [expLoopE, hq] at h; simp only [hs] at h; cases h
    | ok es =>
      rw [expLoopE_cons isFin n hq hs] at h
      split at h
      · cases h
      · next st1 h1 => exact .inr ⟨q, work, es, st1, rfl, hs, h1, h⟩

/-- The loop from a state in which the first `k` discovered states have been expanded: it ends
with every state of the BFS expanded.  Every loop state is a `tabSt`: `sts` is the discovery order,
the `k` popped states are its prefix (the queue is `sts.drop k`), and `R` is `succ` on them and `[]`
on the rest.  A discovered state thus always has a row, which is why `transitions[cur_state_name]`
hits; one iteration (`foldlE_tab` on the edges of `sts[k]`) is one step of `bfsAux`. -/
theorem expLoopE_tab {succE : S → Res (List (α × S))} {succ : S → List (α × S)} {univ : List S}
    (isFin : S → Bool) (hsE : ∀ u ∈ univ, succE u = .ok (succ u))
    (hclosed : ∀ u ∈ univ, ∀ e ∈ succ u, e.2 ∈ univ)
    (hkeys : ∀ u ∈ univ, (akeys (succ u)).Nodup) :
    ∀ (fuel : Nat) (sts : List S) (R : S → List (α × S)) (k : Nat), sts.Nodup →
      (∀ v ∈ sts, v ∈ univ) → k ≤ sts.length → (∀ s ∈ sts.take k, R s = succ s) →
      (∀ s, s ∉ sts.take k → R s = []) → univ.length - k < fuel →
      expLoopE succE isFin fuel (tabSt isFin sts R k) =
        .ok (tabSt isFin (bfsAux (fun s => avals (succ s)) fuel (sts.drop k) sts) succ
          (bfsAux (fun s => avals (succ s)) fuel (sts.drop k) sts).length) := by
  intro fuel
  induction fuel with
  | zero => intro _ _ _ _ _ _ _ _ hf; exact absurd hf (Nat.not_lt_zero _)
  | succ n ih =>
    intro sts R k hnd hu hk hRs hRe hf
    cases hdrop : sts.drop k with
    | nil =>
      -- empty queue: all of `sts` is expanded, so `R` agrees with `succ` on the whole table
      have hk' : k = sts.length := Nat.le_antisymm hk (List.drop_eq_nil_iff.mp hdrop)
      rw [expLoopE_nil succE isFin n hdrop, bfsAux, ← hk']
      rw [hk', List.take_length] at hRs
      rw [tabSt_congr isFin k hRs]
    | cons cur rest =>
      have hk' : k < sts.length := Nat.lt_of_not_le fun h => by
        rw [List.drop_eq_nil_iff.mpr h] at hdrop; cases hdrop
      rw [List.drop_eq_getElem_cons hk'] at hdrop
      injection hdrop with hcur hrest
      have hcs : cur ∈ sts := hcur ▸ List.getElem_mem hk'
      have hcu := hu cur hcs
      have hct : cur ∉ sts.take k := fun h => by
        have hd := List.take_append_drop k sts ▸ hnd
        exact (List.nodup_append.mp hd).2.2 cur h cur
          (by rw [List.drop_eq_getElem_cons hk', hcur]; exact List.mem_cons_self) rfl
      -- the pop, then the edges of `cur`
      have hpop : (⟨(tabSt isFin sts R k).trans, (tabSt isFin sts R k).states,
          (tabSt isFin sts R k).finals, sts.drop (k + 1)⟩ : ExpSt S α) =
          tabSt isFin sts (setRow R cur []) (k + 1) := by
        refine tabSt_congr isFin (k + 1) fun s _ => ?_
        unfold setRow
        split
        · next h => rw [h, hRe cur hct]
        · rfl
      have hfold := foldlE_tab isFin (R := R) (k := k + 1) (succ cur) [] sts hnd hcs hk'
        (fun s hs => hRe s fun h => hs (List.mem_of_mem_take h))
        (by rw [List.nil_append]; exact hkeys cur hcu)
      rw [List.nil_append] at hfold
      have hsts : sunion sts (avals (succ cur)) =
          sts ++ dedup ((avals (succ cur)).filter fun t => decide (t ∉ sts)) := by
        have := sunion_eq_append sts (avals (succ cur)) []
        rwa [List.append_nil] at this
      have hnd' := nodup_sunion (r := avals (succ cur)) hnd
      have hu' : ∀ v ∈ sunion sts (avals (succ cur)), v ∈ univ := fun v hv => by
        rcases mem_sunion.mp hv with h | h
        · exact hu v h
        · obtain ⟨e, he, rfl⟩ := List.mem_map.mp h
          exact hclosed cur hcu e he
      have hlen' : sts.length ≤ (sunion sts (avals (succ cur))).length := by
        rw [hsts, List.length_append]; exact Nat.le_add_right _ _
      -- `k` counts the pops, and there are no more discovered states than `univ` has elements
      have hfuel : univ.length - (k + 1) < n :=
        Nat.lt_of_lt_of_le (Nat.sub_succ_lt_self _ _
          (Nat.lt_of_lt_of_le hk' (List.Nodup.length_le_of_subset hnd hu))) (Nat.le_of_lt_succ hf)
      -- new targets are appended behind `sts`, so the expanded prefix only gains `cur`
      have htake : (sunion sts (avals (succ cur))).take (k + 1) = sts.take k ++ [cur] := by
        rw [hsts, List.take_append_of_le_length hk', List.take_succ_eq_append_getElem hk', hcur]
      rw [expLoopE_cons isFin n (by rw [← hcur]; exact List.drop_eq_getElem_cons hk')
        (hsE cur hcu), hpop, hfold]
      dsimp only
      rw [ih _ _ (k + 1) hnd' hu' (Nat.le_trans hk' hlen')
        (fun s hs => ?_) (fun s hs => ?_) hfuel, bfsAux, hsts,
        List.drop_append_of_le_length hk', hrest]
      · rw [htake] at hs
        unfold setRow
        split
        · next h => rw [h]
        · next h => exact hRs s ((List.mem_append.mp hs).resolve_right fun h' =>
            h (List.mem_singleton.mp h'))
      · rw [htake] at hs
        have hs' := not_or.mp fun h => hs (List.mem_append.mpr h)
        unfold setRow
        rw [if_neg fun h => hs'.2 (List.mem_singleton.mpr h), hRe s hs'.1]

theorem expLoopE_init_eq {succE : S → Res (List (α × S))} {succ : S → List (α × S)} {univ : List S}
    {fuel : Nat} {init : S} (isFin : S → Bool)
    (h : ExpandHyp succ univ fuel init) (hsE : ∀ u ∈ univ, succE u = .ok (succ u)) :
    expLoopE succE isFin fuel (expInit isFin init) =
      .ok ⟨(bfsStates succ fuel init).map fun s => (s, succ s), bfsStates succ fuel init,
        (bfsStates succ fuel init).filter isFin, []⟩ := by
  have h0 : (expInit isFin init : ExpSt S α) = tabSt isFin [init] (fun _ => []) 0 := by
    unfold expInit tabSt
    cases hf : isFin init
    · rw [List.filter_cons_of_neg (by rw [hf]; exact Bool.false_ne_true)]; rfl
    · rw [List.filter_cons_of_pos hf]; rfl
  rw [h0, expLoopE_tab isFin hsE h.closed h.keysNodup fuel [init] _ 0
    (List.nodup_cons.mpr ⟨List.not_mem_nil, List.nodup_nil⟩)
    (fun v hv => List.mem_singleton.mp hv ▸ h.init_mem) (Nat.zero_le _) (fun _ hs => nomatch hs)
    (fun _ _ => rfl) h.fuel_ok, tabSt, List.drop_length]
  rfl

theorem expandE_eq {succE : S → Res (List (α × S))} {succ : S → List (α × S)} {univ : List S}
    {fuel : Nat} {init : S} (isFin : S → Bool) (syms : List α)
    (h : ExpandHyp succ univ fuel init) (hsE : ∀ u ∈ univ, succE u = .ok (succ u)) :
    expandE succE isFin syms fuel init = .ok (expand succ isFin syms fuel init) := by
  unfold expandE
  rw [expLoopE_init_eq isFin h hsE]
  rfl

end DFA

namespace NFA
variable {σ α : Type} [DecidableEq σ] [DecidableEq α]

theorem subsetSuccE_eq {n : NFA σ α} (wf : n.WF) (S : List σ) :
    n.subsetSuccE S = .ok (n.subsetSucc S) := by
  -- every target set that is met consists of declared states: `lambda_closures[end_state]` hits
  have hcl : ∀ e ∈ entries n S, bindE (mapE n.closureE e.2) (fun cs => .ok (e.1, cs.flatten)) =
      .ok (e.1, e.2.flatMap n.closure) := by
    rintro ⟨a, ts⟩ he
    obtain ⟨q, _, hrow, _⟩ := (mem_entries n S a ts).mp he
    rw [bindE_ok (mapE_eq_ok _ n.closure _ fun t ht =>
      closureE_eq ((NFA.row_entry wf hrow).2 t ht)), List.flatMap_def]
  show bindE (mapE _ (entries n S)) _ = _
  rw [bindE_ok (mapE_eq_ok _ _ _ hcl), subsetSucc_eq]
  simp only [List.map_map, List.filter_map, List.flatMap_map]
  rfl

theorem elimStepE_eq {n : NFA σ α} (wf : n.WF)
    (acc : List (σ × List (Option α × List σ)) × List σ) {q : σ} (hq : q ∈ n.states) :
    n.elimStepE acc q = .ok (n.elimStep acc q) := by
  unfold elimStepE
  rw [bindE_ok (closureE_eq hq)]
  simp only
  rw [bindE_ok (foldlE_eq_foldl
    (g := fun tr a => elimUpd q a (n.nextStates ((n.closure q).filter fun p => decide (p ≠ q)) a) tr)
    (fun tr a _ => by rw [bindE_ok (nextStatesE_eq wf _ a)]) acc.1)]
  rfl

theorem eliminateLambdaE_eq {n : NFA σ α} (wf : n.WF) :
    n.eliminateLambdaE = .ok n.eliminateLambda := by
  unfold eliminateLambdaE
  rw [bindE_ok (foldlE_eq_foldl (fun acc q hq => elimStepE_eq wf acc hq) _)]
  rfl

end NFA
end AV
