/-
Proofs/MinPrepass.lean — the transition digraph of a DFA and the pre-pass of `DFA.minify`
(core only).

The digraph: `accessible` / `coaccessible` are reachability along `succStates` / `predStates`,
an edge is a move, reachability is a run, and co-accessible = live (the computable reading of
`DFA.Live`).  `isfinite` (Proofs/CompareFinite.lean) uses these too.

The pre-pass: `Kept d K` is what makes `K` admissible as the `kept` argument of `_minify` on the
table of `d`; it holds for `partialStates` ((accessible ∩ co-accessible) ∪ {init}: `to_partial`,
and `minify` of a partial `d`) and for `accessible` (`complement`, and `minify` of a complete `d`).
The refinement system restricted to such a `K` has, from every state of `K`, the right language
of that state in `d`: a transition into a pruned state leads to a state from which no final state
is reachable, which is what the trap stands for.
-/
import AutomataVerif.Proofs.MinSystem
import AutomataVerif.Proofs.Minimal
import AutomataVerif.Proofs.PyShape
import AutomataVerif.Proofs.PathLen

namespace AV
namespace DFA

variable {σ α : Type} [DecidableEq σ] [DecidableEq α]

section graph
variable (d : DFA σ α)

section
omit [DecidableEq α]

theorem predStates_sub_keys {u v : σ} (h : v ∈ d.predStates u) : v ∈ akeys d.trans := by
  unfold predStates at h
  obtain ⟨kv, hkv, hv⟩ := List.mem_map.mp h
  exact List.mem_map.mpr ⟨kv, (List.mem_filter.mp hkv).1, hv⟩

end

theorem step?_succ {q t : σ} {a : α} (h : d.step? (some q) a = some t) : t ∈ d.succStates q :=
  alookup_some_val_mem (k := a) h

omit [DecidableEq α] in
theorem succ_pred {q t : σ} (h : t ∈ d.succStates q) : q ∈ d.predStates t :=
  List.mem_map.mpr ⟨(q, d.row q), List.mem_filter.mpr ⟨succStates_row d h, decide_eq_true h⟩, rfl⟩

omit [DecidableEq α] in
/-- With duplicate-free keys the row that `predStates` found for `q` is `d.row q`. -/
theorem pred_succ (hk : (akeys d.trans).Nodup) {q t : σ} (h : q ∈ d.predStates t) :
    t ∈ d.succStates q := by
  obtain ⟨⟨q', r⟩, hkv, rfl⟩ := List.mem_map.mp h
  obtain ⟨hmem, ht⟩ := List.mem_filter.mp hkv
  have hrow : d.row q' = r := row_of_mem hk hmem
  subst hrow
  exact of_decide_eq_true ht

variable {d}

section
omit [DecidableEq α]

theorem init_sub_graphNodes (wf : d.WF) : ∀ s ∈ [d.init], s ∈ d.graphNodes :=
  fun _ hs => List.mem_singleton.mp hs ▸ states_sub_graphNodes d wf.initOk

theorem mem_accessible_iff (wf : d.WF) {q : σ} :
    q ∈ d.accessible ↔ Reach d.succStates d.init q :=
  (mem_bfs_iff d.succStates (init_sub_graphNodes wf)
    fun _ _ _ hv => succStates_sub_graphNodes d hv).trans
    ⟨fun ⟨_, hs, hr⟩ => List.mem_singleton.mp hs ▸ hr, fun hr => ⟨_, List.mem_singleton_self _, hr⟩⟩

theorem nodup_accessible (wf : d.WF) : d.accessible.Nodup :=
  nodup_bfs d.succStates (init_sub_graphNodes wf) fun _ _ _ hv => succStates_sub_graphNodes d hv

theorem init_mem_accessible (wf : d.WF) : d.init ∈ d.accessible :=
  (mem_accessible_iff wf).mpr (Reach.refl _)

theorem mem_coaccessible_iff (wf : d.WF) {q : σ} :
    q ∈ d.coaccessible ↔ ∃ f ∈ d.finals, Reach d.predStates f q := by
  unfold coaccessible
  rw [mem_bfs_iff d.predStates (univ := d.graphNodes) (srcs := d.finals)]
  · intro s hs; exact states_sub_graphNodes d (wf.finalsOk s hs)
  · intro u _ v hv; exact keys_sub_graphNodes d (predStates_sub_keys d hv)

theorem reach_states (wf : d.WF) {q : σ} (h : Reach d.succStates d.init q) : q ∈ d.states := by
  induction h with
  | refl => exact wf.initOk
  | tail _ hc _ =>
    exact wf.tgtOk _ (succStates_row d hc) _ hc

end

theorem accessible_step (wf : d.WF) {q t : σ} {a : α} (hq : q ∈ d.accessible)
    (h : d.step? (some q) a = some t) : t ∈ d.accessible := by
  rw [mem_accessible_iff wf] at hq ⊢
  exact Reach.tail hq (step?_succ d h)

omit [DecidableEq α] in
theorem mem_coaccessible_iff_reach (d : DFA σ α) (wf : d.WF) (pd : d.PyShape) {q : σ} :
    q ∈ d.coaccessible ↔ ∃ f ∈ d.finals, Reach d.succStates q f := by
  rw [mem_coaccessible_iff wf]
  exact ⟨fun ⟨f, hf, hr⟩ => ⟨f, hf, hr.reverse fun _ _ => pred_succ d pd.keys_nodup⟩,
    fun ⟨f, hf, hr⟩ => ⟨f, hf, hr.reverse fun _ _ => succ_pred d⟩⟩

theorem reach_of_run (d : DFA σ α) {w : List α} {q r : σ} (h : d.run (some q) w = some r) :
    Reach d.succStates q r :=
  reach_iff_pathLen.mpr ⟨_, pathLen_of_run h⟩

theorem run_of_reach (d : DFA σ α) (hr : ∀ kv ∈ d.trans, (akeys kv.2).Nodup) {q r : σ}
    (h : Reach d.succStates q r) : ∃ w, d.run (some q) w = some r :=
  let ⟨_, hn⟩ := reach_iff_pathLen.mp h
  let ⟨w, _, hw⟩ := run_of_pathLen hr hn
  ⟨w, hw⟩

theorem coaccessible_of_live (wf : d.WF) {q : σ} (h : d.Live q) : q ∈ d.coaccessible := by
  obtain ⟨w, hw⟩ := h
  cases hr : d.run (some q) w with
  | none => rw [hr] at hw; cases hw
  | some f =>
    rw [hr] at hw
    exact (mem_coaccessible_iff wf).mpr
      ⟨f, of_decide_eq_true hw, (reach_of_run d hr).reverse fun _ _ => succ_pred d⟩

theorem live_of_coaccessible (wf : d.WF) (hk : (akeys d.trans).Nodup)
    (hr : ∀ kv ∈ d.trans, (akeys kv.2).Nodup) {q : σ} (h : q ∈ d.coaccessible) : d.Live q := by
  obtain ⟨f, hf, hreach⟩ := (mem_coaccessible_iff wf).mp h
  obtain ⟨w, hw⟩ := run_of_reach d hr (hreach.reverse fun _ _ => pred_succ d hk)
  exact ⟨w, by rw [hw]; exact decide_eq_true hf⟩

/-- The computable reading of liveness: `get_reachable_nodes(graph, final_states, reversed)`. -/
theorem mem_coaccessible_iff_live (wf : d.WF) (ps : d.PyShape) {q : σ} :
    q ∈ d.coaccessible ↔ d.Live q :=
  ⟨live_of_coaccessible wf ps.keys_nodup ps.rows_nodup, coaccessible_of_live wf⟩

end graph

section kept
variable {d : DFA σ α}

section
omit [DecidableEq α]

/-- `new_states = (live_states & non_trap_states) | {initial_state}` of `to_partial`, and of
`minify` on a partial DFA. -/
def partialStates (d : DFA σ α) : List σ :=
  sinsert d.init (d.accessible.filter fun q => decide (q ∈ d.coaccessible))

theorem mem_partialStates {q : σ} :
    q ∈ d.partialStates ↔ q = d.init ∨ (q ∈ d.accessible ∧ q ∈ d.coaccessible) := by
  unfold partialStates
  rw [mem_sinsert, List.mem_filter, decide_eq_true_eq]

theorem partialStates_accessible (wf : d.WF) {q : σ} (hq : q ∈ d.partialStates) :
    q ∈ d.accessible := by
  rcases mem_partialStates.mp hq with rfl | ⟨h, _⟩
  · exact init_mem_accessible wf
  · exact h

theorem minifyKept_of_partial (hp : d.allowPartial = true) : d.minifyKept = d.partialStates := by
  unfold minifyKept; rw [hp]; rfl

/-- The BFS of the complete branch of `minify` is the same computation as `accessible`. -/
theorem minifyKept_of_complete (hc : d.allowPartial = false) : d.minifyKept = d.accessible := by
  unfold minifyKept; rw [hc]; rfl

theorem mem_minifyKept_iff (wf : d.WF) {q : σ} :
    q ∈ d.minifyKept ↔
      q = d.init ∨ (Reach d.succStates d.init q ∧ (d.allowPartial = false ∨ q ∈ d.coaccessible)) := by
  cases hp : d.allowPartial with
  | true => simp [minifyKept_of_partial hp, mem_partialStates, mem_accessible_iff wf]
  | false =>
    rw [minifyKept_of_complete hp, mem_accessible_iff wf]
    exact ⟨fun h => Or.inr ⟨h, Or.inl rfl⟩, fun h => h.elim (fun h => h ▸ Reach.refl _) fun h => h.1⟩

end

/-- `K` may be handed to `_minify` as the kept states of `d`: it holds the initial state, every
member is reached from it by a run that stays inside `K`, and a transition that leaves `K` ends
in a dead state (which is what the trap stands for). -/
structure Kept (d : DFA σ α) (K : List σ) : Prop where
  nodup : K.Nodup
  init_mem : d.init ∈ K
  sub : ∀ q ∈ K, q ∈ d.states
  /-- the premise (rows are dicts: `PyShape.rows_nodup`) is what turns an edge of the digraph into
  a move of `step?`; without it graph reachability gives no run -/
  reach : (∀ kv ∈ d.trans, (akeys kv.2).Nodup) → ∀ q ∈ K, ∃ w, mrun K d.trans (some d.init) w = some q
  dead : ∀ q ∈ K, ∀ a t, d.step? (some q) a = some t → t ∉ K → ¬ d.Live t

/-- The initial state together with the reachable states that satisfy `P`, when predecessors
inherit `P` and a reachable state without `P` is dead. -/
theorem kept_of_pred_closed (wf : d.WF) {K : List σ}
    {P : σ → Prop} (hnd : K.Nodup)
    (hK : ∀ q, q ∈ K ↔ q = d.init ∨ (Reach d.succStates d.init q ∧ P q))
    (hP : ∀ q t, t ∈ d.succStates q → P t → P q)
    (hdead : ∀ t, ¬ P t → ¬ d.Live t) : Kept d K := by
  have hreach : ∀ q ∈ K, Reach d.succStates d.init q := fun q hq =>
    ((hK q).mp hq).elim (fun h => h ▸ Reach.refl _) fun h => h.1
  refine ⟨hnd, (hK _).mpr (Or.inl rfl), fun q hq => reach_states wf (hreach q hq), fun hr q hq => ?_,
    fun q hq a t hs ht hl => hdead t (fun hp => ht ((hK t).mpr (Or.inr
      ⟨Reach.tail (hreach q hq) (step?_succ d hs), hp⟩))) hl⟩
  have key : ∀ b, Reach d.succStates d.init b → P b →
      ∃ w, mrun K d.trans (some d.init) w = some b := by
    intro b hb
    induction hb with
    | refl => intro _; exact ⟨[], rfl⟩
    | @tail b c hb hc ih =>
      intro hk
      obtain ⟨w, hw⟩ := ih (hP b c hc hk)
      obtain ⟨a, ha⟩ := (mem_avals_row_iff hr).mp hc
      refine ⟨w ++ [a], ?_⟩
      rw [mrun_append, hw]
      exact (mdelta_of_step? ha).trans (if_pos ((hK c).mpr (Or.inr ⟨Reach.tail hb hc, hk⟩)))
  rcases (hK q).mp hq with h | h
  · subst h; exact ⟨[], rfl⟩
  · exact key q h.1 h.2

omit [DecidableEq α] in
theorem coaccessible_pred (wf : d.WF) {q t : σ} (hc : t ∈ d.succStates q) (ht : t ∈ d.coaccessible) :
    q ∈ d.coaccessible := by
  obtain ⟨f, hf, hfc⟩ := (mem_coaccessible_iff wf).mp ht
  exact (mem_coaccessible_iff wf).mpr ⟨f, hf, Reach.tail hfc (succ_pred d hc)⟩

theorem kept_partialStates (wf : d.WF) : Kept d d.partialStates :=
  kept_of_pred_closed wf
    (nodup_sinsert (List.Nodup.sublist List.filter_sublist (nodup_accessible wf)))
    (fun _ => by rw [mem_partialStates, mem_accessible_iff wf])
    (fun _ _ hc => coaccessible_pred wf hc) fun _ hp hl => hp (coaccessible_of_live wf hl)

theorem kept_accessible (wf : d.WF) : Kept d d.accessible :=
  kept_of_pred_closed (P := fun _ => True) wf (nodup_accessible wf)
    (fun q => by
      rw [mem_accessible_iff wf]
      exact ⟨fun h => Or.inr ⟨h, trivial⟩, fun h => h.elim (fun e => e ▸ Reach.refl _) fun h => h.1⟩)
    (fun _ _ _ _ => trivial) fun _ hp => absurd trivial hp

theorem kept_minifyKept (wf : d.WF) : Kept d d.minifyKept := by
  cases hp : d.allowPartial with
  | true => exact minifyKept_of_partial hp ▸ kept_partialStates wf
  | false => exact minifyKept_of_complete hp ▸ kept_accessible wf

/-- `reachable_final_states`. -/
abbrev minifyFinals (d : DFA σ α) : List σ := d.finals.filter fun q => decide (q ∈ d.minifyKept)

theorem right_lang_of_dead {K fin : List σ}
    (hdead : ∀ q ∈ K, ∀ a t, d.step? (some q) a = some t → t ∉ K → ¬ d.Live t)
    (hfin : ∀ q ∈ K, (q ∈ fin ↔ q ∈ d.finals)) {q : σ} (hq : q ∈ K) (w : List α) :
    mfin fin (mrun K d.trans (some q) w) = d.isFinal (d.run (some q) w) :=
  isFinal_run_prune (g := mdelta K d.trans) (fin := mfin fin) (K := (· ∈ K))
    (keep := fun t => decide (t ∈ K)) (fun _ => rfl) rfl
    (fun q hq => decide_eq_decide.mpr (hfin q hq)) (fun q _ a => mdelta_eq_filter (some q) a)
    (fun _ _ _ _ _ ht => of_decide_eq_true ht)
    (fun q hq a t hs ht => hdead q hq a t hs (of_decide_eq_false ht)) hq w

theorem Kept.minHyp {K : List σ} (h : Kept d K) (wf : d.WF) (hsyms : d.syms.Nodup) {fin : List σ}
    (hsub : ∀ q ∈ fin, q ∈ K) : MinHyp K d.syms d.trans d.init fin where
  kept_nodup := h.nodup
  syms_nodup := hsyms
  init_mem := h.init_mem
  finals_sub := hsub
  rows := fun q hq => wf.rows q (h.sub q hq)
  keys := fun q r hr a ha => wf.symsOk (q, r) (alookup_some_mem hr) a ha

/-- The refinement system that `minify` hands to `_minify` accepts the language of `d`. -/
theorem prepass_accepts (wf : d.WF) (w : List α) :
    mfin d.minifyFinals (mrun d.minifyKept d.trans (some d.init) w) = d.accepts w :=
  right_lang_of_dead (kept_minifyKept wf).dead (fun q hq => by simp [List.mem_filter, hq])
    (kept_minifyKept wf).init_mem w

end kept

end DFA
end AV
