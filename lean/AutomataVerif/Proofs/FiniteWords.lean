/-
Proofs/FiniteWords.lean — a set of words over a finite alphabet is finite iff the lengths of its words
are bounded, infinite iff they are unbounded.  The one place where the `Set.Finite` statements of C06 and C13 meet Mathlib.
-/
import Mathlib.Data.Set.Finite.Basic

namespace AV
namespace DFA

variable {α : Type}

/-- All words over `syms` of length at most `n`. -/
def wordsLe (syms : List α) : Nat → List (List α)
  | 0 => [[]]
  | n + 1 => [] :: (wordsLe syms n).flatMap fun w => syms.map fun a => a :: w

theorem mem_wordsLe {syms : List α} :
    ∀ (n : Nat) (w : List α), w.length ≤ n → (∀ a ∈ w, a ∈ syms) → w ∈ wordsLe syms n := by
  intro n
  induction n with
  | zero =>
    intro w hw _
    have : w = [] := List.eq_nil_of_length_eq_zero (by omega)
    subst this
    simp [wordsLe]
  | succ n ih =>
    intro w hw hs
    cases w with
    | nil => simp [wordsLe]
    | cons a w =>
      simp only [wordsLe]
      refine List.mem_cons_of_mem _ (List.mem_flatMap.mpr ⟨w, ih w ?_ ?_, ?_⟩)
      · simpa using hw
      · exact fun b hb => hs b (List.mem_cons_of_mem _ hb)
      · exact List.mem_map.mpr ⟨a, hs a (by simp), rfl⟩

theorem finite_iff_bounded {syms : List α} {L : Set (List α)} (hover : ∀ w ∈ L, ∀ a ∈ w, a ∈ syms) :
    L.Finite ↔ ∃ m, ∀ w ∈ L, w.length ≤ m := by
  refine ⟨fun hf => ?_, fun ⟨m, hm⟩ => (List.finite_toSet (wordsLe syms m)).subset
    fun w hw => mem_wordsLe m w (hm w hw) (hover w hw)⟩
  clear hover
  induction L, hf using Set.Finite.induction_on with
  | empty => exact ⟨0, fun w hw => nomatch hw⟩
  | @insert a s _ _ ih =>
    obtain ⟨m, hm⟩ := ih
    refine ⟨max m a.length, fun w hw => ?_⟩
    rcases hw with rfl | hw
    · exact Nat.le_max_right _ _
    · exact Nat.le_trans (hm w hw) (Nat.le_max_left _ _)

/-- The infinite side, in the form the `Trim` layer (`cyclic_iff`, `dagLongest`) speaks. -/
theorem infinite_iff_unbounded {syms : List α} {L : Set (List α)} (hover : ∀ w ∈ L, ∀ a ∈ w, a ∈ syms) :
    L.Infinite ↔ ∀ N, ∃ w, N ≤ w.length ∧ w ∈ L :=
  (not_congr (finite_iff_bounded hover)).trans
    ⟨fun h N => Classical.byContradiction fun hN =>
        h ⟨N, fun w hw => Nat.le_of_not_le fun hl => hN ⟨w, hl, hw⟩⟩,
      fun h ⟨m, hm⟩ => let ⟨w, hl, hw⟩ := h (m + 1); absurd (hm w hw) (by omega)⟩

theorem setOf_true_eq_empty {β : Type} {f : β → Bool} : {w | f w = true} = ∅ ↔ ∀ w, f w = false :=
  Set.eq_empty_iff_forall_notMem.trans (forall_congr' fun _ => Bool.eq_false_iff.symm)

end DFA
end AV
