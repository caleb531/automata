/-
Proofs/MaxLen.lean — `isempty()`, the accessible ∩ coaccessible subgraph, walks inside it and
the contract of `dag_longest_path_length` (`maximum_word_length()`, Model/DFAQuery.lean).
Core only.
-/
import AutomataVerif.Proofs.MinLen

namespace AV

namespace Digraph
variable {σ : Type} [DecidableEq σ]

theorem mem_succ {g : Digraph σ} {q t : σ} : t ∈ g.succ q ↔ (q, t) ∈ g.edges := by
  unfold succ
  simp only [List.mem_map, List.mem_filter, decide_eq_true_eq]
  constructor
  · rintro ⟨⟨a, b⟩, ⟨he, rfl⟩, rfl⟩; exact he
  · intro h; exact ⟨(q, t), ⟨h, rfl⟩, rfl⟩

theorem mem_pred {g : Digraph σ} {q t : σ} : q ∈ g.pred t ↔ (q, t) ∈ g.edges := by
  unfold pred
  simp only [List.mem_map, List.mem_filter, decide_eq_true_eq]
  constructor
  · rintro ⟨⟨a, b⟩, ⟨he, rfl⟩, rfl⟩; exact he
  · intro h; exact ⟨(q, t), ⟨h, rfl⟩, rfl⟩

theorem mem_reachable {g : Digraph σ} (hE : ∀ e ∈ g.edges, e.1 ∈ g.nodes ∧ e.2 ∈ g.nodes)
    {srcs : List σ} {v : σ} :
    (v ∈ g.reachable srcs false ↔ ∃ s ∈ srcs, Reach g.succ s v) ∧
      (v ∈ g.reachable srcs true ↔ ∃ s ∈ srcs, Reach g.succ v s) := by
  have hsrc : ∀ s ∈ srcs, s ∈ srcs ++ g.nodes := fun s hs => List.mem_append_left _ hs
  constructor
  · exact mem_bfs_iff _ hsrc fun u _ v hv => List.mem_append_right _ (hE _ (mem_succ.mp hv)).2
  · refine (mem_bfs_iff _ hsrc fun u _ v hv =>
      List.mem_append_right _ (hE _ (mem_pred.mp hv)).1).trans ?_
    exact exists_congr fun s => and_congr_right fun _ =>
      Reach.reverse_iff fun a b => mem_pred.trans mem_succ.symm

end Digraph

namespace DFA
variable {σ α : Type} [DecidableEq σ] [DecidableEq α]

theorem walkLevels_succ_sublist (succ : σ → List σ) (V : List σ) :
    ∀ i, (walkLevels succ V (i + 1)).Sublist (walkLevels succ V i) := by
  intro i
  induction i with
  | zero => exact List.filter_sublist
  | succ i ih =>
    show (V.filter _).Sublist (V.filter _)
    apply filter_sublist_of_imp
    intro a _ ha
    simp only [List.any_eq_true, decide_eq_true_eq] at ha ⊢
    obtain ⟨u, hu, hui⟩ := ha
    exact ⟨u, hu, ih.subset hui⟩

theorem walkLevels_antitone (succ : σ → List σ) (V : List σ) {i j : Nat} (h : i ≤ j) :
    (walkLevels succ V j).Sublist (walkLevels succ V i) := by
  induction h with
  | refl => exact List.Sublist.refl _
  | step _ ih => exact (walkLevels_succ_sublist succ V _).trans ih

theorem walkLevels_stable (succ : σ → List σ) (V : List σ) {j : Nat}
    (h : walkLevels succ V (j + 1) = walkLevels succ V j) :
    ∀ n, j ≤ n → walkLevels succ V n = walkLevels succ V j := by
  intro n hn
  induction hn with
  | refl => rfl
  | step _ ih =>
    rename_i m _
    show walkLevels succ V (m + 1) = _
    rw [← h]
    simp only [walkLevels]
    rw [ih]

theorem walkLevels_shrink (succ : σ → List σ) (V : List σ) :
    ∀ i, (∃ j, j < i ∧ walkLevels succ V (j + 1) = walkLevels succ V j) ∨
      (walkLevels succ V i).length + i ≤ V.length := by
  intro i
  induction i with
  | zero => right; simp [walkLevels]
  | succ i ih =>
    rcases ih with ⟨j, hj, he⟩ | hlen
    · exact Or.inl ⟨j, by omega, he⟩
    · have hsub := walkLevels_succ_sublist succ V i
      by_cases heq : (walkLevels succ V (i + 1)).length = (walkLevels succ V i).length
      · exact Or.inl ⟨i, by omega, hsub.eq_of_length heq⟩
      · right
        have := hsub.length_le
        omega

/-- Pigeonhole by counting: the levels lose a vertex at every step until two consecutive ones are
equal, and from there on they stay the same. -/
theorem walkLevels_all_nonempty (succ : σ → List σ) (V : List σ)
    (h : walkLevels succ V V.length ≠ []) : ∀ n, walkLevels succ V n ≠ [] := by
  rcases walkLevels_shrink succ V V.length with ⟨j, hj, he⟩ | hlen
  · intro n hn
    rcases Nat.lt_or_ge n j with hlt | hge
    · have hsub := walkLevels_antitone succ V (Nat.le_of_lt (Nat.lt_trans hlt hj))
      rw [hn] at hsub
      exact h (List.sublist_nil.mp hsub)
    · rw [walkLevels_stable succ V he n hge] at hn
      rw [walkLevels_stable succ V he V.length (Nat.le_of_lt hj)] at h
      exact h hn
  · have : (walkLevels succ V V.length).length = 0 := by omega
    exact absurd (List.eq_nil_of_length_eq_zero this) h

theorem maxWalk_succ (succ : σ → List σ) (V : List σ) (n : Nat) :
    maxWalk succ V (n + 1) = if walkLevels succ V (n + 1) = [] then maxWalk succ V n else n + 1 := by
  rw [maxWalk]
  cases walkLevels succ V (n + 1) <;> rfl

theorem le_maxWalk (succ : σ → List σ) (V : List σ) :
    ∀ n i, i ≤ n → walkLevels succ V i ≠ [] → i ≤ maxWalk succ V n := by
  intro n
  induction n with
  | zero => intro i hi _; omega
  | succ n ih =>
    intro i hi hne
    rw [maxWalk_succ]
    split
    · rename_i hnil
      rcases Nat.lt_or_ge i (n + 1) with hlt | hge
      · exact ih i (by omega) hne
      · have : i = n + 1 := by omega
        subst this
        exact absurd hnil hne
    · exact hi

theorem maxWalk_nonempty (succ : σ → List σ) (V : List σ) (hV : V ≠ []) :
    ∀ n, walkLevels succ V (maxWalk succ V n) ≠ [] := by
  intro n
  induction n with
  | zero => exact hV
  | succ n ih =>
    rw [maxWalk_succ]
    split
    · exact ih
    · assumption

theorem maxWalk_le (succ : σ → List σ) (V : List σ) : ∀ n, maxWalk succ V n ≤ n := by
  intro n
  induction n with
  | zero => exact Nat.le_refl _
  | succ n ih =>
    rw [maxWalk_succ]
    split
    · exact Nat.le_succ_of_le ih
    · exact Nat.le_refl _

section
omit [DecidableEq α]

theorem mem_gedges_iff {d : DFA σ α} (hd : d.IsDict) {q t : σ} :
    (q, t) ∈ d.gedges ↔ t ∈ d.rowSucc q := by
  constructor
  · intro h
    unfold gedges at h
    obtain ⟨kv, hkv, hm⟩ := List.mem_flatMap.mp h
    obtain ⟨e, he, heq⟩ := List.mem_map.mp hm
    obtain ⟨k, r⟩ := kv
    simp only [Prod.mk.injEq] at heq
    obtain ⟨hk, ht⟩ := heq
    subst hk; subst ht
    have : d.row k = r := row_of_mem hd.transKeys hkv
    unfold rowSucc
    rw [this]
    exact List.mem_map.mpr ⟨e, he, rfl⟩
  · exact mem_gedges

theorem succ_iff_rowSucc {d : DFA σ α} (hd : d.IsDict) {q t : σ} :
    t ∈ d.digraph.succ q ↔ t ∈ d.rowSucc q :=
  Digraph.mem_succ.trans (mem_gedges_iff hd)

theorem digraph_edges_nodes (d : DFA σ α) :
    ∀ e ∈ d.digraph.edges, e.1 ∈ d.digraph.nodes ∧ e.2 ∈ d.digraph.nodes :=
  fun _ he => gedges_mem_gnodes he

theorem reach_digraph_iff {d : DFA σ α} (hd : d.IsDict) {q r : σ} :
    Reach d.digraph.succ q r ↔ ∃ n, PathLen d q n r :=
  (Reach.congr fun _ _ => succ_iff_rowSucc hd).trans reach_iff_pathLen

theorem mem_reachable_fwd {d : DFA σ α} (hd : d.IsDict) {v : σ} :
    v ∈ d.digraph.reachable [d.init] false ↔ ∃ n, PathLen d d.init n v := by
  rw [(Digraph.mem_reachable d.digraph_edges_nodes).1]
  simp only [List.mem_singleton, exists_eq_left]
  exact reach_digraph_iff hd

theorem mem_reachable_bwd {d : DFA σ α} (hd : d.IsDict) {v : σ} :
    v ∈ d.digraph.reachable d.finals true ↔ ∃ f ∈ d.finals, ∃ n, PathLen d v n f :=
  (Digraph.mem_reachable d.digraph_edges_nodes).2.trans
    (exists_congr fun _ => and_congr_right fun _ => reach_digraph_iff hd)

theorem mem_important_iff {d : DFA σ α} (hd : d.IsDict) {v : σ} :
    v ∈ d.important d.digraph ↔
      (∃ n, PathLen d d.init n v) ∧ ∃ f ∈ d.finals, ∃ n, PathLen d v n f := by
  unfold important
  simp only [List.mem_filter, decide_eq_true_eq]
  rw [mem_reachable_fwd hd, mem_reachable_bwd hd]

theorem isEmpty_iff {d : DFA σ α} : d.isEmpty = true ↔ ∀ n f, f ∈ d.finals → ¬ PathLen d d.init n f := by
  unfold isEmpty
  have hb : ∀ v, v ∈ bfs d.rowSucc (d.init :: d.gnodes) [d.init] ↔ ∃ n, PathLen d d.init n v := by
    intro v
    rw [mem_bfs_iff]
    · simp only [List.mem_singleton, exists_eq_left]; exact reach_iff_pathLen
    · intro s hs; simp at hs; subst hs; exact List.mem_cons_self
    · intro u _ v hv; exact List.mem_cons_of_mem _ (rowSucc_mem_gnodes hv)
  simp only [Bool.not_eq_true', List.any_eq_false, decide_eq_true_eq]
  constructor
  · intro h n f hf hp
    exact h f ((hb f).mpr ⟨n, hp⟩) hf
  · intro h f hfb hf
    obtain ⟨n, hp⟩ := (hb f).mp hfb
    exact h n f hf hp

end

theorem isEmpty_spec {d : DFA σ α} (hd : d.IsDict) :
    d.isEmpty = true ↔ ∀ w : List α, d.accepts w = false :=
  isEmpty_iff.trans (noPath_iff hd)

/-- `V` is the accessible ∩ coaccessible part of the transition graph, and inside `V` the edges
of `succ` are those of the transition graph: what `maximum_word_length()` hands to
`dag_longest_path_length` (`digraph.succ` on `important`, or `succStates` filtered by
`importantNodes` in Model/DFACompare.lean). -/
structure Trim (d : DFA σ α) (succ : σ → List σ) (V : List σ) : Prop where
  mem : ∀ v, v ∈ V ↔ (∃ n, PathLen d d.init n v) ∧ ∃ f ∈ d.finals, ∃ n, PathLen d v n f
  edge : ∀ v ∈ V, ∀ u ∈ V, u ∈ succ v ↔ u ∈ d.rowSucc v

namespace Trim
variable {d : DFA σ α} {succ : σ → List σ} {V : List σ}

/-- Level `n` holds the vertices of `V` from which a path with `n` edges leads to a vertex of `V`
(its inner vertices are in `V` by themselves: reachable from the start, reaching the end). -/
theorem mem_walkLevels_iff (T : Trim d succ V) :
    ∀ (n : Nat) (v : σ), v ∈ walkLevels succ V n ↔ v ∈ V ∧ ∃ r ∈ V, PathLen d v n r := by
  intro n
  induction n with
  | zero => exact fun v => ⟨fun h => ⟨h, v, h, .nil v⟩, fun h => h.1⟩
  | succ n ih =>
    intro v
    simp only [walkLevels, List.mem_filter, List.any_eq_true, decide_eq_true_eq, ih]
    constructor
    · rintro ⟨hv, u, hu, huV, r, hr, hp⟩
      exact ⟨hv, r, hr, .cons ((T.edge v hv u huV).mp hu) hp⟩
    · rintro ⟨hv, r, hr, hp⟩
      cases hp with
      | @cons _ t _ _ ht hp =>
        obtain ⟨⟨a, ha⟩, _⟩ := (T.mem v).mp hv
        obtain ⟨_, f, hf, b, hb⟩ := (T.mem r).mp hr
        have htV : t ∈ V := (T.mem t).mpr ⟨⟨a + 1, ha.snoc ht⟩, f, hf, _, hp.append hb⟩
        exact ⟨hv, t, (T.edge v hv t htV).mpr ht, htV, r, hr, hp⟩

/-- Paths inside the trimmed graph are pieces of accepted words, and the run of an accepted word is
such a path. -/
theorem walkLevels_ne_nil_iff (T : Trim d succ V) (hd : d.IsDict) (n : Nat) :
    walkLevels succ V n ≠ [] ↔ ∃ w : List α, n ≤ w.length ∧ d.accepts w = true := by
  constructor
  · intro h
    obtain ⟨v, hv⟩ := List.exists_mem_of_ne_nil _ h
    obtain ⟨hv, r, hr, hp⟩ := (T.mem_walkLevels_iff n v).mp hv
    obtain ⟨⟨a, ha⟩, _⟩ := (T.mem v).mp hv
    obtain ⟨_, f, hf, b, hb⟩ := (T.mem r).mp hr
    obtain ⟨w, hl, hw⟩ := (pathLen_final_iff hd).mp ⟨f, hf, (ha.append hp).append hb⟩
    exact ⟨w, by omega, hw⟩
  · rintro ⟨w, hl, hw⟩ h
    obtain ⟨f, hf, hp⟩ := (pathLen_final_iff hd).mpr ⟨w, rfl, hw⟩
    have hi : d.init ∈ V := (T.mem _).mpr ⟨⟨0, .nil _⟩, f, hf, _, hp⟩
    have hfV : f ∈ V := (T.mem _).mpr ⟨⟨_, hp⟩, f, hf, 0, .nil _⟩
    have := (T.mem_walkLevels_iff w.length d.init).mpr ⟨hi, f, hfV, hp⟩
    have hsub := walkLevels_antitone succ V hl
    rw [h] at hsub
    rw [List.sublist_nil.mp hsub] at this
    cases this

theorem cyclic_iff (T : Trim d succ V) (hd : d.IsDict) :
    walkLevels succ V V.length ≠ [] ↔ ∀ N, ∃ w : List α, N ≤ w.length ∧ d.accepts w = true :=
  ⟨fun h N => (T.walkLevels_ne_nil_iff hd N).mp (walkLevels_all_nonempty succ V h N),
    fun h => (T.walkLevels_ne_nil_iff hd _).mpr (h _)⟩

/-- The contract of `dag_longest_path_length` on the trimmed graph of a non-empty language:
`none` iff accepted words are unboundedly long, otherwise the length of a longest one. -/
theorem dagLongest (T : Trim d succ V) (hd : d.IsDict) (hne : ∃ w : List α, d.accepts w = true) :
    (dagLongestPathLength succ V = none ∧ ∀ N, ∃ w : List α, N ≤ w.length ∧ d.accepts w = true) ∨
    (∃ m, dagLongestPathLength succ V = some m ∧ (∃ w : List α, w.length = m ∧ d.accepts w = true) ∧
        ∀ w : List α, d.accepts w = true → w.length ≤ m) := by
  unfold dagLongestPathLength
  cases hc : (walkLevels succ V V.length).isEmpty with
  | false => exact Or.inl ⟨rfl, (T.cyclic_iff hd).mp fun h => by simp [h] at hc⟩
  | true =>
    right
    have hnil : walkLevels succ V V.length = [] := by simpa using hc
    have hwalk : ∀ w : List α, d.accepts w = true → walkLevels succ V w.length ≠ [] :=
      fun w hw => (T.walkLevels_ne_nil_iff hd _).mpr ⟨w, Nat.le_refl _, hw⟩
    have hupper : ∀ w : List α, d.accepts w = true → w.length ≤ maxWalk succ V V.length := by
      intro w hw
      refine le_maxWalk _ V V.length w.length (Nat.le_of_not_lt fun h => hwalk w hw ?_) (hwalk w hw)
      have hsub := walkLevels_antitone succ V (Nat.le_of_lt h)
      rw [hnil] at hsub
      exact List.sublist_nil.mp hsub
    have hVne : V ≠ [] := by
      obtain ⟨w, hw⟩ := hne
      exact fun h => (T.walkLevels_ne_nil_iff hd 0).mpr ⟨w, Nat.zero_le _, hw⟩ h
    obtain ⟨w, hl, hw⟩ := (T.walkLevels_ne_nil_iff hd _).mp (maxWalk_nonempty succ V hVne V.length)
    exact ⟨_, rfl, ⟨w, Nat.le_antisymm (hupper w hw) hl, hw⟩, hupper⟩

end Trim

omit [DecidableEq α] in
theorem trim_digraph {d : DFA σ α} (hd : d.IsDict) : Trim d d.digraph.succ (d.important d.digraph) :=
  ⟨fun _ => mem_important_iff hd, fun _ _ _ _ => succ_iff_rowSucc hd⟩

/-- `maximum_word_length()`: `EmptyLanguageException` iff the language is empty; `None` iff
accepted words of unbounded length exist; otherwise the length of a longest accepted word. -/
theorem maximumWordLength_spec {d : DFA σ α} (hd : d.IsDict) :
    (d.maximumWordLength = .error (.lib .emptyLanguageException) ∧ ∀ w : List α, d.accepts w = false) ∨
    (d.maximumWordLength = .ok none ∧ (∃ w : List α, d.accepts w = true) ∧
        ∀ N, ∃ w : List α, N ≤ w.length ∧ d.accepts w = true) ∨
    (∃ m, d.maximumWordLength = .ok (some m) ∧ (∃ w : List α, w.length = m ∧ d.accepts w = true) ∧
        ∀ w : List α, d.accepts w = true → w.length ≤ m) := by
  unfold maximumWordLength
  cases he : d.isEmpty with
  | true => exact Or.inl ⟨rfl, (isEmpty_spec hd).mp he⟩
  | false =>
    have hne : ∃ w : List α, d.accepts w = true := by
      refine Classical.byContradiction fun hcon => ?_
      rw [(isEmpty_spec hd).mpr fun w => Bool.eq_false_iff.mpr fun hw => hcon ⟨w, hw⟩] at he
      cases he
    rcases (trim_digraph hd).dagLongest hd hne with ⟨h, hu⟩ | ⟨m, h, hm⟩
    · exact Or.inr (Or.inl ⟨congrArg _ h, hne, hu⟩)
    · exact Or.inr (Or.inr ⟨m, congrArg _ h, hm⟩)

end DFA
end AV
