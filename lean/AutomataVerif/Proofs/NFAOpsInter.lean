/-
Proofs/NFAOpsInter.lean — table-level specification of `NFA.intersection`
(Model/NFAOps.lean): the work-list loop terminates within its fuel, every discovered product
state has been expanded, the result is valid, and the reading of its transition table on the
discovered states is the synchronous product with independent ε-moves.  Core only.
-/
import AutomataVerif.Model.NFAOps
import AutomataVerif.Proofs.NFATable
import AutomataVerif.Proofs.NFAOpsUnary

open AV.AL

namespace AV
namespace NFA

variable {σ₁ σ₂ α : Type} [DecidableEq σ₁] [DecidableEq σ₂] [DecidableEq α]

namespace Inter

variable {σ : Type} [DecidableEq σ]

/-- Accumulated effect of a sequence of `addTargets … cur …` on a table and candidate list:
the moves `M` have been added to the row of `cur`, and they are the candidates. -/
structure Acc (t : Tbl σ α) (cur : σ) (S : Option α → Prop) (M : Option α → σ → Prop)
    (s : Tbl σ α × List σ) : Prop where
  tgt : ∀ q a p, p ∈ Tbl.tgt s.1 q a ↔ p ∈ Tbl.tgt t q a ∨ (q = cur ∧ M a p)
  cand : ∀ p, p ∈ s.2 ↔ ∃ a, M a p
  ext : Tbl.Ext S (fun _ => True) t s.1
  keysCand : ∀ p, p ∈ s.2 → cur ∈ akeys s.1

theorem Acc.refl (t : Tbl σ α) (cur : σ) (S : Option α → Prop) :
    Acc t cur S (fun _ _ => False) (t, []) :=
  ⟨by simp, by simp, Tbl.Ext.refl t, by simp⟩

theorem Acc.congr {t : Tbl σ α} {cur : σ} {S : Option α → Prop} {M M' : Option α → σ → Prop}
    {s : Tbl σ α × List σ} (h : Acc t cur S M s) (e : ∀ a p, M a p ↔ M' a p) : Acc t cur S M' s := by
  have : M = M' := by funext a p; exact propext (e a p)
  rw [← this]; exact h

theorem Acc.add {t : Tbl σ α} {cur : σ} {S : Option α → Prop} {M : Option α → σ → Prop}
    {s : Tbl σ α × List σ} (h : Acc t cur S M s) (a : Option α) (ha : S a) (xs : List σ) :
    Acc t cur S (fun a' p => M a' p ∨ (a' = a ∧ p ∈ xs))
      (Tbl.addTargets s.1 cur a xs, s.2 ++ xs) := by
  refine ⟨fun q a' p => ?_, fun p => ?_, h.ext.trans (Tbl.Ext.add _ cur ha fun _ _ => trivial),
    fun _ _ => Tbl.mem_akeys_addTargets.mpr (Or.inl rfl)⟩
  · rw [Tbl.mem_tgt_addTargets, h.tgt, or_assoc, ← and_or_left]
  · rw [List.mem_append, h.cand, exists_or]
    exact or_congr_right ⟨fun h1 => ⟨a, rfl, h1⟩, fun ⟨_, _, h1⟩ => h1⟩

/-- `if a in row: …update(map f row[a])`: adding the renamed targets of an entry that may be
missing. -/
theorem Acc.addMap {τ : Type} {t : Tbl σ α} {cur : σ} {S : Option α → Prop}
    {M : Option α → σ → Prop} {s : Tbl σ α × List σ} (h : Acc t cur S M s) (a : Option α)
    (ha : S a) (f : τ → σ) (o : Option (List τ)) :
    Acc t cur S (fun a' p => M a' p ∨ (a' = a ∧ ∃ x ∈ o.getD [], f x = p))
      (match o with
        | some e => (Tbl.addTargets s.1 cur a (e.map f), s.2 ++ e.map f)
        | none => s) := by
  cases o with
  | none => exact h.congr fun a' p => by simp
  | some e => exact (h.add a ha (e.map f)).congr fun a' p => by simp

theorem Acc.foldl {τ : Type} {t : Tbl σ α} {cur : σ} {S : Option α → Prop}
    (f : Tbl σ α × List σ → τ → Tbl σ α × List σ) (N : τ → Option α → σ → Prop) :
    ∀ (l : List τ) (M : Option α → σ → Prop) (s : Tbl σ α × List σ),
      (∀ x ∈ l, ∀ M s, Acc t cur S M s → Acc t cur S (fun a p => M a p ∨ N x a p) (f s x)) →
      Acc t cur S M s →
      Acc t cur S (fun a p => M a p ∨ ∃ x ∈ l, N x a p) (l.foldl f s) := by
  intro l
  induction l with
  | nil => intro M s _ h; exact h.congr (by simp)
  | cons x l ih =>
    intro M s hstep h
    rw [List.foldl_cons]
    refine (ih _ _ (fun y hy => hstep y (List.mem_cons_of_mem _ hy))
      (hstep x (by simp) M s h)).congr ?_
    intro a p
    simp only [List.mem_cons, exists_eq_or_imp, or_assoc]

/-- The moves of the product out of `q`: independent ε-moves and synchronous symbol moves. -/
def Mv (A : NFA σ₁ α) (B : NFA σ₂ α) (syms : List α) (q : σ₁ × σ₂) : Option α → σ₁ × σ₂ → Prop
  | none, p => (p.1 ∈ A.targets q.1 none ∧ p.2 = q.2) ∨ (p.1 = q.1 ∧ p.2 ∈ B.targets q.2 none)
  | some a, p => a ∈ syms ∧ p.1 ∈ A.targets q.1 (some a) ∧ p.2 ∈ B.targets q.2 (some a)

theorem interStep_acc (A : NFA σ₁ α) (B : NFA σ₂ α) (syms : List α) (t : Tbl (σ₁ × σ₂) α)
    (cur : σ₁ × σ₂) :
    Acc t cur (SymOk syms) (Mv A B syms cur) (interStep A B syms t cur) := by
  have h2 := ((Acc.refl t cur (SymOk syms)).addMap none (symOk_none _)
    (fun p : σ₁ => (p, cur.2)) (alookup none (A.row cur.1))).addMap none (symOk_none _)
    (fun p : σ₂ => (cur.1, p)) (alookup none (B.row cur.2))
  refine (Acc.foldl _ (fun a a' p => a' = some a ∧ a ∈ syms ∧ p.1 ∈ A.targets cur.1 (some a) ∧
      p.2 ∈ B.targets cur.2 (some a)) syms _ _ ?_ h2).congr ?_
  · intro a ha M s h
    have hA : A.targets cur.1 (some a) = (alookup (some a) (A.row cur.1)).getD [] := rfl
    have hB : B.targets cur.2 (some a) = (alookup (some a) (B.row cur.2)).getD [] := rfl
    cases h1 : alookup (some a) (A.row cur.1) with
    | none => exact h.congr fun a' p => by rw [hA, h1]; simp
    | some ea =>
      cases h2 : alookup (some a) (B.row cur.2) with
      | none => exact h.congr fun a' p => by rw [hB, h2]; simp
      | some eb =>
        refine (h.add (some a) (fun x hx => Option.some.inj hx ▸ ha) (lprod ea eb)).congr fun a' p => ?_
        rw [hA, hB, h1, h2, mem_lprod (p := p.1) (q := p.2)]
        simp [ha]
  · intro a p
    show _ ↔ Mv A B syms cur a p
    cases a with
    | none =>
      simp only [Mv, false_or, true_and, reduceCtorEq, false_and, and_false, exists_false, or_false]
      exact or_congr ⟨fun ⟨x, hx, e⟩ => e ▸ ⟨hx, rfl⟩, fun ⟨h1, h2⟩ => ⟨p.1, h1, h2 ▸ rfl⟩⟩
        ⟨fun ⟨x, hx, e⟩ => e ▸ ⟨rfl, hx⟩, fun ⟨h1, h2⟩ => ⟨p.2, h2, h1 ▸ rfl⟩⟩
    | some a =>
      simp only [Mv, reduceCtorEq, false_and, or_false, false_or, Option.some.injEq]
      exact ⟨fun ⟨x, _, e, h⟩ => e ▸ h, fun h => ⟨a, h.1, rfl, h⟩⟩

theorem visit_spec : ∀ (c q n : List (σ₁ × σ₂)), ∃ new,
    c.foldl interVisit (q, n) = (q ++ new, n ++ new) ∧ new.Nodup ∧
      ∀ x, x ∈ new ↔ (x ∈ c ∧ x ∉ n)
  | [], q, n => ⟨[], by simp, List.nodup_nil, by simp⟩
  | y :: c, q, n => by
    rw [List.foldl_cons, interVisit]
    split
    · rename_i hy
      obtain ⟨new, h1, h2, h3⟩ := visit_spec c q n
      exact ⟨new, h1, h2, fun x => (h3 x).trans ⟨fun ⟨h, h'⟩ => ⟨List.mem_cons_of_mem _ h, h'⟩,
        fun ⟨h, h'⟩ => ⟨(List.mem_cons.mp h).resolve_left fun e => h' (e ▸ hy), h'⟩⟩⟩
    · rename_i hy
      obtain ⟨new, h1, h2, h3⟩ := visit_spec c (q ++ [y]) (n ++ [y])
      refine ⟨y :: new, by rw [h1, List.append_assoc, List.append_assoc]; rfl,
        List.nodup_cons.mpr ⟨fun hm => ((h3 y).mp hm).2 (List.mem_append_right _ List.mem_cons_self),
          h2⟩, fun x => ?_⟩
      rw [List.mem_cons, h3, List.mem_cons, List.mem_append, List.mem_singleton, not_or]
      by_cases e : x = y
      · subst e; exact ⟨fun _ => ⟨Or.inl rfl, hy⟩, fun _ => Or.inl rfl⟩
      · simp only [e, false_or, not_false_eq_true, and_true]

structure Inv (A : NFA σ₁ α) (B : NFA σ₂ α) (syms : List α) (i0 : σ₁ × σ₂) (U : List (σ₁ × σ₂))
    (queue ns : List (σ₁ × σ₂)) (t : Tbl (σ₁ × σ₂) α) : Prop where
  nd : ns.Nodup
  sub : ∀ x ∈ ns, x ∈ U
  qsub : ∀ x ∈ queue, x ∈ ns
  sound : ∀ q a p, p ∈ Tbl.tgt t q a → q ∈ ns ∧ Mv A B syms q a p
  complete : ∀ q ∈ ns, q ∉ queue → ∀ a p, Mv A B syms q a p → p ∈ Tbl.tgt t q a ∧ p ∈ ns
  dict : Tbl.Dict t
  ok : Tbl.Ok (SymOk syms) (fun _ => True) t
  initRow : i0 ∈ akeys t ∨ (ns.length ≤ 1 ∧ ∀ q ∈ queue, q = i0)

theorem Inv.toBfs {A : NFA σ₁ α} {B : NFA σ₂ α} {syms : List α} {i0 : σ₁ × σ₂}
    {U queue ns : List (σ₁ × σ₂)} {t : Tbl (σ₁ × σ₂) α} (h : Inv A B syms i0 U queue ns t) :
    BfsInv (fun q p => ∃ a, Mv A B syms q a p) U queue ns :=
  ⟨h.nd, h.sub, h.qsub, fun q hq hnq p ⟨a, hm⟩ => (h.complete q hq hnq a p hm).2⟩

theorem interLoop_inv (A : NFA σ₁ α) (B : NFA σ₂ α) (syms : List α) (i0 : σ₁ × σ₂)
    (U : List (σ₁ × σ₂)) (hU : ∀ q ∈ U, ∀ a p, Mv A B syms q a p → p ∈ U) :
    ∀ (fuel : Nat) (queue ns : List (σ₁ × σ₂)) (t : Tbl (σ₁ × σ₂) α),
      Inv A B syms i0 U queue ns t → queue.length + U.length < fuel + ns.length →
      Inv A B syms i0 U [] (interLoop A B syms fuel queue ns t).1 (interLoop A B syms fuel queue ns t).2 ∧
      ∀ x ∈ ns, x ∈ (interLoop A B syms fuel queue ns t).1 := by
  intro fuel
  induction fuel with
  | zero => intro _ _ _ h hf; have := h.toBfs.length_le; omega
  | succ n ih =>
    intro queue ns t h hf
    cases queue with
    | nil => exact ⟨h, fun _ hx => hx⟩
    | cons cur queue =>
      have hs := interStep_acc A B syms t cur
      obtain ⟨new, hv, hnd, hmem⟩ := visit_spec (interStep A B syms t cur).2 queue ns
      rw [interLoop, hv]
      generalize interStep A B syms t cur = s at hs hv hmem ⊢
      have hcur : cur ∈ ns := h.qsub cur List.mem_cons_self
      have hb := h.toBfs.step (fun q hq p ⟨a, hm⟩ => hU q hq a p hm) hnd
        fun x => (hmem x).trans (and_congr_left' (hs.cand x))
      have hinv : Inv A B syms i0 U (queue ++ new) (ns ++ new) s.1 := by
        refine ⟨hb.nodup, hb.sub, hb.work_sub, fun q a p hp => ?_,
          fun q hq hnq a p hm => ⟨?_, hb.closed q hq hnq p ⟨a, hm⟩⟩,
          hs.ext.dict h.dict, hs.ext.ok h.ok, ?_⟩
        · rcases (hs.tgt q a p).mp hp with hp | ⟨rfl, hp⟩
          · exact ⟨List.mem_append_left _ (h.sound q a p hp).1, (h.sound q a p hp).2⟩
          · exact ⟨List.mem_append_left _ hcur, hp⟩
        · by_cases e : q = cur
          · exact (hs.tgt q a p).mpr (Or.inr ⟨e, e ▸ hm⟩)
          · have hq' : q ∈ ns := (List.mem_append.mp hq).resolve_right
              fun hh => hnq (List.mem_append_right _ hh)
            exact (hs.tgt q a p).mpr (Or.inl (h.complete q hq' (fun hh => (List.mem_cons.mp hh).elim e
              fun hh => hnq (List.mem_append_left _ hh)) a p hm).1)
        · rcases h.initRow with hi | ⟨hl, hq⟩
          · exact Or.inl (hs.ext.keys _ hi)
          · cases new with
            | nil =>
              rw [List.append_nil, List.append_nil]
              exact Or.inr ⟨hl, fun q hq' => hq q (List.mem_cons_of_mem _ hq')⟩
            | cons y ys =>
              exact Or.inl (hq cur List.mem_cons_self ▸
                hs.keysCand y ((hmem y).mp List.mem_cons_self).1)
      have hres := ih (queue ++ new) (ns ++ new) s.1 hinv (BfsInv.fuel_step hf)
      exact ⟨hres.1, fun x hx => hres.2 x (List.mem_append_left _ hx)⟩

/-- The record `intersection` passes to the constructor. -/
def interRaw (A : NFA σ₁ α) (B : NFA σ₂ α) : NFA (σ₁ × σ₂) α :=
  let r := interLoop A B (sunion A.syms B.syms) ((A.nodes.length + 1) * (B.nodes.length + 1) + 1)
    [(A.init, B.init)] [(A.init, B.init)] []
  { states := r.1, syms := sunion A.syms B.syms, trans := r.2, init := (A.init, B.init),
    finals := r.1.filter fun p => decide (p.1 ∈ A.finals) && decide (p.2 ∈ B.finals) }

theorem intersection_eq (A : NFA σ₁ α) (B : NFA σ₂ α) :
    intersection A B = create (interRaw A B) := rfl

theorem interRaw_inv (A : NFA σ₁ α) (B : NFA σ₂ α) :
    Inv A B (sunion A.syms B.syms) (A.init, B.init)
      (lprod (A.init :: A.nodes) (B.init :: B.nodes)) [] (interRaw A B).states (interRaw A B).trans ∧
    (A.init, B.init) ∈ (interRaw A B).states := by
  have hU : ∀ q ∈ lprod (A.init :: A.nodes) (B.init :: B.nodes), ∀ a p,
      Mv A B (sunion A.syms B.syms) q a p → p ∈ lprod (A.init :: A.nodes) (B.init :: B.nodes) := by
    intro q hq a p hm
    rw [mem_lprod] at hq ⊢
    cases a with
    | none =>
      rcases hm with ⟨h1, h2⟩ | ⟨h1, h2⟩
      · exact ⟨List.mem_cons_of_mem _ (targets_mem_nodes A h1), h2 ▸ hq.2⟩
      · exact ⟨h1 ▸ hq.1, List.mem_cons_of_mem _ (targets_mem_nodes B h2)⟩
    | some a =>
      exact ⟨List.mem_cons_of_mem _ (targets_mem_nodes A hm.2.1),
        List.mem_cons_of_mem _ (targets_mem_nodes B hm.2.2)⟩
  have hi0 : (A.init, B.init) ∈ lprod (A.init :: A.nodes) (B.init :: B.nodes) :=
    mem_lprod.mpr ⟨List.mem_cons_self, List.mem_cons_self⟩
  have h0 : Inv A B (sunion A.syms B.syms) (A.init, B.init)
      (lprod (A.init :: A.nodes) (B.init :: B.nodes)) [(A.init, B.init)] [(A.init, B.init)] [] :=
    ⟨List.pairwise_singleton _ _, fun x hx => List.mem_singleton.mp hx ▸ hi0, fun _ hx => hx,
      (fun _ _ _ hp => nomatch hp), fun _ hq hnq => absurd hq hnq, Tbl.dict_nil, Tbl.ok_nil,
      Or.inr ⟨Nat.le_refl 1, fun _ hq => List.mem_singleton.mp hq⟩⟩
  have hlen : (lprod (A.init :: A.nodes) (B.init :: B.nodes)).length =
      (A.nodes.length + 1) * (B.nodes.length + 1) := length_lprod _ _
  have h := interLoop_inv A B (sunion A.syms B.syms) (A.init, B.init) _ hU
    ((A.nodes.length + 1) * (B.nodes.length + 1) + 1) [(A.init, B.init)] [(A.init, B.init)] [] h0
    (by rw [hlen, List.length_singleton]; omega)
  exact ⟨h.1, h.2 _ List.mem_cons_self⟩

end Inter

theorem intersection_spec (A : NFA σ₁ α) (B : NFA σ₂ α) (hA : A.WF) :
    ∃ R : NFA (σ₁ × σ₂) α, intersection A B = .ok R ∧ R.Valid ∧
      R.init = (A.init, B.init) ∧ (A.init, B.init) ∈ R.states ∧
      (∀ s ∈ R.states, ∀ a, ∀ t ∈ R.targets s a, t ∈ R.states) ∧
      (∀ s ∈ R.states, ∀ a t, R.rel s a t ↔ Rx.prodStep A.rel B.rel s a t) ∧
      (∀ s ∈ R.states, s ∈ R.finals ↔ (s.1 ∈ A.finals ∧ s.2 ∈ B.finals)) := by
  obtain ⟨hI, hinit⟩ := Inter.interRaw_inv A B
  -- the queue is empty: every discovered state has been expanded
  have hexp : ∀ s ∈ (Inter.interRaw A B).states, ∀ a t,
      Inter.Mv A B (sunion A.syms B.syms) s a t →
        t ∈ Tbl.tgt (Inter.interRaw A B).trans s a ∧ t ∈ (Inter.interRaw A B).states :=
    fun s hs => hI.complete s hs List.not_mem_nil
  have hrd : ∀ s ∈ (Inter.interRaw A B).states, ∀ a t,
      t ∈ (Inter.interRaw A B).targets s a ↔ Inter.Mv A B (sunion A.syms B.syms) s a t :=
    fun s hs a t => ⟨fun h => (hI.sound s a t h).2, fun h => (hexp s hs a t h).1⟩
  have hcl : ∀ s a, ∀ t ∈ Tbl.tgt (Inter.interRaw A B).trans s a, t ∈ (Inter.interRaw A B).states :=
    fun s a t ht => (hexp s (hI.sound s a t ht).1 a t (hI.sound s a t ht).2).2
  have hwf : (Inter.interRaw A B).WF := by
    exact (wf_iff_ok _).mpr ⟨Tbl.ok_of_tgt hI.dict (fun kv hkv e he => (hI.ok kv hkv e he).1)
      fun kv _ => hcl kv.1, hinit, hI.initRow.imp id And.left, fun q hq => (List.mem_filter.mp hq).1⟩
  refine ⟨Inter.interRaw A B, (Inter.intersection_eq A B).trans (create_eq_ok _ hwf),
    ⟨hwf, hI.dict⟩, rfl, hinit, fun s _ a t ht => hcl s a t ht, fun s hs a t => ?_,
    fun s hs => ?_⟩
  · -- `Mv` is `prodStep` with the alphabet test, which a move of `A` passes
    refine (hrd s hs a t).trans ?_
    cases a with
    | none => exact Iff.rfl
    | some a => exact ⟨fun h => h.2, fun h => ⟨mem_sunion.mpr (Or.inl (targets_sym hA h.1)), h⟩⟩
  show s ∈ List.filter _ _ ↔ _
  rw [List.mem_filter, Bool.and_eq_true, decide_eq_true_eq, decide_eq_true_eq]
  exact and_iff_right hs

end NFA
end AV
