/-
Proofs/ExpandValid.lean — the DFA built by `_expand_dfa` passes `validate` and has the
shape of a value built from Python sets/dicts (core only).

The only delicate clause is completeness: `_expand_dfa` *infers* `allow_partial` as
"some row does not have `len(input_symbols)` entries".  When the flag comes out `False`
every row has as many (distinct) keys as the alphabet has symbols, all of them alphabet
symbols, so every symbol is a key (`subset_of_nodup_length_eq`).

`Result` and `AllReached` are the form in which C04 and C07 state what an operation returns;
`binopPlain_spec` is that statement for the Boolean operations.
-/
import AutomataVerif.Proofs.Product
import AutomataVerif.Proofs.PyShape

namespace AV
namespace C04
open DFA

variable {S α : Type} [DecidableEq S] [DecidableEq α]
variable {succ : S → List (α × S)} {univ : List S} {fuel : Nat} {init : S}

/-- What an operation says of its result `R`: a valid duplicate-free DFA whose alphabet is the
list `Sg` and whose verdict on `w` is `L w`.  It is the conjunction the theorems of the Props
files spell out, so those are stated with either.  (`Sem`, Proofs/Expr.lean, has the alphabet as
a set.) -/
def Result (Sg : List α) (R : DFA S α) (L : List α → Bool) : Prop :=
  R.validate = .ok () ∧ R.PyShape ∧ R.syms = Sg ∧ ∀ w, R.accepts w = L w

namespace Result
variable {Sg : List α} {R : DFA S α} {L L' : List α → Bool}

theorem valid (r : Result Sg R L) : R.validate = .ok () := r.1
theorem pyShape (r : Result Sg R L) : R.PyShape := r.2.1
theorem syms (r : Result Sg R L) : R.syms = Sg := r.2.2.1
theorem lang (r : Result Sg R L) (w : List α) : R.accepts w = L w := r.2.2.2 w
theorem wf (r : Result Sg R L) : R.WF := (DFA.validate_eq_ok R).mp r.valid

theorem congr (r : Result Sg R L) (h : ∀ w, L w = L' w) : Result Sg R L' :=
  ⟨r.valid, r.pyShape, r.syms, fun w => (r.lang w).trans (h w)⟩

end Result

/-- What `_expand_dfa` guarantees besides: the transition keys are the states, and every state is
reached by a word.  This is what `_minify` and the renaming by discovery index ask for. -/
def AllReached (R : DFA S α) : Prop :=
  akeys R.trans = R.states ∧ ∀ q ∈ R.states, ∃ w, R.run (some R.init) w = some q

theorem AllReached.keys {R : DFA S α} (t : AllReached R) : akeys R.trans = R.states := t.1
theorem AllReached.reach {R : DFA S α} (t : AllReached R) :
    ∀ q ∈ R.states, ∃ w, R.run (some R.init) w = some q := t.2

omit [DecidableEq S] in
theorem row_full_of_length {r : List (α × S)} {syms : List α} (hnd : (akeys r).Nodup)
    (hsub : ∀ a ∈ akeys r, a ∈ syms) (hlen : r.length = syms.length) :
    ∀ a ∈ syms, a ∈ akeys r :=
  subset_of_nodup_length_eq hnd hsub (by rw [akeys, List.length_map]; exact hlen)

variable (isFin : S → Bool) (syms : List α)

omit [DecidableEq α] in
theorem expand_keys_eq_states : akeys (expand succ isFin syms fuel init).trans =
    (expand succ isFin syms fuel init).states := by
  rw [expand_trans, akeys_tabulate, expand_states]

set_option linter.unusedSectionVars false in
@[simp] theorem expand_syms : (expand succ isFin syms fuel init).syms = syms := rfl

theorem expand_wf (h : ExpandHyp succ univ fuel init)
    (hk : ∀ u ∈ univ, ∀ a ∈ akeys (succ u), a ∈ syms) :
    (expand succ isFin syms fuel init).WF where
  rows := fun q hq => by rw [expand_keys_eq_states]; exact hq
  complete := by
    intro hp kv hkv
    obtain ⟨hs, hr⟩ := (mem_expand_trans isFin syms).mp hkv
    have hu := mem_bfsStates_univ h hs
    have hlen : kv.2.length = syms.length := by
      simpa using List.any_eq_false.mp hp kv hkv
    rw [hr] at hlen ⊢
    exact row_full_of_length (h.keysNodup _ hu) (hk _ hu) hlen
  symsOk := by
    intro kv hkv
    obtain ⟨hs, hr⟩ := (mem_expand_trans isFin syms).mp hkv
    rw [hr]; exact hk _ (mem_bfsStates_univ h hs)
  tgtOk := by
    intro kv hkv q hq
    obtain ⟨hs, hr⟩ := (mem_expand_trans isFin syms).mp hkv
    rw [hr] at hq
    rw [expand_states, mem_bfsStates_iff h]
    exact Reach.tail ((mem_bfsStates_iff h).mp hs) hq
  initOk := init_mem_bfsStates h
  finalsOk := fun q hq => (List.mem_filter.mp hq).1

omit [DecidableEq α] in
theorem expand_pyShape (h : ExpandHyp succ univ fuel init) (hs : syms.Nodup) :
    (expand succ isFin syms fuel init).PyShape where
  states_nodup := nodup_bfsStates h
  syms_nodup := hs
  finals_nodup := List.Nodup.sublist List.filter_sublist (nodup_bfsStates h)
  keys_nodup := by rw [expand_keys_eq_states]; exact nodup_bfsStates h
  rows_nodup := by
    intro kv hkv
    obtain ⟨hs', hr⟩ := (mem_expand_trans isFin syms).mp hkv
    rw [hr]; exact h.keysNodup _ (mem_bfsStates_univ h hs')

theorem expand_result (h : ExpandHyp succ univ fuel init)
    (hk : ∀ u ∈ univ, ∀ a ∈ akeys (succ u), a ∈ syms) (hs : syms.Nodup) :
    Result syms (expand succ isFin syms fuel init) (fun w => (implRun succ (some init) w).any isFin) ∧
      AllReached (expand succ isFin syms fuel init) :=
  ⟨⟨(validate_eq_ok _).mpr (expand_wf isFin syms h hk), expand_pyShape isFin syms h hs, rfl,
      expand_accepts isFin syms h⟩,
    expand_keys_eq_states isFin syms, expand_all_reachable isFin syms h⟩

section product
variable {σ : Type} [DecidableEq σ]

omit [DecidableEq α] in
theorem sideRow_keys_sub_syms {d : DFA σ α} (wf : d.WF) (x : Option σ) :
    ∀ a ∈ akeys (d.sideRow x), a ∈ d.syms := by
  cases x with
  | none => intro a ha; cases ha
  | some q =>
    exact getD_alookup_inv (I := fun r => ∀ a ∈ akeys r, a ∈ d.syms) (fun _ ha => nomatch ha)
      wf.symsOk q

omit [DecidableEq σ] in
theorem symsEq_iff (A B : DFA σ α) :
    A.symsEq B = true ↔ (∀ a, a ∈ A.syms ↔ a ∈ B.syms) :=
  all_mem_and_all_mem_iff A.syms B.syms

theorem crossSucc_keys_sub_syms {A B : DFA σ α} (wfA : A.WF) (wfB : B.WF)
    (hs : A.symsEq B = true) (l r : Bool) (s : PState σ) :
    ∀ a ∈ akeys (A.crossSucc B l r s), a ∈ A.syms := by
  intro a ha
  rcases crossSucc_keys_sub A B l r s ha with h | h
  · exact sideRow_keys_sub_syms wfA _ a h
  · exact ((symsEq_iff A B).mp hs a).mpr (sideRow_keys_sub_syms wfB _ a h)

theorem cross_expandHyp (A B : DFA σ α) (l r : Bool) (wfA : A.WF) (wfB : B.WF) (pA : A.PyShape) :
    ExpandHyp (A.crossSucc B l r) (A.prodUniv B) (A.prodFuel B) (some A.init, some B.init) where
  init_mem := (mem_prodUniv A B _ _).mpr
    ⟨Or.inr ⟨A.init, mem_graphNodes.mpr (Or.inl wfA.initOk), rfl⟩,
      Or.inr ⟨B.init, mem_graphNodes.mpr (Or.inl wfB.initOk), rfl⟩⟩
  closed := fun u _ e he => crossSucc_closed A B l r u e he
  keysNodup := by
    rintro ⟨x, y⟩ _
    refine crossSucc_keys_nodup A B l r (x, y) ?_
    cases x with
    | none => exact List.nodup_nil
    | some q => exact pA.row_nodup q
  fuel_ok := by rw [length_prodUniv]; exact Nat.lt_succ_self _

/-- All that is used of `A.op(B, retain_names=True, minify=False)`, for its one result. -/
theorem binopPlain_spec (op : BinOp) {A B : DFA σ α} (hA : A.validate = .ok ())
    (hB : B.validate = .ok ()) (pA : A.PyShape) (hs : A.symsEq B = true) :
    ∃ P, A.binopPlain op B = .ok P ∧
      Result A.syms P (fun w => op.fin (A.accepts w) (B.accepts w)) ∧ AllReached P := by
  have wfA := (validate_eq_ok A).mp hA
  have wfB := (validate_eq_ok B).mp hB
  obtain ⟨r, t⟩ := expand_result (fun s => op.fin (A.isFinalO s.1) (B.isFinalO s.2)) A.syms
    (cross_expandHyp A B op.lrel op.rrel wfA wfB pA)
    (fun u _ => crossSucc_keys_sub_syms wfA wfB hs _ _ u) pA.syms_nodup
  simp only [binopPlain, hs, Bool.not_true, Bool.false_eq_true, if_false]
  exact ⟨_, rfl, r.congr (cross_verdict op A B), t⟩

end product

end C04
end AV
