/-
Proofs/NFAOpsUnary.lean — `Valid.of_ext`: a construction that writes into a table known to be a
dict yields `NFA.Valid` (Proofs/NFATable), the validity the C08 theorems conclude.  Every operation
goes this way but `intersection`, whose table grows with the search; so does the grid of
`edit_distance` (C16).  Then `option` and `kleene_star` (Model/NFAOps.lean): the operation returns
`.ok` of an explicitly known record, that record is valid, and its reading `targets` is the
operand's plus the new moves.  Core only.
-/
import AutomataVerif.Model.NFAOps
import AutomataVerif.Proofs.NFATable

open AV.AL

namespace AV
namespace NFA

variable {σ α : Type} [DecidableEq σ] [DecidableEq α]

omit [DecidableEq σ] [DecidableEq α] in
/-- How the constructions establish validity: the table of the record is some block of writes
(`Tbl.Ext`) on a table that is a dict with entries over the record's symbols and states. -/
theorem Valid.of_ext {n : NFA σ α} {t0 : Tbl σ α}
    (he : Tbl.Ext (SymOk n.syms) (· ∈ n.states) t0 n.trans) (hd : Tbl.Dict t0)
    (ho : Tbl.Ok (SymOk n.syms) (· ∈ n.states) t0) (hi : n.init ∈ n.states)
    (hk : n.init ∈ akeys n.trans) (hf : ∀ q ∈ n.finals, q ∈ n.states) : n.Valid :=
  ⟨(wf_iff_ok n).mpr ⟨he.ok ho, hi, Or.inl hk, hf⟩, he.dict hd⟩

/-- `addNewState` is `firstFree` by definition (the two `rfl`s are the loop's equations), started at
`0` with exactly `states.length` increments of fuel. -/
theorem addNewState_fresh (nat : Nat → σ) (hnat : Function.Injective nat) (states : List σ) :
    addNewState nat states ∉ states :=
  firstFree_fresh hnat (fun _ => rfl) (fun _ _ => rfl) 0 (Nat.le_refl _)

/-- The record `option` passes to the constructor. -/
def optionRaw (nat : Nat → σ) (A : NFA σ α) : NFA σ α :=
  { states := A.states ++ [addNewState nat A.states], syms := A.syms,
    trans := ainsert (addNewState nat A.states) [(none, [A.init])] A.trans,
    init := addNewState nat A.states, finals := sinsert (addNewState nat A.states) A.finals }

theorem option_eq (nat : Nat → σ) (A : NFA σ α) : option nat A = create (optionRaw nat A) := rfl

section newInit
variable (nat : Nat → σ) (A : NFA σ α)

omit [DecidableEq α] in
/-- What `option` and `kleene_star` have in common: whatever further writes `t` are made to
`dict(self.transitions)` with the new initial state's row, the record is valid. -/
theorem valid_newInit (h : A.Valid) {t : Tbl σ α}
    (he : Tbl.Ext (SymOk A.syms) (· ∈ A.states ++ [addNewState nat A.states])
      (ainsert (addNewState nat A.states) [(none, [A.init])] A.trans) t) :
    Valid { states := A.states ++ [addNewState nat A.states], syms := A.syms, trans := t,
            init := addNewState nat A.states, finals := sinsert (addNewState nat A.states) A.finals } := by
  refine Valid.of_ext ((Tbl.Ext.ainsert A.trans _ (row := [(none, [A.init])]) (List.pairwise_singleton _ _) ?_).trans he) h.dict
    (Tbl.ok_mono h.wf.ok (fun _ h => h) fun p hp => List.mem_append_left _ hp)
    (List.mem_append_right _ List.mem_cons_self)
    (he.keys _ (mem_akeys_ainsert.mpr (Or.inl rfl))) ?_
  · intro e he
    rw [List.mem_singleton.mp he]
    exact ⟨symOk_none _, fun p hp => List.mem_singleton.mp hp ▸ List.mem_append_left _ h.wf.initOk⟩
  · intro q hq
    rcases mem_sinsert.mp hq with rfl | hq
    · exact List.mem_append_right _ List.mem_cons_self
    · exact List.mem_append_left _ (h.wf.finalsOk q hq)

omit [DecidableEq α] in
theorem optionRaw_valid (h : A.Valid) : (optionRaw nat A).Valid :=
  valid_newInit nat A h (Tbl.Ext.refl _)

theorem optionRaw_targets_new (a : Option α) (p : σ) :
    p ∈ (optionRaw nat A).targets (addNewState nat A.states) a ↔ a = none ∧ p = A.init :=
  (Tbl.mem_tgt_ainsert_epsRow A.trans _ [A.init] a p).trans (by rw [List.mem_singleton])

theorem optionRaw_targets_old {q : σ} (hq : q ≠ addNewState nat A.states) (a : Option α) (p : σ) :
    p ∈ (optionRaw nat A).targets q a ↔ p ∈ A.targets q a := by
  rw [targets_eq_tgt, optionRaw, Tbl.tgt_ainsert_ne _ hq]
  rfl

/-- The record `kleene_star` passes to the constructor. -/
def starRaw : NFA σ α :=
  { states := A.states ++ [addNewState nat A.states], syms := A.syms,
    trans := A.finals.foldl (fun t q => Tbl.addTargets t q none [A.init])
      (ainsert (addNewState nat A.states) [(none, [A.init])] A.trans),
    init := addNewState nat A.states, finals := sinsert (addNewState nat A.states) A.finals }

theorem kleeneStar_eq : kleeneStar nat A = create (starRaw nat A) := rfl

theorem starRaw_valid (h : A.Valid) : (starRaw nat A).Valid :=
  valid_newInit nat A h
    (Tbl.Ext.foldl_addTargets (symOk_none _) (List.mem_append_left _ h.wf.initOk) _ _)

theorem starRaw_mem_targets (q : σ) (a : Option α) (p : σ) :
    p ∈ (starRaw nat A).targets q a ↔
      p ∈ (optionRaw nat A).targets q a ∨ (q ∈ A.finals ∧ a = none ∧ p = A.init) :=
  Tbl.mem_tgt_foldl_addTargets A.init none A.finals (optionRaw nat A).trans q a p

theorem starRaw_targets_new (hn : addNewState nat A.states ∉ A.finals) (a : Option α) (p : σ) :
    p ∈ (starRaw nat A).targets (addNewState nat A.states) a ↔ a = none ∧ p = A.init :=
  (starRaw_mem_targets nat A _ a p).trans
    ((or_iff_left fun h => hn h.1).trans (optionRaw_targets_new nat A a p))

theorem starRaw_targets_old {q : σ} (hq : q ≠ addNewState nat A.states) (a : Option α) (p : σ) :
    p ∈ (starRaw nat A).targets q a ↔
      p ∈ A.targets q a ∨ (q ∈ A.finals ∧ a = none ∧ p = A.init) :=
  (starRaw_mem_targets nat A q a p).trans (or_congr_left (optionRaw_targets_old nat A hq a p))

end newInit

end NFA
end AV
