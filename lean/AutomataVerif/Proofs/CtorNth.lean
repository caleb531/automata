/-
Proofs/CtorNth.lean — nth_from_start and nth_from_end (C15). Core only.
-/
import AutomataVerif.Proofs.CtorSimple

namespace AV.Ctor

variable {α : Type} [DecidableEq α]

omit [DecidableEq α] in
theorem getElem?_single {syms : List α} {s : α} (hlen : syms.length = 1) (hs : s ∈ syms)
    {w : List α} (hw : Over syms w) (i : Nat) : w[i]? = some s ↔ i < w.length := by
  obtain ⟨x, hx⟩ := List.length_eq_one_iff.mp hlen
  rw [hx, List.mem_singleton] at hs
  refine ⟨fun h => (List.getElem?_eq_some_iff.mp h).1, fun h => ?_⟩
  have := hw _ (List.getElem_mem h)
  rw [hx, List.mem_singleton] at this
  rw [List.getElem?_eq_getElem h, this, hs]

section nthStart
variable (syms : List α) (s : α) (nn : Nat)

/-- Rows `0 … nn-2` count, row `nn-1` looks at the symbol, rows `nn` (reject) and `nn+1`
(accept) loop. -/
def nthStartRow (i : Nat) : List (α × Int) :=
  if i + 1 < nn then rowOf syms fun _ => nat (i + 1)
  else if i + 1 = nn then ainsert s (nat (nn + 1)) (rowOf syms fun _ => nat (i + 1))
  else rowOf syms fun _ => nat i

def nthStartStep (i : Nat) (a : α) : Nat :=
  if i + 1 < nn then i + 1 else if i + 1 = nn then (if a = s then nn + 1 else nn) else i

def nthStartDFA : DFA Int α :=
  tableDFA syms (List.range (nn + 2)) nat (nthStartRow syms s nn) 0 [nat (nn + 1)]

section equations
variable {nn} {i : Nat}

theorem nthStartRow_lt (h : i + 1 < nn) : nthStartRow syms s nn i = rowOf syms fun _ => nat (i + 1) :=
  if_pos h

theorem nthStartRow_last (h : i + 1 = nn) :
    nthStartRow syms s nn i = ainsert s (nat (nn + 1)) (rowOf syms fun _ => nat nn) := by
  rw [nthStartRow, if_neg (h ▸ Nat.lt_irrefl _), if_pos h, h]

theorem nthStartRow_ge (h : nn ≤ i) : nthStartRow syms s nn i = rowOf syms fun _ => nat i := by
  rw [nthStartRow, if_neg (by omega), if_neg (by omega)]

theorem nthStartStep_lt (h : i + 1 < nn) (a : α) : nthStartStep s nn i a = i + 1 := if_pos h

theorem nthStartStep_last (h : i + 1 = nn) (a : α) :
    nthStartStep s nn i a = if a = s then nn + 1 else nn := by
  rw [nthStartStep, if_neg (h ▸ Nat.lt_irrefl _), if_pos h]

theorem nthStartStep_ge (h : nn ≤ i) (a : α) : nthStartStep s nn i a = i := by
  rw [nthStartStep, if_neg (by omega), if_neg (by omega)]

end equations

/-- The table as the code builds it: counting rows, then `transitions[n]`, `transitions[n+1]`. -/
theorem nthStartTable_eq :
    ainsert (nat nn + 1) (rowOf syms fun _ => nat nn + 1)
      (ainsert (nat nn) (rowOf syms fun _ => nat nn)
        ((List.range nn).map fun i => (nat i,
          if i + 1 = nn then ainsert s (nat nn + 1) (rowOf syms fun _ => nat i + 1)
          else rowOf syms fun _ => nat i + 1))) =
      tableOf (List.range (nn + 2)) nat (nthStartRow syms s nn) := by
  simp only [nat_succ]
  rw [← ainsert_ladder (v := rowOf syms fun _ => nat (nn + 1)),
    ← ainsert_ladder (v := rowOf syms fun _ => nat nn)]
  · refine congrArg _ (congrArg _ (tableOf_congr fun i hi => ?_))
    by_cases h : i + 1 = nn
    · rw [if_pos h, nthStartRow_last syms s h, h]
    · rw [if_neg h, nthStartRow_lt syms s (Nat.lt_of_le_of_ne (List.mem_range.mp hi) h)]
  · exact nthStartRow_ge syms s (Nat.le_refl nn)
  · exact nthStartRow_ge syms s (Nat.le_succ nn)

theorem nthFromStart_eq (n : Int) (hn : 1 ≤ n) (hs : s ∈ syms) (hlen : syms.length ≠ 1) :
    nthFromStart syms s n = build (nthStartDFA syms s n.toNat) := by
  unfold nthFromStart nthStartDFA tableDFA
  rw [if_neg (by omega), if_neg (not_not_intro hs), if_neg hlen, ← nthStartTable_eq, ← nat_succ,
    nat_toNat (by omega)]
  rfl

theorem nthFromStart_eq_single (n : Int) (hn : 1 ≤ n) (hs : s ∈ syms) (hlen : syms.length = 1) :
    nthFromStart syms s n = ofLength syms (minLen := n) := by
  unfold nthFromStart
  rw [if_neg (by omega), if_neg (not_not_intro hs), if_pos hlen]

theorem nthStart_sim (hs : s ∈ syms) :
    Sim syms (List.range (nn + 2)) nat (nthStartRow syms s nn) (nthStartStep s nn) := by
  refine Sim.ofLadder fun i hi => ?_
  rcases Nat.lt_trichotomy (i + 1) nn with h | h | h
  · rw [nthStartRow_lt syms s h]
    exact .const (by omega) (nthStartStep_lt s h)
  · rw [nthStartRow_last syms s h]
    refine (LadderRow.const (δi := fun _ => nn) (by omega) fun _ => rfl).ainsert hs
      (Nat.lt_succ_self _) fun a => ?_
    rw [nthStartStep_last s h]
    by_cases e : s = a
    · rw [if_pos e, if_pos e.symm]
    · rw [if_neg e, if_neg fun e' => e e'.symm]
  · rw [nthStartRow_ge syms s (Nat.le_of_lt_succ h)]
    exact .const hi (nthStartStep_ge s (Nat.le_of_lt_succ h))

theorem nthStart_fold_sink (w : List α) (i : Nat) (hi : nn ≤ i) :
    w.foldl (nthStartStep s nn) i = i := by
  induction w with
  | nil => rfl
  | cons a w ih =>
    rw [List.foldl_cons, nthStartStep_ge s hi, ih]

/-- From a counting state `i` with `m` further symbols to skip: short words are counted, on
longer ones the symbol at position `m` decides, and the outcome is kept. -/
theorem nthStart_fold (w : List α) (m i : Nat) (h : nn = i + m + 1) :
    w.foldl (nthStartStep s nn) i =
      if w.length ≤ m then i + w.length else if w[m]? = some s then nn + 1 else nn := by
  induction w generalizing m i with
  | nil => exact (if_pos (Nat.zero_le m)).symm
  | cons a w ih =>
    rw [List.foldl_cons, List.length_cons]
    cases m with
    | zero =>
      rw [nthStartStep_last s h.symm, if_neg (Nat.not_succ_le_zero _), List.getElem?_cons_zero]
      by_cases e : a = s
      · rw [if_pos e, if_pos (congrArg some e)]
        exact nthStart_fold_sink s nn w _ (Nat.le_succ nn)
      · rw [if_neg e, if_neg fun e' => e (Option.some.inj e')]
        exact nthStart_fold_sink s nn w _ (Nat.le_refl nn)
    | succ m =>
      rw [nthStartStep_lt s (by omega), ih m (i + 1) (by omega), List.getElem?_cons_succ,
        Nat.add_right_comm i, Nat.add_assoc i]
      simp only [Nat.succ_le_succ_iff]

theorem nthStart_fold_top (w : List α) (m i : Nat) (h : nn = i + m + 1) :
    w.foldl (nthStartStep s nn) i = nn + 1 ↔ w[m]? = some s := by
  rw [nthStart_fold s nn w m i h]
  by_cases h1 : w.length ≤ m
  · rw [if_pos h1, List.getElem?_eq_none h1]
    exact ⟨fun e => by omega, fun e => nomatch e⟩
  · rw [if_neg h1]
    split
    · next h2 => exact iff_of_true rfl h2
    · next h2 => exact iff_of_false (Nat.succ_ne_self nn).symm h2

theorem nthStartDFA_minimal (hs : s ∈ syms) (hnn : 0 < nn) (t : α) (ht : t ∈ syms) (hts : t ≠ s) :
    MinimalShape (nthStartDFA syms s nn) := by
  have fin : ∀ k, nat k ∈ [nat (nn + 1)] ↔ k = nn + 1 := fun k => by
    rw [List.mem_singleton, nat_inj]
  -- from a counting state `i` with `m` symbols to skip, `s^(m+1)` is accepted
  have acc : ∀ i m, nn = i + m + 1 →
      (List.replicate (m + 1) s).foldl (nthStartStep s nn) i = nn + 1 := fun i m h => by
    rw [nthStart_fold_top s nn _ m i h, List.getElem?_replicate, if_pos (Nat.lt_succ_self m)]
  obtain ⟨m0, hm0⟩ := Nat.exists_eq_add_of_lt hnn
  refine (nthStart_sim syms s nn hs).minimal_ladder (Nat.succ_pos _) (fun i hi => ?_)
    fun i j hij hj => ?_
  · -- `t…t` reaches `0 … nn`, `s…s` reaches `nn + 1`
    by_cases h : i = nn + 1
    · exact ⟨List.replicate (m0 + 1) s, over_replicate hs _, h ▸ acc 0 m0 hm0⟩
    · refine ⟨List.replicate i t, over_replicate ht i, ?_⟩
      rw [nthStart_fold s nn _ m0 0 hm0, List.length_replicate, List.getElem?_replicate]
      by_cases h2 : i ≤ m0
      · rw [if_pos h2, Nat.zero_add]
      · rw [if_neg h2, if_pos (Nat.lt_of_not_le h2), if_neg fun e => hts (Option.some.inj e)]
        omega
  · by_cases h1 : j = nn + 1
    · -- the empty word: `j` is final, `i` is not
      refine ⟨[], over_nil _, ?_⟩
      rw [fin, fin]
      exact fun e => Nat.ne_of_lt (h1 ▸ hij) (e.mpr h1)
    · have hj' : j ≤ nn := Nat.le_of_lt_succ (Nat.lt_of_le_of_ne (Nat.le_of_lt_succ hj) h1)
      obtain ⟨mi, hmi⟩ := Nat.exists_eq_add_of_lt (Nat.lt_of_lt_of_le hij hj')
      by_cases h2 : j = nn
      · -- `s` at the decisive position is accepted from `i`, the sink `nn` rejects everything
        refine ⟨List.replicate (mi + 1) s, over_replicate hs _, ?_⟩
        rw [fin, fin, acc i mi hmi, h2, nthStart_fold_sink s nn _ nn (Nat.le_refl nn)]
        exact fun e => Nat.succ_ne_self nn (e.mp rfl).symm
      · -- both counting: `s^(mj+1)` is accepted from `j` and too short for `i`
        obtain ⟨mj, hmj⟩ := Nat.exists_eq_add_of_lt (Nat.lt_of_le_of_ne hj' h2)
        refine ⟨List.replicate (mj + 1) s, over_replicate hs _, ?_⟩
        rw [fin, fin, acc j mj hmj, nthStart_fold_top s nn _ mi i hmi, List.getElem?_replicate,
          if_neg (show ¬ mi < mj + 1 by omega)]
        exact fun e => nomatch e.mpr rfl

end nthStart

section nthEnd
variable (syms : List α) (s : α) (n : Nat)

/-- Abstract transition: shift the window, record whether the symbol read is `s`. -/
def nthEndStep (x : Nat) (a : α) : Nat := (2 * x + if s = a then 1 else 0) % 2 ^ n

def nthEndRow (x : Nat) : List (α × Int) :=
  rowOf syms fun a => if s = a then nat ((2 * x + 1) % 2 ^ n) else nat ((2 * x) % 2 ^ n)

def nthEndDFA : DFA Int α :=
  tableDFA syms (List.range (2 ^ n)) nat (nthEndRow syms s n) 0
    (((List.range (2 ^ n)).filter fun x => decide (2 ^ n / 2 ≤ x)).map nat)

theorem nthFromEnd_eq (k : Int) (hk : 1 ≤ k) (hs : s ∈ syms) (hlen : syms.length ≠ 1) :
    nthFromEnd syms s k = build (nthEndDFA syms s k.toNat) := by
  unfold nthFromEnd nthEndDFA tableDFA
  rw [if_neg (by omega), if_neg (not_not_intro hs), if_neg hlen, akeys_tableOf]
  rfl

theorem nthFromEnd_eq_single (k : Int) (hk : 1 ≤ k) (hs : s ∈ syms) (hlen : syms.length = 1) :
    nthFromEnd syms s k = ofLength syms (minLen := k) := by
  unfold nthFromEnd
  rw [if_neg (by omega), if_neg (not_not_intro hs), if_pos hlen]

theorem nthEnd_sim : Sim syms (List.range (2 ^ n)) nat (nthEndRow syms s n) (nthEndStep s n) :=
  Sim.ofRowOf (fun _ _ => nat_inj.mp) _ fun x _ a _ => by
    refine ⟨?_, List.mem_range.mpr (Nat.mod_lt _ (Nat.two_pow_pos n))⟩
    unfold nthEndStep
    split <;> rfl

theorem nthEnd_fin : ∀ q ∈ ((List.range (2 ^ n)).filter fun x => decide (2 ^ n / 2 ≤ x)).map nat,
    ∃ x ∈ List.range (2 ^ n), q = nat x := by
  intro q hq
  obtain ⟨x, hx, rfl⟩ := List.mem_map.mp hq
  exact ⟨x, (List.mem_filter.mp hx).1, rfl⟩

/-- The bits of the state: bit `j` records whether the `j`-th most recent symbol was `s`
(older bits are those of the start state, shifted). -/
theorem nthEnd_testBit (r : List α) (x j : Nat) (hj : j < n) :
    (r.foldr (fun a x => nthEndStep s n x a) x).testBit j =
      if j < r.length then decide (r[j]? = some s) else x.testBit (j - r.length) := by
  induction r generalizing j with
  | nil => rfl
  | cons a r ih =>
    rw [List.foldr_cons]
    generalize r.foldr (fun a x => nthEndStep s n x a) x = v at ih ⊢
    rw [nthEndStep, Nat.testBit_mod_two_pow, decide_eq_true hj, Bool.true_and]
    cases j with
    | zero =>
      rw [Nat.testBit_zero, List.length_cons, if_pos (Nat.succ_pos _), List.getElem?_cons_zero]
      by_cases h : s = a
      · rw [if_pos h, h, Nat.mul_add_mod, decide_eq_true rfl, decide_eq_true rfl]
      · rw [if_neg h, Nat.add_zero, Nat.mul_mod_right, decide_eq_false (fun e => h (Option.some.inj e).symm)]
        rfl
    | succ j =>
      have hdiv : (2 * v + if s = a then 1 else 0) / 2 = v := by split <;> omega
      rw [Nat.testBit_add_one, hdiv, ih j (by omega), List.length_cons, List.getElem?_cons_succ,
        Nat.add_sub_add_right]
      simp only [Nat.add_lt_add_iff_right]

theorem nthEnd_fold_testBit (w : List α) (x j : Nat) (hj : j < n) :
    (w.foldl (nthEndStep s n) x).testBit j =
      if j < w.length then decide (w.reverse[j]? = some s) else x.testBit (j - w.length) := by
  have := nthEnd_testBit s n w.reverse x j hj
  rwa [List.foldr_reverse, List.length_reverse] at this

theorem upper_half_iff (hn : 0 < n) (v : Nat) (hv : v < 2 ^ n) :
    2 ^ n / 2 ≤ v ↔ v.testBit (n - 1) = true := by
  obtain ⟨m, rfl⟩ : ∃ m, n = m + 1 := ⟨n - 1, by omega⟩
  rw [Nat.pow_succ, Nat.mul_div_cancel _ (Nat.succ_pos 1), Nat.add_sub_cancel]
  refine ⟨fun h => ?_, Nat.ge_two_pow_of_testBit⟩
  obtain ⟨i, hi, hb⟩ := Nat.exists_ge_and_testBit_of_ge_two_pow h
  by_cases h2 : i = m
  · exact h2 ▸ hb
  · rw [Nat.testBit_lt_two_pow
      (Nat.lt_of_lt_of_le hv (Nat.pow_le_pow_right (Nat.succ_pos 1) (by omega)))] at hb
    cases hb

theorem nthEnd_mem_finals (hn : 0 < n) {v : Nat} (hv : v < 2 ^ n) :
    nat v ∈ ((List.range (2 ^ n)).filter fun x => decide (2 ^ n / 2 ≤ x)).map nat ↔
      v.testBit (n - 1) = true := by
  rw [← upper_half_iff n hn v hv, List.mem_map]
  constructor
  · rintro ⟨x, hx, e⟩
    exact nat_inj.mp e ▸ of_decide_eq_true (List.mem_filter.mp hx).2
  · exact fun h => ⟨v, List.mem_filter.mpr ⟨List.mem_range.mpr hv, decide_eq_true h⟩, rfl⟩

theorem nthEnd_fold_lt (x : Nat) (hx : x < 2 ^ n) {w : List α} (hw : Over syms w) :
    w.foldl (nthEndStep s n) x < 2 ^ n :=
  List.mem_range.mp ((nthEnd_sim syms s n).mem_fold (List.mem_range.mpr hx) hw)

theorem nthEnd_fold_final (hn : 0 < n) {w : List α} (hw : Over syms w) :
    nat (w.foldl (nthEndStep s n) 0) ∈
        ((List.range (2 ^ n)).filter fun x => decide (2 ^ n / 2 ≤ x)).map nat ↔
      (n ≤ w.length ∧ w[w.length - n]? = some s) := by
  rw [nthEnd_mem_finals n hn (nthEnd_fold_lt syms s n 0 (Nat.two_pow_pos n) hw),
    nthEnd_fold_testBit s n w 0 (n - 1) (Nat.sub_lt hn Nat.one_pos)]
  by_cases hl : n - 1 < w.length
  · have hle : n ≤ w.length := Nat.le_of_pred_lt hl
    rw [if_pos hl, List.getElem?_reverse hl, decide_eq_true_iff, Nat.sub_sub,
      Nat.add_sub_cancel' hn]
    exact (and_iff_right hle).symm
  · rw [if_neg hl, Nat.zero_testBit]
    exact ⟨fun e => (nomatch e), fun e => absurd (Nat.lt_of_lt_of_le (Nat.sub_lt hn Nat.one_pos) e.1) hl⟩

theorem nthEndDFA_minimal (hs : s ∈ syms) (hn : 0 < n) (t : α) (ht : t ∈ syms) (hts : t ≠ s) :
    MinimalShape (nthEndDFA syms s n) := by
  have lt_pow : ∀ {x j}, x < 2 ^ n → ¬ j < n → x < 2 ^ j := fun hx hj =>
    Nat.lt_of_lt_of_le hx (Nat.pow_le_pow_right (Nat.succ_pos 1) (Nat.le_of_not_lt hj))
  refine (nthEnd_sim syms s n).minimal_ladder (Nat.two_pow_pos n) (fun x hx => ?_)
    fun x y hxy hy => ?_
  · -- read the bits of x, most significant first
    let r : List α := (List.range n).map fun j => if x.testBit j then s else t
    have hr : Over syms r.reverse := by
      intro a ha
      obtain ⟨j, _, rfl⟩ := List.mem_map.mp (List.mem_reverse.mp ha)
      split
      · exact hs
      · exact ht
    refine ⟨r.reverse, hr, Nat.eq_of_testBit_eq fun j => ?_⟩
    by_cases hj : j < n
    · have hl : r.length = n := by rw [List.length_map, List.length_range]
      rw [nthEnd_fold_testBit s n r.reverse 0 j hj, List.length_reverse, hl, if_pos hj,
        List.reverse_reverse, List.getElem?_map, List.getElem?_range hj, Option.map_some]
      cases x.testBit j
      · exact decide_eq_false fun e => hts (Option.some.inj e)
      · exact decide_eq_true rfl
    · rw [Nat.testBit_lt_two_pow (lt_pow hx hj),
        Nat.testBit_lt_two_pow (lt_pow (nthEnd_fold_lt syms s n 0 (Nat.two_pow_pos n) hr) hj)]
  · -- shift a bit in which they differ to the top with symbols different from `s`
    have hx : x < 2 ^ n := Nat.lt_trans hxy hy
    obtain ⟨j, hj⟩ := Nat.exists_testBit_ne_of_ne (Nat.ne_of_lt hxy)
    have hjn : j < n := Classical.byContradiction fun h => hj (by
      rw [Nat.testBit_lt_two_pow (lt_pow hx h), Nat.testBit_lt_two_pow (lt_pow hy h)])
    have hw := over_replicate (syms := syms) ht (n - 1 - j)
    refine ⟨List.replicate (n - 1 - j) t, hw, ?_⟩
    have shift : ∀ z, z < 2 ^ n →
        ((List.replicate (n - 1 - j) t).foldl (nthEndStep s n) z).testBit (n - 1) = z.testBit j := by
      intro z hz
      rw [nthEnd_fold_testBit s n _ z (n - 1) (Nat.sub_lt hn Nat.one_pos), List.length_replicate,
        if_neg (Nat.not_lt.mpr (Nat.sub_le _ _)), Nat.sub_sub_self (Nat.le_sub_one_of_lt hjn)]
    rw [nthEnd_mem_finals n hn (nthEnd_fold_lt syms s n x hx hw),
      nthEnd_mem_finals n hn (nthEnd_fold_lt syms s n y hy hw), shift x hx, shift y hy]
    exact fun e => hj (Bool.eq_iff_iff.mpr e)

end nthEnd

end AV.Ctor
