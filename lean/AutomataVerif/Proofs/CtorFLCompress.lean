/-
Proofs/CtorFLCompress.lean — from_finite_language (C15): one iteration of the
`compress` loop (register the state, or replace it by the registered state with the same
signature and redirect its parent) preserves the invariant and "no two registered states have the
same signature" (`compressAt_inv`); with the invariant the latter makes the registered states
pairwise distinguishable (`regDist_of_sigs`).  Core only.
-/
import AutomataVerif.Proofs.CtorFLInv

namespace AV.Ctor.FL

variable {α : Type} [DecidableEq α]

theorem map_rename_eq (pre ident : List α) (path : List (α × List α)) :
    (path.map fun e => if e.2 = pre then (e.1, ident) else e) =
      path.map fun kv => (kv.1, if kv.2 = pre then ident else kv.2) :=
  List.map_congr_left fun e _ => by by_cases h : e.2 = pre <;> simp only [h, if_true, if_false]

theorem alookup_map_rename (pre ident : List α) (a : α) (path : List (α × List α)) :
    alookup a (path.map fun e => if e.2 = pre then (e.1, ident) else e) =
      (alookup a path).map fun t => if t = pre then ident else t := by
  rw [map_rename_eq]
  exact alookup_map_val (fun t => if t = pre then ident else t) a path

theorem akeys_map_rename (pre ident : List α) (path : List (α × List α)) :
    akeys (path.map fun e => if e.2 = pre then (e.1, ident) else e) = akeys path := by
  rw [map_rename_eq]
  exact akeys_map_val (fun t => if t = pre then ident else t) path

/-- Equality of `(bool, frozenset(items))` signatures whose item lists are dicts: same finality,
same lookups. -/
theorem sigEq_iff {a b : FLSig α} (ha : (akeys a.2).Nodup) (hb : (akeys b.2).Nodup) :
    sigEq a b = true ↔ a.1 = b.1 ∧ ∀ x, alookup x a.2 = alookup x b.2 := by
  unfold sigEq
  simp only [Bool.and_eq_true, beq_iff_eq, List.all_eq_true, decide_eq_true_eq, and_assoc]
  refine and_congr_right fun _ => ⟨fun ⟨h2, h3⟩ x => ?_, fun h => ⟨fun e he => ?_, fun e he => ?_⟩⟩
  · cases hx : alookup x a.2 with
    | some t => exact (alookup_of_mem_nodup hb (h2 (x, t) (alookup_some_mem hx))).symm
    | none =>
      cases hy : alookup x b.2 with
      | none => rfl
      | some t => rw [alookup_of_mem_nodup ha (h3 (x, t) (alookup_some_mem hy))] at hx; cases hx
  · exact alookup_some_mem ((h e.1).symm.trans (alookup_of_mem_nodup ha he))
  · exact alookup_some_mem ((h e.1).trans (alookup_of_mem_nodup hb he))

theorem sigGet_some {sig : FLSig α} {l : List (FLSig α × List α)} {v : List α}
    (h : sigGet sig l = some v) : ∃ e ∈ l, e.2 = v ∧ sigEq e.1 sig = true := by
  induction l with
  | nil => simp [sigGet] at h
  | cons e t ih =>
    obtain ⟨s, u⟩ := e
    unfold sigGet at h
    by_cases hs : sigEq s sig = true
    · simp only [hs, if_true, Option.some.injEq] at h
      exact ⟨(s, u), by simp, h, hs⟩
    · simp only [hs] at h
      obtain ⟨e, he, h1, h2⟩ := ih h
      exact ⟨e, List.mem_cons_of_mem _ he, h1, h2⟩

theorem sigGet_none {sig : FLSig α} {l : List (FLSig α × List α)} (h : sigGet sig l = none) :
    ∀ e ∈ l, sigEq e.1 sig = false := by
  induction l with
  | nil => intro e he; cases he
  | cons e0 t ih =>
    obtain ⟨s0, u⟩ := e0
    unfold sigGet at h
    by_cases hs : sigEq s0 sig = true
    · simp [hs] at h
    · simp only [hs] at h
      intro e he
      rcases List.mem_cons.mp he with rfl | he'
      · simpa using hs
      · exact ih h e he'

/-- No two registered states have the same signature. -/
def SigsDistinct (s : FLState α) : Prop :=
  ∀ e1 ∈ s.sigs, ∀ e2 ∈ s.sigs, e1.2 ≠ e2.2 → sigEq e1.1 e2.1 = false ∨ sigEq e2.1 e1.1 = false

/-- A state is registered only if no registered state has its signature. -/
theorem SigsDistinct.snoc {s : FLState α} (h : SigsDistinct s) {sig : FLSig α} {q : List α}
    (hnone : sigGet sig s.sigs = none) : SigsDistinct { s with sigs := s.sigs ++ [(sig, q)] } := by
  intro e1 h1 e2 h2 hne
  rcases List.mem_append.mp h1 with h1 | h1 <;> rcases List.mem_append.mp h2 with h2 | h2
  · exact h e1 h1 e2 h2 hne
  · rw [List.mem_singleton.mp h2]; exact Or.inl (sigGet_none hnone e1 h1)
  · rw [List.mem_singleton.mp h1]; exact Or.inr (sigGet_none hnone e2 h2)
  · rw [List.mem_singleton.mp h1, List.mem_singleton.mp h2] at hne; exact absurd rfl hne

/-- Renaming of states when `pre` is replaced by `ident`. -/
def ren (pre ident t : List α) : List α := if t = pre then ident else t

theorem ren_ne {pre ident t : List α} (h : t ≠ pre) : ren pre ident t = t := if_neg h

theorem ren_self (pre ident : List α) : ren pre ident pre = ident := if_pos rfl

theorem map_ren_eq {pre ident : List α} {o : Option (List α)} (h : ∀ t, o = some t → t ≠ pre) :
    o.map (ren pre ident) = o := by
  cases o with
  | none => rfl
  | some t => exact congrArg some (ren_ne (h t rfl))

/-- The table after the state `pre`, whose only parent `par` has the row `path`, has been replaced
by `ident`, whose parents were `b`. -/
def mergeInto (s : FLState α) (pre par ident : List α) (path : List (α × List α))
    (b : List (List α)) : FLState α :=
  { trans := ainsert par (path.map fun e => if e.2 = pre then (e.1, ident) else e)
      (s.trans.filter fun kv => decide (kv.1 ≠ pre)),
    back := ainsert ident (sinsert par b) s.back,
    finals := s.finals.filter fun q => decide (q ≠ pre),
    sigs := s.sigs }

section mergeInto
variable {s : FLState α} {pre par ident : List α} {path : List (α × List α)} {b : List (List α)}

theorem alookup_mergeInto (q : List α) :
    alookup q (mergeInto s pre par ident path b).trans =
      if par = q then some (path.map fun e => if e.2 = pre then (e.1, ident) else e)
      else if q = pre then none else alookup q s.trans := by
  show alookup q (ainsert _ _ _) = _
  rw [alookup_ainsert, alookup_filter_ne]

theorem mem_keys_mergeInto (hpar : par ∈ akeys s.trans) (hne : par ≠ pre) (q : List α) :
    q ∈ akeys (mergeInto s pre par ident path b).trans ↔ q ∈ akeys s.trans ∧ q ≠ pre := by
  show q ∈ akeys (ainsert _ _ _) ↔ _
  rw [mem_akeys_ainsert, mem_akeys_filter_ne]
  exact ⟨fun | .inl e => e ▸ ⟨hpar, hne⟩ | .inr h => h, Or.inr⟩

theorem look_mergeInto (hpath : alookup par s.trans = some path) (q : List α) (a : α) :
    look (mergeInto s pre par ident path b) q a =
      if q = par then (look s q a).map (ren pre ident)
      else if q = pre then none else look s q a := by
  unfold look
  rw [alookup_mergeInto]
  by_cases h1 : par = q
  · subst h1
    rw [if_pos rfl, if_pos rfl, hpath, Option.bind_some, Option.bind_some, alookup_map_rename]; rfl
  · rw [if_neg h1, if_neg fun (e : q = par) => h1 e.symm]
    by_cases h2 : q = pre
    · rw [if_pos h2, if_pos h2]; rfl
    · rw [if_neg h2, if_neg h2]

theorem mem_finals_mergeInto (q : List α) :
    q ∈ (mergeInto s pre par ident path b).finals ↔ q ∈ s.finals ∧ q ≠ pre := by
  show q ∈ List.filter _ _ ↔ _
  rw [List.mem_filter, decide_eq_true_iff]

theorem alookup_back_mergeInto (t : List α) :
    alookup t (mergeInto s pre par ident path b).back =
      if ident = t then some (sinsert par b) else alookup t s.back := alookup_ainsert ..

theorem mem_back_keys_mergeInto (hb : alookup ident s.back = some b) (t : List α) :
    t ∈ akeys (mergeInto s pre par ident path b).back ↔ t ∈ akeys s.back := by
  rw [← alookup_isSome_iff, ← alookup_isSome_iff, alookup_back_mergeInto]
  by_cases h : ident = t
  · rw [if_pos h, ← h, hb]; exact ⟨fun _ => rfl, fun _ => rfl⟩
  · rw [if_neg h]

end mergeInto

section compress
variable {added : List (List α)} {cur : List α} {k : Nat} {s : FLState α} {φ : List α → List α}
variable (inv : FLInv added cur (k + 1) s φ)
include inv

theorem pre_key (hadd : added ≠ []) {i : Nat} (hi : i ≤ k + 1) : cur.take i ∈ akeys s.trans := by
  have := inv.dom _ ⟨cur, inv.curTrie hadd, List.take_prefix i cur⟩
  rwa [inv.active i hi] at this

theorem pre_ne {i : Nat} (hi : i ≤ k) : cur.take (k + 1) ≠ cur.take i :=
  append_take_ne (pre := []) inv.kle (by have := inv.kle; omega) (by omega)

theorem pre_kids {a : α} {t : List α} (ht : look s (cur.take (k + 1)) a = some t) : t ∈ avals s.sigs :=
  (inv.activeKids (k + 1) (Nat.le_refl _) a t ht).resolve_left fun h => Nat.lt_irrefl _ h.1

/-- Registering the deepest active state (what `compress` does when no registered state has its
signature) preserves the invariant. -/
theorem register_inv (hadd : added ≠ []) {row : List (α × List α)}
    (hrow : alookup (cur.take (k + 1)) s.trans = some row) :
    FLInv added cur k { s with sigs := s.sigs ++
      [((decide (cur.take (k + 1) ∈ s.finals), row), cur.take (k + 1))] } φ := by
  have hk1 : k + 1 ≤ cur.length := inv.kle
  have hav : ∀ q, q ∈ avals (s.sigs ++ [((decide (cur.take (k + 1) ∈ s.finals), row), cur.take (k + 1))]) ↔
      q ∈ avals s.sigs ∨ q = cur.take (k + 1) := by
    intro q; simp [avals]
  refine
    { kle := by omega
      curTrie := inv.curTrie
      keysNodup := inv.keysNodup
      rowsNodup := inv.rowsNodup
      active := fun i hi => inv.active i (by omega)
      activeOnly := fun p hp i hi => inv.activeOnly p hp i (by omega)
      dom := inv.dom
      surj := inv.surj
      step := inv.step
      fin := inv.fin
      finKeys := inv.finKeys
      regIff := ?regIff
      sigOK := ?sigOK
      regClosed := ?regClosed
      activeKids := ?activeKids
      backSup := inv.backSup
      backKeys := inv.backKeys
      backActive := fun i h1 hi => inv.backActive i h1 (by omega)
      namesT := inv.namesT
      namesB := inv.namesB
      rootBack := inv.rootBack }
  case regIff =>
    intro q
    rw [hav, inv.regIff]
    constructor
    · rintro (⟨h1, h2⟩ | rfl)
      · exact ⟨h1, fun i hi => h2 i (by omega)⟩
      · exact ⟨pre_key inv hadd (Nat.le_refl _), fun i hi => pre_ne inv hi⟩
    · rintro ⟨h1, h2⟩
      by_cases hq : q = cur.take (k + 1)
      · exact Or.inr hq
      · refine Or.inl ⟨h1, fun i hi => ?_⟩
        by_cases hik : i = k + 1
        · rw [hik]; exact hq
        · exact h2 i (by omega)
  case sigOK =>
    intro x hx
    rcases List.mem_append.mp hx with h | h
    · exact inv.sigOK x h
    · rw [List.mem_singleton.mp h]; exact ⟨row, hrow, rfl⟩
  case regClosed =>
    intro q hq a t ht
    rw [hav] at hq ⊢
    rcases hq with hq | rfl
    · exact Or.inl (inv.regClosed q hq a t ht)
    · exact Or.inl (pre_kids inv ht)
  case activeKids =>
    intro i hi a t ht
    rw [hav]
    rcases inv.activeKids i (by omega) a t ht with ⟨h1, h2, h3⟩ | h
    · by_cases hik : i < k
      · exact Or.inl ⟨hik, h2, h3⟩
      · rw [show i = k by omega] at h3
        exact Or.inr (Or.inr h3)
    · exact Or.inr (Or.inl h)

/-- `compress` replaces the deepest active state by the registered state `ident` with the same
finality and the same row, and redirects its parent. -/
theorem merge_inv (hadd : added ≠ []) {ident : List α} {path : List (α × List α)}
    {b : List (List α)} (hidreg : ident ∈ avals s.sigs)
    (hfin : ident ∈ s.finals ↔ cur.take (k + 1) ∈ s.finals)
    (hsame : ∀ a, look s ident a = look s (cur.take (k + 1)) a)
    (hpath : alookup (cur.take k) s.trans = some path) (hb : alookup ident s.back = some b) :
    FLInv added cur k (mergeInto s (cur.take (k + 1)) (cur.take k) ident path b)
      (fun p => ren (cur.take (k + 1)) ident (φ p)) := by
  have hk1 : k + 1 ≤ cur.length := inv.kle
  obtain ⟨hidkey, hidne⟩ := (inv.regIff ident).mp hidreg
  have hid_pre : ident ≠ cur.take (k + 1) := hidne (k + 1) (Nat.le_refl _)
  have hpar_pre : cur.take k ≠ cur.take (k + 1) := (pre_ne inv (Nat.le_refl _)).symm
  have hparkey : cur.take k ∈ akeys s.trans := pre_key inv hadd (Nat.le_succ _)
  have hreg_ne : ∀ q, q ∈ avals s.sigs → q ≠ cur.take (k + 1) ∧ q ≠ cur.take k := fun q hq =>
    ⟨((inv.regIff q).mp hq).2 (k + 1) (Nat.le_refl _), ((inv.regIff q).mp hq).2 k (Nat.le_succ _)⟩
  have hback : alookup (cur.take (k + 1)) s.back = some [cur.take k] :=
    inv.backActive (k + 1) (Nat.le_add_left 1 k) (Nat.le_refl _)
  -- no state other than the parent points to pre
  have honly : ∀ q a, look s q a = some (cur.take (k + 1)) → q = cur.take k := by
    intro q a hq
    obtain ⟨b', hb', hqb⟩ := inv.backSup q a _ hq
    rw [hback] at hb'
    rw [← Option.some.inj hb'] at hqb
    exact List.mem_singleton.mp hqb
  have hkeys := mem_keys_mergeInto (ident := ident) (path := path) (b := b) hparkey hpar_pre
  have hlook := look_mergeInto (pre := cur.take (k + 1)) (ident := ident) (b := b) hpath
  have hlookR : ∀ q a, look (mergeInto s (cur.take (k + 1)) (cur.take k) ident path b)
      (ren (cur.take (k + 1)) ident q) a = (look s q a).map (ren (cur.take (k + 1)) ident) := by
    intro q a
    by_cases h1 : q = cur.take (k + 1)
    · rw [h1, ren_self, hlook, if_neg (hreg_ne _ hidreg).2, if_neg hid_pre, hsame,
        map_ren_eq fun t ht => (hreg_ne t (pre_kids inv ht)).1]
    · rw [ren_ne h1, hlook, if_neg h1]
      by_cases h2 : q = cur.take k
      · rw [if_pos h2]
      · rw [if_neg h2, map_ren_eq fun t ht (e : t = cur.take (k + 1)) => h2 (honly q a (e ▸ ht))]
  have hfinR : ∀ q, ren (cur.take (k + 1)) ident q ∈
      (mergeInto s (cur.take (k + 1)) (cur.take k) ident path b).finals ↔ q ∈ s.finals := by
    intro q
    rw [mem_finals_mergeInto]
    by_cases h1 : q = cur.take (k + 1)
    · rw [h1, ren_self, hfin]; exact and_iff_left hid_pre
    · rw [ren_ne h1]; exact and_iff_left h1
  have hfrozen : ∀ q ∈ avals s.sigs, ren (cur.take (k + 1)) ident q = q := fun q hq =>
    ren_ne (hreg_ne q hq).1
  refine
    { kle := by omega
      curTrie := inv.curTrie
      keysNodup := nodup_akeys_ainsert (nodup_akeys_filter _ inv.keysNodup)
      rowsNodup := ?rowsNodup
      active := fun i hi => by
        show ren _ _ (φ _) = _
        rw [inv.active i (by omega), ren_ne (pre_ne inv hi).symm]
      activeOnly := ?activeOnly
      dom := ?dom
      surj := ?surj
      step := ?step
      fin := fun p hp => (hfinR _).trans (inv.fin p hp)
      finKeys := fun q hq => (hkeys q).mpr
        ⟨inv.finKeys q ((mem_finals_mergeInto q).mp hq).1, ((mem_finals_mergeInto q).mp hq).2⟩
      regIff := ?regIff
      sigOK := ?sigOK
      regClosed := ?regClosed
      activeKids := ?activeKids
      backSup := ?backSup
      backKeys := fun q hq => (mem_back_keys_mergeInto hb q).mpr (inv.backKeys q ((hkeys q).mp hq).1)
      backActive := fun i h1 hi => by
        rw [alookup_back_mergeInto, if_neg (hidne i (by omega))]
        exact inv.backActive i h1 (by omega)
      namesT := fun q hq => inv.namesT q ((hkeys q).mp hq).1
      namesB := fun q hq => inv.namesB q ((mem_back_keys_mergeInto hb q).mp hq)
      rootBack := (mem_back_keys_mergeInto hb _).mpr inv.rootBack }
  case rowsNodup =>
    intro q r hq
    rw [alookup_mergeInto] at hq
    by_cases h1 : cur.take k = q
    · rw [if_pos h1] at hq
      rw [← Option.some.inj hq, akeys_map_rename]
      exact inv.rowsNodup _ _ hpath
    · rw [if_neg h1] at hq
      by_cases h2 : q = cur.take (k + 1)
      · rw [if_pos h2] at hq; cases hq
      · rw [if_neg h2] at hq; exact inv.rowsNodup q r hq
  case activeOnly =>
    intro p hp i hi h
    by_cases h1 : φ p = cur.take (k + 1)
    · rw [show ren _ _ (φ p) = ident by rw [h1, ren_self]] at h
      exact absurd h (hidne i (by omega))
    · rw [show ren (cur.take (k + 1)) ident (φ p) = φ p from ren_ne h1] at h
      exact inv.activeOnly p hp i (by omega) h
  case dom =>
    intro p hp
    rw [hkeys]
    by_cases h1 : φ p = cur.take (k + 1)
    · rw [h1, ren_self]; exact ⟨hidkey, hid_pre⟩
    · rw [ren_ne h1]; exact ⟨inv.dom p hp, h1⟩
  case surj =>
    intro q hq
    obtain ⟨h1, h2⟩ := (hkeys q).mp hq
    obtain ⟨p, hp, hφ⟩ := inv.surj q h1
    exact ⟨p, hp, by rw [hφ]; exact ren_ne h2⟩
  case step =>
    intro p a hp
    rw [hlookR, inv.step p a hp]
    split <;> rfl
  case regIff =>
    intro q
    show q ∈ avals s.sigs ↔ _
    rw [inv.regIff, hkeys]
    constructor
    · rintro ⟨h1, h2⟩
      exact ⟨⟨h1, h2 (k + 1) (Nat.le_refl _)⟩, fun i hi => h2 i (by omega)⟩
    · rintro ⟨⟨h1, h2⟩, h3⟩
      refine ⟨h1, fun i hi => ?_⟩
      by_cases hik : i = k + 1
      · rw [hik]; exact h2
      · exact h3 i (by omega)
  case sigOK =>
    intro y hy
    obtain ⟨r, hr, hs⟩ := inv.sigOK y hy
    obtain ⟨hy1, hy2⟩ := hreg_ne _ (List.mem_map.mpr ⟨y, hy, rfl⟩)
    refine ⟨r, by rw [alookup_mergeInto, if_neg fun e => hy2 e.symm, if_neg hy1]; exact hr, ?_⟩
    rw [hs, decide_eq_decide.mpr ((mem_finals_mergeInto _).trans (and_iff_left hy1))]
  case regClosed =>
    intro q hq a t ht
    rw [← hfrozen q hq, hlookR, map_ren_eq fun t' ht' => (hreg_ne t' (inv.regClosed q hq a t' ht')).1] at ht
    exact inv.regClosed q hq a t ht
  case activeKids =>
    intro i hi a t ht
    rw [← ren_ne (pre_ne inv hi).symm (ident := ident), hlookR] at ht
    obtain ⟨t0, h0, rfl⟩ := Option.map_eq_some_iff.mp ht
    rcases inv.activeKids i (by omega) a t0 h0 with ⟨_, h4, h5⟩ | h
    · by_cases hik : i < k
      · exact Or.inl ⟨hik, h4, by rw [h5, ren_ne (pre_ne inv hik).symm]⟩
      · rw [h5, show i = k by omega, ren_self]; exact Or.inr hidreg
    · rw [hfrozen t0 h]; exact Or.inr h
  case backSup =>
    intro q a t ht
    have hgrow : ∀ t0 b0 x0, alookup t0 s.back = some b0 → x0 ∈ b0 →
        ∃ b', alookup t0 (mergeInto s (cur.take (k + 1)) (cur.take k) ident path b).back = some b' ∧
          x0 ∈ b' := by
      intro t0 b0 x0 h1 h2
      rw [alookup_back_mergeInto]
      by_cases h : ident = t0
      · rw [if_pos h]
        rw [← h, hb] at h1
        exact ⟨_, rfl, mem_sinsert.mpr (Or.inr (Option.some.inj h1 ▸ h2))⟩
      · rw [if_neg h]; exact ⟨b0, h1, h2⟩
    have hq : q ≠ cur.take (k + 1) := by
      intro e; rw [e, hlook, if_neg hpar_pre.symm, if_pos rfl] at ht; cases ht
    rw [← ren_ne hq (ident := ident), hlookR] at ht
    obtain ⟨t0, h0, rfl⟩ := Option.map_eq_some_iff.mp ht
    by_cases h1 : t0 = cur.take (k + 1)
    · rw [h1, ren_self, alookup_back_mergeInto, if_pos rfl]
      exact ⟨_, rfl, mem_sinsert.mpr (Or.inl (honly q a (h1 ▸ h0)))⟩
    · rw [ren_ne h1]
      obtain ⟨b0, hb0, hq0⟩ := inv.backSup q a t0 h0
      exact hgrow t0 b0 q hb0 hq0

/-- One iteration of `compress`: the state of the deepest active prefix is registered or merged. -/
theorem compressAt_inv (hadd : added ≠ []) :
    ∃ s' φ', flCompressAt s (cur.take (k + 1)) = .ok s' ∧ FLInv added cur k s' φ' ∧
      (SigsDistinct s → SigsDistinct s') := by
  obtain ⟨row, hrow⟩ := exists_alookup (pre_key inv hadd (Nat.le_refl _))
  cases hsig : sigGet (decide (cur.take (k + 1) ∈ s.finals), row) s.sigs with
  | none =>
    exact ⟨_, φ, by simp only [flCompressAt, hrow, hsig], register_inv inv hadd hrow,
      fun h => h.snoc hsig⟩
  | some ident =>
    obtain ⟨x, hx, hx2, hxeq⟩ := sigGet_some hsig
    obtain ⟨rowi, hrowi, hxsig⟩ := inv.sigOK x hx
    rw [hx2] at hrowi hxsig
    have hidreg : ident ∈ avals s.sigs := List.mem_map.mpr ⟨x, hx, hx2⟩
    obtain ⟨hidkey, hidne⟩ := (inv.regIff ident).mp hidreg
    rw [hxsig, sigEq_iff (inv.rowsNodup _ _ hrowi) (inv.rowsNodup _ _ hrow)] at hxeq
    obtain ⟨hfinsame, hlooksame⟩ := hxeq
    have hback : alookup (cur.take (k + 1)) s.back = some [cur.take k] :=
      inv.backActive (k + 1) (Nat.le_add_left 1 k) (Nat.le_refl _)
    obtain ⟨path, hpath⟩ := exists_alookup (pre_key inv hadd (Nat.le_succ k))
    obtain ⟨b, hb⟩ := exists_alookup (inv.backKeys ident hidkey)
    have hpar_pre : cur.take k ≠ cur.take (k + 1) := (pre_ne inv (Nat.le_refl _)).symm
    have hsame : ∀ a, look s ident a = look s (cur.take (k + 1)) a := fun a => by
      rw [look_of_row hrowi, look_of_row hrow]; exact hlooksame a
    refine ⟨mergeInto s (cur.take (k + 1)) (cur.take k) ident path b, _, ?_,
      merge_inv inv hadd hidreg (decide_eq_decide.mp hfinsame) hsame hpath hb, id⟩
    simp only [flCompressAt, hrow, hsig, hback, flRedirectAll, flRedirect, alookup_filter_ne,
      if_neg hpar_pre, hpath, hb]
    rfl

end compress

omit [DecidableEq α] in
theorem exists_max_length (l : List (List α)) (h : l ≠ []) : ∃ u ∈ l, ∀ w ∈ l, w.length ≤ u.length := by
  induction l with
  | nil => exact absurd rfl h
  | cons x t ih =>
    by_cases ht : t = []
    · subst ht
      exact ⟨x, List.mem_cons_self .., fun w hw => by rw [List.mem_singleton.mp hw]; exact Nat.le_refl _⟩
    · obtain ⟨u, hu, hmax⟩ := ih ht
      by_cases hxu : u.length ≤ x.length
      · exact ⟨x, List.mem_cons_self .., fun w hw => (List.mem_cons.mp hw).elim
          (fun e => e ▸ Nat.le_refl _) fun hw' => Nat.le_trans (hmax w hw') hxu⟩
      · exact ⟨u, List.mem_cons_of_mem _ hu, fun w hw => (List.mem_cons.mp hw).elim
          (fun e => by rw [e]; omega) (hmax w)⟩

/-- Registered states with different signatures are distinguishable: by their finality, or by a
symbol on which their rows differ followed by a word for the targets, which are registered states
accepting shorter words only. -/
theorem regDist_of_sigs {added : List (List α)} {cur : List α} {k : Nat} {s : FLState α}
    {φ : List α → List α} (inv : FLInv added cur k s φ) (hS : SigsDistinct s) : RegDist s := by
  have key : ∀ (n : Nat) (q1 q2 : List α), q1 ∈ avals s.sigs → q2 ∈ avals s.sigs → q1 ≠ q2 →
      (∀ u, accFrom s q1 u = true → u.length < n) → (∀ u, accFrom s q2 u = true → u.length < n) →
      ∃ w, accFrom s q1 w ≠ accFrom s q2 w := by
    intro n
    induction n with
    | zero =>
      intro q1 _ h1 _ _ b1 _
      obtain ⟨u, hu⟩ := key_live inv q1 ((inv.regIff q1).mp h1).1
      exact absurd (b1 u hu) (Nat.not_lt_zero _)
    | succ n ih =>
      intro q1 q2 h1 h2 hne b1 b2
      obtain ⟨e1, he1, rfl⟩ := List.mem_map.mp h1
      obtain ⟨e2, he2, rfl⟩ := List.mem_map.mp h2
      obtain ⟨r1, hr1, hs1⟩ := inv.sigOK e1 he1
      obtain ⟨r2, hr2, hs2⟩ := inv.sigOK e2 he2
      have hdiff : ¬ (decide (e1.2 ∈ s.finals) = decide (e2.2 ∈ s.finals) ∧
          ∀ x, alookup x r1 = alookup x r2) := by
        rintro ⟨hf, hl⟩
        have n1 := inv.rowsNodup _ _ hr1
        have n2 := inv.rowsNodup _ _ hr2
        rcases hS e1 he1 e2 he2 hne with h | h
        · rw [hs1, hs2, Bool.eq_false_iff] at h
          exact h ((sigEq_iff n1 n2).mpr ⟨hf, hl⟩)
        · rw [hs1, hs2, Bool.eq_false_iff] at h
          exact h ((sigEq_iff n2 n1).mpr ⟨hf.symm, fun x => (hl x).symm⟩)
      by_cases hfin : decide (e1.2 ∈ s.finals) = decide (e2.2 ∈ s.finals)
      · obtain ⟨a, ha⟩ := Classical.not_forall.mp fun hall => hdiff ⟨hfin, hall⟩
        have hshort : ∀ {q t : List α}, (∀ u, accFrom s q u = true → u.length < n + 1) →
            look s q a = some t → ∀ u, accFrom s t u = true → u.length < n := fun bq ht u hu =>
          Nat.lt_of_succ_lt_succ (bq (a :: u) (by rwa [accFrom_cons_some ht]))
        refine dist_of_look_ne (a := a) (by rw [look_of_row hr1, look_of_row hr2]; exact ha)
          (fun t ht => key_live inv t ((inv.regIff _).mp ?_).1)
          (fun t1 t2 ht1 ht2 hne' => ih t1 t2 (inv.regClosed _ h1 a t1 ht1)
            (inv.regClosed _ h2 a t2 ht2) hne' (hshort b1 ht1) (hshort b2 ht2))
        exact ht.elim (inv.regClosed _ h1 a t) (inv.regClosed _ h2 a t)
      · exact ⟨[], hfin⟩
  intro q1 h1 q2 h2 hne
  have hadd : added ≠ [] := by
    rintro rfl
    obtain ⟨p, hp, _⟩ := inv.surj q1 ((inv.regIff q1).mp h1).1
    exact not_inTrie_nil hp
  obtain ⟨u0, _, hmax⟩ := exists_max_length added hadd
  have bound : ∀ q ∈ avals s.sigs, ∀ u, accFrom s q u = true → u.length < u0.length + 1 := by
    intro q hq u hu
    obtain ⟨p, hp, rfl⟩ := inv.surj q ((inv.regIff q).mp hq).1
    have := hmax _ ((accFrom_trie inv hp u).mp hu)
    rw [List.length_append] at this
    omega
  exact key _ q1 q2 h1 h2 hne (bound q1 h1) (bound q2 h2)

end AV.Ctor.FL
