/-
Proofs/CacheGen.lean — closed form of what a live generator object (Model/DFACache.lean:
`words_of_length(k)`, `iter(dfa)`, `successors(…)` / `predecessors(…)`) delivers to successive
`next()` calls: the stream of its *atomic run* (`wordsOfLength`, `iterRun`, `successors`, the
functions characterised in Props/C13.lean and Props/C14.lean); and that in the stateless reference no
other call moves a generator (`stepPure_slot`).  Core only.
-/
import AutomataVerif.Proofs.Cache
import AutomataVerif.Proofs.Iter
import AutomataVerif.Proofs.SuccCfg

namespace AV
namespace DFA
namespace CacheGen

variable {σ α : Type} [DecidableEq σ] [DecidableEq α]

/-- The generator `g` advanced by successive `next()` calls (fuels `fs`) with nothing in
between, computed from the definition alone: the answers. -/
def soloAnswers (d : DFA σ α) (key : α → Int) : Gen σ α → List Nat → List (Ans α)
  | _, [] => []
  | g, f :: fs => (d.pGenNext key f g).2 :: soloAnswers d key (d.pGenNext key f g).1 fs

/-- A call other than `next(g_h)` leaves the generator in slot `h` where it is (stateless reference). -/
theorem stepPure_slot (d : DFA σ α) (key : α → Int) (ext : Ext σ) {gens : List (Gen σ α)} {h : Nat}
    {g : Gen σ α} (hg : gens[h]? = some g) {q : Query α} (hq : ∀ f, q ≠ .next h f) :
    (d.stepPure key ext gens q).1[h]? = some g := by
  have happ : ∀ g', (gens ++ [g'])[h]? = some g := fun g' => by
    rw [List.getElem?_append_left (List.getElem?_eq_some_iff.mp hg).1]; exact hg
  cases q with
  | next h' f =>
    have hh : h' ≠ h := fun e => hq f (e ▸ rfl)
    simp only [stepPure]
    cases gens[h']? with
    | none => exact hg
    | some g' => simp only; rw [List.getElem?_set_ne hh]; exact hg
  | wordsOpen k => exact happ _
  | iterOpen => exact happ _
  | succOpen skey input o => exact happ _
  | succs skey input o n fuel => cases n <;> exact hg
  | minify tag => simp only [stepPure]; cases d.allowPartial <;> exact hg
  | _ => exact hg

/-- What `m` successive `next()` calls observe of a run that yields `ys` and then ends as `st`
(`outOfFuel`: the run is cut off there). -/
def streamTake : List (List α) → SuccStatus → Nat → List (Ans α)
  | _, _, 0 => []
  | w :: ys, st, m + 1 => .word w :: streamTake ys st m
  | [], .finished, m + 1 => .stop :: streamTake [] .finished m
  | [], .raised e, m + 1 => .exn e :: streamTake [] .finished m
  | [], .outOfFuel, m + 1 => .outOfFuel :: streamTake [] .outOfFuel m

/-- What `m` successive `next()` calls observe of a Python generator object whose body, run to its
end in one go, yields `r.1` and ends as `r.2`: the yields one per call, then the exception once (a
generator that raised is finished), then `StopIteration` for ever. -/
def stream (r : List (List α) × SuccStatus) (m : Nat) : List (Ans α) := streamTake r.1 r.2 m

/-- The exhausted flag of `iterRun` as a status: `true` = finished, `false` = cut off by the fuel. -/
def ofBool (fin : Bool) : SuccStatus :=
  match fin with
  | true => .finished
  | false => .outOfFuel

/-- The batch run `iterRun` (Model/DFAQuery.lean) as a run with a status. -/
def ofIter : Res (List (List α) × Bool) → List (List α) × SuccStatus
  | .error e => ([], .raised e)
  | .ok r => (r.1, ofBool r.2)

/-- The atomic run of what is left of a generator, with `F` units of fuel: what the rest of the body
of the suspended generator object would yield, and how it would end, if it ran on without being
suspended again, `F` bounding the iterations of its `while` loop.  For an object whose body has not
been entered this includes the code before the first `yield` (cache look-ups, set-up). -/
def resid (d : DFA σ α) (key : α → Int) (F : Nat) : Gen σ α → List (List α) × SuccStatus
  | .wordsNew k => (d.wordsOfLength key k, .finished)
  | .wordsRun rest => (rest, .finished)
  | .iterNew => ofIter (d.iterRun key F)
  | .iterRun i limit rest =>
    (rest ++ (d.iterLoop key limit F i).1, ofBool (d.iterLoop key limit F i).2)
  | .succNew skey input o => d.successors skey input o F
  | .succRun o c st => succLoop d o c F st
  | .raising e => ([], .raised e)
  | .done => ([], .finished)

set_option linter.unusedSectionVars false in
theorem stream_cons (w : List α) (ys : List (List α)) (st : SuccStatus) (m : Nat) :
    stream (w :: ys, st) (m + 1) = .word w :: stream (ys, st) m := rfl

set_option linter.unusedSectionVars false in
theorem stream_finished (m : Nat) :
    stream (([] : List (List α)), SuccStatus.finished) (m + 1) = .stop :: stream ([], .finished) m := rfl

set_option linter.unusedSectionVars false in
theorem stream_raised (e : Exn) (m : Nat) :
    stream (([] : List (List α)), SuccStatus.raised e) (m + 1) = .exn e :: stream ([], .finished) m := rfl

/-- The body of the generator has been entered (or has ended). -/
def Started : Gen σ α → Prop
  | .wordsNew _ | .iterNew | .succNew _ _ _ => False
  | _ => True

/-- What a generator does before its first `yield` (look up the word list; `isempty`,
`minimum_word_length`, `maximum_word_length`; the set-up of `successors`) is a function of the
definition: for `pGenNext` and `resid` alike a generator that has not started is the started,
raising or finished one this leads to. -/
theorem exists_started (d : DFA σ α) (key : α → Int) (g : Gen σ α) :
    ∃ g', Started g' ∧ (∀ f, d.pGenNext key f g = d.pGenNext key f g') ∧
      ∀ F, resid d key F g = resid d key F g' := by
  cases g with
  | wordsNew k =>
    refine ⟨.wordsRun (d.wordsOfLength key k), trivial, fun f => ?_, fun F => rfl⟩
    simp only [pGenNext]
    cases d.wordsOfLength key k <;> rfl
  | iterNew =>
    simp only [pGenNext, resid, iterRun]
    cases d.isEmpty with
    | true => exact ⟨.done, trivial, fun _ => rfl, fun _ => rfl⟩
    | false =>
      cases d.minimumWordLength with
      | error e => exact ⟨.raising e, trivial, fun _ => rfl, fun _ => rfl⟩
      | ok i =>
        cases d.maximumWordLength with
        | error e => exact ⟨.raising e, trivial, fun _ => rfl, fun _ => rfl⟩
        | ok limit => exact ⟨.iterRun i limit [], trivial, fun _ => rfl, fun _ => rfl⟩
  | succNew skey input o =>
    simp only [pGenNext, resid, successors, successorsCore_eq_setup]
    cases d.succSetup (d.finiteGuard o.reverse) d.digraph skey input o with
    | error e => exact ⟨.raising e, trivial, fun _ => rfl, fun _ => rfl⟩
    | ok cs => exact ⟨.succRun o cs.1 cs.2, trivial, fun _ => rfl, fun _ => rfl⟩
  | _ => exact ⟨_, by trivial, fun _ => rfl, fun _ => rfl⟩

/-- One `next()` of a started `successors` generator against the atomic loop: it consumes `k`
iterations, delivers the next item of the run's stream, and leaves the rest of the run. -/
theorem succAdvance_spec (d : DFA σ α) (key : α → Int) (o : SuccOpts) (c : SuccCfg σ α) :
    ∀ (f : Nat) (st : SuccState σ α), (succAdvance d o c f st).2 ≠ .outOfFuel →
      ∃ k, ∀ F m, stream (succLoop d o c (F + k) st) (m + 1) =
        (succAdvance d o c f st).2 :: stream (resid d key F (succAdvance d o c f st).1) m := by
  intro f
  induction f with
  | zero => intro st h; exact absurd rfl h
  | succ f ih =>
    intro st h
    cases ht : (st.chars.isEmpty && st.cand.isNone) with
    | true =>
      refine ⟨1, fun F m => ?_⟩
      rw [succLoop_exit ht]
      simp only [succAdvance, ht]
      rcases succFinal_shape d o st with ⟨_, h⟩ | ⟨_, _, _, h⟩ <;> rw [h]
      · rfl
      · cases yieldIf _ _ <;> rfl
    | false =>
      cases hs : succStep d o c st with
      | mk y r =>
        cases y with
        | none =>
          cases r with
          | error e =>
            refine ⟨1, fun F m => ?_⟩
            rw [succLoop_raise ht hs]
            simp only [succAdvance, ht, hs]
            rfl
          | ok st' =>
            have heq : succAdvance d o c (f + 1) st = succAdvance d o c f st' := by
              simp only [succAdvance, ht, hs]
            rw [heq] at h ⊢
            obtain ⟨k, hk⟩ := ih st' h
            refine ⟨k + 1, fun F m => ?_⟩
            rw [← Nat.add_assoc, succLoop_step ht hs]
            simp only [Option.toList_none, List.nil_append]
            exact hk F m
        | some w =>
          cases r with
          | error e =>
            refine ⟨1, fun F m => ?_⟩
            rw [succLoop_raise ht hs]
            simp only [succAdvance, ht, hs]
            rfl
          | ok st' =>
            refine ⟨1, fun F m => ?_⟩
            rw [succLoop_step ht hs]
            simp only [succAdvance, ht, hs]
            rfl

theorem pIterAdvance_spec (d : DFA σ α) (key : α → Int) (limit : Option Nat) :
    ∀ (f i : Nat) (rest : List (List α)), (d.pIterAdvance key f i limit rest).2 ≠ .outOfFuel →
      ∃ k, ∀ F m, stream (resid d key (F + k) (.iterRun i limit rest)) (m + 1) =
        (d.pIterAdvance key f i limit rest).2 ::
          stream (resid d key F (d.pIterAdvance key f i limit rest).1) m := by
  intro f
  induction f with
  | zero =>
    intro i rest h
    cases rest with
    | nil => exact absurd rfl h
    | cons w rest => exact ⟨0, fun F m => rfl⟩
  | succ f ih =>
    intro i rest h
    cases rest with
    | cons w rest => exact ⟨0, fun F m => rfl⟩
    | nil =>
      cases hc : iterCond limit i with
      | false =>
        refine ⟨0, fun F m => ?_⟩
        simp only [pIterAdvance, hc, resid, iterLoop_false hc, List.nil_append, ofBool]
        rfl
      | true =>
        have heq : d.pIterAdvance key (f + 1) i limit [] =
            d.pIterAdvance key f (i + 1) limit (d.wordsOfLength key i) := by
          simp only [pIterAdvance, hc]
        rw [heq] at h ⊢
        obtain ⟨k, hk⟩ := ih (i + 1) (d.wordsOfLength key i) h
        refine ⟨k + 1, fun F m => ?_⟩
        rw [← hk F m]
        simp only [resid, ← Nat.add_assoc, iterLoop_succ_true hc, List.nil_append]

theorem pGenNext_spec (d : DFA σ α) (key : α → Int) (f : Nat) (g : Gen σ α)
    (h : (d.pGenNext key f g).2 ≠ .outOfFuel) :
    ∃ k, ∀ F m, stream (resid d key (F + k) g) (m + 1) =
      (d.pGenNext key f g).2 :: stream (resid d key F (d.pGenNext key f g).1) m := by
  obtain ⟨g', hs, hn, hr⟩ := exists_started d key g
  simp only [hn, hr] at h ⊢
  cases g' with
  | wordsNew _ | iterNew | succNew _ _ _ => exact hs.elim
  | wordsRun rest => cases rest <;> exact ⟨0, fun F m => rfl⟩
  | iterRun i limit rest => exact pIterAdvance_spec d key limit f i rest h
  | succRun o c st => exact succAdvance_spec d key o c f st h
  | raising e => exact ⟨0, fun F m => rfl⟩
  | done => exact ⟨0, fun F m => rfl⟩

/-- **Closed form**: if none of the `next()` calls ran out of fuel, the answers of the generator
advanced on its own are the stream of its atomic run, for every sufficiently large fuel of that
run. -/
theorem solo_closed_form (d : DFA σ α) (key : α → Int) :
    ∀ (fs : List Nat) (g : Gen σ α), Ans.outOfFuel ∉ soloAnswers d key g fs →
      ∃ K, ∀ F, soloAnswers d key g fs = stream (resid d key (F + K) g) fs.length := by
  intro fs
  induction fs with
  | nil => intro g _; exact ⟨0, fun F => rfl⟩
  | cons f fs ih =>
    intro g h
    simp only [soloAnswers, List.mem_cons, not_or] at h
    obtain ⟨k, hk⟩ := pGenNext_spec d key f g (fun e => h.1 e.symm)
    obtain ⟨K, hK⟩ := ih (d.pGenNext key f g).1 h.2
    refine ⟨K + k, fun F => ?_⟩
    simp only [soloAnswers, List.length_cons]
    rw [← Nat.add_assoc, hk (F + K) fs.length, hK F]

theorem ofBool_ne {b : Bool} (h : ofBool b ≠ .outOfFuel) : b = true := by
  cases b with
  | true => rfl
  | false => exact absurd rfl h

theorem resid_stable (d : DFA σ α) (key : α → Int) (g : Gen σ α) (F : Nat)
    (h : (resid d key F g).2 ≠ .outOfFuel) (k : Nat) : resid d key (F + k) g = resid d key F g := by
  obtain ⟨g', hs, _, hr⟩ := exists_started d key g
  simp only [hr] at h ⊢
  cases g' with
  | wordsNew _ | iterNew | succNew _ _ _ => exact hs.elim
  | iterRun i limit rest =>
    simp only [resid] at h ⊢
    rw [iterLoop_stable d key limit F i (ofBool_ne h) k]
  | succRun o c st => exact succLoop_stable d o c F st h k
  | _ => rfl

/-- **Closed form, complete runs**: when the atomic run of the generator ends (exhausted or by an
exception) with the yields `ys`, its `next()` calls deliver exactly `ys` in order, each once, then
the exception (once, if any), then `StopIteration` for ever. -/
theorem solo_total (d : DFA σ α) (key : α → Int) (fs : List Nat) (g : Gen σ α)
    (h : Ans.outOfFuel ∉ soloAnswers d key g fs) (F0 : Nat)
    (hend : (resid d key F0 g).2 ≠ .outOfFuel) :
    soloAnswers d key g fs = stream (resid d key F0 g) fs.length := by
  obtain ⟨K, hK⟩ := solo_closed_form d key fs g h
  rw [hK F0, resid_stable d key g F0 hend K]

end CacheGen
end DFA
end AV
