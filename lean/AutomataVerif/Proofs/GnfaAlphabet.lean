/-
Proofs/GnfaAlphabet.lean — the characters of the string `to_regex` returns: every one of them is a
symbol of the GNFA's alphabet or one of the five operator characters `* | ( ) ?`.
`_validate_transition_invalid_symbols` checks exactly this for every label of a GNFA that passed
`GNFA.validate`, and `ripLabel` only adds operator characters.
-/
import AutomataVerif.Proofs.GnfaRender
import AutomataVerif.Proofs.GnfaShapeBridge

namespace AV.GNFA.Alphabet
open AV AV.GNFA AV.GnfaSpec

variable {σ : Type} [DecidableEq σ]

/-- Every character of the label is an input symbol or one of `* | ( ) ?` — the condition
`set(regex) - check == set()` of `_validate_transition_invalid_symbols`. -/
def Chars (syms : List Char) (s : Str) : Prop := ∀ c ∈ s, c ∈ syms ++ ['*', '|', '(', ')', '?']

theorem Chars.nil (syms : List Char) : Chars syms [] := fun _ h => by simp at h

theorem Chars.append {syms : List Char} {s t : Str} (hs : Chars syms s) (ht : Chars syms t) :
    Chars syms (s ++ t) := by
  intro c hc
  rcases List.mem_append.mp hc with h | h
  · exact hs c h
  · exact ht c h

theorem Chars.cons {syms : List Char} {c : Char} {s : Str}
    (hc : c ∈ syms ++ ['*', '|', '(', ')', '?']) (hs : Chars syms s) : Chars syms (c :: s) := by
  intro x hx
  rcases List.mem_cons.mp hx with rfl | h
  · exact hc
  · exact hs x h

theorem op_mem (syms : List Char) {c : Char} (h : c ∈ ['*', '|', '(', ')', '?']) :
    c ∈ syms ++ ['*', '|', '(', ')', '?'] := List.mem_append_right _ h

theorem Chars.ops (syms : List Char) {s : Str} (h : ∀ c ∈ s, c ∈ ['*', '|', '(', ')', '?']) :
    Chars syms s := fun c hc => op_mem syms (h c hc)

/-- `from_dfa` / `from_nfa` end in the validating constructor; the validator model enters nowhere
else. -/
theorem finishBuild_eq_mk' (natName : Nat → σ) (src : List σ) (syms : List Char)
    (rows : List (σ × List (σ × Option Str))) (init : σ) (finals : List σ) :
    ∃ c : Res (GNFA σ Str), (∀ g, c = .ok g → g.syms = syms) ∧
      ∀ rxValid : Str → Res Bool, finishBuild rxValid natName src syms rows init finals =
        c >>= fun g => mk' (strLabelCheck rxValid g.syms) g := by
  unfold finishBuild
  simp only
  cases addFinalEdges _ finals _ with
  | error e => exact ⟨.error e, ⟨fun _ h => (nomatch h), fun _ => rfl⟩⟩
  | ok rows₁ =>
    dsimp only
    cases fillNone _ _ _ rows₁ with
    | error e => exact ⟨.error e, ⟨fun _ h => (nomatch h), fun _ => rfl⟩⟩
    | ok rows₂ => exact ⟨.ok _, ⟨fun _ h => Except.ok.inj h ▸ rfl, fun _ => rfl⟩⟩

theorem finishBuild_ok {rxValid : Str → Res Bool} {natName : Nat → σ} {src : List σ}
    {syms : List Char} {rows : List (σ × List (σ × Option Str))} {init : σ} {finals : List σ}
    {g : GNFA σ Str} (h : finishBuild rxValid natName src syms rows init finals = .ok g) :
    g.validateStr rxValid = .ok () ∧ g.syms = syms := by
  obtain ⟨c, hs, hc⟩ := finishBuild_eq_mk' natName src syms rows init finals
  rw [hc] at h
  cases c with
  | error e => cases h
  | ok g₀ =>
    obtain ⟨rfl, hv⟩ := mk'_eq_ok.mp h
    exact ⟨hv, hs _ rfl⟩

theorem fromDFA_ok {rxValid : Str → Res Bool} {natName : Nat → σ} {d : DFA σ Char}
    {g : GNFA σ Str} (h : fromDFA rxValid natName d = .ok g) :
    g.validateStr rxValid = .ok () ∧ g.syms = d.syms :=
  finishBuild_ok h

theorem fromNFA_ok {rxValid : Str → Res Bool} {natName : Nat → σ} {n : NFA σ Char}
    {g : GNFA σ Str} (h : fromNFA rxValid natName n = .ok g) :
    g.validateStr rxValid = .ok () ∧ g.syms = n.syms :=
  finishBuild_ok h

theorem bracketIfReq_chars {syms : List Char} {r : Str} (h : Chars syms r) :
    Chars syms (bracketIfReq r) := by
  unfold bracketIfReq
  split
  · exact Chars.cons (op_mem syms (by decide)) (h.append (Chars.ops syms (by decide)))
  · exact h

theorem starPart_chars {syms : List Char} {r2 : Option Str} (h : ∀ s, r2 = some s → Chars syms s) :
    Chars syms (starPart r2) := by
  cases r2 with
  | none => exact Chars.nil syms
  | some r =>
    have hr := h r rfl
    rw [starPart_some]
    split
    · exact hr.append (Chars.ops syms (by decide))
    · exact Chars.cons (op_mem syms (by decide)) (hr.append (Chars.ops syms (by decide)))

theorem altPart_chars {syms : List Char} {r4 : Option Str} (h : ∀ s, r4 = some s → Chars syms s) :
    Chars syms (altPart r4) := by
  cases r4 with
  | none => exact Chars.nil syms
  | some r =>
    have hr := h r rfl
    rw [altPart_some]
    split
    · exact Chars.cons (op_mem syms (by decide)) (Chars.cons (op_mem syms (by decide))
        (hr.append (Chars.ops syms (by decide))))
    · split
      · exact Chars.ops syms (by decide)
      · exact Chars.cons (op_mem syms (by decide)) hr

theorem finish_chars {syms : List Char} {body d : Str} (hb : Chars syms body)
    (hd : Chars syms d) : Chars syms (finish body d) := by
  have hb' : Chars syms (if d ≠ [] ∧ body = [] then ['(', ')'] else body) := by
    split
    · exact Chars.ops syms (by decide)
    · exact hb
  unfold finish
  simp only
  generalize (if d ≠ [] ∧ body = [] then ['(', ')'] else body) = body' at hb' ⊢
  split
  · exact Chars.cons (op_mem syms (by decide)) (hb'.append (Chars.cons (op_mem syms (by decide)) hd))
  · exact hb'.append hd

theorem ripLabel_chars {syms : List Char} {r1 r2 r3 r4 : Option Str}
    (h1 : ∀ s, r1 = some s → Chars syms s) (h2 : ∀ s, r2 = some s → Chars syms s)
    (h3 : ∀ s, r3 = some s → Chars syms s) (h4 : ∀ s, r4 = some s → Chars syms s) :
    ∀ s, ripLabel r1 r2 r3 r4 = some s → Chars syms s := by
  intro s hs
  cases r1 with
  | none => exact h4 s (by simpa [ripLabel] using hs)
  | some a =>
    cases r3 with
    | none => exact h4 s (by simpa [ripLabel] using hs)
    | some c =>
      rw [ripLabel_some] at hs
      have := Option.some.inj hs
      subst this
      exact finish_chars
        (((bracketIfReq_chars (h1 a rfl)).append (starPart_chars h2)).append
          (bracketIfReq_chars (h3 c rfl)))
        (altPart_chars h4)

/-- `to_regex` keeps the alphabet, for every rip order: `toRegexG_spec` with the label semantics
`Lab L s ∧ Chars g.syms s`. -/
theorem toRegex_chars {rxValid : Str → Res Bool} (g : GNFA σ Str)
    (hv : g.validateStr rxValid = .ok ())
    (hS : Shape (dedup g.states) g.init g.final g.trans)
    {Lb : σ → σ → Language Char} (hD : Denotes Lab g.trans Lb)
    (ord : Nat → List σ → List σ) (hord : ∀ k l x, x ∈ ord k l ↔ x ∈ l) :
    ∃ o, toRegex g ord = .ok o ∧ LabO (GLang Lb g.init g.final) o ∧
      ∀ s, o = some s → Chars g.syms s := by
  let R : Language Char → Str → Prop := fun L s => Lab L s ∧ Chars g.syms s
  have e : ∀ L o, RO R L o ↔ (LabO L o ∧ ∀ s, o = some s → Chars g.syms s) := by
    intro L o
    cases o with
    | none => exact ⟨fun h => ⟨h, fun s hs => by cases hs⟩, fun h => h.1⟩
    | some s =>
      exact ⟨fun h => ⟨h.1, fun s' hs' => by cases hs'; exact h.2⟩, fun h => ⟨h.1, h.2 s rfl⟩⟩
  have hcomb : CombSound R ripLabel := by
    intro L1 L2 L3 L4 r1 r2 r3 r4 h1 h2 h3 h4
    rw [e] at h1 h2 h3 h4 ⊢
    exact ⟨ripLabel_sound h1.1 h2.1 h3.1 h4.1, ripLabel_chars h1.2 h2.2 h3.2 h4.2⟩
  have hD' : Denotes R g.trans Lb := by
    intro p r
    rw [e]
    exact ⟨RO_Lab _ _ ▸ hD p r,
      fun s hs => (strLabelCheck_eq_ok.mp ((accepted_of_validate hv).lab_checked hs)).1⟩
  obtain ⟨o, ho, hRO⟩ := toRegexG_spec hcomb g hS hD' ord hord
  exact ⟨o, ho, (e _ o).mp hRO⟩

end AV.GNFA.Alphabet
