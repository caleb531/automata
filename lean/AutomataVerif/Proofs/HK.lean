/-
Proofs/HK.lean — the generic Hopcroft–Karp loop `AV.HKG.run` (Model/HK.lean) decides language
equivalence of two states, for every deterministic system `(step, isFinal)` over `syms` and
every representative choice `pick` of the union–find (`run_iff`), and terminates inside a
finite `step`-closed universe (`run_ne_none`).  Used for `DFA.__eq__` and `NFA.__eq__`.
-/
import AutomataVerif.Model.HK
import AutomataVerif.Proofs.Basic

namespace AV.HKG

variable {S α : Type} [DecidableEq S]

def runW (step : S → α → S) (q : S) (w : List α) : S := w.foldl step q

set_option linter.unusedSectionVars false in
@[simp] theorem runW_nil (step : S → α → S) (q : S) : runW step q [] = q := rfl
set_option linter.unusedSectionVars false in
@[simp] theorem runW_cons (step : S → α → S) (q : S) (a : α) (w : List α) :
    runW step q (a :: w) = runW step (step q a) w := rfl

def LangEq (step : S → α → S) (isFinal : S → Bool) (syms : List α) (x y : S) : Prop :=
  ∀ w : List α, (∀ a ∈ w, a ∈ syms) → isFinal (runW step x w) = isFinal (runW step y w)

def Bisim (step : S → α → S) (isFinal : S → Bool) (syms : List α) (R : S → S → Prop) : Prop :=
  ∀ x y, R x y → isFinal x = isFinal y ∧ ∀ a ∈ syms, R (step x a) (step y a)

section spec
omit [DecidableEq S]
variable {step : S → α → S} {isFinal : S → Bool} {syms : List α}

theorem LangEq.refl (x : S) : LangEq step isFinal syms x x := fun _ _ => rfl
theorem LangEq.symm {x y : S} (h : LangEq step isFinal syms x y) : LangEq step isFinal syms y x :=
  fun w hw => (h w hw).symm
theorem LangEq.trans {x y z : S} (h₁ : LangEq step isFinal syms x y)
    (h₂ : LangEq step isFinal syms y z) : LangEq step isFinal syms x z :=
  fun w hw => (h₁ w hw).trans (h₂ w hw)
theorem LangEq.final {x y : S} (h : LangEq step isFinal syms x y) : isFinal x = isFinal y :=
  h [] (by simp)
theorem LangEq.next {x y : S} (h : LangEq step isFinal syms x y) {a : α} (ha : a ∈ syms) :
    LangEq step isFinal syms (step x a) (step y a) := by
  intro w hw
  have := h (a :: w) (by
    intro b hb
    rcases List.mem_cons.mp hb with rfl | hb
    · exact ha
    · exact hw b hb)
  simpa using this

theorem Bisim.langEq {R : S → S → Prop} (hR : Bisim step isFinal syms R) {x y : S} (h : R x y) :
    LangEq step isFinal syms x y :=
  fun _ hw => (hR _ _ (List.foldl_rel h fun a ha x y hxy => (hR x y hxy).2 a (hw a ha))).1

end spec

section
variable {step : S → α → S} {isFinal : S → Bool} {syms : List α}

set_option linter.unusedSectionVars false in
theorem langEq_bisim : Bisim step isFinal syms (LangEq step isFinal syms) :=
  fun _ _ h => ⟨h.final, fun _ ha => h.next ha⟩

end

theorem agree_all_iff {accA accB : List α → Bool} {syms : List α}
    (hA : ∀ w, (¬ ∀ a ∈ w, a ∈ syms) → accA w = false)
    (hB : ∀ w, (¬ ∀ a ∈ w, a ∈ syms) → accB w = false) :
    (∀ w : List α, (∀ a ∈ w, a ∈ syms) → accA w = accB w) ↔ ∀ w, accA w = accB w :=
  ⟨fun h w => Classical.byCases (h w) fun hw => (hA w hw).trans (hB w hw).symm, fun h w _ => h w⟩

def UF.Rel (u : UF S) (x y : S) : Prop := u.find x = u.find y

/-- `find` returns roots.  Every union–find the loop builds has it; `union` is only specified on
roots (`find_union`). -/
def UF.Idem (u : UF S) : Prop := ∀ x, u.find (u.find x) = u.find x

@[simp] theorem UF.find_empty (x : S) : (⟨[]⟩ : UF S).find x = x := rfl

theorem UF.idem_empty : (⟨[]⟩ : UF S).Idem := fun _ => rfl

theorem UF.find_link (u : UF S) (w l : S) (hl : u.find l = l) (x : S) :
    (u.link w l).find x = if u.find x = l then w else u.find x := by
  unfold UF.link UF.find
  simp only [alookup_cons]
  by_cases hx : l = x
  · subst hx
    simp only [if_true, Option.getD_some]
    unfold UF.find at hl
    rw [hl]; simp
  · simp only [hx, if_false]
    rw [alookup_map_val (fun r => if r = l then w else r) x u.root]
    cases h : alookup x u.root with
    | none =>
      simp only [Option.map_none, Option.getD_none]
      have : ¬ x = l := fun e => hx e.symm
      simp [this]
    | some r =>
      simp only [Option.map_some, Option.getD_some]

/-- All that the proofs use of `union`, whatever `pick` answers. -/
theorem UF.find_union (pick : UF S → S → S → Bool) (u : UF S) {r₁ r₂ : S}
    (h₁ : u.find r₁ = r₁) (h₂ : u.find r₂ = r₂) :
    ∃ w, (w = r₁ ∨ w = r₂) ∧ ∀ x, (u.union pick r₁ r₂).find x =
      if u.find x = r₁ ∨ u.find x = r₂ then w else u.find x := by
  unfold UF.union
  split
  · refine ⟨r₁, Or.inl rfl, fun x => ?_⟩
    rw [UF.find_link u r₁ r₂ h₂ x]
    by_cases hx : u.find x = r₂
    · rw [if_pos hx, if_pos (Or.inr hx)]
    · rw [if_neg hx]
      split
      · rename_i h; exact h.resolve_right hx
      · rfl
  · refine ⟨r₂, Or.inr rfl, fun x => ?_⟩
    rw [UF.find_link u r₂ r₁ h₁ x]
    by_cases hx : u.find x = r₁
    · rw [if_pos hx, if_pos (Or.inl hx)]
    · rw [if_neg hx]
      split
      · rename_i h; exact h.resolve_left hx
      · rfl

section union
variable {pick : UF S → S → S → Bool} {u : UF S} {r₁ r₂ : S}

theorem UF.idem_union (hu : u.Idem) (h₁ : u.find r₁ = r₁) (h₂ : u.find r₂ = r₂) :
    (u.union pick r₁ r₂).Idem := by
  obtain ⟨w, hw, hf⟩ := UF.find_union pick u h₁ h₂
  have hww : u.find w = r₁ ∨ u.find w = r₂ := by
    rcases hw with rfl | rfl
    · exact Or.inl h₁
    · exact Or.inr h₂
  intro x
  rw [hf x]
  split
  · rw [hf w, if_pos hww]
  · rename_i hx
    rw [hf (u.find x), hu x, if_neg hx]

theorem UF.find_union_cases (h₁ : u.find r₁ = r₁) (h₂ : u.find r₂ = r₂) (x : S) :
    (u.union pick r₁ r₂).find x = u.find x ∨
      ((u.find x = r₁ ∨ u.find x = r₂) ∧
        ((u.union pick r₁ r₂).find x = r₁ ∨ (u.union pick r₁ r₂).find x = r₂)) := by
  obtain ⟨w, hw, hf⟩ := UF.find_union pick u h₁ h₂
  rw [hf x]
  split
  · rename_i hx; exact Or.inr ⟨hx, hw⟩
  · exact Or.inl rfl

theorem UF.find_union_mem {l : List S} (h₁ : u.find r₁ = r₁) (h₂ : u.find r₂ = r₂) {x : S}
    (hx : u.find x ∈ l) (hl₁ : r₁ ∈ l) (hl₂ : r₂ ∈ l) : (u.union pick r₁ r₂).find x ∈ l := by
  rcases UF.find_union_cases (pick := pick) h₁ h₂ x with e | ⟨_, e | e⟩ <;> rw [e] <;> assumption

theorem UF.rel_union_iff (h₁ : u.find r₁ = r₁) (h₂ : u.find r₂ = r₂) (x y : S) :
    (u.union pick r₁ r₂).Rel x y ↔
      u.Rel x y ∨ ((u.find x = r₁ ∨ u.find x = r₂) ∧ (u.find y = r₁ ∨ u.find y = r₂)) := by
  obtain ⟨w, hw, hf⟩ := UF.find_union pick u h₁ h₂
  unfold UF.Rel
  rw [hf x, hf y]
  by_cases hx : u.find x = r₁ ∨ u.find x = r₂ <;> by_cases hy : u.find y = r₁ ∨ u.find y = r₂
  · rw [if_pos hx, if_pos hy]
    exact ⟨fun _ => Or.inr ⟨hx, hy⟩, fun _ => rfl⟩
  · rw [if_pos hx, if_neg hy]
    constructor
    · intro e; exact absurd (e ▸ hw) hy
    · rintro (e | ⟨_, h⟩)
      · exact absurd (e ▸ hx) hy
      · exact absurd h hy
  · rw [if_neg hx, if_pos hy]
    constructor
    · intro e; exact absurd (e ▸ hw) hx
    · rintro (e | ⟨h, _⟩)
      · exact absurd (e ▸ hy) hx
      · exact absurd h hx
  · rw [if_neg hx, if_neg hy]
    exact ⟨Or.inl, fun h => h.resolve_right fun h => hx h.1⟩

theorem UF.rel_union (h₁ : u.find r₁ = r₁) (h₂ : u.find r₂ = r₂) {x y : S} (hx : u.find x = r₁)
    (hy : u.find y = r₂) : (u.union pick r₁ r₂).Rel x y :=
  (UF.rel_union_iff h₁ h₂ x y).mpr (Or.inr ⟨Or.inl hx, Or.inr hy⟩)

theorem UF.rel_union_least (hu : u.Idem) (h₁ : u.find r₁ = r₁) (h₂ : u.find r₂ = r₂)
    {E : S → S → Prop} (hE : Equivalence E) (hsub : ∀ x y, u.Rel x y → E x y) (h₁₂ : E r₁ r₂)
    {x y : S} (h : (u.union pick r₁ r₂).Rel x y) : E x y := by
  rcases (UF.rel_union_iff h₁ h₂ x y).mp h with h | ⟨hx, hy⟩
  · exact hsub x y h
  · have hroots : E (u.find x) (u.find y) := by
      rcases hx with hx | hx <;> rcases hy with hy | hy <;> rw [hx, hy]
      · exact hE.refl _
      · exact h₁₂
      · exact hE.symm h₁₂
      · exact hE.refl _
    exact hE.trans (hE.trans (hsub x _ (hu x).symm) hroots) (hsub _ y (hu y))

end union

section loop
variable {step : S → α → S} {isFinal : S → Bool} {syms : List α} {pick : UF S → S → S → Bool}

theorem stepSym_eq (qa qb : S) (acc : UF S × List (S × S)) (a : α) :
    stepSym step pick qa qb acc a =
      if acc.1.find (step qa a) = acc.1.find (step qb a) then acc
      else (acc.1.union pick (acc.1.find (step qa a)) (acc.1.find (step qb a)),
        (acc.1.find (step qa a), acc.1.find (step qb a)) :: acc.2) := by rfl

/-- The union–find after `UnionFind([a, b]); union(a, b)`. -/
def startUF (pick : UF S → S → S → Bool) (a b : S) : UF S :=
  if a = b then ⟨[]⟩ else UF.union pick ⟨[]⟩ a b

theorem run_eq (fuel : Nat) (a b : S) :
    run step isFinal syms pick fuel a b =
      loop step isFinal syms pick fuel (startUF pick a b) [(a, b)] := by rfl

theorem loop_cons_eq (fuel : Nat) (u : UF S) {qa qb : S} (st : List (S × S))
    (h : isFinal qa = isFinal qb) :
    loop step isFinal syms pick (fuel + 1) u ((qa, qb) :: st) =
      loop step isFinal syms pick fuel (syms.foldl (stepSym step pick qa qb) (u, st)).1
        (syms.foldl (stepSym step pick qa qb) (u, st)).2 := by
  simp only [loop, h, bne_self_eq_false, Bool.false_eq_true, if_false]

theorem loop_cons_ne (fuel : Nat) (u : UF S) {qa qb : S} (st : List (S × S))
    (h : isFinal qa ≠ isFinal qb) :
    loop step isFinal syms pick (fuel + 1) u ((qa, qb) :: st) = some false := by
  simp only [loop, bne_iff_ne.mpr h, if_true]

/-! ### (⇒) language-equivalent start states never meet a clash -/

structure InvA (step : S → α → S) (isFinal : S → Bool) (syms : List α) (u : UF S)
    (stack : List (S × S)) : Prop where
  idem : u.Idem
  repr : ∀ x, LangEq step isFinal syms x (u.find x)
  stack : ∀ p ∈ stack, LangEq step isFinal syms p.1 p.2

theorem InvA.union {u : UF S} {st : List (S × S)} (inv : InvA step isFinal syms u st) {r₁ r₂ : S}
    (h₁ : u.find r₁ = r₁) (h₂ : u.find r₂ = r₂) (h : LangEq step isFinal syms r₁ r₂) :
    InvA step isFinal syms (u.union pick r₁ r₂) ((r₁, r₂) :: st) := by
  refine ⟨UF.idem_union inv.idem h₁ h₂, fun x => ?_, fun p hp => ?_⟩
  · have hx := inv.repr x
    rcases UF.find_union_cases (pick := pick) h₁ h₂ x with e | ⟨hx', hw⟩
    · rw [e]; exact hx
    · rcases hx' with e | e <;> rcases hw with e' | e' <;> rw [e'] <;> rw [e] at hx
      · exact hx
      · exact hx.trans h
      · exact hx.trans h.symm
      · exact hx
  · rcases List.mem_cons.mp hp with rfl | hp
    · exact h
    · exact inv.stack p hp

theorem stepSym_invA {qa qb : S} (hq : LangEq step isFinal syms qa qb) {a : α} (ha : a ∈ syms)
    {acc : UF S × List (S × S)} (inv : InvA step isFinal syms acc.1 acc.2) :
    InvA step isFinal syms (stepSym step pick qa qb acc a).1 (stepSym step pick qa qb acc a).2 := by
  rw [stepSym_eq]
  split
  · exact inv
  · exact inv.union (inv.idem _) (inv.idem _)
      (((inv.repr _).symm.trans (hq.next ha)).trans (inv.repr _))

theorem loop_invA : ∀ (fuel : Nat) (u : UF S) (stack : List (S × S)),
    InvA step isFinal syms u stack → loop step isFinal syms pick fuel u stack ≠ some false := by
  intro fuel
  induction fuel with
  | zero => exact fun _ _ _ h => nomatch h
  | succ n ih =>
    intro u stack inv
    cases stack with
    | nil => exact fun h => nomatch h
    | cons p st =>
      obtain ⟨qa, qb⟩ := p
      have hq : LangEq step isFinal syms qa qb := inv.stack (qa, qb) List.mem_cons_self
      rw [loop_cons_eq n u st hq.final]
      refine ih _ _ (List.foldlRecOn (motive := fun acc : UF S × List (S × S) => InvA step isFinal syms acc.1 acc.2)
        syms _ ?_ fun acc hacc a ha => stepSym_invA hq ha hacc)
      exact ⟨inv.idem, inv.repr, fun p hp => inv.stack p (List.mem_cons_of_mem _ hp)⟩

/-! ### (⇐) a run that ends without a clash leaves a bisimulation -/

/-- `(u', st')` extends `(u, st)`: more elements are identified, nothing has left the stack,
and the new identifications are generated by the old ones and the stacked pairs. -/
structure Ext (u : UF S) (st : List (S × S)) (u' : UF S) (st' : List (S × S)) : Prop where
  idem : u'.Idem
  mono : ∀ x y, u.Rel x y → u'.Rel x y
  sub : ∀ p ∈ st, p ∈ st'
  least : ∀ E : S → S → Prop, Equivalence E → (∀ x y, u.Rel x y → E x y) →
    (∀ p ∈ st', E p.1 p.2) → ∀ x y, u'.Rel x y → E x y

theorem Ext.refl {u : UF S} (hu : u.Idem) (st : List (S × S)) : Ext u st u st :=
  ⟨hu, fun _ _ h => h, fun _ h => h, fun _ _ h _ => h⟩

theorem Ext.trans {u₁ u₂ u₃ : UF S} {s₁ s₂ s₃ : List (S × S)} (h₁₂ : Ext u₁ s₁ u₂ s₂)
    (h₂₃ : Ext u₂ s₂ u₃ s₃) : Ext u₁ s₁ u₃ s₃ :=
  ⟨h₂₃.idem, fun x y h => h₂₃.mono x y (h₁₂.mono x y h), fun p hp => h₂₃.sub p (h₁₂.sub p hp),
    fun E hE hu hs => h₂₃.least E hE
      (h₁₂.least E hE hu fun p hp => hs p (h₂₃.sub p hp)) hs⟩

theorem Ext.union {u : UF S} (hu : u.Idem) (st : List (S × S)) {r₁ r₂ : S}
    (h₁ : u.find r₁ = r₁) (h₂ : u.find r₂ = r₂) :
    Ext u st (u.union pick r₁ r₂) ((r₁, r₂) :: st) :=
  ⟨UF.idem_union hu h₁ h₂, fun x y h => (UF.rel_union_iff h₁ h₂ x y).mpr (Or.inl h),
    fun _ hp => List.mem_cons_of_mem _ hp,
    fun _ hE hsub hs _ _ h =>
      UF.rel_union_least hu h₁ h₂ hE hsub (hs (r₁, r₂) List.mem_cons_self) h⟩

theorem stepSym_ext (qa qb : S) (a : α) {acc : UF S × List (S × S)} (hu : acc.1.Idem) :
    Ext acc.1 acc.2 (stepSym step pick qa qb acc a).1 (stepSym step pick qa qb acc a).2 := by
  rw [stepSym_eq]
  split
  · exact Ext.refl hu _
  · exact Ext.union hu _ (hu _) (hu _)

theorem stepSym_rel (qa qb : S) (a : α) {acc : UF S × List (S × S)} (hu : acc.1.Idem) :
    (stepSym step pick qa qb acc a).1.Rel (step qa a) (step qb a) := by
  rw [stepSym_eq]
  split
  · rename_i h; exact h
  · exact UF.rel_union (hu _) (hu _) rfl rfl

theorem fold_ext (qa qb : S) (as : List α) (acc : UF S × List (S × S)) (hu : acc.1.Idem) :
    Ext acc.1 acc.2 (as.foldl (stepSym step pick qa qb) acc).1
      (as.foldl (stepSym step pick qa qb) acc).2 :=
  List.foldlRecOn (motive := fun r : UF S × List (S × S) => Ext acc.1 acc.2 r.1 r.2) as _ (Ext.refl hu _)
    fun _ h a _ => h.trans (stepSym_ext qa qb a h.idem)

/-- The step for `b` identifies the two successors, and the later steps only extend. -/
theorem fold_rel (qa qb : S) (as : List α) (acc : UF S × List (S × S)) (hu : acc.1.Idem) (b : α)
    (hb : b ∈ as) : (as.foldl (stepSym step pick qa qb) acc).1.Rel (step qa b) (step qb b) := by
  obtain ⟨l₁, l₂, rfl⟩ := List.append_of_mem hb
  rw [List.foldl_append, List.foldl_cons]
  have h₁ := (fold_ext (step := step) (pick := pick) qa qb l₁ acc hu).idem
  exact (fold_ext qa qb l₂ _ (stepSym_ext qa qb b h₁).idem).mono _ _ (stepSym_rel qa qb b h₁)

/-- What processing the pair `(x, y)` establishes, read in the union–find `u` the loop ENDS with:
equal finality, and successors identified in `u`.  `loop_true` shows that every pair ever stacked is
`Done`, and `Done u` is an equivalence, so it contains all of `u.Rel`: `u.Rel` is a bisimulation. -/
def Done (step : S → α → S) (isFinal : S → Bool) (syms : List α) (u : UF S) (x y : S) : Prop :=
  isFinal x = isFinal y ∧ ∀ a ∈ syms, u.Rel (step x a) (step y a)

theorem done_equivalence (u : UF S) : Equivalence (Done step isFinal syms u) :=
  ⟨fun _ => ⟨rfl, fun _ _ => rfl⟩, fun h => ⟨h.1.symm, fun a ha => (h.2 a ha).symm⟩,
    fun h₁ h₂ => ⟨h₁.1.trans h₂.1, fun a ha => (h₁.2 a ha).trans (h₂.2 a ha)⟩⟩

/-- Stated about the union–find `u'` the loop ends with, so that no list of processed pairs
has to be carried: at the top `E := Done u'` makes `u'.Rel` a bisimulation. -/
theorem loop_true : ∀ (fuel : Nat) (u : UF S) (stack : List (S × S)), u.Idem →
    loop step isFinal syms pick fuel u stack = some true →
    ∃ u' : UF S, (∀ x y, u.Rel x y → u'.Rel x y) ∧
      (∀ p ∈ stack, Done step isFinal syms u' p.1 p.2) ∧
      ∀ E : S → S → Prop, Equivalence E → (∀ x y, u.Rel x y → E x y) →
        (∀ x y, Done step isFinal syms u' x y → E x y) → ∀ x y, u'.Rel x y → E x y := by
  intro fuel
  induction fuel with
  | zero => exact fun _ _ _ h => nomatch h
  | succ n ih =>
    intro u stack hu h
    cases stack with
    | nil => exact ⟨u, fun _ _ h => h, (fun _ hp => nomatch hp), fun _ _ hsub _ => hsub⟩
    | cons p st =>
      obtain ⟨qa, qb⟩ := p
      by_cases hf : isFinal qa = isFinal qb
      · rw [loop_cons_eq n u st hf] at h
        have hext := fold_ext (step := step) (pick := pick) qa qb syms (u, st) hu
        obtain ⟨u', hmono, hdone, hleast⟩ := ih _ _ hext.idem h
        refine ⟨u', fun x y hxy => hmono x y (hext.mono x y hxy), fun p hp => ?_,
          fun E hE hsub hD => hleast E hE
            (hext.least E hE hsub fun p hp => hD _ _ (hdone p hp)) hD⟩
        rcases List.mem_cons.mp hp with rfl | hp
        · exact ⟨hf, fun a ha => hmono _ _ (fold_rel qa qb syms (u, st) hu a ha)⟩
        · exact hdone p (hext.sub p hp)
      · rw [loop_cons_ne n u st hf] at h
        cases h

theorem start_ext (pick : UF S → S → S → Bool) (a b : S) :
    Ext ⟨[]⟩ [] (startUF pick a b) [(a, b)] ∧ (startUF pick a b).Rel a b := by
  unfold startUF
  split
  · rename_i hab
    exact ⟨⟨UF.idem_empty, fun _ _ h => h, (fun _ h => nomatch h), fun _ _ h _ => h⟩, hab⟩
  · exact ⟨Ext.union UF.idem_empty [] rfl rfl, UF.rel_union rfl rfl rfl rfl⟩

/-! ### Termination: every push merges two classes of a finite universe -/

/-- Number of classes among `univ` (elements that are their own root): the measure that pays for
each push. -/
def numRoots (u : UF S) (univ : List S) : Nat := (univ.filter fun x => decide (u.find x = x)).length

theorem length_filter_lt {β : Type} (p q : β → Bool) (l : List β) (hpq : ∀ x, p x = true → q x = true)
    {z : β} (hz : z ∈ l) (hqz : q z = true) (hpz : p z = false) :
    (l.filter p).length < (l.filter q).length := by
  rw [← filter_filter_of_imp fun x _ => hpq x]
  exact List.length_filter_lt_length_iff_exists.mpr
    ⟨z, List.mem_filter.mpr ⟨hz, hqz⟩, by simp [hpz]⟩

theorem numRoots_union_lt {u : UF S} {univ : List S} {r₁ r₂ : S} (h₁ : u.find r₁ = r₁)
    (h₂ : u.find r₂ = r₂) (hne : r₁ ≠ r₂) (hu₁ : r₁ ∈ univ) (hu₂ : r₂ ∈ univ) :
    numRoots (u.union pick r₁ r₂) univ < numRoots u univ := by
  obtain ⟨w, hw, hf⟩ := UF.find_union pick u h₁ h₂
  -- the root that loses its name
  obtain ⟨l, hlu, hl, hlw, hlr⟩ : ∃ l, l ∈ univ ∧ u.find l = l ∧ l ≠ w ∧ (l = r₁ ∨ l = r₂) := by
    rcases hw with rfl | rfl
    · exact ⟨r₂, hu₂, h₂, fun e => hne e.symm, Or.inr rfl⟩
    · exact ⟨r₁, hu₁, h₁, hne, Or.inl rfl⟩
  unfold numRoots
  refine length_filter_lt _ _ univ (fun x hx => ?_) hlu (by simpa using hl) ?_
  · simp only [decide_eq_true_eq] at hx ⊢
    rw [hf x] at hx
    split at hx
    · rw [← hx]; rcases hw with rfl | rfl
      · exact h₁
      · exact h₂
    · exact hx
  · simp only [decide_eq_false_iff_not]
    rw [hf l, hl, if_pos hlr]
    exact fun e => hlw e.symm

/-- Every push merges two classes, so `stack.length + numRoots` never grows. -/
structure InvT (univ : List S) (n : Nat) (u : UF S) (st : List (S × S)) : Prop where
  idem : u.Idem
  inUniv : ∀ x ∈ univ, u.find x ∈ univ
  stack : ∀ p ∈ st, p.1 ∈ univ ∧ p.2 ∈ univ
  bound : st.length + numRoots u univ ≤ n

theorem InvT.union {univ : List S} {n : Nat} {u : UF S} {st : List (S × S)}
    (inv : InvT univ n u st) {r₁ r₂ : S} (h₁ : u.find r₁ = r₁) (h₂ : u.find r₂ = r₂) (hne : r₁ ≠ r₂)
    (hu₁ : r₁ ∈ univ) (hu₂ : r₂ ∈ univ) : InvT univ n (u.union pick r₁ r₂) ((r₁, r₂) :: st) := by
  refine ⟨UF.idem_union inv.idem h₁ h₂, fun x hx => ?_, fun p hp => ?_, ?_⟩
  · exact UF.find_union_mem h₁ h₂ (inv.inUniv x hx) hu₁ hu₂
  · rcases List.mem_cons.mp hp with rfl | hp
    · exact ⟨hu₁, hu₂⟩
    · exact inv.stack p hp
  · have := numRoots_union_lt (pick := pick) h₁ h₂ hne hu₁ hu₂
    have := inv.bound
    rw [List.length_cons]
    omega

theorem stepSym_invT {univ : List S} (hcl : ∀ x ∈ univ, ∀ a ∈ syms, step x a ∈ univ) {qa qb : S}
    (hqa : qa ∈ univ) (hqb : qb ∈ univ) {a : α} (ha : a ∈ syms) {acc : UF S × List (S × S)} {n : Nat}
    (inv : InvT univ n acc.1 acc.2) :
    InvT univ n (stepSym step pick qa qb acc a).1 (stepSym step pick qa qb acc a).2 := by
  rw [stepSym_eq]
  split
  · exact inv
  · rename_i hne
    exact inv.union (inv.idem _) (inv.idem _) hne (inv.inUniv _ (hcl qa hqa a ha))
      (inv.inUniv _ (hcl qb hqb a ha))

theorem loop_ne_none {univ : List S} (hcl : ∀ x ∈ univ, ∀ a ∈ syms, step x a ∈ univ) :
    ∀ (fuel : Nat) (u : UF S) (stack : List (S × S)), InvT univ fuel u stack →
      loop step isFinal syms pick (fuel + 1) u stack ≠ none := by
  intro fuel
  induction fuel with
  | zero =>
    intro u stack inv
    cases stack with
    | nil => exact fun h => nomatch h
    | cons p st => exact absurd inv.bound (by rw [List.length_cons]; omega)
  | succ n ih =>
    intro u stack inv
    cases stack with
    | nil => exact fun h => nomatch h
    | cons p st =>
      obtain ⟨qa, qb⟩ := p
      by_cases hfin : isFinal qa = isFinal qb
      · rw [loop_cons_eq (n + 1) u st hfin]
        have hq : qa ∈ univ ∧ qb ∈ univ := inv.stack (qa, qb) List.mem_cons_self
        refine ih _ _ (List.foldlRecOn (motive := fun acc : UF S × List (S × S) => InvT univ n acc.1 acc.2)
          syms _ ?_ fun acc hacc a ha => stepSym_invT hcl hq.1 hq.2 ha hacc)
        have hb : st.length + numRoots u univ ≤ n := by
          have := inv.bound; rw [List.length_cons] at this; omega
        exact ⟨inv.idem, inv.inUniv, fun p hp => inv.stack p (List.mem_cons_of_mem _ hp), hb⟩
      · rw [loop_cons_ne (n + 1) u st hfin]; exact fun h => nomatch h

end loop

section run
variable (step : S → α → S) (isFinal : S → Bool) (syms : List α) (pick : UF S → S → S → Bool)

theorem run_false_not_langEq (fuel : Nat) (a b : S) (h : LangEq step isFinal syms a b) :
    run step isFinal syms pick fuel a b ≠ some false := by
  rw [run_eq]
  refine loop_invA fuel _ _ ?_
  have inv : InvA step isFinal syms ⟨[]⟩ [] :=
    ⟨UF.idem_empty, fun x => LangEq.refl x, fun _ hp => nomatch hp⟩
  unfold startUF
  split
  · exact ⟨inv.idem, inv.repr, fun p hp => by rw [List.mem_singleton.mp hp]; exact h⟩
  · exact inv.union rfl rfl h

theorem run_true_bisim (fuel : Nat) (a b : S)
    (h : run step isFinal syms pick fuel a b = some true) :
    ∃ u : UF S, Bisim step isFinal syms u.Rel ∧ u.Rel a b := by
  rw [run_eq] at h
  obtain ⟨hext, hab⟩ := start_ext pick a b
  obtain ⟨u', hmono, hdone, hleast⟩ := loop_true fuel _ _ hext.idem h
  refine ⟨u', ?_, hmono a b hab⟩
  -- `Done u'` is an equivalence that contains the start pair, hence all of `u'.Rel`
  exact hleast _ (done_equivalence u')
    (hext.least _ (done_equivalence u') (fun x y e => by rw [show x = y from e]; exact (done_equivalence u').refl y) hdone)
    (fun _ _ h => h)

theorem run_iff (fuel : Nat) (a b : S) (v : Bool)
    (h : run step isFinal syms pick fuel a b = some v) :
    v = true ↔ LangEq step isFinal syms a b := by
  constructor
  · intro hv
    subst hv
    obtain ⟨u, hb, hab⟩ := run_true_bisim step isFinal syms pick fuel a b h
    exact hb.langEq hab
  · intro hl
    cases v with
    | true => rfl
    | false => exact absurd h (run_false_not_langEq step isFinal syms pick fuel a b hl)

theorem run_ne_none (univ : List S) (hcl : ∀ x ∈ univ, ∀ a ∈ syms, step x a ∈ univ)
    (a b : S) (ha : a ∈ univ) (hb : b ∈ univ) (fuel : Nat) (hf : univ.length + 2 ≤ fuel) :
    run step isFinal syms pick fuel a b ≠ none := by
  obtain ⟨n, rfl⟩ : ∃ n, fuel = n + 1 := ⟨fuel - 1, by omega⟩
  rw [run_eq]
  have hle : numRoots (startUF pick a b) univ ≤ univ.length := List.length_filter_le _ _
  have hb' : [(a, b)].length + numRoots (startUF pick a b) univ ≤ n := by
    rw [List.length_singleton]; omega
  refine loop_ne_none hcl n _ _ ⟨(start_ext pick a b).1.idem, fun x hx => ?_,
    fun p hp => by rw [List.mem_singleton.mp hp]; exact ⟨ha, hb⟩, hb'⟩
  unfold startUF
  split
  · exact hx
  · exact UF.find_union_mem rfl rfl hx ha hb

/-- Hopcroft–Karp decides equality of the two acceptors that the runs from `a` and from `b`
compute.  The loop only tries the symbols of `syms`, so both must reject every word with a symbol
outside `syms`. -/
theorem run_decides (univ : List S) (hcl : ∀ x ∈ univ, ∀ a ∈ syms, step x a ∈ univ)
    (a b : S) (ha : a ∈ univ) (hb : b ∈ univ) (fuel : Nat) (hf : univ.length + 2 ≤ fuel)
    {accA accB : List α → Bool} (hA : ∀ w, isFinal (runW step a w) = accA w)
    (hB : ∀ w, isFinal (runW step b w) = accB w)
    (hfA : ∀ w, (¬ ∀ x ∈ w, x ∈ syms) → accA w = false)
    (hfB : ∀ w, (¬ ∀ x ∈ w, x ∈ syms) → accB w = false) :
    ∃ v, run step isFinal syms pick fuel a b = some v ∧ (v = true ↔ ∀ w, accA w = accB w) := by
  cases hr : run step isFinal syms pick fuel a b with
  | none => exact absurd hr (run_ne_none step isFinal syms pick univ hcl a b ha hb fuel hf)
  | some v =>
    refine ⟨v, rfl, (run_iff step isFinal syms pick fuel a b v hr).trans ?_⟩
    unfold LangEq
    simp only [hA, hB]
    exact agree_all_iff hfA hfB

end run

end AV.HKG
