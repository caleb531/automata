/-
Proofs/HopcroftLoop.lean — the `while processing:` loop of `_minify` (model: `hopSymbol`,
`hopLoop`): the loop invariant (partition, coarser than the congruence `E`, finer than
finality, Hopcroft's witness invariant in pairwise form) and termination within the fuel.
Everything is stated for an abstract transition function `delta` closed on the universe `U`
and an abstract relation `E` compatible with `delta`.
-/
import AutomataVerif.Proofs.HopcroftPart

namespace AV
namespace DFA

variable {σ α : Type} [DecidableEq σ] [DecidableEq α]

/-- The body of `for YintX_id, YdiffX_id in new_eq_class_pairs`. -/
def wStep (r : Part (Option σ)) (W : List Nat) (pr : Nat × Nat) : List Nat :=
  if pr.2 ∈ W then sinsert pr.1 W
  else if (r.get pr.1).length ≤ (r.get pr.2).length then sinsert pr.1 W
  else sinsert pr.2 W

omit [DecidableEq α] in
theorem hopSymbol_eq (U : List (Option σ)) (delta : Option σ → α → Option σ) (active : List (Option σ))
    (acc : Part (Option σ) × List Nat) (a : α) :
    hopSymbol U delta active acc a =
      ((acc.1.refine (U.filter fun s => decide (delta s a ∈ active))).1,
       (acc.1.refine (U.filter fun s => decide (delta s a ∈ active))).2.foldl
         (wStep (acc.1.refine (U.filter fun s => decide (delta s a ∈ active))).1) acc.2) := rfl

omit [DecidableEq σ] in
theorem wStep_cases (r : Part (Option σ)) (W : List Nat) (pr : Nat × Nat) :
    ∃ c, (c = pr.1 ∨ c = pr.2) ∧ (pr.2 ∈ W → c = pr.1) ∧ wStep r W pr = sinsert c W := by
  by_cases h1 : pr.2 ∈ W
  · exact ⟨pr.1, Or.inl rfl, fun _ => rfl, if_pos h1⟩
  · by_cases h2 : (r.get pr.1).length ≤ (r.get pr.2).length
    · exact ⟨pr.1, Or.inl rfl, fun _ => rfl, (if_neg h1).trans (if_pos h2)⟩
    · exact ⟨pr.2, Or.inr rfl, fun h => absurd h h1, (if_neg h1).trans (if_neg h2)⟩

omit [DecidableEq σ] in
theorem wFold_spec (r : Part (Option σ)) : ∀ (out : List (Nat × Nat)) (W : List Nat),
    (∀ i ∈ W, i ∈ out.foldl (wStep r) W) ∧
    (∀ i ∈ out.foldl (wStep r) W, i ∈ W ∨ ∃ pr ∈ out, i = pr.1 ∨ i = pr.2) ∧
    (∀ pr ∈ out, (pr.2 ∈ W → pr.1 ∈ out.foldl (wStep r) W) ∧
      (pr.1 ∈ out.foldl (wStep r) W ∨ pr.2 ∈ out.foldl (wStep r) W)) ∧
    (out.foldl (wStep r) W).length ≤ W.length + out.length ∧
    (W.Nodup → (out.foldl (wStep r) W).Nodup) := by
  intro out
  induction out with
  | nil => intro W; simp
  | cons pr rest ih =>
    intro W
    obtain ⟨c, hc, hc2, e⟩ := wStep_cases r W pr
    rw [List.foldl_cons, e]
    obtain ⟨i1, i2, i3, i4, i5⟩ := ih (sinsert c W)
    have hcW : c ∈ rest.foldl (wStep r) (sinsert c W) := i1 c (mem_sinsert.mpr (Or.inl rfl))
    refine ⟨fun i hi => i1 i (mem_sinsert.mpr (Or.inr hi)), ?_, ?_, ?_, fun h => i5 (nodup_sinsert h)⟩
    · intro i hi
      rcases i2 i hi with h | ⟨pr', hpr', h⟩
      · rcases mem_sinsert.mp h with h | h
        · exact Or.inr ⟨pr, List.mem_cons_self, h ▸ hc⟩
        · exact Or.inl h
      · exact Or.inr ⟨pr', List.mem_cons_of_mem _ hpr', h⟩
    · intro pr' hpr'
      rcases List.mem_cons.mp hpr' with h | h
      · subst h
        exact ⟨fun h => hc2 h ▸ hcW, hc.elim (fun h => Or.inl (h ▸ hcW)) fun h => Or.inr (h ▸ hcW)⟩
      · exact ⟨fun hw => (i3 pr' h).1 (mem_sinsert.mpr (Or.inr hw)), (i3 pr' h).2⟩
    · exact Nat.le_trans i4 (by
        rw [List.length_cons, Nat.add_comm rest.length 1, ← Nat.add_assoc]
        exact Nat.add_le_add_right (length_sinsert_le c W) _)

/-- The invariant of the loops.  `Sn` is the snapshot of the popped block, `todo` the symbols
of the inner `for` loop not yet applied (both empty at the boundary of the outer loop). -/
structure Inv (U : List (Option σ)) (delta : Option σ → α → Option σ) (syms : List α)
    (E : Option σ → Option σ → Prop) (fin : Option σ → Bool)
    (Sn : List (Option σ)) (todo : List α) (p : Part (Option σ)) (W : List Nat) : Prop where
  wf : p.WF U
  w_nodup : W.Nodup
  w_ids : ∀ i ∈ W, i ∈ p.ids
  /-- the partition never separates `E`-related elements -/
  coarser : ∀ x ∈ U, ∀ y ∈ U, E x y → p.Same x y
  /-- blocks are uniform for finality -/
  fin_ok : ∀ x y, p.Same x y → fin x = fin y
  /-- the snapshot is a union of current blocks -/
  snap : ∀ x y, p.Same x y → (x ∈ Sn ↔ y ∈ Sn)
  /-- Hopcroft's invariant, pairwise -/
  witness : ∀ x y, p.Same x y → ∀ a ∈ syms, ¬ p.Same (delta x a) (delta y a) →
    (∃ i ∈ W, ¬ (delta x a ∈ p.get i ↔ delta y a ∈ p.get i)) ∨
    (a ∈ todo ∧ ¬ (delta x a ∈ Sn ↔ delta y a ∈ Sn))

omit [DecidableEq α] in
/-- `witness` survives a split because of what `wStep` puts on the work-list (`wFold_spec`).
Images that shared a block and are separated by the split are told apart by EITHER half
(`RefRel.sep_new`), so it does not matter which one `wStep` adds: the size test only serves the
running time.  A block that was waiting has both halves waiting afterwards (`pr.2 ∈ W` adds
`pr.1`), so what it told apart one of them still does (`RefRel.sep_old`). -/
theorem hopSymbol_inv {U : List (Option σ)} {delta : Option σ → α → Option σ} {syms : List α}
    {E : Option σ → Option σ → Prop} {fin : Option σ → Bool}
    (hclosed : ∀ x ∈ U, ∀ a ∈ syms, delta x a ∈ U)
    (hE : ∀ x y a, E x y → E (delta x a) (delta y a))
    {Sn : List (Option σ)} {a : α} {todo : List α} {p : Part (Option σ)} {W : List Nat}
    (ha : a ∈ syms) (inv : Inv U delta syms E fin Sn (a :: todo) p W) :
    Inv U delta syms E fin Sn todo (hopSymbol U delta Sn (p, W) a).1 (hopSymbol U delta Sn (p, W) a).2 ∧
    (hopSymbol U delta Sn (p, W) a).2.length + 2 * p.ids.length ≤
      W.length + 2 * (hopSymbol U delta Sn (p, W) a).1.ids.length := by
  rw [hopSymbol_eq]
  simp only
  have hs := Part.refine_spec inv.wf (U.filter fun s => decide (delta s a ∈ Sn))
  generalize hX : (U.filter fun s => decide (delta s a ∈ Sn)) = X at hs ⊢
  have hmemX : ∀ x, x ∈ X ↔ x ∈ U ∧ delta x a ∈ Sn := fun x => by
    rw [← hX, List.mem_filter, decide_eq_true_eq]
  generalize (p.refine X).1 = r at hs ⊢
  generalize (p.refine X).2 = out at hs ⊢
  obtain ⟨f1, f2, f3, f4, f5⟩ := wFold_spec r out W
  generalize out.foldl (wStep r) W = W' at f1 f2 f3 f4 f5 ⊢
  have hwf : r.WF U := hs.wf inv.wf
  have hsame : ∀ {x y}, r.Same x y ↔ p.Same x y ∧ (x ∈ X ↔ y ∈ X) := hs.same_iff inv.wf
  refine ⟨?_, ?_⟩
  · constructor
    · exact hwf
    · exact f5 inv.w_nodup
    · intro i hi
      rcases f2 i hi with h | ⟨pr, hpr, h | h⟩
      · exact hs.mem_ids.mpr (Or.inl (inv.w_ids i h))
      · exact hs.mem_ids.mpr (Or.inr ⟨pr, hpr, h.symm⟩)
      · exact hs.mem_ids.mpr (Or.inl (h ▸ (hs.out_spec pr hpr).2.1.1))
    · intro x hx y hy hxy
      refine hsame.mpr ⟨inv.coarser x hx y hy hxy, ?_⟩
      rw [hmemX, hmemX]
      have := inv.snap _ _ (inv.coarser _ (hclosed x hx a ha) _ (hclosed y hy a ha) (hE x y a hxy))
      exact ⟨fun h => ⟨hy, this.mp h.2⟩, fun h => ⟨hx, this.mpr h.2⟩⟩
    · intro x y hxy
      exact inv.fin_ok x y (hsame.mp hxy).1
    · intro x y hxy
      exact inv.snap x y (hsame.mp hxy).1
    · intro x y hxy b hb hns'
      obtain ⟨hxyp, hxyX⟩ := hsame.mp hxy
      by_cases hns : p.Same (delta x b) (delta y b)
      · -- the images were together and have just been separated: both halves of their block
        -- tell them apart, and one of the two is waiting
        obtain ⟨i, hi, hu, hv⟩ := (Part.same_iff inv.wf.ids_nodup).mp hns
        obtain ⟨n, hn, h1, h2⟩ := hs.sep_new hi hu hv fun h => hns' (hsame.mpr ⟨hns, h⟩)
        rcases (f3 _ hn).2 with hw | hw
        · exact Or.inl ⟨n, hw, h1⟩
        · exact Or.inl ⟨i, hw, h2⟩
      · rcases inv.witness x y hxyp b hb hns with ⟨i, hi, hne⟩ | ⟨hb', hne⟩
        · -- a waiting block that told the images apart has a waiting descendant that does
          left
          have lift : ∀ z t, z ∈ p.get i → t ∉ p.get i → ∃ k ∈ W', z ∈ r.get k ∧ t ∉ r.get k := by
            intro z t hz ht
            obtain ⟨k, hk, h⟩ := hs.sep_old (inv.w_ids i hi) hz ht
            rcases hk with rfl | hk
            · exact ⟨k, f1 k hi, h⟩
            · exact ⟨k, (f3 _ hk).1 hi, h⟩
          by_cases hu : delta x b ∈ p.get i
          · obtain ⟨k, hk, h1, h2⟩ := lift _ _ hu fun hv => hne ⟨fun _ => hv, fun _ => hu⟩
            exact ⟨k, hk, fun h => h2 (h.mp h1)⟩
          · have hv : delta y b ∈ p.get i :=
              Classical.byContradiction fun hv => hne ⟨fun h => absurd h hu, fun h => absurd h hv⟩
            obtain ⟨k, hk, h1, h2⟩ := lift _ _ hv hu
            exact ⟨k, hk, fun h => h2 (h.mpr h1)⟩
        · right
          rcases List.mem_cons.mp hb' with h | h
          · -- the snapshot cannot tell the `a`-images apart: `x`, `y` were not separated by `X`
            subst h
            obtain ⟨hxU, hyU⟩ := inv.wf.same_mem hxyp
            rw [hmemX, hmemX] at hxyX
            exact absurd ⟨fun h => (hxyX.mp ⟨hxU, h⟩).2, fun h => (hxyX.mpr ⟨hyU, h⟩).2⟩ hne
          · exact ⟨h, hne⟩
  · -- the termination measure `|W| + 2 * (|U| - #ids)` (DESIGN.md §7: `2·(|Q| − |P|) + |W|`), with the
    -- ids on the other side to avoid subtraction: a split adds one id and at most one element of `W`
    rw [hs.ids_eq, List.length_append, List.length_map, Nat.mul_add, ← Nat.add_assoc]
    exact Nat.le_trans (Nat.add_le_add_right f4 _) (by
      rw [Nat.add_right_comm]
      exact Nat.add_le_add_left (Nat.le_mul_of_pos_left _ Nat.two_pos) _)

theorem potential_chain {f p w q a g : Nat} (h₁ : a + p ≤ w + q) (h₂ : f + q ≤ a + g) :
    f + p ≤ w + g := by
  -- add the two and cancel `a + q`
  have h := Nat.add_le_add h₂ h₁
  rw [Nat.add_add_add_comm f q a p, Nat.add_add_add_comm a g w q, Nat.add_comm q p,
    Nat.add_comm a w, ← Nat.add_add_add_comm f p a q, ← Nat.add_add_add_comm w g a q] at h
  exact Nat.le_of_add_le_add_right h

omit [DecidableEq α] in
theorem innerFold_inv {U : List (Option σ)} {delta : Option σ → α → Option σ} {syms : List α}
    {E : Option σ → Option σ → Prop} {fin : Option σ → Bool}
    (hclosed : ∀ x ∈ U, ∀ a ∈ syms, delta x a ∈ U)
    (hE : ∀ x y a, E x y → E (delta x a) (delta y a))
    {Sn : List (Option σ)} : ∀ (todo : List α) (p : Part (Option σ)) (W : List Nat),
    (∀ a ∈ todo, a ∈ syms) → Inv U delta syms E fin Sn todo p W →
    Inv U delta syms E fin Sn [] (todo.foldl (hopSymbol U delta Sn) (p, W)).1
      (todo.foldl (hopSymbol U delta Sn) (p, W)).2 ∧
    (todo.foldl (hopSymbol U delta Sn) (p, W)).2.length + 2 * p.ids.length ≤
      W.length + 2 * (todo.foldl (hopSymbol U delta Sn) (p, W)).1.ids.length := by
  intro todo
  induction todo with
  | nil => intro p W _ inv; exact ⟨inv, Nat.le_refl _⟩
  | cons a rest ih =>
    intro p W hsub inv
    obtain ⟨h1, h2⟩ := hopSymbol_inv hclosed hE (hsub a List.mem_cons_self) inv
    obtain ⟨h3, h4⟩ := ih _ _ (fun b hb => hsub b (List.mem_cons_of_mem _ hb)) h1
    exact ⟨h3, potential_chain h2 h4⟩

theorem pop_spec (W : List Nat) (w i : Nat) (hi : i < W.length) :
    W.getD i w ∈ W ∧ (∀ j ∈ W, j = W.getD i w ∨ j ∈ W.eraseIdx i) ∧
      (∀ j ∈ W.eraseIdx i, j ∈ W) ∧ (W.eraseIdx i).length + 1 = W.length := by
  have hget : W.getD i w = W[i] := by
    rw [List.getD_eq_getElem?_getD, List.getElem?_eq_getElem hi]; rfl
  rw [hget]
  refine ⟨List.getElem_mem hi, fun j hj => ?_, fun j hj => (List.eraseIdx_sublist W i).subset hj, ?_⟩
  · obtain ⟨k, hk, rfl⟩ := List.getElem_of_mem hj
    by_cases hki : k = i
    · subst hki; exact Or.inl rfl
    · exact Or.inr (List.mem_eraseIdx_iff_getElem.mpr ⟨k, hk, hki, rfl⟩)
  · rw [List.length_eraseIdx, if_pos hi]; exact Nat.sub_add_cancel (Nat.lt_of_le_of_lt (Nat.zero_le _) hi)

omit [DecidableEq σ] [DecidableEq α] in
theorem pop_inv {U : List (Option σ)} {delta : Option σ → α → Option σ} {syms : List α}
    {E : Option σ → Option σ → Prop} {fin : Option σ → Bool}
    {p : Part (Option σ)} {W W' : List Nat} {id : Nat}
    (inv : Inv U delta syms E fin [] [] p W) (hid : id ∈ W)
    (h1 : ∀ i ∈ W, i = id ∨ i ∈ W') (h2 : ∀ i ∈ W', i ∈ W) (h3 : W'.Nodup) :
    Inv U delta syms E fin (p.get id) syms p W' where
  wf := inv.wf
  w_nodup := h3
  w_ids := fun i hi => inv.w_ids i (h2 i hi)
  coarser := inv.coarser
  fin_ok := inv.fin_ok
  snap := by
    intro x y hxy
    obtain ⟨i, hi, hx, hy⟩ := (Part.same_iff inv.wf.ids_nodup).mp hxy
    have hidp := inv.w_ids id hid
    constructor
    · intro hx'
      have := inv.wf.disjoint i hi id hidp x hx hx'
      subst this; exact hy
    · intro hy'
      have := inv.wf.disjoint i hi id hidp y hy hy'
      subst this; exact hx
  witness := by
    intro x y hxy a ha hns
    rcases inv.witness x y hxy a ha hns with ⟨i, hi, hne⟩ | ⟨hb, _⟩
    · rcases h1 i hi with h | h
      · subst h; exact Or.inr ⟨ha, hne⟩
      · exact Or.inl ⟨i, h, hne⟩
    · cases hb

set_option linter.unusedSectionVars false in
theorem Inv.boundary {U : List (Option σ)} {delta : Option σ → α → Option σ} {syms : List α}
    {E : Option σ → Option σ → Prop} {fin : Option σ → Bool} {Sn : List (Option σ)}
    {p : Part (Option σ)} {W : List Nat}
    (inv : Inv U delta syms E fin Sn [] p W) : Inv U delta syms E fin [] [] p W where
  wf := inv.wf
  w_nodup := inv.w_nodup
  w_ids := inv.w_ids
  coarser := inv.coarser
  fin_ok := inv.fin_ok
  snap := fun _ _ _ => ⟨nofun, nofun⟩
  witness := by
    intro x y hxy a ha hns
    rcases inv.witness x y hxy a ha hns with h | ⟨hb, _⟩
    · exact Or.inl h
    · cases hb

omit [DecidableEq α] in
theorem hopLoop_succ_cons (U : List (Option σ)) (delta : Option σ → α → Option σ) (syms : List α)
    (pick : List Nat → Nat) (fuel : Nat) (p : Part (Option σ)) (w : Nat) (ws : List Nat) :
    hopLoop U delta syms pick (fuel + 1) p (w :: ws) =
      hopLoop U delta syms pick fuel
        (syms.foldl (hopSymbol U delta (p.get ((w :: ws).getD (pick (w :: ws) % (w :: ws).length) w)))
          (p, (w :: ws).eraseIdx (pick (w :: ws) % (w :: ws).length))).1
        (syms.foldl (hopSymbol U delta (p.get ((w :: ws).getD (pick (w :: ws) % (w :: ws).length) w)))
          (p, (w :: ws).eraseIdx (pick (w :: ws) % (w :: ws).length))).2 := rfl

theorem hopLoop_inv {U : List (Option σ)} {delta : Option σ → α → Option σ} {syms : List α}
    {E : Option σ → Option σ → Prop} {fin : Option σ → Bool}
    (hclosed : ∀ x ∈ U, ∀ a ∈ syms, delta x a ∈ U)
    (hE : ∀ x y a, E x y → E (delta x a) (delta y a))
    (pick : List Nat → Nat) : ∀ (fuel : Nat) (p : Part (Option σ)) (W : List Nat),
    Inv U delta syms E fin [] [] p W →
    2 * U.length + W.length < fuel + 2 * p.ids.length →
    Inv U delta syms E fin [] [] (hopLoop U delta syms pick fuel p W) [] := by
  -- `|W| + 2 * (|U| - #blocks)` drops with every pop (a split adds at most one id to `W`), and
  -- there are at most `|U|` blocks, so the fuel cannot run out before `W` is empty
  intro fuel
  induction fuel with
  | zero =>
    intro p W inv hlt
    exact absurd hlt (Nat.not_lt.mpr (Nat.le_trans
      (Nat.zero_add _ ▸ Nat.mul_le_mul_left 2 inv.wf.ids_length_le) (Nat.le_add_right _ _)))
  | succ fuel ih =>
    intro p W inv hlt
    cases W with
    | nil => exact inv
    | cons w ws =>
      rw [hopLoop_succ_cons]
      obtain ⟨hid, h1, h2, hlen⟩ := pop_spec (w :: ws) w (pick (w :: ws) % (w :: ws).length)
        (Nat.mod_lt _ (Nat.succ_pos _))
      obtain ⟨g1, g2⟩ := innerFold_inv hclosed hE syms p _ (fun a ha => ha)
        (pop_inv inv hid h1 h2 (inv.w_nodup.eraseIdx _))
      apply ih _ _ g1.boundary
      omega

end DFA
end AV
