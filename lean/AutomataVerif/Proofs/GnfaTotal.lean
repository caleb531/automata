/-
Proofs/GnfaTotal.lean — `GNFA.from_dfa` / `GNFA.from_nfa` on valid sources over a literal alphabet,
as one theorem about their common second half over the rows of a symbol graph (`SymRows`,
`finishBuild_spec`).  `from_dfa` and `from_nfa` are instances: the paths of the symbol graph are
the paths of `DFA.accepts_iff_acc`, resp. `NFA.accepts_iff_acc` (Proofs/Read).
-/
import AutomataVerif.Proofs.GnfaBuild
import AutomataVerif.Proofs.GnfaValid
import AutomataVerif.Proofs.GnfaShapeBridge

namespace AV.GNFA
open AV AV.GnfaSpec

variable {σ : Type} [DecidableEq σ]

/-- The GNFA built passes `GNFA.validate`: its table has the documented shape (`Built.shape`), is
a dict of dicts, and its labels are the ε-edges and the labels of `rows`. -/
theorem Built.validate_ok {src : List σ} {rows : Table σ Str} {init : σ} {finals : List σ}
    {g : GNFA σ Str} (hB : Built src rows init finals g)
    (hkn : (akeys rows).Nodup) (hrn : ∀ kv ∈ rows, (akeys kv.2).Nodup)
    (hL : ∀ p r s, lab rows p r = some s → Alphabet.Chars g.syms s ∧ simpleRxValid s = .ok true) :
    g.validateStr simpleRxValid = .ok () := by
  have hknG : (akeys g.trans).Nodup := by rw [hB.keys]; exact nodup_akeys_ainsert hkn
  unfold GNFA.validateStr
  refine validate_eq_ok.mpr (accepted_of_shape hB.shape hknG
    (fun kv hkv => ?_) fun p r l hl => strLabelCheck_eq_ok.mpr ?_)
  · have hl : alookup kv.1 g.trans = some kv.2 := alookup_of_mem_nodup hknG hkv
    rw [hB.row] at hl
    split at hl
    · rw [← Option.some.inj hl]; exact nodup_akeys_fillRow (List.nodup_singleton _)
    · split at hl
      · obtain ⟨row, hr, hrow⟩ := Option.map_eq_some_iff.mp hl
        rw [← hrow]
        have := hrn (kv.1, row) (alookup_some_mem hr)
        refine nodup_akeys_fillRow ?_
        split
        · exact nodup_akeys_ainsert this
        · exact this
      · cases hl
  · rw [hB.lab_eq] at hl
    split at hl
    · split at hl
      · cases hl; exact ⟨Alphabet.Chars.nil _, simpleRxValid_nil⟩
      · cases hl
    · split at hl
      · split at hl
        · cases hl; exact ⟨Alphabet.Chars.nil _, simpleRxValid_nil⟩
        · exact hL p r l hl
      · cases hl

/-- What the label loops of both constructors leave in `rows`: the merged rows `M p` of the source
states, where the label for target `r` is merged from the symbols `X p r` — symbols of `syms`, ε at
most once — and targets are source states. -/
structure SymRows (src : List σ) (syms : List Char) (X : σ → σ → List (Option Char))
    (M : σ → List (σ × Str)) (rows : Table σ Str) : Prop where
  rowsOf : RowsOf src M rows
  nodup : ∀ p, (akeys (M p)).Nodup
  label : ∀ p r, alookup r (M p) = labelOf nfaMerge (X p r)
  tgt : ∀ p r, X p r ≠ [] → r ∈ src
  eps : ∀ p r, (X p r).count none ≤ 1
  sym : ∀ p r a, some a ∈ X p r → a ∈ syms

/-- **The second half of `from_dfa` / `from_nfa`** on such rows, over literal symbols: it does not
raise (row loops and `GNFA.validate` with the model of `re._validate`), and whatever the validator
model, the GNFA returned has the documented shape, well-formed labels, and the paths of the symbol
graph `X` from `init` to `finals` as its language. -/
theorem finishBuild_spec (natName : Nat → σ) (hinj : Function.Injective natName)
    {src : List σ} {syms : List Char} {X : σ → σ → List (Option Char)} {M : σ → List (σ × Str)}
    {rows : Table σ Str} {init : σ} {finals : List σ} (h : SymRows src syms X M rows)
    (hlit : ∀ a ∈ syms, IsLit a) (hinit : init ∈ src) (hfin : ∀ q ∈ finals, q ∈ src) :
    (∃ g, finishBuild simpleRxValid natName src syms rows init finals = .ok g) ∧
    ∀ (rxValid : Str → Res Bool) (g : GNFA σ Str),
      finishBuild rxValid natName src syms rows init finals = .ok g →
      Shape (dedup g.states) g.init g.final g.trans ∧
      ∃ Lb, Denotes Lab g.trans Lb ∧ ∀ w, w ∈ GLang Lb g.init g.final ↔
        Rx.Acc (fun p o r => o ∈ X p r) (· ∈ finals) init w := by
  have hR := h.rowsOf
  have hlab : ∀ p r, lab rows p r = if p ∈ src then labelOf nfaMerge (X p r) else none := by
    intro p r
    by_cases hp : p ∈ src
    · rw [hR.lab_eq hp, h.label, if_pos hp]
    · rw [lab_of_get2_none (by rw [hR.get2_eq, if_neg hp]), if_neg hp]
  have htgt : ∀ p r, (get2 rows p r).isSome → r ∈ src := by
    intro p r hpr
    rw [hR.get2_eq] at hpr
    split at hpr
    · rw [Option.isSome_map, h.label] at hpr
      exact h.tgt p r fun hx => by rw [labelOf_eq_none.mpr hx] at hpr; cases hpr
    · cases hpr
  have hl : ∀ p r a, some a ∈ X p r → IsLit a := fun p r a ha => hlit a (h.sym p r a ha)
  obtain ⟨g₀, hB, hgs, hiff⟩ :=
    finishBuild_ok_iff natName hinj src syms rows init finals hR.isSome htgt hinit hfin
  refine ⟨⟨g₀, (hiff _ _).mpr ⟨rfl, ?_⟩⟩, fun rxValid g hg => ?_⟩
  · refine hB.validate_ok hR.nodup (fun kv hkv => ?_) fun p r s hs => ?_
    · have hrow : alookup kv.1 rows = some kv.2 := alookup_of_mem_nodup hR.nodup hkv
      rw [hR.row] at hrow
      split at hrow
      · rw [← Option.some.inj hrow, akeys_castRow]; exact h.nodup _
      · cases hrow
    · rw [hlab] at hs
      split at hs
      · obtain ⟨hlab, hch⟩ := nfaLabel_labO syms _ (h.eps p r) (hl p r) (h.sym p r)
        rw [hs] at hlab
        exact ⟨hgs ▸ hch s hs, Lab.valid hlab⟩
      · cases hs
  · obtain ⟨rfl, -⟩ := (hiff rxValid g).mp hg
    refine ⟨hB.shape, _, hB.denotes (X := X) fun p hp r => ?_,
      GLang_srcX hB.init_fresh hB.final_fresh hB.ne h.tgt hinit⟩
    rw [hlab, if_pos hp]; exact (nfaLabel_labO syms _ (h.eps p r) (hl p r) (h.sym p r)).1

theorem dfa_symRows {d : DFA σ Char} (wf : d.WF) :
    SymRows d.states d.syms (fun p r => (symsTo (d.row p) r).map some)
      (fun p => mergeDfaRow (d.row p)) (dfaRows d) where
  rowsOf := dfaRows_rowsOf d
  nodup := fun _ => mergeDfaRow_nodup _
  label := fun _ r => alookup_mergeDfaRow _ r
  tgt := by
    intro p r hx
    obtain ⟨a, ha⟩ := List.exists_mem_of_ne_nil (symsTo (d.row p) r) fun h0 => hx (by rw [h0]; rfl)
    have ha' := mem_symsTo.mp ha
    exact (DFA.row_entry wf ha').2
  eps := fun _ _ => by rw [List.count_eq_zero.mpr (by simp)]; exact Nat.zero_le _
  sym := by
    intro p r a ha
    obtain ⟨b, hb, hab⟩ := List.mem_map.mp ha
    have hb' := mem_symsTo.mp hb
    exact Option.some.inj hab ▸ (DFA.row_entry wf hb').1

theorem nfa_symRows {n : NFA σ Char} (wf : n.WF) (hkeys : ∀ kv ∈ n.trans, (akeys kv.2).Nodup)
    (htgts : ∀ kv ∈ n.trans, ∀ e ∈ kv.2, e.2.Nodup) :
    SymRows n.states n.syms (fun p r => symsTo (flatRow (n.row p)) r)
      (fun p => mergeNfaRow (n.row p)) (nfaRows n) where
  rowsOf := nfaRows_rowsOf n
  nodup := fun _ => mergeNfaRow_nodup _
  label := fun _ r => alookup_mergeNfaRow _ r
  tgt := by
    intro p r hx
    obtain ⟨sym, hsym⟩ := List.exists_mem_of_ne_nil _ hx
    obtain ⟨ts, hts, hr⟩ := mem_flatRow.mp (mem_symsTo.mp hsym)
    exact (NFA.row_entry wf hts).2 r hr
  eps := fun p r => List.nodup_iff_count_le_one.mp
    (nodup_symsTo (NFA.nodup_flatRow_row hkeys htgts p) r) none
  sym := by
    intro p r a ha
    obtain ⟨ts, hts, _⟩ := mem_flatRow.mp (mem_symsTo.mp ha)
    exact (NFA.row_entry wf hts).1 a rfl

theorem fromDFA_total (natName : Nat → σ) (hinj : Function.Injective natName) (d : DFA σ Char)
    (wf : d.WF) (hlit : ∀ a ∈ d.syms, IsLit a) :
    ∃ g, fromDFA simpleRxValid natName d = .ok g :=
  (finishBuild_spec natName hinj (dfa_symRows wf) hlit wf.initOk wf.finalsOk).1

theorem fromNFA_total (natName : Nat → σ) (hinj : Function.Injective natName) (n : NFA σ Char)
    (wf : n.WF)
    (hkeys : ∀ kv ∈ n.trans, (akeys kv.2).Nodup) (htgts : ∀ kv ∈ n.trans, ∀ e ∈ kv.2, e.2.Nodup)
    (hlit : ∀ a ∈ n.syms, IsLit a) :
    ∃ g, fromNFA simpleRxValid natName n = .ok g :=
  (finishBuild_spec natName hinj (nfa_symRows wf hkeys htgts) hlit wf.initOk wf.finalsOk).1

theorem fromDFA_spec (rxValid : Str → Res Bool) (natName : Nat → σ)
    (hinj : Function.Injective natName) (d : DFA σ Char) (wf : d.WF)
    (hkeys : ∀ kv ∈ d.trans, (akeys kv.2).Nodup) (hlit : ∀ a ∈ d.syms, IsLit a)
    (g : GNFA σ Str) (h : fromDFA rxValid natName d = .ok g) :
    Shape (dedup g.states) g.init g.final g.trans ∧
    ∃ Lb, Denotes Lab g.trans Lb ∧
      ∀ w, w ∈ GLang Lb g.init g.final ↔ d.accepts w = true := by
  obtain ⟨hShape, Lb, hDen, hL⟩ :=
    (finishBuild_spec natName hinj (dfa_symRows wf) hlit wf.initOk wf.finalsOk).2 rxValid g h
  refine ⟨hShape, Lb, hDen, fun w => (hL w).trans <| (Rx.Acc.congr (fun p o r => ?_)
    fun _ => Iff.rfl).trans (DFA.accepts_iff_acc d w).symm⟩
  -- edges of the symbol graph = steps of the DFA
  simp only [List.mem_map, mem_symsTo, ← DFA.step?_iff_mem_row hkeys]
  exact ⟨fun ⟨b, hb, e⟩ => ⟨b, e.symm, hb⟩, fun ⟨b, e, hb⟩ => ⟨b, hb, e.symm⟩⟩

theorem symStr_ne_nil {sym : Option Char} : symStr sym ≠ [] ↔ sym ≠ none := by
  cases sym <;> simp [symStr]

theorem Renders.ne_nil' {l : Lvl} {e : Rx} {s : Str} (h : Renders l e s) : s ≠ [] := h.ne_nil

theorem fromNFA_spec (rxValid : Str → Res Bool) (natName : Nat → σ)
    (hinj : Function.Injective natName) (n : NFA σ Char) (wf : n.WF)
    (hkeys : ∀ kv ∈ n.trans, (akeys kv.2).Nodup) (htgts : ∀ kv ∈ n.trans, ∀ e ∈ kv.2, e.2.Nodup)
    (hlit : ∀ a ∈ n.syms, IsLit a)
    (g : GNFA σ Str) (h : fromNFA rxValid natName n = .ok g) :
    Shape (dedup g.states) g.init g.final g.trans ∧
    ∃ Lb, Denotes Lab g.trans Lb ∧
      ∀ w, w ∈ GLang Lb g.init g.final ↔ n.accepts w = true := by
  obtain ⟨hShape, Lb, hDen, hL⟩ :=
    (finishBuild_spec natName hinj (nfa_symRows wf hkeys htgts) hlit wf.initOk wf.finalsOk).2
      rxValid g h
  -- edges of the symbol graph = moves of the NFA
  exact ⟨hShape, Lb, hDen, fun w => (hL w).trans <| (Rx.Acc.congr
    (fun p o r => (mem_symsTo.trans mem_flatRow).trans (NFA.mem_targets_iff_row hkeys).symm)
    fun _ => Iff.rfl).trans (NFA.accepts_iff_acc n w).symm⟩

end AV.GNFA
