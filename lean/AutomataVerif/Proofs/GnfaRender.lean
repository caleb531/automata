/-
Proofs/GnfaRender.lean — the string rules of `GNFA.to_regex` (`_isbracket_req`, the `len == 1`
test, the assembly of `r4 | r1 r2* r3`) are sound for the library's regex syntax
(`GnfaSpec.Renders`); `None` stands for the empty language.
-/
import AutomataVerif.Proofs.GnfaTable

namespace AV.GnfaSpec
open AV AV.GNFA Language

theorem IsLit.ne {c : Char} (h : IsLit c) :
    c ≠ '(' ∧ c ≠ ')' ∧ c ≠ '|' ∧ c ≠ '*' ∧ c ≠ '?' := by
  refine ⟨?_, ?_, ?_, ?_, ?_⟩ <;> exact fun e => h.1 (e ▸ by decide)

/-- `bracket_open` after the character `c` has been read at depth `d`. -/
def bracketStep (d : Int) (c : Char) : Int := if c = '(' then d + 1 else if c = ')' then d - 1 else d

theorem bracketStep_eq (d : Int) (c : Char) : bracketStep d c = d + bracketStep 0 c := by
  unfold bracketStep
  by_cases h1 : c = '('
  · rw [if_pos h1, if_pos h1]; omega
  · rw [if_neg h1, if_neg h1]
    by_cases h2 : c = ')'
    · rw [if_pos h2, if_pos h2]; omega
    · rw [if_neg h2, if_neg h2]; omega

theorem aux_nil (d : Int) : isBracketReqAux d [] = false := rfl

theorem aux_cons (d : Int) (c : Char) (s : Str) :
    isBracketReqAux d (c :: s) =
      (decide (bracketStep d c = 0 ∧ c = '|') || isBracketReqAux (bracketStep d c) s) := by
  rw [isBracketReqAux]
  show (if bracketStep d c = 0 ∧ c = '|' then true else isBracketReqAux (bracketStep d c) s) = _
  by_cases h : bracketStep d c = 0 ∧ c = '|'
  · rw [if_pos h, decide_eq_true h]; rfl
  · rw [if_neg h, decide_eq_false h]; rfl

theorem aux_cons_lparen (d : Int) (s : Str) :
    isBracketReqAux d ('(' :: s) = isBracketReqAux (d + 1) s := by
  rw [aux_cons, decide_eq_false (fun h => absurd h.2 (by decide))]; rfl

theorem aux_cons_rparen (d : Int) (s : Str) :
    isBracketReqAux d (')' :: s) = isBracketReqAux (d - 1) s := by
  rw [aux_cons, decide_eq_false (fun h => absurd h.2 (by decide))]; rfl

theorem aux_cons_bar (d : Int) (s : Str) :
    isBracketReqAux d ('|' :: s) = (decide (d = 0) || isBracketReqAux d s) := by
  rw [aux_cons]
  show (decide (d = 0 ∧ '|' = '|') || _) = _
  simp only [and_true]
  rfl

theorem aux_cons_other {c : Char} (h1 : c ≠ '(') (h2 : c ≠ ')') (h3 : c ≠ '|') (d : Int) (s : Str) :
    isBracketReqAux d (c :: s) = isBracketReqAux d s := by
  rw [aux_cons, decide_eq_false (fun h => h3 h.2), bracketStep, if_neg h1, if_neg h2]; rfl

/-- Net bracket depth of a string. -/
def net : Str → Int
  | [] => 0
  | c :: s => bracketStep 0 c + net s

theorem net_append (s t : Str) : net (s ++ t) = net s + net t := by
  induction s with
  | nil => exact (Int.zero_add _).symm
  | cons c s ih => rw [List.cons_append, net, net, ih, Int.add_assoc]

theorem aux_append (s t : Str) (d : Int) :
    isBracketReqAux d (s ++ t) = (isBracketReqAux d s || isBracketReqAux (d + net s) t) := by
  induction s generalizing d with
  | nil => rw [List.nil_append, aux_nil, net, Int.add_zero]; rfl
  | cons c s ih =>
    have e : d + net (c :: s) = bracketStep d c + net s := by
      rw [bracketStep_eq, net, Int.add_assoc]
    rw [List.cons_append, aux_cons, aux_cons, ih, e, Bool.or_assoc]

theorem Renders.ne_nil {l : Lvl} {e : Rx} {s : Str} (h : Renders l e s) : s ≠ [] := by
  induction h with
  | sym _ => exact List.cons_ne_nil _ _
  | emp => exact List.cons_ne_nil _ _
  | paren _ _ => exact List.cons_ne_nil _ _
  | star _ _ => exact List.append_ne_nil_of_right_ne_nil _ (List.cons_ne_nil _ _)
  | opt _ _ => exact List.append_ne_nil_of_right_ne_nil _ (List.cons_ne_nil _ _)
  | ofP _ ih => exact ih
  | cat _ _ ih1 _ => exact List.append_ne_nil_of_left_ne_nil ih1 _
  | ofC _ ih => exact ih
  | union _ _ _ _ => exact List.append_ne_nil_of_right_ne_nil _ (List.cons_ne_nil _ _)

theorem Renders.net_zero {l : Lvl} {e : Rx} {s : Str} (h : Renders l e s) : net s = 0 := by
  induction h with
  | sym hc =>
    obtain ⟨h1, h2, _⟩ := hc.ne
    rw [net, bracketStep, if_neg h1, if_neg h2]; rfl
  | emp => rfl
  | paren _ ih => rw [List.cons_append, net, net_append, ih]; rfl
  | star _ ih => rw [net_append, ih]; rfl
  | opt _ ih => rw [net_append, ih]; rfl
  | ofP _ ih => exact ih
  | cat _ _ ih1 ih2 => rw [net_append, ih1, ih2]; rfl
  | ofC _ ih => exact ih
  | union _ _ ih1 ih2 => rw [net_append, ih1, net, ih2]; rfl

theorem Renders.aux_false {l : Lvl} {e : Rx} {s : Str} (h : Renders l e s) :
    ∀ d : Int, 0 ≤ d → (d = 0 → l ≠ .U) → isBracketReqAux d s = false := by
  have hP : ∀ d : Int, d = 0 → Lvl.P ≠ Lvl.U := fun _ _ => by decide
  have hC : ∀ d : Int, d = 0 → Lvl.C ≠ Lvl.U := fun _ _ => by decide
  have post : ∀ (c : Char), c ≠ '(' → c ≠ ')' → c ≠ '|' → ∀ {s : Str} {d : Int},
      isBracketReqAux d s = false → isBracketReqAux d (s ++ [c]) = false := by
    intro c h1 h2 h3 s d hs
    rw [aux_append, hs, aux_cons_other h1 h2 h3, aux_nil]; rfl
  induction h with
  | sym hc =>
    intro d _ _
    obtain ⟨h1, h2, h3, _⟩ := hc.ne
    rw [aux_cons_other h1 h2 h3, aux_nil]
  | emp => intro d _ _; rw [aux_cons_lparen, aux_cons_rparen, aux_nil]
  | @paren e s h ih =>
    intro d hd _
    rw [List.cons_append, aux_cons_lparen, aux_append, ih (d + 1) (by omega) (by omega),
      h.net_zero, aux_cons_rparen, aux_nil]
    rfl
  | star _ ih => exact fun d hd _ => post '*' (by decide) (by decide) (by decide) (ih d hd (hP d))
  | opt _ ih => exact fun d hd _ => post '?' (by decide) (by decide) (by decide) (ih d hd (hP d))
  | ofP _ ih => exact fun d hd _ => ih d hd (hP d)
  | @cat e₁ e₂ s₁ s₂ h1 h2 ih1 ih2 =>
    intro d hd _
    rw [aux_append, ih1 d hd (hC d), h1.net_zero, Int.add_zero, ih2 d hd (hP d)]; rfl
  | ofC _ ih => exact fun d hd _ => ih d hd (hC d)
  | @union e₁ e₂ s₁ s₂ h1 h2 ih1 ih2 =>
    intro d hd hl
    have hd0 : d ≠ 0 := fun h0 => hl h0 rfl
    rw [aux_append, ih1 d hd (fun h0 => absurd h0 hd0), h1.net_zero, Int.add_zero, aux_cons_bar,
      ih2 d hd (hC d), decide_eq_false hd0]
    rfl

theorem isBracketReq_union {e₁ : Rx} {s₁ : Str} (h1 : Renders .U e₁ s₁) (s₂ : Str) :
    isBracketReq (s₁ ++ '|' :: s₂) = true := by
  unfold isBracketReq
  rw [aux_append, h1.net_zero, Int.add_zero, aux_cons_bar]
  simp

theorem Renders.toC {e : Rx} {s : Str} (h : Renders .U e s) (hb : isBracketReq s = false) :
    Renders .C e s := by
  cases h with
  | ofC h => exact h
  | union h1 h2 => rw [isBracketReq_union h1] at hb; exact absurd hb (by simp)

theorem Renders.isBracketReq_iff {e : Rx} {s : Str} (h : Renders .U e s) :
    isBracketReq s = false ↔ Renders .C e s :=
  ⟨h.toC, fun hc => hc.aux_false 0 (Int.le_refl 0) fun _ => by decide⟩

/-- A rendered string of length one is an atom (so `r2*` needs no brackets when `len(r2) == 1`). -/
theorem Renders.single {l : Lvl} {e : Rx} {s : Str} (h : Renders l e s) (hlen : s.length = 1) :
    Renders .P e s := by
  induction h with
  | sym hc => exact Renders.sym hc
  | emp => exact Renders.emp
  | paren h _ => exact Renders.paren h
  | star h _ => exact Renders.star h
  | opt h _ => exact Renders.opt h
  | ofP _ ih => exact ih hlen
  | @cat e₁ e₂ s₁ s₂ h1 h2 _ _ =>
    have a := List.length_pos_iff.mpr h1.ne_nil
    have b := List.length_pos_iff.mpr h2.ne_nil
    rw [List.length_append] at hlen; omega
  | ofC _ ih => exact ih hlen
  | @union e₁ e₂ s₁ s₂ h1 h2 _ _ =>
    have a := List.length_pos_iff.mpr h1.ne_nil
    rw [List.length_append, List.length_cons] at hlen; omega

/-- A factor of a concatenation: nothing at all (ε) or a concatenation-level string. -/
def Piece (L : Language Char) (s : Str) : Prop :=
  (s = [] ∧ L = 1) ∨ ∃ e, Renders .C e s ∧ e.den = L

theorem Renders.catC {e₁ : Rx} {s₁ : Str} (h1 : Renders .C e₁ s₁) {l : Lvl} {e₂ : Rx} {s₂ : Str}
    (h2 : Renders l e₂ s₂) (hl : l = .C) :
    ∃ e, Renders .C e (s₁ ++ s₂) ∧ e.den = e₁.den * e₂.den := by
  induction h2 with
  | sym _ => cases hl
  | emp => cases hl
  | paren _ _ => cases hl
  | star _ _ => cases hl
  | opt _ _ => cases hl
  | @ofP e s h _ => exact ⟨.cat e₁ e, Renders.cat h1 h, rfl⟩
  | @cat ea eb sa sb ha hb iha _ =>
    obtain ⟨e', he', hd⟩ := iha rfl
    refine ⟨.cat e' eb, ?_, ?_⟩
    · rw [← List.append_assoc]; exact Renders.cat he' hb
    · simp only [Rx.den, hd, mul_assoc]
  | ofC _ _ => cases hl
  | union _ _ _ _ => cases hl

theorem Piece.mul {A B : Language Char} {s t : Str} (h1 : Piece A s) (h2 : Piece B t) :
    Piece (A * B) (s ++ t) := by
  rcases h1 with ⟨rfl, rfl⟩ | ⟨e1, hr1, rfl⟩
  · rcases h2 with ⟨rfl, rfl⟩ | ⟨e2, hr2, rfl⟩
    · exact Or.inl ⟨rfl, by simp⟩
    · exact Or.inr ⟨e2, by simpa using hr2, by simp⟩
  · rcases h2 with ⟨rfl, rfl⟩ | ⟨e2, hr2, rfl⟩
    · exact Or.inr ⟨e1, by simpa using hr1, by simp⟩
    · obtain ⟨e, he, hd⟩ := hr1.catC hr2 rfl
      exact Or.inr ⟨e, he, hd⟩

theorem Piece.toLab {L : Language Char} {s : Str} (h : Piece L s) : Lab L s := by
  rcases h with h | ⟨e, hr, hd⟩
  · exact Or.inl h
  · exact Or.inr ⟨e, Renders.ofC hr, hd⟩

theorem Lab.nil_iff {L : Language Char} : Lab L [] ↔ L = 1 := by
  constructor
  · rintro (⟨_, h⟩ | ⟨e, hr, _⟩)
    · exact h
    · exact absurd rfl hr.ne_nil
  · intro h; exact Or.inl ⟨rfl, h⟩

theorem Lab.renders {L : Language Char} {s : Str} (h : Lab L s) (hs : s ≠ []) :
    ∃ e, Renders .U e s ∧ e.den = L := by
  rcases h with ⟨h, _⟩ | h
  · exact absurd h hs
  · exact h

/-- A label for `L`, read as a statement about an acceptance predicate `acc` with the words of
`L`: the form the end-to-end statements of C12 spell out. -/
theorem Lab.iff_accepts {L : Language Char} {acc : List Char → Bool}
    (hL : ∀ w, w ∈ L ↔ acc w = true) {s : Str} :
    Lab L s ↔ (s = [] ∧ ∀ w, acc w = true ↔ w = []) ∨
      ∃ e, Renders .U e s ∧ ∀ w, w ∈ e.den ↔ acc w = true := by
  refine or_congr (and_congr_right fun _ => ?_) (exists_congr fun e => and_congr_right fun _ => ?_)
  · exact ⟨fun h w => (hL w).symm.trans (h ▸ Language.mem_one w),
      fun h => Set.ext fun w => (hL w).trans ((h w).trans (Language.mem_one w).symm)⟩
  · exact ⟨fun h w => h ▸ hL w, fun h => Set.ext fun w => (h w).trans (hL w).symm⟩

theorem isBracketReq_nil : isBracketReq [] = false := rfl

theorem starPart_some (r : Str) :
    starPart (some r) = if r.length = 1 then r ++ ['*'] else '(' :: r ++ [')', '*'] := rfl

theorem altPart_some (r : Str) :
    altPart (some r) =
      if isBracketReq r then '|' :: '(' :: r ++ [')'] else if r = [] then ['?'] else '|' :: r := rfl

theorem bracketIfReq_piece {L : Language Char} {r : Str} (h : Lab L r) :
    Piece L (bracketIfReq r) := by
  unfold bracketIfReq
  by_cases hr : r = []
  · subst hr
    simp only [isBracketReq_nil]
    exact Or.inl ⟨rfl, Lab.nil_iff.mp h⟩
  · obtain ⟨e, he, hd⟩ := h.renders hr
    by_cases hb : isBracketReq r = true
    · rw [if_pos hb]
      exact Or.inr ⟨e, Renders.ofP (Renders.paren he), hd⟩
    · rw [if_neg hb]
      exact Or.inr ⟨e, he.toC (by simpa using hb), hd⟩

theorem starPart_piece {L : Language Char} {r2 : Option Str} (h : LabO L r2) :
    Piece (KStar.kstar L) (starPart r2) := by
  cases r2 with
  | none =>
    have : L = 0 := h
    subst this
    exact Or.inl ⟨rfl, kstar_zero⟩
  | some r =>
    have h : Lab L r := h
    rw [starPart_some]
    by_cases hlen : r.length = 1
    · rw [if_pos hlen]
      have hr : r ≠ [] := by intro h0; simp [h0] at hlen
      obtain ⟨e, he, hd⟩ := h.renders hr
      exact Or.inr ⟨.star e, Renders.ofP (Renders.star (he.single hlen)), by simp [Rx.den, hd]⟩
    · rw [if_neg hlen]
      by_cases hr : r = []
      · subst hr
        have hL : L = 1 := Lab.nil_iff.mp h
        subst hL
        refine Or.inr ⟨.star .eps, ?_, by simp [Rx.den]⟩
        exact Renders.ofP (Renders.star Renders.emp)
      · obtain ⟨e, he, hd⟩ := h.renders hr
        refine Or.inr ⟨.star e, ?_, by simp [Rx.den, hd]⟩
        have : '(' :: r ++ [')', '*'] = ('(' :: r ++ [')']) ++ ['*'] := by simp
        rw [this]
        exact Renders.ofP (Renders.star (Renders.paren he))

/-- The last two steps of `ripLabel` as a function of the body `r1 r2 r3` and the alternative. -/
def finish (body d : Str) : Str :=
  let body' : Str := if d ≠ [] ∧ body = [] then ['(', ')'] else body
  if d = ['?'] ∧ body'.length > 1 then '(' :: body' ++ ')' :: d else body' ++ d

theorem ripLabel_some (r1 r3 : Str) (r2 r4 : Option Str) :
    ripLabel (some r1) r2 (some r3) r4 =
      some (finish (bracketIfReq r1 ++ starPart r2 ++ bracketIfReq r3) (altPart r4)) := by
  simp only [ripLabel, finish]
  by_cases h : altPart r4 ≠ [] ∧ bracketIfReq r1 ++ starPart r2 ++ bracketIfReq r3 = []
  · obtain ⟨h1, h2⟩ := h
    have h3 := List.append_eq_nil_iff.mp h2
    have h4 := List.append_eq_nil_iff.mp h3.1
    simp only [h1, h3.2, h4.1, h4.2, ne_eq, not_false_eq_true, List.append_nil, and_self,
      ↓reduceIte, List.length_cons, List.length_nil, List.cons_append, List.nil_append]
    split <;> simp
  · rw [if_neg h, if_neg h]
    simp only [List.length_append, List.append_assoc, List.cons_append, Nat.add_assoc]
    split <;> rfl

theorem altPart_spec {L : Language Char} {s : Str} (h : Lab L s) :
    (s = [] ∧ L = 1 ∧ altPart (some s) = ['?']) ∨
      ∃ e t, altPart (some s) = '|' :: t ∧ Renders .C e t ∧ e.den = L := by
  rw [altPart_some]
  by_cases hb : isBracketReq s = true
  · have hs : s ≠ [] := fun h0 => by rw [h0] at hb; cases hb
    obtain ⟨e, he, hd⟩ := h.renders hs
    exact Or.inr ⟨e, _, by rw [if_pos hb]; rfl, Renders.ofP (Renders.paren he), hd⟩
  · rw [if_neg hb]
    by_cases hs : s = []
    · exact Or.inl ⟨hs, Lab.nil_iff.mp (hs ▸ h), if_pos hs⟩
    · obtain ⟨e, he, hd⟩ := h.renders hs
      exact Or.inr ⟨e, s, if_neg hs, he.toC (by simpa using hb), hd⟩

theorem finish_sound {Lb L4 : Language Char} {body : Str} {r4 : Option Str}
    (hb : Piece Lb body) (h4 : LabO L4 r4) : Lab (L4 + Lb) (finish body (altPart r4)) := by
  cases r4 with
  | none =>
    rw [show L4 = 0 from h4, zero_add]
    simp only [finish, altPart]
    simpa using hb.toLab
  | some s4 =>
    have hspec := altPart_spec (h4 : Lab L4 s4)
    have hd : altPart (some s4) ≠ [] := by
      rcases hspec with ⟨_, _, h⟩ | ⟨_, _, h, _⟩ <;> rw [h] <;> exact List.cons_ne_nil _ _
    -- the body after the `()` repair
    have hb' : ∃ eb, Renders .C eb (if altPart (some s4) ≠ [] ∧ body = [] then ['(', ')'] else body) ∧
        eb.den = Lb := by
      rcases hb with ⟨rfl, rfl⟩ | ⟨e, he, hde⟩
      · rw [if_pos ⟨hd, rfl⟩]
        exact ⟨.eps, Renders.ofP Renders.emp, rfl⟩
      · rw [if_neg (fun h => he.ne_nil h.2)]
        exact ⟨e, he, hde⟩
    obtain ⟨eb, hrb, hdb⟩ := hb'
    unfold finish
    simp only []
    generalize (if altPart (some s4) ≠ [] ∧ body = [] then ['(', ')'] else body) = body' at hrb ⊢
    rcases hspec with ⟨_, rfl, hval⟩ | ⟨e4, t, hval, he4, hd4⟩
    · -- `?`: brackets unless the body is one character
      rw [hval]
      refine Or.inr ⟨.opt eb, ?_, by rw [← hdb]; rfl⟩
      by_cases hlen : body'.length > 1
      · rw [if_pos ⟨rfl, hlen⟩]
        exact (by simp : ('(' :: body' ++ [')']) ++ ['?'] = '(' :: body' ++ [')', '?']) ▸
          Renders.ofC (Renders.ofP (Renders.opt (Renders.paren (Renders.ofC hrb))))
      · rw [if_neg (fun h => hlen h.2)]
        have h1 : body'.length = 1 := by
          have := List.length_pos_iff.mpr hrb.ne_nil
          omega
        exact Renders.ofC (Renders.ofP (Renders.opt (hrb.single h1)))
    · rw [hval, if_neg (fun h => by cases h.1)]
      exact Or.inr ⟨.union eb e4, Renders.union (Renders.ofC hrb) he4,
        by rw [← hdb, ← hd4, add_comm]; rfl⟩

/-- **Soundness of the string rule of `to_regex`**: from labels denoting `L₁ … L₄` (`None` = ∅)
it assembles a label denoting `L₄ + L₁ L₂* L₃`. -/
theorem ripLabel_sound {L1 L2 L3 L4 : Language Char} {r1 r2 r3 r4 : Option Str}
    (h1 : LabO L1 r1) (h2 : LabO L2 r2) (h3 : LabO L3 r3) (h4 : LabO L4 r4) :
    LabO (L4 + L1 * KStar.kstar L2 * L3) (ripLabel r1 r2 r3 r4) := by
  cases r1 with
  | none =>
    rw [show L1 = 0 from h1, zero_mul, zero_mul, add_zero]
    exact h4
  | some s1 =>
    cases r3 with
    | none =>
      rw [show L3 = 0 from h3, mul_zero, add_zero]
      exact h4
    | some s3 =>
      rw [ripLabel_some]
      exact finish_sound
        (((bracketIfReq_piece h1).mul (starPart_piece h2)).mul (bracketIfReq_piece h3)) h4

theorem RO_Lab (L : Language Char) (o : Option Str) : RO Lab L o = LabO L o := by
  cases o <;> rfl

theorem ripLabel_combSound : CombSound Lab ripLabel := by
  intro L1 L2 L3 L4 r1 r2 r3 r4 h1 h2 h3 h4
  rw [RO_Lab] at h1 h2 h3 h4 ⊢
  exact ripLabel_sound h1 h2 h3 h4

end AV.GnfaSpec
