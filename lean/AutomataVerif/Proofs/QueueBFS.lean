/-
Proofs/QueueBFS.lean — a FIFO work-queue loop without a visited set (`MNTM.read_input_stepwise`,
`MNTM.read_input_as_ntm`) visits the successor tree level by level: its observation is the
concatenation of the levels cut after the first accepting element; it accepts iff some level has
an accepting element and rejects iff some level is empty and none has one.  `qres` / `qobs` are that
loop over an arbitrary successor function and `return` test; `qobs_sim` puts a generator in lock step
with it.  Lean core only.
-/
import AutomataVerif.Proofs.GenRun

namespace AV.TM.Q
variable {C : Type}

def rej : Exn := .lib .rejectionException

/-- The tail of one `next()` of a queue loop, after the popped element has been processed and `q` is the
queue: back at `while queue:`, pop and yield (state: the element and the rest), or reject. -/
def cont : List C → Resume (C × List C) C
  | [] => .raise rej
  | c' :: r => .yield c' (c', r)

/-- One `next()` of the abstract queue loop: state = (element just yielded, rest of the queue). -/
def qres (succ : C → List C) (acc : C → Bool) (st : C × List C) : Resume (C × List C) C :=
  if acc st.1 then .ret else cont (st.2 ++ succ st.1)

/-- Yields and end of the abstract queue loop within `n` calls, starting at the `while queue:` test. -/
def qobs (succ : C → List C) (acc : C → Bool) : Nat → List C → List C × GenEnd
  | 0, _ => ([], .running)
  | _ + 1, [] => ([], .raised rej)
  | n + 1, c :: r =>
    let x := genRun (qres succ acc) n (c, r)
    (c :: x.1, x.2)

theorem genStart_eq_qobs (succ : C → List C) (acc : C → Bool) (c0 : C) (n : Nat) :
    genStart (qres succ acc) c0 (c0, []) n = qobs succ acc n [c0] := by
  cases n <;> rfl

theorem genRun_qres (succ : C → List C) (acc : C → Bool) (n : Nat) (c : C) (r : List C) :
    genRun (qres succ acc) (n + 1) (c, r) =
      if acc c then ([], .returned) else qobs succ acc (n + 1) (r ++ succ c) := by
  simp only [genRun, qres]
  cases acc c
  · simp only [Bool.false_eq_true, if_false]
    cases r ++ succ c <;> rfl
  · rfl

section Sim
variable {E Z : Type} (f : E → Z) (g : C → Z) (Inv : C → Prop)

/-- The relation kept between a generator on queue states (left, elements `E`) and the abstract queue
loop (right, elements `C`): `f` / `g` map both kinds of element to what they stand for, `Inv` is an
invariant of the elements on the right that the step hypothesis of `qres_sim` may use. -/
def QRel (st : E × List E) (st' : C × List C) : Prop :=
  (st.1 :: st.2).map f = (st'.1 :: st'.2).map g ∧ ∀ c ∈ st'.1 :: st'.2, Inv c

theorem cont_rel {q : List E} {q' : List C} (hq : q.map f = q'.map g) (hi : ∀ c ∈ q', Inv c) :
    ResumeRel (QRel f g Inv) f g (cont q) (cont q') := by
  cases q <;> cases q' <;> try cases hq
  · exact .raise _
  · exact .yield (by injection hq) ⟨hq, hi⟩

/-- **Simulation of queue loops.**  A generator `r` on queue states is in lock step with the queue
loop over `succ` / `acc` as soon as processing one element agrees: on elements standing for the same
(`f e = g c`, `Inv c`) it returns iff `acc c`, and otherwise appends to its queue entries standing
for `succ c`. -/
theorem qres_sim (r : E × List E → Resume (E × List E) E) (succ : C → List C) (acc : C → Bool)
    (h : ∀ e c, f e = g c → Inv c → ∀ q,
      if acc c then r (e, q) = .ret
      else ∃ kids, kids.map f = (succ c).map g ∧ (∀ x ∈ succ c, Inv x) ∧ r (e, q) = cont (q ++ kids))
    (st : E × List E) (st' : C × List C) (hR : QRel f g Inv st st') :
    ResumeRel (QRel f g Inv) f g (r st) (qres succ acc st') := by
  obtain ⟨hm, hi⟩ := hR
  have hq := List.tail_eq_of_cons_eq hm
  have := h st.1 st'.1 (List.head_eq_of_cons_eq hm) (hi _ (List.mem_cons_self ..)) st.2
  unfold qres
  split
  · rw [if_pos ‹_›] at this; rw [this]; exact .ret
  · rw [if_neg ‹_›] at this
    obtain ⟨kids, hk, hik, hr⟩ := this
    rw [hr]
    refine cont_rel f g Inv (by rw [List.map_append, List.map_append, hq, hk]) fun c hc => ?_
    rcases List.mem_append.mp hc with hc | hc
    · exact hi c (List.mem_cons_of_mem _ hc)
    · exact hik c hc

theorem qobs_sim (r : E × List E → Resume (E × List E) E) (succ : C → List C) (acc : C → Bool)
    (h : ∀ e c, f e = g c → Inv c → ∀ q,
      if acc c then r (e, q) = .ret
      else ∃ kids, kids.map f = (succ c).map g ∧ (∀ x ∈ succ c, Inv x) ∧ r (e, q) = cont (q ++ kids))
    {e0 : E} {c0 : C} (h0 : f e0 = g c0) (hi : Inv c0) (n : Nat) :
    (genStart r e0 (e0, []) n).1.map f = (qobs succ acc n [c0]).1.map g ∧
      (genStart r e0 (e0, []) n).2 = (qobs succ acc n [c0]).2 := by
  rw [← genStart_eq_qobs]
  exact genStart_sim r _ _ f g (qres_sim f g Inv r succ acc h) h0
    ⟨by simp only [List.map_cons, h0, List.map_nil], by simpa using hi⟩ n

end Sim

/-- The first `n` elements of the visit order of the queue `q`. -/
def bfsSeq (succ : C → List C) : Nat → List C → List C
  | 0, _ => []
  | _ + 1, [] => []
  | n + 1, c :: r => c :: bfsSeq succ n (r ++ succ c)

/-- Keep a list up to and including its first element satisfying `p`. -/
def cutThrough (p : C → Bool) : List C → List C
  | [] => []
  | x :: xs => if p x then [x] else x :: cutThrough p xs

/-- Index of the first element satisfying `p`. -/
def firstIdx (p : C → Bool) : List C → Option Nat
  | [] => none
  | x :: xs => if p x then some 0 else (firstIdx p xs).map (· + 1)

/-- How a queue generator stands after `n` calls, from the visit order. -/
def endOf (acc : C → Bool) (n : Nat) (s : List C) : GenEnd :=
  match firstIdx acc s with
  | some j => if j + 2 ≤ n then .returned else .running
  | none => if s.length < n then .raised rej else .running

theorem bfsSeq_length_le (succ : C → List C) (n : Nat) (q : List C) :
    (bfsSeq succ n q).length ≤ n := by
  induction n generalizing q with
  | zero => simp [bfsSeq]
  | succ n ih =>
    cases q with
    | nil => simp [bfsSeq]
    | cons c r => simp only [bfsSeq, List.length_cons]; have := ih (r ++ succ c); omega

theorem endOf_cons (acc : C → Bool) (n : Nat) (c : C) (s : List C) :
    endOf acc (n + 1) (c :: s) =
      if acc c then (if 1 ≤ n then .returned else .running) else endOf acc n s := by
  unfold endOf
  rw [show firstIdx acc (c :: s) = if acc c then some 0 else (firstIdx acc s).map (· + 1) from rfl]
  cases acc c
  · cases firstIdx acc s <;>
      simp only [Bool.false_eq_true, if_false, Option.map_none, Option.map_some, List.length_cons,
        Nat.add_lt_add_iff_right, Nat.add_right_comm _ 1 2, Nat.add_le_add_iff_right]
  · simp only [if_true, Nat.zero_add, Nat.reduceLeDiff]

theorem qobs_eq (succ : C → List C) (acc : C → Bool) (n : Nat) (q : List C) :
    qobs succ acc n q = (cutThrough acc (bfsSeq succ n q), endOf acc n (bfsSeq succ n q)) := by
  induction n generalizing q with
  | zero => rfl
  | succ n ih =>
    cases q with
    | nil => simp [qobs, bfsSeq, cutThrough, endOf, firstIdx]
    | cons c r =>
      rw [bfsSeq, cutThrough, endOf_cons]
      cases n with
      | zero => cases h : acc c <;> simp [qobs, genRun, bfsSeq, cutThrough, endOf, firstIdx]
      | succ m =>
        rw [qobs, genRun_qres]
        cases h : acc c
        · simp only [Bool.false_eq_true, if_false, ih]
        · simp

theorem qobs_yields (succ : C → List C) (acc : C → Bool) (n : Nat) (q : List C) :
    (qobs succ acc n q).1 = cutThrough acc (bfsSeq succ n q) := by rw [qobs_eq]

theorem qobs_end (succ : C → List C) (acc : C → Bool) (n : Nat) (q : List C) :
    (qobs succ acc n q).2 = endOf acc n (bfsSeq succ n q) := by rw [qobs_eq]

/-- The `d`-th level below the queue `q`. -/
def lvl (succ : C → List C) : Nat → List C → List C
  | 0, q => q
  | d + 1, q => lvl succ d (q.flatMap succ)

/-- `lvl 0 q ++ lvl 1 q ++ … ++ lvl (n-1) q`. -/
def concatLevels (succ : C → List C) : Nat → List C → List C
  | 0, _ => []
  | n + 1, q => q ++ concatLevels succ n (q.flatMap succ)

theorem lvl_succ' (succ : C → List C) (d : Nat) (q : List C) :
    lvl succ (d + 1) q = (lvl succ d q).flatMap succ := by
  induction d generalizing q with
  | zero => rfl
  | succ d ih => rw [lvl, ih]; rfl

theorem lvl_nil (succ : C → List C) (d : Nat) : lvl succ d [] = [] := by
  induction d with
  | zero => rfl
  | succ d ih => simpa [lvl] using ih

theorem concatLevels_nil (succ : C → List C) (n : Nat) : concatLevels succ n [] = [] := by
  induction n with
  | zero => rfl
  | succ n ih => simpa [concatLevels] using ih

theorem bfsSeq_nil (succ : C → List C) (n : Nat) : bfsSeq succ n [] = [] := by
  cases n <;> rfl

/-- Queue invariant: visiting `a ++ b` yields `a`, then goes on with `b` followed by the
children of `a` in order. -/
theorem bfsSeq_append (succ : C → List C) (a : List C) :
    ∀ (n : Nat) (b : List C),
      bfsSeq succ n (a ++ b) = (a ++ bfsSeq succ (n - a.length) (b ++ a.flatMap succ)).take n := by
  induction a with
  | nil =>
    intro n b
    simp only [List.nil_append, List.length_nil, Nat.sub_zero, List.flatMap_nil, List.append_nil]
    exact (List.take_of_length_le (bfsSeq_length_le succ n b)).symm
  | cons x a ih =>
    intro n b
    cases n with
    | zero => simp [bfsSeq]
    | succ m =>
      simp only [List.cons_append, bfsSeq, List.length_cons, List.flatMap_cons, List.take_succ_cons]
      congr 1
      have := ih m (b ++ succ x)
      simp only [List.append_assoc] at this ⊢
      rw [this]
      congr 3
      omega

theorem bfsSeq_level (succ : C → List C) (n : Nat) (q : List C) :
    bfsSeq succ n q = (q ++ bfsSeq succ (n - q.length) (q.flatMap succ)).take n := by
  have := bfsSeq_append succ q n []
  simpa using this

theorem concatLevels_length_ge (succ : C → List C) (n : Nat) (q : List C)
    (h : ∀ d, d < n → lvl succ d q ≠ []) : n ≤ (concatLevels succ n q).length := by
  induction n generalizing q with
  | zero => simp
  | succ n ih =>
    simp only [concatLevels, List.length_append]
    have h0 : q ≠ [] := h 0 (by omega)
    have : 1 ≤ q.length := by
      cases q with
      | nil => exact absurd rfl h0
      | cons _ _ => simp
    have := ih (q.flatMap succ) (fun d hd => h (d + 1) (by omega))
    omega

theorem lvl_eq_nil_of_le (succ : C → List C) {d e : Nat} {q : List C} (h : lvl succ d q = [])
    (hde : d ≤ e) : lvl succ e q = [] := by
  induction hde with
  | refl => exact h
  | step _ ih => rw [lvl_succ', ih]; rfl

theorem concatLevels_add (succ : C → List C) (d e : Nat) (q : List C) :
    concatLevels succ (d + e) q = concatLevels succ d q ++ concatLevels succ e (lvl succ d q) := by
  induction d generalizing q with
  | zero => simp [concatLevels, lvl]
  | succ d ih =>
    have : d + 1 + e = (d + e) + 1 := by omega
    rw [this]
    simp only [concatLevels, lvl, ih, List.append_assoc]

theorem concatLevels_succ_last (succ : C → List C) (n : Nat) (q : List C) :
    concatLevels succ (n + 1) q = concatLevels succ n q ++ lvl succ n q := by
  rw [concatLevels_add succ n 1 q]
  simp [concatLevels]

/-- Levels beyond the `m`-th do not contribute to the first `m` elements: the first `m` levels
have `m` elements already, or one of them (and then every later one) is empty. -/
theorem concatLevels_take (succ : C → List C) (m d : Nat) (q : List C) (h : m ≤ d) :
    (concatLevels succ d q).take m = (concatLevels succ m q).take m := by
  obtain ⟨e, rfl⟩ := Nat.le.dest h
  rw [concatLevels_add]
  by_cases hne : ∀ i, i < m → lvl succ i q ≠ []
  · rw [List.take_append_of_le_length (concatLevels_length_ge succ m q hne)]
  · obtain ⟨i, hi, hnil⟩ : ∃ i, i < m ∧ lvl succ i q = [] := by
      apply Classical.byContradiction
      exact fun h => hne fun i hi hnil => h ⟨i, hi, hnil⟩
    rw [lvl_eq_nil_of_le succ hnil (Nat.le_of_lt hi), concatLevels_nil, List.append_nil]

theorem bfsSeq_eq_levels (succ : C → List C) :
    ∀ (n : Nat) (q : List C), bfsSeq succ n q = (concatLevels succ n q).take n := by
  intro n
  induction n using Nat.strongRecOn with
  | _ n ih =>
    intro q
    cases q with
    | nil => simp [bfsSeq_nil, concatLevels_nil]
    | cons c r =>
      cases n with
      | zero => simp [bfsSeq]
      | succ n =>
        rw [bfsSeq_level]
        have hlt : n + 1 - (c :: r).length < n + 1 := by simp; omega
        rw [ih _ hlt]
        simp only [concatLevels, List.take_append]
        congr 1
        rw [List.take_take, Nat.min_self]
        exact (concatLevels_take succ _ n _ (by simp <;> omega)).symm

theorem mem_concatLevels (succ : C → List C) (n : Nat) (q : List C) (c : C) :
    c ∈ concatLevels succ n q ↔ ∃ d, d < n ∧ c ∈ lvl succ d q := by
  induction n generalizing q with
  | zero => simp [concatLevels]
  | succ n ih =>
    simp only [concatLevels, List.mem_append, ih]
    constructor
    · rintro (h | ⟨d, hd, h⟩)
      · exact ⟨0, by omega, h⟩
      · exact ⟨d + 1, by omega, h⟩
    · rintro ⟨d, hd, h⟩
      cases d with
      | zero => exact Or.inl h
      | succ d => exact Or.inr ⟨d, by omega, h⟩

theorem firstIdx_eq (p : C → Bool) (s : List C) : firstIdx p s = s.findIdx? p := by
  induction s with
  | nil => rfl
  | cons x xs ih => simp only [firstIdx, List.findIdx?_cons, ih]

theorem firstIdx_some_iff (p : C → Bool) (s : List C) :
    (∃ j, firstIdx p s = some j) ↔ ∃ c ∈ s, p c = true := by
  rw [firstIdx_eq, ← Option.isSome_iff_exists, List.findIdx?_isSome, List.any_eq_true]

theorem firstIdx_lt (p : C → Bool) (s : List C) {j : Nat} (h : firstIdx p s = some j) :
    j < s.length :=
  (List.findIdx?_eq_some_iff_getElem.mp (firstIdx_eq p s ▸ h)).1

theorem firstIdx_none_iff (p : C → Bool) (s : List C) :
    firstIdx p s = none ↔ ∀ c ∈ s, p c = false := by
  rw [firstIdx_eq, List.findIdx?_eq_none_iff]

theorem endOf_eq_returned (acc : C → Bool) (n : Nat) (s : List C) :
    endOf acc n s = .returned ↔ ∃ j, firstIdx acc s = some j ∧ j + 2 ≤ n := by
  unfold endOf
  cases firstIdx acc s with
  | none => simp only [reduceCtorEq, false_and, exists_false, iff_false]; split <;> nofun
  | some j => simp only [Option.some.injEq, exists_eq_left']; split <;> simp [*]

theorem endOf_eq_raised (acc : C → Bool) (n : Nat) (s : List C) (e : Exn) :
    endOf acc n s = .raised e ↔ e = rej ∧ firstIdx acc s = none ∧ s.length < n := by
  unfold endOf
  cases firstIdx acc s with
  | none => simp only [true_and]; split <;> simp [*, eq_comm]
  | some j => simp only [reduceCtorEq, false_and, and_false, iff_false]; split <;> nofun

theorem firstIdx_append_left (p : C → Bool) {a : List C} (b : List C) (h : ∃ c ∈ a, p c = true) :
    ∃ j, j < a.length ∧ firstIdx p (a ++ b) = some j := by
  obtain ⟨j, hj⟩ := (firstIdx_some_iff p a).mpr h
  exact ⟨j, firstIdx_lt p a hj, by rw [firstIdx_eq, List.findIdx?_append, ← firstIdx_eq, hj]; rfl⟩

theorem bfsSeq_prefix (succ : C → List C) (d n : Nat) (q : List C) (hd : d ≤ n)
    (hn : (concatLevels succ d q).length ≤ n) :
    ∃ t, bfsSeq succ n q = concatLevels succ d q ++ t := by
  obtain ⟨e, rfl⟩ := Nat.le.dest hd
  rw [bfsSeq_eq_levels, concatLevels_add, List.take_append, List.take_of_length_le hn]
  exact ⟨_, rfl⟩

theorem qobs_accept_iff (succ : C → List C) (acc : C → Bool) (q : List C) :
    (∃ n, (qobs succ acc n q).2 = .returned) ↔ ∃ d c, c ∈ lvl succ d q ∧ acc c = true := by
  simp only [qobs_end, endOf_eq_returned]
  constructor
  · rintro ⟨n, j, hj, _⟩
    obtain ⟨c, hc, hp⟩ := (firstIdx_some_iff acc _).mp ⟨j, hj⟩
    rw [bfsSeq_eq_levels] at hc
    obtain ⟨d, _, hd⟩ := (mem_concatLevels succ n q c).mp (List.mem_of_mem_take hc)
    exact ⟨d, c, hd, hp⟩
  · rintro ⟨d, c, hc, hp⟩
    -- a budget that covers the levels up to `d` and two more calls
    obtain ⟨t, ht⟩ := bfsSeq_prefix succ (d + 1) ((concatLevels succ (d + 1) q).length + d + 3) q
      (by omega) (by omega)
    obtain ⟨j, hj, hf⟩ := firstIdx_append_left acc t
      ⟨c, (mem_concatLevels succ (d + 1) q c).mpr ⟨d, Nat.lt_succ_self d, hc⟩, hp⟩
    exact ⟨_, j, ht ▸ hf, by omega⟩

theorem qobs_reject_iff (succ : C → List C) (acc : C → Bool) (q : List C) (e : Exn) :
    (∃ n, (qobs succ acc n q).2 = .raised e) ↔
      e = rej ∧ (∃ D, lvl succ D q = []) ∧ ∀ d c, c ∈ lvl succ d q → acc c = false := by
  simp only [qobs_end, endOf_eq_raised, exists_and_left]
  refine and_congr_right fun _ => ?_
  constructor
  · rintro ⟨n, hf, hlen⟩
    -- the visit order is shorter than the budget: the whole tree was visited
    rw [bfsSeq_eq_levels] at hlen hf
    have hshort : (concatLevels succ n q).length < n := by
      rw [List.length_take] at hlen; omega
    rw [List.take_of_length_le (Nat.le_of_lt hshort)] at hf
    obtain ⟨D, hDn, hD⟩ : ∃ D, D < n ∧ lvl succ D q = [] := by
      apply Classical.byContradiction
      intro hno
      have := concatLevels_length_ge succ n q (fun d hd hnil => hno ⟨d, hd, hnil⟩)
      omega
    refine ⟨⟨D, hD⟩, fun d c hc => ?_⟩
    rcases Nat.lt_or_ge d n with hdn | hdn
    · exact (firstIdx_none_iff acc _).mp hf c ((mem_concatLevels succ n q c).mpr ⟨d, hdn, hc⟩)
    · rw [lvl_eq_nil_of_le succ hD (by omega : D ≤ d)] at hc; cases hc
  · rintro ⟨⟨D, hD⟩, hall⟩
    -- the levels up to `D` are everything; one more call finds the queue empty
    have hseq : bfsSeq succ ((concatLevels succ D q).length + 1 + D) q = concatLevels succ D q := by
      rw [bfsSeq_eq_levels, show (concatLevels succ D q).length + 1 + D = D + ((concatLevels succ D q).length + 1) by omega,
        concatLevels_add, hD, concatLevels_nil, List.append_nil, List.take_of_length_le (by omega)]
    refine ⟨(concatLevels succ D q).length + 1 + D, ?_, ?_⟩
    · rw [hseq, firstIdx_none_iff]
      intro c hc
      obtain ⟨d, _, hd⟩ := (mem_concatLevels succ D q c).mp hc
      exact hall d c hd
    · rw [hseq]; omega

theorem qobs_end_cases (succ : C → List C) (acc : C → Bool) (n : Nat) (q : List C) :
    (qobs succ acc n q).2 = .returned ∨ (qobs succ acc n q).2 = .raised rej ∨
      (qobs succ acc n q).2 = .running := by
  rw [qobs_end]
  unfold endOf
  split <;> split <;> simp

/-- A generator that raises at most `RejectionException`: `accepts_input` on its observation answers. -/
theorem tm_reads {g : GenEnd} (h : ∀ e, g = .raised e → e = .lib .rejectionException) :
    (∀ e, g = .raised e → e = .lib .rejectionException) ∧ ∃ v, verdictOf g = .ok v := by
  refine ⟨h, ?_⟩
  cases g with
  | returned => exact ⟨_, rfl⟩
  | raised e => rw [h e rfl]; exact ⟨_, rfl⟩
  | running => exact ⟨_, rfl⟩

/-- The same from the three-case form of `qobs_end_cases`. -/
theorem tm_reads_of_cases {g : GenEnd}
    (h : g = .returned ∨ g = .raised (.lib .rejectionException) ∨ g = .running) :
    (∀ e, g = .raised e → e = .lib .rejectionException) ∧ ∃ v, verdictOf g = .ok v :=
  tm_reads fun e he => by rcases h with h | h | h <;> rw [h] at he <;> cases he; rfl

/-- `accepts_input` over all budgets, for a generator that ends only by returning or with
`RejectionException`: decided with verdict `v` iff it returns (`accept`) or raises (`reject`)
at some budget. -/
theorem exists_verdict_iff (E : Nat → GenEnd)
    (hE : ∀ n, E n = .returned ∨ E n = .raised (.lib .rejectionException) ∨ E n = .running) {v : Verdict}
    (hv : v ≠ .outOfFuel) :
    (∃ n, verdictOf (E n) = .ok v) ↔
      (v = .accept ∧ ∃ n, E n = .returned) ∨ (v = .reject ∧ ∃ n, E n = .raised (.lib .rejectionException)) := by
  have key : ∀ n, verdictOf (E n) = .ok v ↔
      (v = .accept ∧ E n = .returned) ∨ (v = .reject ∧ E n = .raised (.lib .rejectionException)) := fun n => by
    rcases hE n with h | h | h <;> rw [h] <;> cases v <;> simp [verdictOf] at hv ⊢
  simp only [key, exists_or, exists_and_left]

theorem mem_lvl_congr {succ₁ succ₂ : C → List C} (h : ∀ c x, x ∈ succ₁ c ↔ x ∈ succ₂ c)
    (d : Nat) (q : List C) (c : C) : c ∈ lvl succ₁ d q ↔ c ∈ lvl succ₂ d q := by
  induction d generalizing c with
  | zero => rfl
  | succ d ih =>
    rw [lvl_succ', lvl_succ']
    simp only [List.mem_flatMap]
    constructor
    · rintro ⟨a, ha, hc⟩; exact ⟨a, (ih a).mp ha, (h a c).mp hc⟩
    · rintro ⟨a, ha, hc⟩; exact ⟨a, (ih a).mpr ha, (h a c).mpr hc⟩

theorem qobs_verdict_congr {succ₁ succ₂ : C → List C} (h : ∀ c x, x ∈ succ₁ c ↔ x ∈ succ₂ c)
    (acc : C → Bool) (q : List C) :
    ((∃ n, (qobs succ₁ acc n q).2 = .returned) ↔ ∃ n, (qobs succ₂ acc n q).2 = .returned) ∧
    ((∃ n, (qobs succ₁ acc n q).2 = .raised rej) ↔ ∃ n, (qobs succ₂ acc n q).2 = .raised rej) := by
  have hnil : ∀ D, lvl succ₁ D q = [] ↔ lvl succ₂ D q = [] := fun D => by
    simp only [List.eq_nil_iff_forall_not_mem, mem_lvl_congr h]
  simp only [qobs_accept_iff, qobs_reject_iff, mem_lvl_congr h, hnil, and_self]

end AV.TM.Q
