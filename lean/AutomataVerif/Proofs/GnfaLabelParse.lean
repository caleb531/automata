/-
Proofs/GnfaLabelParse.lean — a one-pass shift/reduce parser `parseLabel` for the GNFA label syntax
(literals, `|`, juxtaposition, postfix `*` `?`, grouping, `()` for the empty string): sound for the
grammar `GnfaSpec.Renders`, complete for the model of `re._validate`.  Hence on non-empty strings
of grammar characters the bracket-counting automaton of `validate_tokens` accepts exactly the
grammar (`parseLabel_iff_valid`).
-/
import AutomataVerif.Proofs.GnfaValid
import AutomataVerif.Proofs.GnfaShapeBridge

namespace AV.GnfaSpec
open AV

/-- The frame of one open bracket (or of the top level).  Its three states are the classes of the
previous token that `validate_tokens` distinguishes:
`empty` — nothing read in this bracket yet (previous token: none / `(`);
`bar u` — the alternatives `u` and a `|` have been read (previous token: `|`);
`item u c p` — alternatives `u?`, the factors `c?` of the current alternative and its last factor
`p`, which may still take a postfix operator (previous token: literal / `)` / postfix). -/
inductive Fr
  | empty
  | bar (u : Rx)
  | item (u : Option Rx) (c : Option Rx) (p : Rx)
  deriving DecidableEq, Repr

/-- The current alternative: factors `c` (if any) followed by the last factor `p`. -/
def altVal : Option Rx → Rx → Rx
  | none, p => p
  | some c, p => .cat c p

def frVal : Option Rx → Option Rx → Rx → Rx
  | none, c, p => altVal c p
  | some u, c, p => .union u (altVal c p)

/-- A new atom `a` (literal, `()`, or a closed bracket) arrives in frame `f`. -/
def pushAtom : Fr → Rx → Fr
  | .empty, a => .item none none a
  | .bar u, a => .item (some u) none a
  | .item u c p, a => .item u (some (altVal c p)) a

def runEnd : Fr → List Fr → Option Rx
  | .item u c p, [] => some (frVal u c p)
  | _, _ => none

def step (top : Fr) (stk : List Fr) (ch : Char) : Option (Fr × List Fr) :=
  if ch = '(' then some (.empty, top :: stk)
  else if ch = ')' then
    match stk with
    | [] => none
    | par :: stk' =>
      match top with
      | .empty => some (pushAtom par .eps, stk')
      | .bar _ => none
      | .item u c p => some (pushAtom par (frVal u c p), stk')
  else if ch = '|' then
    match top with
    | .item u c p => some (.bar (frVal u c p), stk)
    | _ => none
  else if ch = '*' then
    match top with
    | .item u c p => some (.item u c (.star p), stk)
    | _ => none
  else if ch = '?' then
    match top with
    | .item u c p => some (.item u c (.opt p), stk)
    | _ => none
  else if IsLit ch then some (pushAtom top (.sym ch), stk)
  else none

/-- The parser loop: `top` is the innermost frame, `stk` the enclosing ones (innermost first). -/
def run : Fr → List Fr → Str → Option Rx
  | top, stk, [] => runEnd top stk
  | top, stk, ch :: s =>
    match step top stk ch with
    | none => none
    | some (top', stk') => run top' stk' s

/-- **The label parser**.  Proved: `parseLabel s = some e` gives `Renders .U e s`
(`parseLabel_sound`), and a string that renders some expression has some parse
(`parseLabel_iff_valid`); that the parse is the rendered expression itself is not proved. -/
def parseLabel (s : Str) : Option Rx := run .empty [] s

theorem run_cons (top : Fr) (stk : List Fr) (ch : Char) (s : Str) :
    run top stk (ch :: s) =
      match step top stk ch with
      | none => none
      | some (top', stk') => run top' stk' s := rfl

/-- What one character does to the parser state: the successful cases of `step`. -/
inductive StepR : Fr → List Fr → Char → Fr → List Fr → Prop
  | lparen (top : Fr) (stk : List Fr) : StepR top stk '(' .empty (top :: stk)
  | unit (par : Fr) (stk : List Fr) : StepR .empty (par :: stk) ')' (pushAtom par .eps) stk
  | close (u c : Option Rx) (p : Rx) (par : Fr) (stk : List Fr) :
      StepR (.item u c p) (par :: stk) ')' (pushAtom par (frVal u c p)) stk
  | bar (u c : Option Rx) (p : Rx) (stk : List Fr) :
      StepR (.item u c p) stk '|' (.bar (frVal u c p)) stk
  | star (u c : Option Rx) (p : Rx) (stk : List Fr) :
      StepR (.item u c p) stk '*' (.item u c (.star p)) stk
  | opt (u c : Option Rx) (p : Rx) (stk : List Fr) :
      StepR (.item u c p) stk '?' (.item u c (.opt p)) stk
  | lit {ch : Char} (h : IsLit ch) (top : Fr) (stk : List Fr) :
      StepR top stk ch (pushAtom top (.sym ch)) stk

theorem step_iff {top top' : Fr} {stk stk' : List Fr} {ch : Char} :
    step top stk ch = some (top', stk') ↔ StepR top stk ch top' stk' := by
  constructor
  · intro h
    unfold step at h
    split at h
    · cases h; subst ch; exact .lparen ..
    split at h
    · subst ch
      cases stk <;> cases top <;> simp only [reduceCtorEq] at h <;> cases h
      · exact .unit ..
      · exact .close ..
    split at h
    · subst ch; cases top <;> simp only [reduceCtorEq] at h; cases h; exact .bar ..
    split at h
    · subst ch; cases top <;> simp only [reduceCtorEq] at h; cases h; exact .star ..
    split at h
    · subst ch; cases top <;> simp only [reduceCtorEq] at h; cases h; exact .opt ..
    split at h
    · cases h; exact .lit ‹_› ..
    · cases h
  · intro h
    cases h with
    | lit h =>
      obtain ⟨h1, h2, h3, h4, h5⟩ := h.ne
      unfold step
      rw [if_neg h1, if_neg h2, if_neg h3, if_neg h4, if_neg h5, if_pos h]
    | _ => rfl

theorem run_of_step {top top' : Fr} {stk stk' : List Fr} {ch : Char}
    (h : StepR top stk ch top' stk') (s : Str) : run top stk (ch :: s) = run top' stk' s := by
  rw [run_cons, step_iff.mpr h]

/-- `FrR f s`: the frame `f` is what the parser holds after reading `s` inside one bracket. -/
inductive FrR : Fr → Str → Prop
  | empty : FrR .empty []
  | bar {u : Rx} {su : Str} : Renders .U u su → FrR (.bar u) (su ++ ['|'])
  | item1 {p : Rx} {sp : Str} : Renders .P p sp → FrR (.item none none p) sp
  | item2 {c p : Rx} {sc sp : Str} : Renders .C c sc → Renders .P p sp →
      FrR (.item none (some c) p) (sc ++ sp)
  | item3 {u p : Rx} {su sp : Str} : Renders .U u su → Renders .P p sp →
      FrR (.item (some u) none p) (su ++ '|' :: sp)
  | item4 {u c p : Rx} {su sc sp : Str} : Renders .U u su → Renders .C c sc → Renders .P p sp →
      FrR (.item (some u) (some c) p) (su ++ '|' :: (sc ++ sp))

/-- The whole string: the segments read in the enclosing brackets (`List.Forall₂ FrR stk ss`), each
followed by its `(`, then the rest. -/
def wrap : List Str → Str → Str
  | [], t => t
  | sp :: rest, t => wrap rest (sp ++ '(' :: t)

theorem FrR.val {u c : Option Rx} {p : Rx} {s : Str} (h : FrR (.item u c p) s) :
    Renders .U (frVal u c p) s := by
  cases h with
  | item1 hp => exact .ofC (.ofP hp)
  | item2 hc hp => exact .ofC (.cat hc hp)
  | item3 hu hp => exact .union hu (.ofP hp)
  | item4 hu hc hp => exact .union hu (.cat hc hp)

theorem FrR.push {f : Fr} {s : Str} (h : FrR f s) {a : Rx} {sa : Str} (ha : Renders .P a sa) :
    FrR (pushAtom f a) (s ++ sa) := by
  cases h with
  | empty => exact .item1 ha
  | bar hu => rw [List.append_assoc]; exact .item3 hu ha
  | item1 hp => exact .item2 (.ofP hp) ha
  | item2 hc hp => exact .item2 (.cat hc hp) ha
  | item3 hu hp =>
    rw [List.append_assoc]; simp only [List.cons_append]
    exact .item4 hu (.ofP hp) ha
  | item4 hu hc hp =>
    rw [List.append_assoc]; simp only [List.cons_append]
    rw [List.append_assoc]
    have := FrR.item4 hu (.cat hc hp) ha
    simpa [pushAtom, altVal, List.append_assoc] using this

theorem FrR.post {u c : Option Rx} {p : Rx} {s : Str} (h : FrR (.item u c p) s) {p' : Rx}
    {x : Char} (hp : ∀ sp, Renders .P p sp → Renders .P p' (sp ++ [x])) :
    FrR (.item u c p') (s ++ [x]) := by
  cases h with
  | item1 h1 => exact .item1 (hp _ h1)
  | item2 hc h1 => rw [List.append_assoc]; exact .item2 hc (hp _ h1)
  | item3 hu h1 =>
    rw [List.append_assoc]; simp only [List.cons_append]; exact .item3 hu (hp _ h1)
  | item4 hu hc h1 =>
    rw [List.append_assoc]; simp only [List.cons_append]; rw [List.append_assoc]
    exact .item4 hu hc (hp _ h1)

theorem runEnd_eq_some {top : Fr} {stk : List Fr} {e : Rx} :
    runEnd top stk = some e ↔ stk = [] ∧ ∃ u c p, top = .item u c p ∧ frVal u c p = e := by
  cases top <;> cases stk <;> simp [runEnd]

theorem run_sound : ∀ (s : Str) (top : Fr) (stk : List Fr) (e : Rx), run top stk s = some e →
    ∀ (st : Str) (ss : List Str), FrR top st → List.Forall₂ FrR stk ss →
      Renders .U e (wrap ss (st ++ s)) := by
  intro s
  induction s with
  | nil =>
    intro top stk e h st ss ht hc
    obtain ⟨rfl, u, c, p, rfl, rfl⟩ := runEnd_eq_some.mp h
    cases hc
    simpa [wrap] using ht.val
  | cons ch s ih =>
    intro top stk e h st ss ht hc
    have hstep : st ++ ch :: s = (st ++ [ch]) ++ s := by simp
    rw [run_cons] at h
    cases hs : step top stk ch with
    | none => rw [hs] at h; cases h
    | some r =>
      obtain ⟨top', stk'⟩ := r
      rw [hs] at h
      cases step_iff.mp hs with
      | lparen => simpa [wrap] using ih .empty (top :: stk) e h [] (st :: ss) .empty (.cons ht hc)
      | unit par stk' =>
        cases hc with
        | @cons _ sp _ ss' hpar hc' =>
          cases ht
          simpa [wrap, List.append_assoc] using
            ih _ _ e h (sp ++ ['(', ')']) ss' (hpar.push .emp) hc'
      | close u c p par stk' =>
        cases hc with
        | @cons _ sp _ ss' hpar hc' =>
          simpa [wrap, List.append_assoc] using
            ih _ _ e h (sp ++ ('(' :: st ++ [')'])) ss' (hpar.push (.paren ht.val)) hc'
      | bar => rw [hstep]; exact ih _ _ e h (st ++ ['|']) ss (.bar ht.val) hc
      | star => rw [hstep]; exact ih _ _ e h (st ++ ['*']) ss (ht.post fun _ hp => .star hp) hc
      | opt => rw [hstep]; exact ih _ _ e h (st ++ ['?']) ss (ht.post fun _ hp => .opt hp) hc
      | lit h6 => rw [hstep]; exact ih _ _ e h (st ++ [ch]) ss (ht.push (.sym h6)) hc

theorem parseLabel_sound {s : Str} {e : Rx} (h : parseLabel s = some e) : Renders .U e s := by
  have := run_sound s .empty [] e h [] [] .empty .nil
  simpa [wrap] using this

section complete
open AV.Rx (Tok Ph Adj Adj_op phOf delta scan_drives validateTokens_ok_iff
  base_rparen base_union base_star base_opt)
open AV.GNFA.ReValidate (tokC)

theorem pushAtom_item (f : Fr) (a : Rx) : ∃ u c p, pushAtom f a = .item u c p := by
  cases f <;> exact ⟨_, _, _, rfl⟩

/-- The parser as a machine that follows `validate_tokens` (`AV.Rx.scan_drives`): after the prefix
`pre` it holds as many frames as there are open brackets, the innermost one in the phase of the
previous token. -/
def PInv (d : Nat) (ph : Ph) (pre : Str) : Prop :=
  ∃ top stk, (∀ rest, parseLabel (pre ++ rest) = run top stk rest) ∧ d = stk.length ∧
    match ph with
    | .start => top = .empty
    | .afterOp => ∃ u, top = .bar u
    | .done => ∃ u c p, top = .item u c p

/-- A character that `validate_tokens` lets through is one the parser has a step for. -/
theorem PInv.step {d : Nat} {ph : Ph} {pre : Str} {ch : Char} (h : PInv d ph pre) (hch : RChar ch)
    (hadj : Adj ph (some (tokC ch).base) = true) (hr : (tokC ch).base = .rparen → 1 ≤ d) :
    ∃ d' : Nat, (d' : Int) = d + delta (some (tokC ch)) ∧
      PInv d' (phOf (some (tokC ch))) (pre ++ [ch]) := by
  obtain ⟨top, stk, hrun, hlen, hm⟩ := h
  suffices ∃ (d' : Nat) (top' : Fr) (stk' : List Fr),
      StepR top stk ch top' stk' ∧ (d' : Int) = d + delta (some (tokC ch)) ∧
      d' = stk'.length ∧
      match phOf (some (tokC ch)) with
      | .start => top' = .empty
      | .afterOp => ∃ u, top' = .bar u
      | .done => ∃ u c p, top' = .item u c p by
    obtain ⟨d', top', stk', h1, h2, h3⟩ := this
    exact ⟨d', h2, top', stk',
      fun rest => by rw [List.append_assoc, hrun, List.singleton_append, run_of_step h1], h3⟩
  rcases hch with rfl | rfl | rfl | rfl | rfl | hl
  · exact ⟨d + 1, .empty, top :: stk, .lparen .., rfl, by simp [hlen], rfl⟩
  · have ht : tokC ')' = .rparen := rfl
    rw [ht] at hadj hr ⊢
    cases stk with
    | nil => exact absurd (hr base_rparen) (by simp [hlen])
    | cons par stk' =>
      have hd : (stk'.length : Int) = d + delta (some (.rparen : Tok Char)) := by
        simp [delta, hlen]; omega
      cases top with
      | empty => exact ⟨_, _, stk', .unit .., hd, rfl, pushAtom_item par .eps⟩
      | bar u => cases ph <;> simp [Adj] at hm hadj
      | item u c p =>
        exact ⟨_, _, stk', .close .., hd, rfl, pushAtom_item par (frVal u c p)⟩
  · obtain rfl := Adj_op hadj (.inl base_union)
    obtain ⟨u, c, p, rfl⟩ := hm
    exact ⟨d, .bar (frVal u c p), stk, .bar .., by simp [tokC, AV.Rx.opTok, delta], hlen, _, rfl⟩
  · obtain rfl := Adj_op hadj (.inr base_star)
    obtain ⟨u, c, p, rfl⟩ := hm
    exact ⟨d, .item u c (.star p), stk, .star .., by simp [tokC, AV.Rx.opTok, delta], hlen, _, _, _, rfl⟩
  · obtain rfl := Adj_op hadj (.inr base_opt)
    obtain ⟨u, c, p, rfl⟩ := hm
    exact ⟨d, .item u c (.opt p), stk, .opt .., by simp [tokC, AV.Rx.opTok, delta], hlen, _, _, _, rfl⟩
  · rw [tokC_lit hl]
    exact ⟨d, _, stk, .lit hl .., by simp [delta], hlen, pushAtom_item top (.sym ch)⟩

theorem parseLabel_complete {s : Str} (hne : s ≠ []) (hch : ∀ c ∈ s, RChar c)
    (hv : simpleRxValid s = .ok true) : ∃ e, parseLabel s = some e := by
  have hV := (simpleRxValid_iff_of_rchars hch).mp hv
  rcases scan_drives tokC (I := PInv) PInv.step s [] none 0 ⟨.empty, [], fun _ => rfl, rfl, rfl⟩
    (Int.le_refl 0) hch ((validateTokens_ok_iff _).mp hV) with ⟨-, h⟩ | ⟨top, stk, hrun, hlen, u, c, p, rfl⟩
  · exact absurd h hne
  · obtain rfl : stk = [] := List.length_eq_zero_iff.mp hlen.symm
    exact ⟨_, (List.append_nil s ▸ hrun []).trans rfl⟩

end complete

theorem parseLabel_iff_valid {s : Str} (hne : s ≠ []) (hch : ∀ c ∈ s, RChar c) :
    (simpleRxValid s = .ok true ↔ ∃ e, parseLabel s = some e) ∧
    ((∃ e, parseLabel s = some e) ↔ ∃ e, Renders .U e s) := by
  refine ⟨⟨parseLabel_complete hne hch, ?_⟩, ⟨?_, ?_⟩⟩
  · rintro ⟨e, he⟩; exact (parseLabel_sound he).valid
  · rintro ⟨e, he⟩; exact ⟨e, parseLabel_sound he⟩
  · rintro ⟨e, he⟩; exact parseLabel_complete hne hch he.valid

/-- The language a label string denotes: `""` is ε (the library's special case), a string with a
parse denotes the language of its expression, anything else nothing. -/
def labelDen (s : Str) : Language Char :=
  if s = [] then 1 else
    match parseLabel s with
    | some e => e.den
    | none => 0

theorem strLabelCheck_lab {syms : List Char} (hlit : ∀ a ∈ syms, IsLit a) {s : Str}
    (h : strLabelCheck simpleRxValid syms s = .ok ()) : Lab (labelDen s) s := by
  obtain ⟨hch, hv⟩ := GNFA.strLabelCheck_eq_ok.mp h
  by_cases hs : s = []
  · subst hs; exact Or.inl ⟨rfl, by simp [labelDen]⟩
  · obtain ⟨e, he⟩ := parseLabel_complete hs (fun c hc => rchar_of_mem hlit (hch c hc)) hv
    refine Or.inr ⟨e, parseLabel_sound he, ?_⟩
    simp [labelDen, hs, he]

end AV.GnfaSpec
