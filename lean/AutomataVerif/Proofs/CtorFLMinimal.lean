/-
Proofs/CtorFLMinimal.lean — from_finite_language (C15), minimality: at the end every state but
the root is registered, so `RegDist` and a longest word of the language (accepted from the root
only) tell any two states apart; every state is reachable and live.  Core only.
-/
import AutomataVerif.Proofs.CtorFLDfa

namespace AV.Ctor.FL

variable {α : Type} [DecidableEq α]

section finalMin
variable {added : List (List α)} {last : List α} {s : FLState α} {φ : List α → List α}
variable (syms : List α) (inv : FLInv added last 0 s φ) (hadd : added ≠ [])
variable (hover : ∀ w ∈ added, ∀ c ∈ w, c ∈ syms) (hD : RegDist s)
include inv hadd hover

omit hadd hover in
theorem reg_final (q : List α) : q ∈ avals s.sigs ↔ q ∈ akeys s.trans ∧ q ≠ [] := by
  rw [inv.regIff]
  refine and_congr_right fun _ => ⟨fun h => h 0 (Nat.le_refl _), fun h i hi => ?_⟩
  rwa [Nat.le_zero.mp hi]

omit [DecidableEq α] inv hadd hover in
theorem inTrie_over (hover : ∀ w ∈ added, ∀ c ∈ w, c ∈ syms) (p : List α) (hp : InTrie added p) :
    Over syms p := by
  obtain ⟨w, hw, hpw⟩ := hp
  exact fun c hc => hover w hw c (hpw.subset hc)

omit hadd in
theorem acc_over (w q : List α) (hq : q ∈ akeys s.trans) (h : accFrom s q w = true) : Over syms w := by
  obtain ⟨p, hp, rfl⟩ := inv.surj q hq
  exact (over_append.mp (hover _ ((accFrom_trie inv hp w).mp h))).2

omit hover in
/-- The root against any other state: a longest word of the language is accepted from the root
only. -/
theorem root_dist (q : List α) (hq : q ∈ akeys s.trans) (hne : q ≠ []) :
    ∃ u, accFrom s [] u = true ∧ accFrom s q u = false := by
  obtain ⟨u0, hu0, hmax⟩ := exists_max_length added hadd
  refine ⟨u0, (accFrom_root inv hadd u0).mpr hu0, Bool.eq_false_iff.mpr fun h => ?_⟩
  obtain ⟨p, hp, rfl⟩ := inv.surj q hq
  have hlen := hmax _ ((accFrom_trie inv hp u0).mp h)
  rw [List.length_append] at hlen
  exact hne (by rw [List.eq_nil_of_length_eq_zero (by omega : p.length = 0)]; exact φ_root inv)

include hD in
theorem keys_dist (q1 q2 : List α) (h1 : q1 ∈ akeys s.trans) (h2 : q2 ∈ akeys s.trans) (hne : q1 ≠ q2) :
    ∃ w, Over syms w ∧ accFrom s q1 w ≠ accFrom s q2 w := by
  have hover_of : ∀ w, accFrom s q1 w ≠ accFrom s q2 w → Over syms w := by
    intro w hw
    cases h : accFrom s q1 w with
    | true => exact acc_over syms inv hover w q1 h1 h
    | false =>
      cases h' : accFrom s q2 w with
      | true => exact acc_over syms inv hover w q2 h2 h'
      | false => rw [h, h'] at hw; exact absurd rfl hw
  have hex : ∃ w, accFrom s q1 w ≠ accFrom s q2 w := by
    by_cases e1 : q1 = []
    · obtain ⟨u, hu1, hu2⟩ := root_dist inv hadd q2 h2 (fun e => hne (e1.trans e.symm))
      exact ⟨u, by rw [e1, hu1, hu2]; exact Bool.noConfusion⟩
    · by_cases e2 : q2 = []
      · obtain ⟨u, hu1, hu2⟩ := root_dist inv hadd q1 h1 e1
        exact ⟨u, by rw [e2, hu1, hu2]; exact Bool.noConfusion⟩
      · exact hD q1 ((reg_final inv q1).mpr ⟨h1, e1⟩) q2 ((reg_final inv q2).mpr ⟨h2, e2⟩) hne
  obtain ⟨w, hw⟩ := hex
  exact ⟨w, hover_of w hw, hw⟩

include hD in
theorem fl_minimalO :
    MinimalO syms (stepO (look s))
      (fun x => ∃ q, q ∈ akeys s.trans ∧ x = some q) (finO s · = true) (some []) where
  reach := by
    rintro _ ⟨q, hq, rfl⟩
    obtain ⟨p, hp, rfl⟩ := inv.surj q hq
    exact ⟨p, inTrie_over syms hover p hp, (runO_root inv hadd p).trans (if_pos hp)⟩
  dist := by
    rintro _ ⟨q1, h1, rfl⟩ _ ⟨q2, h2, rfl⟩ hne
    obtain ⟨w, hw, hd⟩ := keys_dist syms inv hadd hover hD q1 q2 h1 h2 fun e => hne (e ▸ rfl)
    exact ⟨w, hw, fun e => hd (Bool.eq_iff_iff.mpr e)⟩

omit hadd in
theorem fl_live (q : List α) (hq : q ∈ akeys s.trans) :
    ∃ w, Over syms w ∧ finO s (runO (look s) (some q) w) = true :=
  let ⟨u, hu⟩ := key_live inv q hq
  ⟨u, acc_over syms inv hover u q hq hu, hu⟩

include hD in
theorem flPartial_minimal : MinimalPartialShape (flPartialDFA syms s) :=
  (flPartial_simulates syms inv).minimalPartial (fun x => (flTrans_keys s x).mp)
    (flTrans_keysNodup inv.keysNodup) rfl (root_key inv hadd) (fl_minimalO syms inv hadd hover hD)
    (fl_live syms inv hover)

include hD in
/-- **Minimality, complete form**: a longest word followed by one more symbol falls out of the
trie, so the trap state is reachable as soon as the alphabet is not empty. -/
theorem flComplete_minimal (a : α) (ha : a ∈ syms) : MinimalShape (flCompleteDFA syms (s := s)) := by
  obtain ⟨u0, hu0, hmax⟩ := exists_max_length added hadd
  refine (flComplete_simulates syms inv).minimal (fun _ => id) (fun x hx => ?_)
    (flComplete_keysNodup syms inv) (k0 := some []) rfl
    (fun _ e => Option.some.inj e ▸ root_key inv hadd)
    ((fl_minimalO syms inv hadd hover hD).trap (fun e => nomatch e) (fl_live syms inv hover)
      ⟨u0 ++ [a], over_append.mpr ⟨hover u0 hu0, by simpa using ha⟩, ?_⟩)
  · rcases (flComplete_keys syms x).mp hx with rfl | ⟨q, hq, rfl⟩
    · exact ⟨none, fun _ e => (nomatch e), rfl⟩
    · exact ⟨some q, fun _ e => Option.some.inj e ▸ hq, rfl⟩
  · rw [runO_root inv hadd, if_neg]
    rintro ⟨w, hw, hpw⟩
    have h1 := hpw.length_le
    have h2 := hmax w hw
    rw [List.length_append, List.length_singleton] at h1
    omega

end finalMin

/-- What the chain establishes about `from_finite_language` for a duplicate-free non-empty
language: the record handed to `cls(…)`, rejected when a word has a symbol outside the alphabet,
otherwise minimal, and (the complete form for a duplicate-free alphabet) valid with the language
`lang`. -/
theorem fromFiniteLanguage_spec {lt : α → α → Bool} (ho : StrictTotal lt) (syms : List α)
    (lang : List (List α)) (hne : lang ≠ []) (hnd : lang.Nodup) (asPartial : Bool) :
    ∃ D, fromFiniteLanguage lt syms lang asPartial = build D ∧ D.syms = syms ∧
      D.allowPartial = asPartial ∧
      ((∃ w ∈ lang, ∃ c ∈ w, c ∉ syms) → ¬ D.WF) ∧
      ((∀ w ∈ lang, ∀ c ∈ w, c ∈ syms) →
        (asPartial = true → MinimalPartialShape D) ∧
        (asPartial = false → syms ≠ [] → MinimalShape D) ∧
        (asPartial = true ∨ syms.Nodup → D.WF ∧ ∀ w, D.accepts w = true ↔ Over syms w ∧ w ∈ lang)) := by
  obtain ⟨added, last, s, φ, hmem, hadd, inv, hD, he⟩ :=
    fromFiniteLanguage_eq ho syms lang asPartial hne hnd
  have hover' : (∀ w ∈ lang, ∀ c ∈ w, c ∈ syms) → ∀ w ∈ added, ∀ c ∈ w, c ∈ syms :=
    fun hover w hw => hover w ((hmem w).mp hw)
  cases asPartial with
  | true =>
    refine ⟨_, he, rfl, rfl, fun ⟨w, hw, c, hc, hcs⟩ =>
      flPartial_not_wf syms inv w ((hmem w).mpr hw) c hc hcs, fun hover => ?_⟩
    exact ⟨fun _ => flPartial_minimal syms inv hadd (hover' hover) hD, (fun h => nomatch h),
      fun _ => ⟨flPartial_wf syms inv hadd (hover' hover), fun w => by
        rw [flPartial_accepts syms inv hadd (hover' hover) w, hmem]⟩⟩
  | false =>
    refine ⟨_, he, rfl, rfl, fun ⟨w, hw, c, hc, hcs⟩ =>
      flComplete_not_wf syms inv w ((hmem w).mpr hw) c hc hcs, fun hover => ?_⟩
    refine ⟨(fun h => nomatch h), fun _ hs => ?_, fun h => ?_⟩
    · obtain ⟨a, ha⟩ := List.exists_mem_of_ne_nil syms hs
      exact flComplete_minimal syms inv hadd (hover' hover) hD a ha
    · have hs : syms.Nodup := h.resolve_left fun e => nomatch e
      exact ⟨flComplete_wf syms inv hadd (hover' hover) hs, fun w => by
        rw [flComplete_accepts syms inv hadd (hover' hover) hs w, hmem]⟩

end AV.Ctor.FL
