/-
Proofs/CtorSubseq.lean — from_subsequence (C15). Core only.
-/
import AutomataVerif.Proofs.CtorSimple

namespace AV.Ctor

variable {α : Type} [DecidableEq α]

section subseq
variable (syms p : List α)

def subseqRow (i : Nat) : List (α × Int) :=
  match p[i]? with
  | some c => ainsert c (nat i + 1) (rowOf syms fun _ => nat i)
  | none => rowOf syms fun _ => nat i

def subseqStep (i : Nat) (a : α) : Nat := if p[i]? = some a then i + 1 else i

def subseqDFA (contains : Bool) : DFA Int α :=
  flagDFA syms (List.range (p.length + 1)) nat (subseqRow syms p) 0 p.length contains

theorem subseqRows_eq :
    subseqRows syms p = tableOf (List.range (p.length + 1)) nat (subseqRow syms p) := by
  unfold subseqRows
  rw [zipIdx_ladder (fun c i => ainsert c (nat i + 1) (rowOf syms fun _ => nat i)) p
    (subseqRow syms p), ainsert_ladder]
  · rw [subseqRow, List.getElem?_eq_none (Nat.le_refl _)]
  · intro i hi; rw [subseqRow, List.getElem?_eq_getElem hi]

theorem fromSubsequence_eq (contains : Bool) :
    fromSubsequence syms p contains = build (subseqDFA syms p contains) := by
  unfold fromSubsequence
  rw [subseqRows_eq]
  rfl

theorem subseq_sim (hp : Over syms p) :
    Sim syms (List.range (p.length + 1)) nat (subseqRow syms p) (subseqStep p) := by
  refine Sim.ofLadder fun i hi => ?_
  unfold subseqRow
  cases h : p[i]? with
  | none => exact .const hi fun a => by rw [subseqStep, h]; exact if_neg fun e => nomatch e
  | some c =>
    refine (LadderRow.const hi fun _ => rfl).ainsert (j' := i + 1) (hp c (List.mem_of_getElem? h))
      (Nat.succ_lt_succ (List.getElem?_eq_some_iff.mp h).1) fun a => ?_
    rw [subseqStep, h]
    by_cases e : c = a <;> simp [e]

/-- Greedy matching is complete: the ladder reaches the top iff the rest of the pattern is a
subsequence of the word read. -/
theorem subseq_fold_drop (w : List α) (i : Nat) (hi : i ≤ p.length) :
    w.foldl (subseqStep p) i = p.length ↔ (p.drop i).Sublist w := by
  induction w generalizing i with
  | nil =>
    rw [List.foldl_nil, List.sublist_nil, List.drop_eq_nil_iff]
    exact ⟨fun e => e ▸ Nat.le_refl _, Nat.le_antisymm hi⟩
  | cons a w ih =>
    rw [List.foldl_cons, subseqStep]
    split
    · next h =>
      obtain ⟨hlt, e⟩ := List.getElem?_eq_some_iff.mp h
      rw [ih (i + 1) hlt, List.drop_eq_getElem_cons hlt, e, List.cons_sublist_cons]
    · next h =>
      rw [ih i hi, List.sublist_cons_iff]
      refine ⟨Or.inl, fun h2 => h2.elim id fun ⟨r, hr, _⟩ => absurd ?_ h⟩
      have hlt : i < p.length := Nat.lt_of_not_le fun h3 => by
        rw [List.drop_eq_nil_of_le h3] at hr; cases hr
      rw [List.drop_eq_getElem_cons hlt] at hr
      rw [List.getElem?_eq_getElem hlt, (List.cons.inj hr).1]

theorem subseq_fold (w : List α) : w.foldl (subseqStep p) 0 = p.length ↔ p.Sublist w :=
  subseq_fold_drop p w 0 (Nat.zero_le _)

theorem subseqDFA_minimal (hp : Over syms p) (contains : Bool) :
    MinimalShape (subseqDFA syms p contains) :=
  (subseq_sim syms p hp).minimal_pattern hp contains p.Sublist (fun w _ => subseq_fold p w)
    (fun _ hi => if_pos (List.getElem?_eq_getElem hi)) fun _ h => h.length_le

end subseq

end AV.Ctor
