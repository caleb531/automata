/-
Proofs/RxPipeline.lean — the stages of `NFA.from_regex` put together: `from_regex` is the NFA
constructor applied to `parse_regex` (`construct`), `parse_regex` after a successful lexing is
the token pipeline, and on a token list of the grammar the token pipeline is the builder run of
the tree.  Also the empty / blank-only string, and where the symbol tokens of a phrase come from.
Core only.
-/
import AutomataVerif.Proofs.RxSyms
import AutomataVerif.Proofs.RxBuilder
import AutomataVerif.Proofs.RxShunt
import AutomataVerif.Proofs.RxLexTotal

namespace AV.Rx

variable {α : Type}

theorem lits_mem_tokens {l : Lvl} {e : Rx α} {ts : List (Tok α)} (h : G l e ts) :
    ∀ a ∈ e.lits, Tok.str [a] ∈ ts := by
  induction h with
  | lit a => intro x hx; simp [Rx.lits] at hx; subst hx; simp
  | wild | eps => intro x hx; simp [Rx.lits] at hx
  | paren _ ih => exact fun x hx => List.mem_cons_of_mem _ (List.mem_append_left _ (ih x hx))
  | atom _ ih | factor _ ih | term _ ih => exact ih
  | star _ ih | plus _ ih | opt _ ih | quant _ _ _ ih =>
    exact fun x hx => List.mem_append_left _ (ih x hx)
  | cat _ _ ih1 ih2 =>
    intro x hx
    rcases List.mem_append.mp hx with h | h
    · exact List.mem_append_left _ (ih1 x h)
    · exact List.mem_append_right _ (ih2 x h)
  | union _ _ ih1 ih2 | inter _ _ ih1 ih2 | shuffle _ _ ih1 ih2 =>
    intro x hx
    rcases List.mem_append.mp hx with h | h
    · exact List.mem_append_left _ (List.mem_append_left _ (ih1 x h))
    · exact List.mem_append_right _ (ih2 x h)

variable [DecidableEq α]

/-- The NFA constructor (with its `validate()`) applied to what `parse_regex` returns.
`fromRegex s o = construct syms (parseRegex s syms)` says that the alphabet argument `o` resolves
to `syms`: statements about `from_regex` are proved once under this hypothesis and hold for the
default and for an explicit alphabet by `fromRegex_none_eq`, `fromRegex_some_eq`. -/
def construct (syms : List α) : Res (Builder α) → Res (NFA Nat α)
  | .error e => .error e
  | .ok b =>
      match (b.toNFA syms).validate with
      | .error e => .error e
      | .ok _ => .ok (b.toNFA syms)

theorem construct_ok {syms : List α} {b : Builder α} (hv : (b.toNFA syms).validate = .ok ()) :
    construct syms (.ok b) = .ok (b.toNFA syms) := by
  simp only [construct, hv]

theorem fromRegex_none_eq (s : List Char) :
    fromRegex s none = construct (defaultSyms s) (parseRegex s (defaultSyms s)) := by
  simp only [fromRegex]
  cases parseRegex s (defaultSyms s) <;> rfl

theorem fromRegex_some_eq (s : List Char) {syms : List Char}
    (hres : ∀ c ∈ syms, isReserved c = false) :
    fromRegex s (some syms) = construct syms (parseRegex s syms) := by
  have hany : syms.any isReserved = false :=
    List.any_eq_false.mpr fun c hc => by simp [hres c hc]
  simp only [fromRegex, hany, Bool.false_eq_true, if_false]
  cases parseRegex s syms <;> rfl

/-- Also on the empty string, which `parse_regex` treats apart and which lexes to no token. -/
theorem parseRegex_of_lex {s : List Char} {ts : List (Tok Char)} (hlex : lex s = .ok ts)
    (syms : List Char) : parseRegex s syms = parseTokens syms ts := by
  cases s with
  | nil => cases hlex; rfl
  | cons c r => simp only [parseRegex, List.isEmpty_cons, Bool.false_eq_true, if_false, hlex]

theorem parseRegex_of_lex_error {s : List Char} {e : Exn} (hlex : lex s = .error e)
    (syms : List Char) : parseRegex s syms = .error e := by
  cases s with
  | nil => cases hlex
  | cons c r => simp only [parseRegex, List.isEmpty_cons, Bool.false_eq_true, if_false, hlex]

theorem fromRegex_of_lex {s : List Char} {ts : List (Tok Char)} (hlex : lex s = .ok ts)
    {o : Option (List Char)} {syms : List Char}
    (ho : fromRegex s o = construct syms (parseRegex s syms)) :
    fromRegex s o = construct syms (parseTokens syms ts) := by
  rw [ho, parseRegex_of_lex hlex]

theorem fromRegex_of_lex_error {s : List Char} {e : Exn} (hlex : lex s = .error e)
    {o : Option (List Char)} {syms : List Char}
    (ho : fromRegex s o = construct syms (parseRegex s syms)) : fromRegex s o = .error e := by
  rw [ho, parseRegex_of_lex_error hlex]
  rfl

theorem parseTokens_of_grammar (syms : List α) {e : Rx α} {ts : List (Tok α)} (h : G .E e ts) :
    parseTokens syms ts =
      match e.build syms 0 with
      | .error x => .error x
      | .ok (b, _) => .ok b := by
  have hne : ts.isEmpty = false := List.isEmpty_eq_false_iff.mpr h.ne_nil
  simp only [parseTokens, hne, validate_of_grammar h, parse_postfix h, evalPostfix_tree,
    Bool.false_eq_true, if_false]
  rfl

theorem parseTokens_of_validate_error (syms : List α) {ts : List (Tok α)} {e : Exn} (hne : ts ≠ [])
    (h : validateTokens ts = .error e) : parseTokens syms ts = .error e := by
  simp only [parseTokens, List.isEmpty_eq_false_iff.mpr hne, h, Bool.false_eq_true, if_false]

theorem mem_defaultSyms {s : List Char} {a : Char} :
    a ∈ defaultSyms s ↔ a ∈ s ∧ isReserved a = false := by
  unfold defaultSyms
  rw [mem_dedup, List.mem_filter, Bool.not_eq_true']

theorem renders_str_mem {ts : List (Tok Char)} {s : List Char} (h : Renders ts s) :
    ∀ a, Tok.str [a] ∈ ts → a ∈ defaultSyms s := by
  suffices ∀ a, Tok.str [a] ∈ ts → a ∈ s ∧ isReserved a = false from
    fun a ha => mem_defaultSyms.mpr (this a ha)
  induction h with
  | nil => intro a ha; simp at ha
  | blank c _ _ ih =>
    intro a ha
    obtain ⟨h1, h2⟩ := ih a ha
    exact ⟨List.mem_cons_of_mem _ h1, h2⟩
  | tok ht _ ih =>
    intro a ha
    rcases List.mem_cons.mp ha with h | h
    · cases ht with
      | sym c hc =>
        cases h
        exact ⟨by simp, hc.2⟩
      | _ => cases h
    · obtain ⟨h1, h2⟩ := ih a h
      exact ⟨List.mem_append_right _ h1, h2⟩

theorem renders_blanks {s : List Char} (h : ∀ c ∈ s, isBlank c = true) : Renders [] s := by
  induction s with
  | nil => exact .nil
  | cons c r ih =>
    exact .blank c (h c (by simp)) (ih (fun c' h' => h c' (List.mem_cons_of_mem _ h')))

theorem parseRegex_blanks {s : List Char} (h : ∀ c ∈ s, isBlank c = true) (syms : List Char) :
    parseRegex s syms = .ok (Builder.fromStringLiteral ([] : List Char) 0).1 :=
  parseRegex_of_lex (lex_renders (renders_blanks h)) syms

theorem epsNFA_valid (syms : List α) :
    ((Builder.fromStringLiteral ([] : List α) 0).1.toNFA syms).validate = .ok () :=
  (Built.eps (· ∈ syms) 0).toNFA_valid fun _ h => h

theorem fromRegex_blanks {s : List Char} (h : ∀ c ∈ s, isBlank c = true) {o : Option (List Char)}
    {syms : List Char} (ho : fromRegex s o = construct syms (parseRegex s syms)) :
    fromRegex s o = .ok ((Builder.fromStringLiteral ([] : List Char) 0).1.toNFA syms) := by
  rw [ho, parseRegex_blanks h, construct_ok (epsNFA_valid syms)]

end AV.Rx
