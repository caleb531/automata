/-
Proofs/CompareEqPick.lean — `DFA.__eq__` is exact: `DFA.eqvPick pick` (Model/DFAEqPick.lean) for
EVERY representative choice `pick` of the union–find, by the generic Hopcroft–Karp theorems of
Proofs/HK.lean on the disjoint union of the operands; `DFA.eqv` (Model/DFACompare.lean) is the
policy "the first root survives" (Proofs/CompareHK.lean).
-/
import AutomataVerif.Model.DFAEqPick
import AutomataVerif.Proofs.CompareEq
import AutomataVerif.Proofs.CompareHK

namespace AV
namespace DFA
namespace EqPick

variable {σ α : Type} [DecidableEq σ] [DecidableEq α]

theorem hkStep_eq (A B : DFA σ α) : A.hkStep B = eqStep A B := rfl
set_option linter.unusedSectionVars false in
theorem hkFin_eq (A B : DFA σ α) : A.hkFin B = eqFin A B := rfl

theorem eqvPick_spec (pick : HKG.UF (EqState σ) → EqState σ → EqState σ → Bool)
    (A B : DFA σ α) (hA : A.validate = .ok ()) (hB : B.validate = .ok ())
    (hs : A.symsEq B = true) :
    ∃ b, A.eqvPick pick B = .val b ∧ (b = true ↔ ∀ w, A.accepts w = B.accepts w) := by
  have wfA := (DFA.validate_eq_ok A).mp hA
  have wfB := (DFA.validate_eq_ok B).mp hB
  obtain ⟨ha, hb⟩ := init_mem_eqUniv wfA wfB
  obtain ⟨v, hv, hiff⟩ := HKG.run_decides (A.hkStep B) (A.hkFin B) A.syms pick (A.eqUniv B)
    (eqUniv_closed A B) _ _ ha hb (A.eqFuel B) (by rw [length_eqUniv]; unfold eqFuel; omega)
    (eqFin_run_left A B) (eqFin_run_right A B)
    (fun _ => accepts_eq_false wfA) fun _ hw =>
      accepts_eq_false wfB fun h => hw fun a ha => ((C04.symsEq_iff A B).mp hs a).mpr (h a ha)
  refine ⟨v, ?_, hiff⟩
  unfold eqvPick
  simp only [hs, Bool.not_true, Bool.false_eq_true, if_false]
  rw [hv]

theorem eqvPick_pick_irrelevant (pick pick' : HKG.UF (EqState σ) → EqState σ → EqState σ → Bool)
    (A B : DFA σ α) (hA : A.validate = .ok ()) (hB : B.validate = .ok ())
    (hs : A.symsEq B = true) : A.eqvPick pick B = A.eqvPick pick' B :=
  same_answer (eqvPick_spec pick A B hA hB hs) (eqvPick_spec pick' A B hA hB hs)

theorem eqvPick_notImplemented_iff (pick : HKG.UF (EqState σ) → EqState σ → EqState σ → Bool)
    (A B : DFA σ α) : A.eqvPick pick B = .notImplemented ↔ A.symsEq B = false := by
  unfold eqvPick
  cases A.symsEq B
  · simp
  · simp only [Bool.not_true, Bool.false_eq_true, if_false]
    cases HKG.run (A.hkStep B) (A.hkFin B) A.syms pick (A.eqFuel B)
      (some A.init, false) (some B.init, true) <;> simp

end EqPick

variable {σ α : Type} [DecidableEq σ] [DecidableEq α]

/-- The loop of `DFA.eqv` links in one fixed direction: it is `eqvPick HK.firstWins`. -/
theorem eqv_eq_firstWins (A B : DFA σ α) :
    A.eqv B = match A.eqvPick HK.firstWins B with
      | .notImplemented => none
      | .outOfFuel => some true
      | .val b => some b := by
  have hne : ((some A.init, false) : EqState σ) ≠ (some B.init, true) :=
    fun e => Bool.noConfusion (congrArg Prod.snd e)
  have h : A.eqv B = if !A.symsEq B then none else
      some ((HKG.run (A.hkStep B) (A.hkFin B) A.syms HK.firstWins (A.eqFuel B)
        (some A.init, false) (some B.init, true)).getD true) := by
    unfold eqv
    split
    · rfl
    · exact congrArg some (HK.hkLoop_eq_run hne _)
  rw [h]
  unfold eqvPick
  split
  · rfl
  · cases HKG.run (A.hkStep B) (A.hkFin B) A.syms HK.firstWins (A.eqFuel B)
      (some A.init, false) (some B.init, true) <;> rfl

theorem eqv_spec (A B : DFA σ α) (hA : A.validate = .ok ()) (hB : B.validate = .ok ())
    (hs : A.symsEq B = true) :
    ∃ b, A.eqv B = some b ∧ (b = true ↔ ∀ w, A.accepts w = B.accepts w) := by
  obtain ⟨b, hb, hiff⟩ := EqPick.eqvPick_spec HK.firstWins A B hA hB hs
  exact ⟨b, by rw [eqv_eq_firstWins, hb], hiff⟩

theorem eqv_none_iff (A B : DFA σ α) : A.eqv B = none ↔ A.symsEq B = false := by
  unfold eqv
  cases A.symsEq B <;> simp

/-- One alphabet alone makes the three primitive comparisons return, for any operands. -/
theorem compare_defined_any (A B : DFA σ α) (hs : A.symsEq B = true) :
    (∃ b, A.eqv B = some b) ∧ (∃ b, A.issubset B = .ok b) ∧ (∃ b, A.isdisjoint B = .ok b) := by
  refine ⟨Option.ne_none_iff_exists'.mp fun h => ?_, ?_, ?_⟩
  · rw [eqv_none_iff, hs] at h; cases h
  · unfold issubset; rw [hs]; exact ⟨_, rfl⟩
  · unfold isdisjoint; rw [hs]; exact ⟨_, rfl⟩

end DFA
end AV
