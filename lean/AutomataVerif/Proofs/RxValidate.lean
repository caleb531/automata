/-
Proofs/RxValidate.lean — `validate_tokens` accepts exactly the empty list and the token lists of
the documented grammar `G`, on lists of tokens the lexer can emit (`LexTok`); and every rejection is an
`InvalidRegexError`.  The loop is read as a scan with the previous token and the bracket depth as
state; `scan_drives` says what a successful scan takes along, for the grammar here and for the
label parser of Proofs/GnfaLabelParse.lean.  Core only.
-/
import AutomataVerif.Proofs.RxGrammar

namespace AV.Rx

variable {α : Type}

/-- Tokens the lexer can produce: everything except the inserted `concat`, and `str s` only
with a one-symbol text. -/
def LexTok : Tok α → Prop
  | .concat => False
  | .str s => ∃ a, s = [a]
  | _ => True

/-- `validateLoop` over the pairs that start with `(prev, ·)`: the state is the previous token
and the (lagging) parenthesis counter. -/
def scan : Option (Tok α) → Int → List (Tok α) → Res Int
  | prev, cnt, [] => validateStep cnt (prev, none)
  | prev, cnt, t :: ts =>
      match validateStep cnt (prev, some t) with
      | .error e => .error e
      | .ok c => scan (some t) c ts

theorem validateLoop_eq_scan (ts : List (Tok α)) : ∀ (prev : Option (Tok α)) (cnt : Int),
    validateLoop cnt (List.zip (prev :: ts.map some) (ts.map some ++ [none])) = scan prev cnt ts := by
  induction ts with
  | nil =>
      intro prev cnt
      simp only [List.map_nil, List.nil_append, List.zip_cons_cons, List.zip_nil_right,
        validateLoop, scan]
      cases validateStep cnt (prev, none) <;> rfl
  | cons t ts ih =>
      intro prev cnt
      simp only [List.map_cons, List.cons_append, List.zip_cons_cons, validateLoop, scan]
      cases validateStep cnt (prev, some t) with
      | error e => rfl
      | ok c => exact ih (some t) c

theorem validateTokens_eq_scan (ts : List (Tok α)) :
    validateTokens ts =
      match scan none 0 ts with
      | .error e => .error e
      | .ok cnt => if cnt != 0 then .error (.lib .invalidRegexError) else .ok () := by
  unfold validateTokens validatePairs
  rw [validateLoop_eq_scan]
  rfl

/-- What the previous token says about the innermost open group: nothing read yet in it,
a binary operator awaits its right operand, or a complete factor was just read.  `validate_tokens`
tests base classes only: `phB`, `deltaB`, `stepB` below are the functions on classes, and `phOf`,
`delta` and the model's `validateStep` are these at `Tok.base` (`delta_eq`, `validateStep_eq`). -/
inductive Ph
  | start | afterOp | done
  deriving DecidableEq, Repr

def phB : Option Base → Ph
  | some .lparen => .start
  | none => .start
  | some .infixOp => .afterOp
  | _ => .done

def phOf (p : Option (Tok α)) : Ph := phB (p.map Tok.base)

/-- `delta` on base classes: what a token adds to the parenthesis depth. -/
def deltaB : Option Base → Int
  | some .lparen => 1
  | some .rparen => -1
  | _ => 0

def delta : Option (Tok α) → Int
  | none => 0
  | some t =>
      match t.base with
      | .lparen => 1
      | .rparen => -1
      | _ => 0

theorem delta_eq (p : Option (Tok α)) : delta p = deltaB (p.map Tok.base) := by
  cases p with
  | none => rfl
  | some t => simp only [delta, Option.map_some]; cases t.base <;> rfl

theorem delta_none : delta (none : Option (Tok α)) = 0 := rfl

@[simp] theorem delta_some (t : Tok α) : delta (some t) = deltaB (some t.base) := delta_eq (some t)

@[simp] theorem phOf_some (t : Tok α) : phOf (some t) = phB (some t.base) := rfl

attribute [simp] deltaB phB

/-- The adjacency rules: which class of token (`none`: the end of the list) may come next. -/
def Adj : Ph → Option Base → Bool
  | .start, cb => cb != some .infixOp && cb != some .postfixOp
  | .afterOp, cb => cb.isSome && cb != some .infixOp && cb != some .postfixOp && cb != some .rparen
  | .done, _ => true

theorem Adj_FS (ph : Ph) {b : Base} (h : FS b) : Adj ph (some b) = true := by
  rcases h with rfl | rfl <;> cases ph <;> rfl

theorem Adj_op {ph : Ph} {b : Base} (h : Adj ph (some b) = true)
    (hb : b = .infixOp ∨ b = .postfixOp) : ph = .done := by
  rcases hb with rfl | rfl <;> cases ph <;> simp_all [Adj]

theorem Adj_rparen {ph : Ph} (h : Adj ph (some .rparen) = true) : ph ≠ .afterOp := by
  rintro rfl
  cases h

/-- `validateStep` only looks at the base classes of the two tokens. -/
def stepB (cnt : Int) (pb cb : Option Base) : Res Int :=
  if pb.isNone && (cb == some .infixOp || cb == some .postfixOp) then
    .error (.lib .invalidRegexError)
  else if pb == some .infixOp then
    if cb.isNone then .error (.lib .invalidRegexError)
    else if cb == some .infixOp || cb == some .postfixOp || cb == some .rparen then
      .error (.lib .invalidRegexError)
    else .ok cnt
  else if pb == some .lparen then
    if cb == some .infixOp || cb == some .postfixOp then .error (.lib .invalidRegexError)
    else .ok (cnt + 1)
  else if pb == some .rparen then
    if cnt - 1 < 0 then .error (.lib .invalidRegexError)
    else .ok (cnt - 1)
  else .ok cnt

theorem optIs_eq (t : Option (Tok α)) (b : Base) : optIs t b = (t.map Tok.base == some b) := by
  cases t <;> simp [optIs]

theorem validateStep_eq (cnt : Int) (prev curr : Option (Tok α)) :
    validateStep cnt (prev, curr) = stepB cnt (prev.map Tok.base) (curr.map Tok.base) := by
  simp only [validateStep, stepB, optIs_eq, Option.isNone_map]

/-- The step as one test: adjacency, and the counter check, which is made only when the previous
token is a `)` (the only one that lowers the counter). -/
theorem stepB_eq (cnt : Int) (pb cb : Option Base) :
    stepB cnt pb cb =
      if Adj (phB pb) cb = true ∧ (deltaB pb = -1 → 1 ≤ cnt) then .ok (cnt + deltaB pb)
      else .error (.lib .invalidRegexError) := by
  -- `simp` closes the final `else` of the Python cascade (previous token a literal, a postfix
  -- operator, `unknown`); its four `if` branches remain, in the order of the source
  rcases pb with _ | (_ | _ | _ | _ | _ | _) <;> simp [stepB, Adj, phB, deltaB]
  · -- no previous token
    simp only [← not_or, ite_not]
  · -- after an `InfixOperator`
    cases cb <;> simp [← not_or, ite_not, or_assoc]
  · -- after a `LeftParen`
    simp only [← not_or, ite_not]
  · -- after a `RightParen`
    simp only [← Int.not_le, ite_not, Int.sub_nonneg]
    rfl

theorem validateStep_ite (cnt : Int) (prev curr : Option (Tok α)) :
    validateStep cnt (prev, curr) =
      if Adj (phOf prev) (curr.map Tok.base) = true ∧ (delta prev = -1 → 1 ≤ cnt) then
        .ok (cnt + delta prev)
      else .error (.lib .invalidRegexError) := by
  rw [validateStep_eq, stepB_eq, delta_eq, phOf]

/-- The scan seen from the depth `d` reached after `prev` (the counter lags one token behind:
it is `d - delta prev`). -/
def scanD (prev : Option (Tok α)) (d : Int) (ts : List (Tok α)) : Res Int :=
  scan prev (d - delta prev) ts

theorem of_ite_ok {p : Prop} [Decidable p] {x : Res Int} {e : Exn} {r : Int}
    (h : (if p then x else .error e) = .ok r) : p ∧ x = .ok r := by
  split at h
  · exact ⟨‹p›, h⟩
  · cases h

theorem depth_test (prev : Option (Tok α)) (d : Int) :
    (delta prev = -1 → 1 ≤ d - delta prev) ↔ (delta prev = -1 → 0 ≤ d) := by
  constructor <;> intro h e <;> have := h e <;> omega

theorem scanD_cons (prev : Option (Tok α)) (t : Tok α) (d : Int) (ts : List (Tok α)) :
    scanD prev d (t :: ts) =
      if Adj (phOf prev) (some t.base) = true ∧ (delta prev = -1 → 0 ≤ d) then
        scanD (some t) (d + delta (some t)) ts
      else .error (.lib .invalidRegexError) := by
  simp only [scanD, scan, validateStep_ite, Option.map_some, depth_test, Int.sub_add_cancel,
    Int.add_sub_cancel]
  by_cases hc : Adj (phOf prev) (some t.base) = true ∧ (delta prev = -1 → 0 ≤ d)
  · simp only [if_pos hc]
  · simp only [if_neg hc]

theorem scanD_nil (prev : Option (Tok α)) (d : Int) :
    scanD prev d [] =
      if Adj (phOf prev) none = true ∧ (delta prev = -1 → 0 ≤ d) then .ok d
      else .error (.lib .invalidRegexError) := by
  simp only [scanD, scan, validateStep_ite, Option.map_none, depth_test, Int.sub_add_cancel]

theorem scanD_error (ts : List (Tok α)) : ∀ {prev : Option (Tok α)} {d : Int} {e : Exn},
    scanD prev d ts = .error e → e = .lib .invalidRegexError := by
  induction ts with
  | nil =>
      intro prev d e h
      rw [scanD_nil] at h
      split at h <;> cases h
      rfl
  | cons t ts ih =>
      intro prev d e h
      rw [scanD_cons] at h
      split at h
      · exact ih h
      · cases h
        rfl

theorem validate_error_kind (ts : List (Tok α)) :
    validateTokens ts = .ok () ∨ validateTokens ts = .error (.lib .invalidRegexError) := by
  rw [validateTokens_eq_scan]
  cases hs : scan none 0 ts with
  | error e => right; rw [scanD_error ts (prev := none) (d := 0) hs]
  | ok c => by_cases hc : c = 0 <;> simp [hc]

theorem validateTokens_ok_iff (ts : List (Tok α)) :
    validateTokens ts = .ok () ↔ scanD none 0 ts = .ok 0 := by
  show _ ↔ scan none 0 ts = .ok 0
  rw [validateTokens_eq_scan]
  cases hs : scan none 0 ts with
  | error e => simp
  | ok c => by_cases hc : c = 0 <;> simp [hc]

/-- `ts` is let through after any previous token, leaves the depth unchanged, and ends with the
token `lt` (what may follow depends on `lt` only). -/
def Scans (ts : List (Tok α)) (lt : Tok α) : Prop :=
  ∀ (prev : Option (Tok α)) (d : Int) (rest : List (Tok α)), 0 ≤ d →
    scanD prev d (ts ++ rest) = scanD (some lt) d rest

theorem Scans.single {t : Tok α} (hs : FS t.base) (h0 : delta (some t) = 0) : Scans [t] t :=
  fun _ _ rest hd => by
    rw [List.singleton_append, scanD_cons, if_pos ⟨Adj_FS _ hs, fun _ => hd⟩, h0, Int.add_zero]

theorem Scans.snoc {ts : List (Tok α)} {lt t : Tok α} (h : Scans ts lt)
    (hlt : phOf (some lt) = .done) (h0 : delta (some t) = 0) : Scans (ts ++ [t]) t :=
  fun prev d rest hd => by
    rw [List.append_assoc, h prev d _ hd, List.singleton_append, scanD_cons,
      if_pos ⟨by rw [hlt]; rfl, fun _ => hd⟩, h0, Int.add_zero]

theorem Scans.append {ts us : List (Tok α)} {lt lu : Tok α} (h1 : Scans ts lt) (h2 : Scans us lu) :
    Scans (ts ++ us) lu :=
  fun prev d rest hd => by rw [List.append_assoc, h1 prev d _ hd, h2 _ d rest hd]

/-- `( ts )`.  The hypothesis only speaks of the run behind the `(`, so that `ts = []` (with
`lt` the `(` itself) gives `( )`. -/
theorem Scans.paren {ts : List (Tok α)} {lt : Tok α}
    (h : ∀ (d : Int) (rest : List (Tok α)), 0 ≤ d →
      scanD (some .lparen) d (ts ++ rest) = scanD (some lt) d rest)
    (hlt : Adj (phOf (some lt)) (some .rparen) = true) :
    Scans (.lparen :: ts ++ [.rparen]) .rparen :=
  fun prev d rest hd => by
    have hl : delta (some (.lparen : Tok α)) = 1 := by simp
    have hr : delta (some (.rparen : Tok α)) = -1 := by simp
    rw [List.append_assoc, List.cons_append, List.singleton_append, scanD_cons,
      if_pos ⟨Adj_FS _ (.inr (by simp)), fun _ => hd⟩, hl, h _ _ (by omega), scanD_cons,
      if_pos ⟨by simpa using hlt, fun _ => by omega⟩, hr, Int.add_neg_cancel_right]

theorem scan_phrase {l : Lvl} {e : Rx α} {ts : List (Tok α)} (h : G l e ts) :
    ∃ lt : Tok α, Scans ts lt ∧ phOf (some lt) = .done := by
  induction h with
  | lit | wild => exact ⟨_, .single (.inl (by simp)) (by simp), by simp⟩
  | eps =>
      exact ⟨_, Scans.paren (ts := []) (fun _ _ _ => rfl) (by simp [Adj]), by simp⟩
  | paren _ ih =>
      obtain ⟨lt, H, hlt⟩ := ih
      exact ⟨_, Scans.paren (H _) (by rw [hlt]; rfl), by simp⟩
  | atom _ ih | factor _ ih | term _ ih => exact ih
  | star _ ih | plus _ ih | opt _ ih | quant _ _ _ ih =>
      obtain ⟨lt, H, hlt⟩ := ih
      exact ⟨_, H.snoc hlt (by simp), by simp⟩
  | cat _ _ ih1 ih2 =>
      obtain ⟨lt1, H1, -⟩ := ih1
      obtain ⟨lt2, H2, hlt2⟩ := ih2
      exact ⟨lt2, H1.append H2, hlt2⟩
  | union _ _ ih1 ih2 | inter _ _ ih1 ih2 | shuffle _ _ ih1 ih2 =>
      obtain ⟨lt1, H1, hlt1⟩ := ih1
      obtain ⟨lt2, H2, hlt2⟩ := ih2
      exact ⟨lt2, (H1.snoc hlt1 (by simp)).append H2, hlt2⟩

theorem validate_of_grammar {l : Lvl} {e : Rx α} {ts : List (Tok α)} (h : G l e ts) :
    validateTokens ts = .ok () := by
  rw [validateTokens_ok_iff]
  obtain ⟨lt, H, hlt⟩ := scan_phrase h
  have := H none 0 [] (Int.le_refl 0)
  rw [List.append_nil, scanD_nil, if_pos ⟨by rw [hlt]; rfl, fun _ => Int.le_refl 0⟩] at this
  exact this

/-- `E op`: a binary operator awaits its right operand. -/
inductive FrOp : List (Tok α) → Prop
  | mk {e : Rx α} {ts : List (Tok α)} {t : Tok α} :
      G .E e ts → (t = .union ∨ t = .inter ∨ t = .shuffle) → FrOp (ts ++ [t])

/-- Frames: what has been read of an open group (the top level, or behind an unclosed `(`):
nothing, `E op`, or an expression — to which a postfix operator (`InGrammar.post`) or a further
factor (`InGrammar.juxt`) can still attach. -/
def Fr : Ph → List (Tok α) → Prop
  | .start, ts => ts = []
  | .afterOp, ts => FrOp ts
  | .done, ts => InGrammar ts

theorem Fr.addA {ph : Ph} {ts A : List (Tok α)} {a : Rx α} (h : Fr ph ts) (hA : G .A a A) :
    InGrammar (ts ++ A) := by
  cases ph with
  | start =>
      obtain rfl : ts = [] := h
      exact ⟨_, hA.toE⟩
  | afterOp =>
      obtain ⟨hE, rfl | rfl | rfl⟩ := h
      · exact ⟨_, .union hE (.factor (.atom hA))⟩
      · exact ⟨_, .inter hE (.factor (.atom hA))⟩
      · exact ⟨_, .shuffle hE (.factor (.atom hA))⟩
  | done => exact InGrammar.juxt h (.atom hA)

theorem FrOp.of_infix {ts : List (Tok α)} {t : Tok α} (h : InGrammar ts) (ht : t.base = .infixOp)
    (hl : LexTok t) : FrOp (ts ++ [t]) := by
  obtain ⟨e, hE⟩ := h
  cases t <;> simp at ht
  · exact .mk hE (.inl rfl)
  · exact .mk hE (.inr (.inl rfl))
  · exact .mk hE (.inr (.inr rfl))
  · exact hl.elim

/-- `Pref d ph ts`: the prefix `ts` has `d` unclosed parentheses; every open group is a frame,
the innermost one in phase `ph`. -/
inductive Pref : Nat → Ph → List (Tok α) → Prop
  | base {ph : Ph} {ts : List (Tok α)} : Fr ph ts → Pref 0 ph ts
  | push {d : Nat} {ph ph' : Ph} {ts us : List (Tok α)} :
      Pref d ph ts → Fr ph' us → Pref (d + 1) ph' (ts ++ .lparen :: us)

theorem Pref.mapTop {d : Nat} {ph ph' : Ph} {ts vs : List (Tok α)} (h : Pref d ph ts)
    (hf : ∀ us, Fr ph us → Fr ph' (us ++ vs)) : Pref d ph' (ts ++ vs) := by
  cases h with
  | base hfr => exact .base (hf _ hfr)
  | push hp hfr =>
      rw [List.append_assoc, List.cons_append]
      exact .push hp (hf _ hfr)

theorem Pref.addA {d : Nat} {ph : Ph} {ts A : List (Tok α)} {a : Rx α} (h : Pref d ph ts)
    (hA : G .A a A) : Pref d .done (ts ++ A) :=
  h.mapTop fun _ hfr => hfr.addA hA

theorem Pref.addL {d : Nat} {ph : Ph} {ts : List (Tok α)} (h : Pref d ph ts) :
    Pref (d + 1) .start (ts ++ [.lparen]) :=
  .push h rfl

theorem Pref.addR {d : Nat} {ph : Ph} {ts : List (Tok α)} (h : Pref (d + 1) ph ts)
    (hph : ph ≠ .afterOp) : Pref d .done (ts ++ [.rparen]) := by
  cases h with
  | push hp hfr =>
      rename_i ph0 ts' us
      cases ph with
      | afterOp => exact absurd rfl hph
      | start =>
          have : us = [] := hfr
          subst this
          have := hp.addA (G.eps (α := α))
          simpa using this
      | done =>
          obtain ⟨e, hE⟩ : InGrammar us := hfr
          have := hp.addA (G.paren hE)
          simpa using this

theorem Pref.step {d : Nat} {ph : Ph} {pre : List (Tok α)} {t : Tok α}
    (h : Pref d ph pre) (hl : LexTok t) (hadj : Adj ph (some t.base) = true)
    (hr : t.base = .rparen → 1 ≤ d) :
    ∃ d' : Nat, (d' : Int) = d + delta (some t) ∧ Pref d' (phOf (some t)) (pre ++ [t]) := by
  cases t with
  | lparen => exact ⟨d + 1, by simp, by simpa using h.addL⟩
  | rparen =>
      obtain ⟨d0, rfl⟩ : ∃ d0, d = d0 + 1 := ⟨d - 1, by have := hr (by simp); omega⟩
      exact ⟨d0, by simp; omega, by simpa using h.addR (Adj_rparen (by simpa using hadj))⟩
  | union | inter | shuffle =>
      obtain rfl := Adj_op hadj (.inl (by simp))
      exact ⟨d, by simp, by
        simpa using h.mapTop (ph' := .afterOp) fun _ hfr => FrOp.of_infix hfr (by simp) hl⟩
  | concat => exact hl.elim
  | star | plus | opt | quant lo hi =>
      obtain rfl := Adj_op hadj (.inr (by simp))
      exact ⟨d, by simp, by
        simpa using h.mapTop (ph' := .done) fun _ hfr => InGrammar.post hfr (by simp)⟩
  | str s =>
      obtain ⟨a, rfl⟩ := hl
      exact ⟨d, by simp, by simpa using h.addA (G.lit a)⟩
  | wildcard => exact ⟨d, by simp, by simpa using h.addA G.wild⟩

theorem phOf_start {prev : Option (Tok α)} (h : phOf prev = .start) :
    prev = none ∨ delta prev = 1 := by
  cases prev with
  | none => exact .inl rfl
  | some p =>
      right
      revert h
      simp only [phOf, Option.map_some, delta]
      cases p.base <;> simp [phB]

theorem scanD_rparen_nonneg {t : Tok α} {d r : Int} {ts : List (Tok α)}
    (ht : delta (some t) = -1) (h : scanD (some t) d ts = .ok r) : 0 ≤ d := by
  cases ts with
  | nil => rw [scanD_nil] at h; exact (of_ite_ok h).1.2 ht
  | cons u us => rw [scanD_cons] at h; exact (of_ite_ok h).1.2 ht

/-- **What a successful scan drives.**  A machine reads an input `xs` whose tokens are `xs.map tk`;
`I d ph pre` says where it is after the prefix `pre`, `d` brackets deep, the last token of phase
`ph`.  If it has a step for every token the adjacency rules allow (`hstep`), then a scan of
`validate_tokens` that ends at depth 0 takes it to a state `I 0 .done`.  The grammar (`Pref`, run
in `grammar_of_validate`) and the label parser of Proofs/GnfaLabelParse.lean are two such
machines. -/
theorem scan_drives {ι : Type} (tk : ι → Tok α) {I : Nat → Ph → List ι → Prop} {P : ι → Prop}
    (hstep : ∀ {d : Nat} {ph : Ph} {pre : List ι} {x : ι}, I d ph pre → P x →
      Adj ph (some (tk x).base) = true → ((tk x).base = .rparen → 1 ≤ d) →
      ∃ d' : Nat, (d' : Int) = d + delta (some (tk x)) ∧ I d' (phOf (some (tk x))) (pre ++ [x]))
    (xs : List ι) :
    ∀ (pre : List ι) (prev : Option (Tok α)) (d : Nat),
      I d (phOf prev) pre → delta prev ≤ d → (∀ x ∈ xs, P x) →
      scanD prev d (xs.map tk) = .ok 0 → (prev = none ∧ xs = []) ∨ I 0 .done (pre ++ xs) := by
  induction xs with
  | nil =>
      intro pre prev d hp hd _ hs
      rw [List.map_nil, scanD_nil] at hs
      obtain ⟨hc, hs⟩ := of_ite_ok hs
      obtain rfl : d = 0 := by cases hs; rfl
      cases hph : phOf prev with
      | afterOp => rw [hph] at hc; cases hc.1
      | start =>
          rcases phOf_start hph with rfl | hdl
          · exact .inl ⟨rfl, rfl⟩
          · omega
      | done =>
          rw [hph] at hp
          exact .inr (by rwa [List.append_nil])
  | cons x xs ih =>
      intro pre prev d hp hd hl hs
      rw [List.map_cons, scanD_cons] at hs
      obtain ⟨hc, hs⟩ := of_ite_ok hs
      have hr : (tk x).base = .rparen → 1 ≤ d := fun ht => by
        have hdl : delta (some (tk x)) = -1 := by simp [ht]
        have := scanD_rparen_nonneg hdl hs
        omega
      obtain ⟨d', hd', hp'⟩ := hstep hp (hl x (by simp)) hc.1 hr
      rw [← hd'] at hs
      rcases ih (pre ++ [x]) (some (tk x)) d' hp' (by omega)
          (fun u hu => hl u (by simp [hu])) hs with ⟨h, -⟩ | h
      · cases h
      · right
        simpa using h

theorem grammar_of_validate {ts : List (Tok α)} (hl : ∀ t ∈ ts, LexTok t) (hne : ts ≠ [])
    (hv : validateTokens ts = .ok ()) : InGrammar ts := by
  rw [validateTokens_ok_iff, ← List.map_id ts] at hv
  rcases scan_drives id (I := Pref) Pref.step ts [] none 0 (.base rfl) (Int.le_refl 0) hl hv
    with ⟨-, h⟩ | h
  · exact absurd h hne
  · cases h with
    | base hfr => exact hfr

theorem validate_iff_grammar {ts : List (Tok α)} (hl : ∀ t ∈ ts, LexTok t) :
    validateTokens ts = .ok () ↔ ts = [] ∨ InGrammar ts := by
  constructor
  · intro hv
    by_cases hne : ts = []
    · exact .inl hne
    · exact .inr (grammar_of_validate hl hne hv)
  · rintro (rfl | ⟨e, he⟩)
    · rfl
    · exact validate_of_grammar he

theorem validate_of_lex {s : List Char} {ts : List (Tok Char)} (h : lex s = .ok ts) :
    validate s = validateTokens ts := by
  rw [validate, h]

theorem validate_of_lex_error {s : List Char} {e : Exn} (h : lex s = .error e) :
    validate s = .error e := by
  rw [validate, h]

end AV.Rx
