/-
Proofs/TMRun.lean — the three `read_input_stepwise` models against the reference semantics
of `Spec/TM.lean` (views): the DTM and the NTM reader as instances of `LinGen` (Proofs/GenRun.lean;
`DTM.nxt`; `NTM.fin`, `NTM.nxt` on levels), and the MNTM reader as an instance of the queue loop of
`Proofs/QueueBFS.lean` (`MNTM.succ`, `MNTM.acc`).
-/
import AutomataVerif.Proofs.TMTape
import AutomataVerif.Proofs.QueueBFS
import AutomataVerif.Proofs.Basic

namespace AV.TM
variable {σ Γ : Type}

theorem apply_wf (c : Cfg σ Γ) (r : σ × Γ × Dir) : (DTM.apply c r).tape.WF :=
  Tape.move_wf _ _

theorem viewCfg_apply {c : Cfg σ Γ} (h : c.tape.WF) (r : σ × Γ × Dir) :
    viewCfg (DTM.apply c r) = vapply (viewCfg c) r := by
  simp only [viewCfg, DTM.apply, vapply, Tape.write_move_view h]

theorem DTM.viewCfg_initCfg (M : DTM σ Γ) (w : List Γ) : viewCfg (M.initCfg w) = M.vstart w := by
  simp [viewCfg, DTM.initCfg, DTM.vstart, Tape.init_view]

theorem DTM.initCfg_wf (M : DTM σ Γ) (w : List Γ) : (M.initCfg w).tape.WF := Tape.init_wf _ _ _

variable [DecidableEq σ] [DecidableEq Γ]

namespace DTM

theorem getTransition_eq_delta (M : DTM σ Γ) (q : σ) (s : Γ) :
    M.getTransition q s = M.delta q s := by
  unfold getTransition delta
  cases alookup q M.trans <;> rfl

/-- `_get_next_configuration` as a partial function (`none`: no row, the reader rejects); the
successor function of the reader seen as a `LinGen`. -/
def nxt (M : DTM σ Γ) (c : Cfg σ Γ) : Option (Cfg σ Γ) :=
  (M.getTransition c.state c.tape.read).map (apply c)

theorem next_eq (M : DTM σ Γ) (c : Cfg σ Γ) :
    M.next c = match M.nxt c with
      | none => .error (.lib .rejectionException)
      | some c' => .ok c' := by
  unfold next nxt
  cases M.getTransition c.state c.tape.read <;> rfl

theorem linGen (M : DTM σ Γ) : LinGen M.resume (fun c => c.state ∈ M.finals) M.nxt where
  ret h := by simp [resume, hasAccepted, h]
  stuck hf h := by simp [resume, hasAccepted, hf, next_eq, h]
  step hf h := by simp [resume, hasAccepted, hf, next_eq, h]

theorem vstep_view (M : DTM σ Γ) {c : Cfg σ Γ} (h : c.tape.WF) :
    M.vstep (viewCfg c) = (M.nxt c).map viewCfg := by
  unfold vstep nxt
  rw [getTransition_eq_delta, Tape.read_eq_view]
  show Option.map _ (M.delta c.state (c.tape.view 0)) = _
  cases M.delta c.state (c.tape.view 0) with
  | none => rfl
  | some r => simp [viewCfg_apply h]

theorem vstep_eq_none_iff (M : DTM σ Γ) (c : Cfg σ Γ) :
    M.vstep (viewCfg c) = none ↔ M.nxt c = none := by
  simp only [vstep, nxt, Option.map_eq_none_iff, getTransition_eq_delta, Tape.read_eq_view]
  rfl

theorem nxt_wf (M : DTM σ Γ) {c c' : Cfg σ Γ} (h : M.nxt c = some c') : c'.tape.WF := by
  unfold nxt at h
  obtain ⟨r, _, rfl⟩ := Option.map_eq_some_iff.mp h
  exact apply_wf c r

theorem vrunFrom_none (M : DTM σ Γ) (k : Nat) : M.vrunFrom none k = none := by
  unfold vrunFrom
  induction k with
  | zero => rfl
  | succ k ih => rw [Function.iterate_succ_apply', ih]; rfl

theorem vrunFrom_succ (M : DTM σ Γ) (c : VCfg σ Γ) (k : Nat) :
    M.vrunFrom (some c) (k + 1) = M.vrunFrom (M.vstep c) k := by
  unfold vrunFrom
  rw [Function.iterate_succ]
  rfl

theorem vrunFrom_zero (M : DTM σ Γ) (c : Option (VCfg σ Γ)) : M.vrunFrom c 0 = c := rfl

theorem iter_view (M : DTM σ Γ) (k : Nat) {c : Cfg σ Γ} (h : c.tape.WF) :
    M.vrunFrom (some (viewCfg c)) k = (LinGen.iter M.nxt k c).map viewCfg := by
  induction k generalizing c with
  | zero => rfl
  | succ k ih =>
    rw [vrunFrom_succ, M.vstep_view h, LinGen.iter]
    cases hn : M.nxt c with
    | none => exact M.vrunFrom_none k
    | some c' => exact ih (M.nxt_wf hn)

theorem vrun_eq (M : DTM σ Γ) (w : List Γ) (k : Nat) :
    M.vrun w k = (LinGen.iter M.nxt k (M.initCfg w)).map viewCfg := by
  rw [vrun, ← M.viewCfg_initCfg, M.iter_view k (M.initCfg_wf w)]

theorem vrun_some_iff (M : DTM σ Γ) (w : List Γ) (k : Nat) (v : VCfg σ Γ) :
    M.vrun w k = some v ↔ ∃ t, LinGen.iter M.nxt k (M.initCfg w) = some t ∧ viewCfg t = v := by
  rw [vrun_eq, Option.map_eq_some_iff]

omit [DecidableEq σ] [DecidableEq Γ] in
theorem fin_iff_view (M : DTM σ Γ) (t : Cfg σ Γ) :
    t.state ∈ M.finals ↔ ∃ v, viewCfg t = v ∧ v.state ∈ M.finals := by
  simp [viewCfg]

end DTM

def AllWF (L : List (Cfg σ Γ)) : Prop := ∀ c ∈ L, c.tape.WF

namespace NTM

theorem getTransitions_eq_delta (M : NTM σ Γ) (q : σ) (s : Γ) :
    M.getTransitions q s = M.delta q s := by
  unfold getTransitions delta
  cases alookup q M.trans <;> rfl

theorem mem_nextCfgs (M : NTM σ Γ) (c c' : Cfg σ Γ) :
    c' ∈ M.nextCfgs c ↔ ∃ r ∈ M.delta c.state (c.tape.view 0), c' = DTM.apply c r := by
  unfold nextCfgs
  rw [mem_dedup, getTransitions_eq_delta, Tape.read_eq_view]
  simp only [List.mem_map, eq_comm]

theorem mem_nextLevel (M : NTM σ Γ) (cur : List (Cfg σ Γ)) (c' : Cfg σ Γ) :
    c' ∈ M.nextLevel cur ↔ ∃ c ∈ cur, c' ∈ M.nextCfgs c := by
  unfold nextLevel
  rw [mem_foldl_iff (P := fun c => c' ∈ M.nextCfgs c) fun _ _ => mem_sunion]
  simp

theorem nextLevel_wf (M : NTM σ Γ) (cur : List (Cfg σ Γ)) : AllWF (M.nextLevel cur) := by
  intro c' hc'
  obtain ⟨c, _, h⟩ := (M.mem_nextLevel cur c').mp hc'
  obtain ⟨r, _, rfl⟩ := (M.mem_nextCfgs c c').mp h
  exact apply_wf _ _

theorem view_nextLevel (M : NTM σ Γ) {cur : List (Cfg σ Γ)} (hw : AllWF cur) (v' : VCfg σ Γ) :
    (∃ c' ∈ M.nextLevel cur, viewCfg c' = v') ↔ ∃ c ∈ cur, M.VStep (viewCfg c) v' := by
  constructor
  · rintro ⟨c', hc', rfl⟩
    obtain ⟨c, hc, h⟩ := (M.mem_nextLevel cur c').mp hc'
    obtain ⟨r, hr, rfl⟩ := (M.mem_nextCfgs c c').mp h
    exact ⟨c, hc, r, hr, viewCfg_apply (hw c hc) r⟩
  · rintro ⟨c, hc, r, hr, rfl⟩
    exact ⟨DTM.apply c r, (M.mem_nextLevel cur _).mpr ⟨c, hc, (M.mem_nextCfgs c _).mpr ⟨r, hr, rfl⟩⟩,
      viewCfg_apply (hw c hc) r⟩

/-- The `return` test of the NTM reader on a stored level. -/
def fin (M : NTM σ Γ) (L : List (Cfg σ Γ)) : Prop := ∃ c ∈ L, c.state ∈ M.finals

/-- The next stored level (`none` on the empty level, where the reader rejects); with `NTM.fin` it
makes the reader a `LinGen` on levels. -/
def nxt (M : NTM σ Γ) (L : List (Cfg σ Γ)) : Option (List (Cfg σ Γ)) :=
  if L = [] then none else some (M.nextLevel L)

theorem nxt_eq_none (M : NTM σ Γ) {L : List (Cfg σ Γ)} : M.nxt L = none ↔ L = [] := by
  unfold nxt; split <;> simp [*]

theorem resume_nil (M : NTM σ Γ) : M.resume [] = .raise (.lib .rejectionException) := rfl

theorem linGen (M : NTM σ Γ) : LinGen M.resume M.fin M.nxt where
  ret {L} h := by
    have ha : L.any M.hasAccepted = true := by simpa [hasAccepted, fin] using h
    obtain ⟨c, hc, _⟩ := h
    cases L with
    | nil => cases hc
    | cons a t => simp only [resume, ha, if_true]
  stuck {L} _ h := by rw [M.nxt_eq_none.mp h, resume_nil]
  step {L L'} hf h := by
    have ha : ¬ (L.any M.hasAccepted = true) := fun hh => hf (by simpa [hasAccepted, fin] using hh)
    cases L with
    | nil => cases h
    | cons a t => simp only [nxt, reduceCtorEq, if_false, Option.some.injEq] at h; simp [resume, ha, h]

theorem iter_views (M : NTM σ Γ) (k : Nat) {L : List (Cfg σ Γ)} (hw : AllWF L) (v : VCfg σ Γ) :
    (∃ L', LinGen.iter M.nxt k L = some L' ∧ ∃ c ∈ L', viewCfg c = v) ↔
      ∃ c ∈ L, ReachN M.VStep k (viewCfg c) v := by
  induction k generalizing L with
  | zero => simp [LinGen.iter, ReachN]
  | succ k ih =>
    cases L with
    | nil => simp [LinGen.iter, nxt]
    | cons a t =>
      simp only [LinGen.iter, nxt, reduceCtorEq, if_false, Option.bind_some, ih (M.nextLevel_wf _),
        ReachN]
      constructor
      · rintro ⟨c', hc', hr⟩
        obtain ⟨c, hc, hs⟩ := (M.view_nextLevel hw _).mp ⟨c', hc', rfl⟩
        exact ⟨c, hc, _, hs, hr⟩
      · rintro ⟨c, hc, m, hs, hr⟩
        obtain ⟨c', hc', rfl⟩ := (M.view_nextLevel hw m).mpr ⟨c, hc, hs⟩
        exact ⟨c', hc', hr⟩

theorem vlevel_iff (M : NTM σ Γ) (w : List Γ) (k : Nat) (v : VCfg σ Γ) :
    M.vlevel w k v ↔ ∃ L, LinGen.iter M.nxt k [M.initCfg w] = some L ∧ ∃ c ∈ L, viewCfg c = v := by
  have hw : AllWF [M.initCfg w] := by
    intro c hc; rw [List.mem_singleton.mp hc]; exact Tape.init_wf _ _ _
  have h0 : viewCfg (M.initCfg w) = M.vstart w := by
    simp [viewCfg, initCfg, vstart, Tape.init_view]
  rw [M.iter_views k hw]
  simp [vlevel, h0]

omit [DecidableEq σ] [DecidableEq Γ] in
theorem fin_iff_view (M : NTM σ Γ) (L : List (Cfg σ Γ)) :
    M.fin L ↔ ∃ v, (∃ c ∈ L, viewCfg c = v) ∧ v.state ∈ M.finals := by
  simp [fin, viewCfg]

theorem stuck_iff_view (M : NTM σ Γ) (L : List (Cfg σ Γ)) :
    M.nxt L = none ↔ ∀ v, ¬ ∃ c ∈ L, viewCfg c = v := by
  rw [nxt_eq_none, List.eq_nil_iff_forall_not_mem]
  exact ⟨fun h v ⟨c, hc, _⟩ => h c hc, fun h c hc => h _ ⟨c, hc, rfl⟩⟩

end NTM

theorem reachN_succ_last {α : Type} (R : α → α → Prop) (k : Nat) (a b : α) :
    ReachN R (k + 1) a b ↔ ∃ m, ReachN R k a m ∧ R m b := by
  induction k generalizing a with
  | zero =>
    simp only [ReachN]
    constructor
    · rintro ⟨m, h, rfl⟩; exact ⟨a, rfl, h⟩
    · rintro ⟨m, rfl, h⟩; exact ⟨b, h, rfl⟩
  | succ k ih =>
    constructor
    · rintro ⟨x, hax, hx⟩
      obtain ⟨m, hm, hmb⟩ := (ih x).mp hx
      exact ⟨m, ⟨x, hax, hm⟩, hmb⟩
    · rintro ⟨m, ⟨x, hax, hxm⟩, hmb⟩
      exact ⟨x, hax, (ih x).mpr ⟨m, hxm, hmb⟩⟩

/-- The order in which the native queue loop appends the successors for a transition list:
`transitions[1:]` first, `transitions[0]` last. -/
def enq {α : Type} : List α → List α
  | [] => []
  | t0 :: ts => ts ++ [t0]

omit [DecidableEq σ] [DecidableEq Γ] in
@[simp] theorem mem_enq {α : Type} {x : α} {l : List α} : x ∈ enq l ↔ x ∈ l := by
  cases l <;> simp [enq, or_comm]

def AllWFM (c : MCfg σ Γ) : Prop := ∀ t ∈ c.tapes, t.WF

namespace MNTM

/-- Successor list of the native queue loop (in enqueue order: `transitions[1:]`, then
`transitions[0]`); `Spec/TMSim`'s `succL` is the same set in list order. -/
def succ (M : MNTM σ Γ) (c : MCfg σ Γ) : List (MCfg σ Γ) := (M.children c).getD []

/-- The `return` test of the native queue loop as written (no transition and final state);
on valid machines it is `Spec/TMSim`'s `accF`, "state is final" (`MNTM.acc_eq_accF`). -/
def acc (M : MNTM σ Γ) (c : MCfg σ Γ) : Bool :=
  (M.children c).isNone && decide (c.state ∈ M.finals)

theorem resume_eq_qres (M : MNTM σ Γ) : M.resume = Q.qres M.succ M.acc := by
  funext st
  cases hc : M.children st.1 with
  | none =>
    simp only [resume, Q.qres, succ, acc, hc, Option.isNone_none, Bool.true_and, decide_eq_true_eq,
      Option.getD_none, List.append_nil]
    cases st.2 <;> rfl
  | some kids =>
    simp only [resume, Q.qres, succ, acc, hc, Option.isNone_some, Bool.false_and, Bool.false_eq_true,
      if_false, Option.getD_some]
    cases st.2 ++ kids <;> rfl

theorem readStepwise_eq_qobs (M : MNTM σ Γ) (w : List Γ) (n : Nat) :
    M.readStepwise w n = Q.qobs M.succ M.acc n [M.initCfg w] := by
  unfold readStepwise
  rw [resume_eq_qres, Q.genStart_eq_qobs]

theorem getTransition_eq_bind (M : MNTM σ Γ) (q : σ) (tapes : List (Tape Γ)) :
    M.getTransition q tapes = (alookup q M.trans).bind (alookup (tapes.map Tape.read)) := by
  unfold getTransition readHeads
  cases alookup q M.trans <;> rfl

theorem getTransition_eq (M : MNTM σ Γ) (q : σ) (tapes : List (Tape Γ)) :
    (M.getTransition q tapes).getD [] = M.delta q (tapes.map fun t => t.view 0) := by
  rw [getTransition_eq_bind, delta, List.map_congr_left fun t _ => Tape.read_eq_view t]

theorem succ_eq (M : MNTM σ Γ) (c : MCfg σ Γ) :
    M.succ c = (enq (M.delta c.state (c.tapes.map fun t => t.view 0))).map (apply c.tapes) := by
  rw [← getTransition_eq]
  unfold succ children
  rcases M.getTransition c.state c.tapes with _ | _ | ⟨t0, ts⟩ <;> simp [enq]

theorem vchildren_eq (M : MNTM σ Γ) (c : VMCfg σ Γ) :
    M.vchildren c = (enq (M.delta c.state (c.tapes.map fun f => f 0))).map (vmapply c) := by
  unfold vchildren
  cases M.delta c.state (c.tapes.map fun f => f 0) <;> rfl

omit [DecidableEq σ] [DecidableEq Γ] in
theorem forall_mem_apply {P : Tape Γ → Prop} {tapes : List (Tape Γ)} {t : σ × List (Γ × Dir)}
    (h : ∀ m ∈ t.2, ∀ tp ∈ tapes, P ((tp.write m.1).move m.2)) : ∀ x ∈ (apply tapes t).tapes, P x := by
  intro x hx
  obtain ⟨i, hi, rfl⟩ := List.getElem_of_mem hx
  simp only [apply, List.getElem_zipWith]
  exact h _ (List.getElem_mem _) _ (List.getElem_mem _)

omit [DecidableEq σ] [DecidableEq Γ] in
theorem apply_wf (tapes : List (Tape Γ)) (t : σ × List (Γ × Dir)) : AllWFM (apply tapes t) :=
  forall_mem_apply fun _ _ _ _ => Tape.move_wf _ _

omit [DecidableEq Γ] in
theorem map_view_zipWith (moves : List (Γ × Dir)) (tapes : List (Tape Γ)) (hw : ∀ t ∈ tapes, t.WF) :
    (List.zipWith (fun (m : Γ × Dir) (tp : Tape Γ) => (tp.write m.1).move m.2) moves tapes).map Tape.view =
      List.zipWith (fun (m : Γ × Dir) (f : Int → Γ) => shift m.2 (Function.update f 0 m.1)) moves
        (tapes.map Tape.view) := by
  induction moves generalizing tapes with
  | nil => simp
  | cons m ms ih =>
    cases tapes with
    | nil => simp
    | cons t ts =>
      simp only [List.zipWith_cons_cons, List.map_cons]
      rw [Tape.write_move_view (hw t (by simp)), ih ts (fun x hx => hw x (by simp [hx]))]

omit [DecidableEq σ] [DecidableEq Γ] in
theorem viewM_apply {c : MCfg σ Γ} (hw : AllWFM c) (t : σ × List (Γ × Dir)) :
    viewM (apply c.tapes t) = vmapply (viewM c) t := by
  simp only [viewM, apply, vmapply, map_view_zipWith t.2 c.tapes hw]

theorem succ_view (M : MNTM σ Γ) {c : MCfg σ Γ} (hw : AllWFM c) :
    (M.succ c).map viewM = M.vchildren (viewM c) := by
  have hh : ((viewM c).tapes.map fun f => f 0) = c.tapes.map fun t => t.view 0 := by simp [viewM]
  rw [succ_eq, vchildren_eq, hh, List.map_map]
  exact List.map_congr_left fun t _ => viewM_apply hw t

theorem succ_wf (M : MNTM σ Γ) (c : MCfg σ Γ) : ∀ x ∈ M.succ c, AllWFM x := by
  rw [succ_eq]
  simp only [List.forall_mem_map]
  exact fun t _ => apply_wf _ t

omit [DecidableEq σ] [DecidableEq Γ] in
theorem forall_mem_initTapes (M : MNTM σ Γ) (w : List Γ) {P : Tape Γ → Prop}
    (h1 : P (Tape.init w M.blank)) (h2 : P (Tape.init [M.blank] M.blank)) :
    ∀ t ∈ M.initTapes w, P t := by
  intro t ht
  simp only [initTapes, List.mem_cons, List.mem_replicate] at ht
  rcases ht with rfl | ⟨_, rfl⟩
  · exact h1
  · exact h2

omit [DecidableEq σ] [DecidableEq Γ] in
theorem initCfg_wf (M : MNTM σ Γ) (w : List Γ) : AllWFM (M.initCfg w) :=
  M.forall_mem_initTapes w (Tape.init_wf _ _ _) (Tape.init_wf _ _ _)

omit [DecidableEq σ] [DecidableEq Γ] in
theorem viewM_initCfg (M : MNTM σ Γ) (w : List Γ) : viewM (M.initCfg w) = M.vstart w := by
  simp only [viewM, initCfg, initTapes, vstart, List.map_cons, List.map_replicate, Tape.init_view]
  congr 3
  funext i
  simp only [blankTape]
  split
  · cases h : i.toNat <;> simp
  · rfl

/-- Valid machines: a final state has no row, so the `return` test is "state is final". -/
theorem acc_eq_final (M : MNTM σ Γ) (hfin : ∀ q ∈ M.finals, alookup q M.trans = none)
    (c : MCfg σ Γ) : M.acc c = M.isFinal (viewM c) := by
  unfold acc isFinal
  by_cases hf : c.state ∈ M.finals
  · have : M.children c = none := by rw [children, getTransition_eq_bind, hfin _ hf]; rfl
    simp [this, hf, viewM]
  · simp [hf, viewM]

theorem vlevel_eq_lvl (M : MNTM σ Γ) (w : List Γ) (d : Nat) :
    M.vlevel w d = Q.lvl M.vchildren d [M.vstart w] := by
  induction d with
  | zero => rfl
  | succ d ih => rw [vlevel, Q.lvl_succ', ih]

theorem vlevelsUpTo_eq (M : MNTM σ Γ) (w : List Γ) (n : Nat) :
    M.vlevelsUpTo w n = Q.concatLevels M.vchildren n [M.vstart w] := by
  induction n with
  | zero => rfl
  | succ n ih => rw [vlevelsUpTo, Q.concatLevels_succ_last, ih, vlevel_eq_lvl]

theorem mem_vchildren (M : MNTM σ Γ) (c c' : VMCfg σ Γ) : c' ∈ M.vchildren c ↔ M.VStep c c' := by
  simp only [vchildren_eq, VStep, List.mem_map, mem_enq, eq_comm]

theorem mem_vlevel (M : MNTM σ Γ) (w : List Γ) (d : Nat) (v : VMCfg σ Γ) :
    v ∈ M.vlevel w d ↔ ReachN M.VStep d (M.vstart w) v := by
  induction d generalizing v with
  | zero => simp [vlevel, ReachN, eq_comm]
  | succ d ih =>
    rw [vlevel, reachN_succ_last, List.mem_flatMap]
    constructor
    · rintro ⟨m, hm, hv⟩; exact ⟨m, (ih m).mp hm, (M.mem_vchildren m v).mp hv⟩
    · rintro ⟨m, hm, hv⟩; exact ⟨m, (ih m).mpr hm, (M.mem_vchildren m v).mpr hv⟩

theorem readStepwise_view_qobs (M : MNTM σ Γ) (hfin : ∀ q ∈ M.finals, alookup q M.trans = none)
    (w : List Γ) (n : Nat) :
    (M.readStepwise w n).1.map viewM = (Q.qobs M.vchildren M.isFinal n [M.vstart w]).1 ∧
    (M.readStepwise w n).2 = (Q.qobs M.vchildren M.isFinal n [M.vstart w]).2 := by
  have h := Q.qobs_sim id viewM AllWFM (Q.qres M.vchildren M.isFinal) M.succ M.acc
    (fun v c hv hc q => by
      obtain rfl : v = viewM c := hv
      rw [Q.qres, M.acc_eq_final hfin c]
      split
      · rfl
      · exact ⟨_, by rw [List.map_id, M.succ_view hc], M.succ_wf c, rfl⟩)
    (M.viewM_initCfg w).symm (M.initCfg_wf w) n
  rw [Q.genStart_eq_qobs, List.map_id, ← readStepwise_eq_qobs] at h
  exact ⟨h.1.symm, h.2.symm⟩

theorem readStepwise_view (M : MNTM σ Γ) (hfin : ∀ q ∈ M.finals, alookup q M.trans = none)
    (w : List Γ) (n : Nat) :
    (M.readStepwise w n).1.map viewM = Q.cutThrough M.isFinal ((M.vlevelsUpTo w n).take n) ∧
    (M.readStepwise w n).2 = Q.endOf M.isFinal n ((M.vlevelsUpTo w n).take n) := by
  rw [vlevelsUpTo_eq, ← Q.bfsSeq_eq_levels, ← Q.qobs_yields, ← Q.qobs_end]
  exact M.readStepwise_view_qobs hfin w n

end MNTM
end AV.TM
