/-
Proofs/RandomDraw.lean — the draw tree of `random_word` (Model/DFAQuery.lean): the step product
`wordProb` of a word and the expectation `drawExp` / probability `drawProb` over the vectors of
`randint` results, each result uniform on the range its step gives it.  The definitions are
those in which Props/C13.lean states uniformity, hence the namespace.  Needs Mathlib (`ℚ`, `∑`).
-/
import AutomataVerif.Proofs.RandomSel
import Mathlib.Order.Interval.Finset.Nat
import Mathlib.Tactic.FieldSimp
import Mathlib.Algebra.Order.Field.Rat
import Mathlib.Algebra.BigOperators.Ring.Finset
import Mathlib.Algebra.BigOperators.Group.Finset.Piecewise

namespace AV.Props.C13
open AV AV.DFA

variable {σ α : Type} [DecidableEq σ] [DecidableEq α]

/-- Number of outcomes `c` of `randint(0, total - 1)` — in the state `q` with `r + 1` symbols
to go, `total = _count_cache[r+1][q]` — for which the inner loop selects the edge `e`. -/
def selecting (d : AV.DFA σ α) (r : Nat) (q : σ) (e : α × σ) : Nat :=
  ((Finset.range (d.cnt (r + 1) q)).filter fun c => pickEdge (d.cnt r) (d.row q) c = some e).card

theorem selecting_eq_cnt {d : AV.DFA σ α} (hd : d.IsDict) (r : Nat) {q : σ}
    (hq : q ∈ d.states) {e : α × σ} (he : e ∈ d.row q) : selecting d r q e = d.cnt r e.2 := by
  have hnd : (d.row q).Nodup := by
    have := row_keys_nodup hd q
    unfold akeys at this
    exact List.Nodup.of_map _ this
  obtain ⟨pre, post, hrow⟩ := List.append_of_mem he
  rw [hrow] at hnd
  have hpre : e ∉ pre := by
    intro h
    have := (List.nodup_append.mp hnd).2.2 e h e (List.mem_cons_self)
    exact this rfl
  have hpost : e ∉ post := by
    have := (List.nodup_append.mp hnd).2.1
    exact (List.nodup_cons.mp this).1
  unfold selecting
  have htotal : d.cnt (r + 1) q = weight (d.cnt r) pre + (d.cnt r e.2 + weight (d.cnt r) post) := by
    rw [cnt_succ]; simp [hq, hrow, weight_append]
  have : (Finset.range (d.cnt (r + 1) q)).filter
      (fun c => pickEdge (d.cnt r) (d.row q) c = some e) =
      Finset.Ico (weight (d.cnt r) pre) (weight (d.cnt r) pre + d.cnt r e.2) := by
    ext c
    simp only [Finset.mem_filter, Finset.mem_range, Finset.mem_Ico, hrow,
      pickEdge_eq_some_iff (d.cnt r) pre post e hpre hpost c]
    omega
  rw [this, Nat.card_Ico]
  omega

/-- The product over the symbols of `w`, read from `q`, of (number of outcomes selecting the
symbol) / `total`: for a non-empty word the probability that the loop, started in `q` with `|w|`
symbols to go, outputs `w` when every `randint(0, total - 1)` is uniform and independent of the
earlier ones.  The empty product is 1 whatever `q` (the final `assert` is not part of it). -/
def wordProb (d : AV.DFA σ α) : σ → List α → ℚ
  | _, [] => 1
  | q, a :: w =>
    match d.step? (some q) a with
    | some t => (selecting d w.length q (a, t) : ℚ) / (d.cnt (w.length + 1) q : ℚ) * wordProb d t w
    | none => 0

theorem wordProb_eq {d : AV.DFA σ α} (wf : d.WF) (hd : d.IsDict) :
    ∀ (w : List α) (q : σ), q ∈ d.states → d.acceptsFrom q w = true →
      wordProb d q w = 1 / (d.cnt w.length q : ℚ) := by
  intro w
  induction w with
  | nil =>
    intro q _ hw
    simp only [wordProb, cnt_zero, (acceptsFrom_nil d q).mp hw, if_true, List.length_nil]
    norm_num
  | cons a w ih =>
    intro q hq hw
    obtain ⟨t, hs, hw'⟩ := (acceptsFrom_cons d q a w).mp hw
    have ht : t ∈ d.states := step?_mem wf hs
    simp only [wordProb, hs, selecting_eq_cnt hd w.length hq (alookup_some_mem hs),
      ih t ht hw', List.length_cons]
    have h1 : (d.cnt w.length t : ℚ) ≠ 0 :=
      Nat.cast_ne_zero.mpr ((cnt_pos_iff wf hd _ ht).mpr ⟨w, rfl, hw'⟩).ne'
    have h2 : (d.cnt (w.length + 1) q : ℚ) ≠ 0 :=
      Nat.cast_ne_zero.mpr ((cnt_pos_iff wf hd _ hq).mpr ⟨a :: w, rfl, hw⟩).ne'
    generalize (d.cnt w.length t : ℚ) = x at h1 ⊢
    generalize (d.cnt (w.length + 1) q : ℚ) = y at h2 ⊢
    field_simp

theorem wordProb_eq_zero {d : AV.DFA σ α} (wf : d.WF) (hd : d.IsDict) :
    ∀ (w : List α) (q : σ), q ∈ d.states → d.acceptsFrom q w = false → 0 < w.length →
      wordProb d q w = 0 := by
  intro w
  induction w with
  | nil => intro q _ _ h; simp at h
  | cons a w ih =>
    intro q hq hw _
    simp only [DFA.acceptsFrom, DFA.run_cons] at hw
    cases hs : d.step? (some q) a with
    | none => simp [wordProb, hs]
    | some t =>
      rw [hs] at hw
      have hmem : (a, t) ∈ d.row q := alookup_some_mem hs
      have ht : t ∈ d.states := step?_mem wf hs
      simp only [wordProb, hs, selecting_eq_cnt hd w.length hq hmem]
      cases w with
      | nil =>
        have : t ∉ d.finals := by simpa [DFA.isFinal] using hw
        simp [cnt_zero, this, wordProb]
      | cons b w' =>
        rw [ih t ht hw (by simp)]
        simp

/-- Expected value of `f (c₁ … c_r)` when the loop runs from `q` with `r` symbols to go and every
`randint(0, total - 1)` is uniform on its range and independent of the earlier ones: the loop's
own draw tree (`total = _count_cache[r+1][q]`; next state = the edge picked by the result, or
the same state on fall-through), each result weighted `1/total`. -/
def drawExp (d : AV.DFA σ α) : Nat → σ → (List Nat → ℚ) → ℚ
  | 0, _, f => f []
  | r + 1, q, f =>
    (∑ c ∈ Finset.range (d.cnt (r + 1) q),
      match pickEdge (d.cnt r) (d.row q) c with
      | some e => drawExp d r e.2 (fun cs => f (c :: cs))
      | none => drawExp d r q (fun cs => f (c :: cs))) / (d.cnt (r + 1) q : ℚ)

open Classical in
/-- Probability of the event `E` about the vector of `randint` results. -/
noncomputable def drawProb (d : AV.DFA σ α) (r : Nat) (q : σ) (E : List Nat → Prop) : ℚ :=
  drawExp d r q (fun cs => if E cs then 1 else 0)

section
omit [DecidableEq α]

def drawNext (d : AV.DFA σ α) (r : Nat) (q : σ) (c : Nat) : σ :=
  match pickEdge (d.cnt r) (d.row q) c with
  | some e => e.2
  | none => q

theorem drawExp_succ (d : AV.DFA σ α) (r : Nat) (q : σ) (f : List Nat → ℚ) :
    drawExp d (r + 1) q f =
      (∑ c ∈ Finset.range (d.cnt (r + 1) q), drawExp d r (drawNext d r q c) fun cs => f (c :: cs)) /
        (d.cnt (r + 1) q : ℚ) := by
  rw [drawExp]
  refine congrArg (· / _) (Finset.sum_congr rfl fun c _ => ?_)
  unfold drawNext
  cases pickEdge (d.cnt r) (d.row q) c <;> rfl

theorem inRange_cons {d : AV.DFA σ α} {r : Nat} {q : σ} {c : Nat} {cs : List Nat}
    (hc : c < d.cnt (r + 1) q) (h : d.InRange r (drawNext d r q c) cs) : d.InRange (r + 1) q (c :: cs) := by
  unfold drawNext at h
  refine ⟨hc, ?_⟩
  cases hp : pickEdge (d.cnt r) (d.row q) c with
  | none => simp only [List.headD_cons, hp]
  | some e =>
    rw [hp] at h
    simp only [List.headD_cons, hp, List.tail_cons]
    exact h

theorem drawExp_congr (d : AV.DFA σ α) : ∀ (r : Nat) (q : σ) (f g : List Nat → ℚ),
    (∀ cs, cs.length = r → d.InRange r q cs → f cs = g cs) → drawExp d r q f = drawExp d r q g := by
  intro r
  induction r with
  | zero => intro q f g h; exact h [] rfl trivial
  | succ r ih =>
    intro q f g h
    rw [drawExp_succ, drawExp_succ]
    refine congrArg (· / _) (Finset.sum_congr rfl fun c hc => ih _ _ _ fun cs hl hin => ?_)
    exact h (c :: cs) (by simp [hl]) (inRange_cons (Finset.mem_range.mp hc) hin)

theorem drawExp_zero (d : AV.DFA σ α) : ∀ (r : Nat) (q : σ), drawExp d r q (fun _ => 0) = 0 := by
  intro r
  induction r with
  | zero => intro q; rfl
  | succ r ih =>
    intro q
    rw [drawExp_succ, Finset.sum_eq_zero fun c _ => ih _]
    exact zero_div _

theorem drawExp_const {d : AV.DFA σ α} (wf : d.WF) (x : ℚ) : ∀ (r : Nat) (q : σ), q ∈ d.states →
    0 < d.cnt r q → drawExp d r q (fun _ => x) = x := by
  intro r
  induction r with
  | zero => intro q _ _; rfl
  | succ r ih =>
    intro q hq hpos
    have : ∀ c ∈ Finset.range (d.cnt (r + 1) q), drawExp d r (drawNext d r q c) (fun _ => x) = x := by
      intro c hc
      have hc' : c < weight (d.cnt r) (d.row q) := by
        have := Finset.mem_range.mp hc
        rw [cnt_succ] at this; simpa [hq] using this
      obtain ⟨e, he, hepos⟩ := pickEdge_lt_weight hc'
      simp only [drawNext, he]
      exact ih e.2 (pickEdge_state wf he) hepos
    rw [drawExp_succ, Finset.sum_congr rfl this, Finset.sum_const, Finset.card_range, nsmul_eq_mul]
    have h2 : (d.cnt (r + 1) q : ℚ) ≠ 0 := by exact_mod_cast Nat.pos_iff_ne_zero.mp hpos
    field_simp

theorem drawProb_congr (d : AV.DFA σ α) (r : Nat) (q : σ) (E E' : List Nat → Prop)
    (h : ∀ cs, cs.length = r → d.InRange r q cs → (E cs ↔ E' cs)) :
    drawProb d r q E = drawProb d r q E' := by
  unfold drawProb
  apply drawExp_congr
  intro cs hl hin
  have hiff := h cs hl hin
  by_cases hE : E cs
  · simp [hE, hiff.mp hE]
  · have hE' : ¬ E' cs := fun h' => hE (hiff.mpr h')
    simp [hE, hE']

theorem drawProb_false (d : AV.DFA σ α) (r : Nat) (q : σ) : drawProb d r q (fun _ => False) = 0 := by
  unfold drawProb
  simp only [if_false]
  exact drawExp_zero d r q

end

open Classical in
/-- The results that select a given accepted word have total weight `wordProb`: the step product
is the probability of the draw tree, edge by edge. -/
theorem drawProb_sel {d : AV.DFA σ α} (hd : d.IsDict) :
    ∀ (w : List α) (q : σ), d.acceptsFrom q w = true →
      drawProb d w.length q (fun cs => d.Sel w.length q cs w) = wordProb d q w := by
  intro w
  induction w with
  | nil =>
    intro q hw
    simp [drawProb, drawExp, Sel, (acceptsFrom_nil d q).mp hw, wordProb]
  | cons a w ih =>
    intro q hw
    obtain ⟨t, hs, hw⟩ := (acceptsFrom_cons d q a w).mp hw
    -- a result contributes iff it picks the edge `(a, t)`; then the rest must select `w` from `t`
    have hsummand : ∀ c ∈ Finset.range (d.cnt (w.length + 1) q),
        drawExp d w.length (drawNext d w.length q c)
            (fun cs => if d.Sel (w.length + 1) q (c :: cs) (a :: w) then (1 : ℚ) else 0) =
        if pickEdge (d.cnt w.length) (d.row q) c = some (a, t) then wordProb d t w else 0 := by
      intro c _
      simp only [RandSel.sel_cons_of_step hd hs]
      by_cases hp : pickEdge (d.cnt w.length) (d.row q) c = some (a, t)
      · simp only [hp, true_and, if_true, drawNext]
        exact ih t hw
      · simp only [hp, false_and, if_false]
        exact drawExp_zero d _ _
    rw [drawProb, List.length_cons, drawExp_succ]
    refine (congrArg (· / (d.cnt (w.length + 1) q : ℚ)) (Finset.sum_congr rfl hsummand)).trans ?_
    rw [Finset.sum_ite, Finset.sum_const_zero, add_zero, Finset.sum_const, nsmul_eq_mul,
      mul_div_right_comm]
    simp only [wordProb, hs, selecting]

end AV.Props.C13
