/-
Proofs/Pda.lean — what both PDA readers share: the stack, `StepN`, the table lookup, `Step` in the
vocabulary of the model (the transition tuples the readers build), the loop guard, `_has_accepted`,
and `accepts_input` / `read_input` over any reader's observation.
-/
import AutomataVerif.Spec.PDA
import AutomataVerif.Proofs.Basic

namespace AV.PDA

variable {σ α γ τ : Type}

@[simp] theorem Stack.top_concat (β : List γ) (X : γ) : Stack.top (β ++ [X]) = some X := by
  simp [Stack.top]

theorem replaceStackTop_eq (s push : List γ) : replaceStackTop s push = s.dropLast ++ push.reverse := by
  cases push with
  | nil => simp [replaceStackTop, Stack.pop]
  | cons a t => simp [replaceStackTop, Stack.replace]

@[simp] theorem replaceStackTop_concat (β push : List γ) (X : γ) :
    replaceStackTop (β ++ [X]) push = β ++ push.reverse := by
  rw [replaceStackTop_eq]; simp

theorem stepN_zero_iff {Δ : Moves σ α γ} {c c' : Config σ α γ} : StepN Δ 0 c c' ↔ c' = c := by
  constructor
  · intro h; cases h; rfl
  · rintro rfl; exact .zero _

theorem stepN_succ_iff {Δ : Moves σ α γ} {n : Nat} {c c'' : Config σ α γ} :
    StepN Δ (n + 1) c c'' ↔ ∃ c', StepN Δ n c c' ∧ Step Δ c' c'' := by
  constructor
  · intro h; cases h with | succ h s => exact ⟨_, h, s⟩
  · rintro ⟨c', h, s⟩; exact .succ h s

theorem stepN_succ_head {Δ : Moves σ α γ} {n : Nat} {c c'' : Config σ α γ} :
    StepN Δ (n + 1) c c'' ↔ ∃ c', Step Δ c c' ∧ StepN Δ n c' c'' := by
  induction n generalizing c'' with
  | zero =>
    rw [stepN_succ_iff]
    constructor
    · rintro ⟨c', h0, s⟩
      rw [stepN_zero_iff] at h0; subst h0
      exact ⟨c'', s, .zero _⟩
    · rintro ⟨c', s, h0⟩
      rw [stepN_zero_iff] at h0; subst h0
      exact ⟨c, .zero _, s⟩
  | succ n ih =>
    rw [stepN_succ_iff]
    constructor
    · rintro ⟨d, hd, s⟩
      obtain ⟨c', s', h'⟩ := ih.mp hd
      exact ⟨c', s', .succ h' s⟩
    · rintro ⟨c', s', h⟩
      obtain ⟨d, hd, s⟩ := stepN_succ_iff.mp h
      exact ⟨d, ih.mpr ⟨c', s', hd⟩, s⟩

theorem stepN_prefix {Δ : Moves σ α γ} {k : Nat} {c₀ c : Config σ α γ} (h : StepN Δ k c₀ c) :
    ∀ j, j ≤ k → ∃ c', StepN Δ j c₀ c' := by
  induction h with
  | zero => intro j hj; exact ⟨_, by rw [Nat.le_zero.mp hj]; exact .zero _⟩
  | succ h s ih =>
    intro j hj
    rcases Nat.lt_or_ge j (_ + 1) with hlt | hge
    · exact ih j (Nat.lt_succ_iff.mp hlt)
    · obtain rfl : j = _ + 1 := Nat.le_antisymm hj hge
      exact ⟨_, StepN.succ h s⟩

theorem stepN_none_mono {Δ : Moves σ α γ} {c₀ : Config σ α γ} {k j : Nat}
    (h : ∀ c, ¬ StepN Δ k c₀ c) (hle : k ≤ j) : ∀ c, ¬ StepN Δ j c₀ c := by
  intro c hc
  obtain ⟨c', hc'⟩ := stepN_prefix hc k hle
  exact h c' hc'

variable [DecidableEq σ] [DecidableEq α] [DecidableEq γ]

set_option linter.unusedSectionVars false in
theorem Stack.top_nil : Stack.top ([] : List γ) = none := rfl

set_option linter.unusedSectionVars false in
theorem Stack.top_eq_some {s : List γ} {X : γ} (h : Stack.top s = some X) :
    ∃ β, s = β ++ [X] :=
  List.getLast?_eq_some_iff.mp h

set_option linter.unusedSectionVars false in
theorem Stack.top_eq_none {s : List γ} (h : Stack.top s = none) : s = [] :=
  List.getLast?_eq_none_iff.mp h

theorem Table.entry?_eq_bind (M : Table σ α γ τ) (q : σ) (a : Option α) (X : γ) :
    M.entry? q a X = (alookup q M.trans).bind fun row => (alookup a row).bind fun sp => alookup X sp := by
  unfold Table.entry?
  cases alookup q M.trans with
  | none => rfl
  | some row =>
    simp only [Option.bind_some]
    cases alookup a row <;> rfl

theorem Table.entry?_eq_some (M : Table σ α γ τ) {q : σ} {a : Option α} {X : γ} {t : τ} :
    M.entry? q a X = some t ↔
      ∃ row sp, alookup q M.trans = some row ∧ alookup a row = some sp ∧ alookup X sp = some t := by
  simp only [M.entry?_eq_bind, Option.bind_eq_some_iff, exists_and_left]

theorem Table.entry?_some_mem (M : Table σ α γ τ) {q : σ} {a : Option α} {X : γ} {t : τ}
    (h : M.entry? q a X = some t) :
    ∃ row sp, (q, row) ∈ M.trans ∧ (a, sp) ∈ row ∧ (X, t) ∈ sp := by
  obtain ⟨row, sp, h1, h2, h3⟩ := M.entry?_eq_some.mp h
  exact ⟨row, sp, alookup_some_mem h1, alookup_some_mem h2, alookup_some_mem h3⟩

theorem Table.entry?_of_mem (M : Table σ α γ τ) (hk : M.KeysUniqueAll) {q : σ} {a : Option α} {X : γ}
    {t : τ} {row : List (Option α × List (γ × τ))} {sp : List (γ × τ)}
    (h1 : (q, row) ∈ M.trans) (h2 : (a, sp) ∈ row) (h3 : (X, t) ∈ sp) : M.entry? q a X = some t :=
  M.entry?_eq_some.mpr ⟨row, sp, alookup_of_mem_nodup hk.1.1 h1, alookup_of_mem_nodup (hk.1.2 _ h1) h2,
    alookup_of_mem_nodup (hk.2 _ h1 _ h2) h3⟩

omit [DecidableEq α] [DecidableEq γ] in
theorem Table.row_unique (M : Table σ α γ τ) (hk : M.KeysUnique) {q : σ}
    {row row' : List (Option α × List (γ × τ))} (h : (q, row) ∈ M.trans) (h' : (q, row') ∈ M.trans) :
    row = row' :=
  Option.some.inj ((alookup_of_mem_nodup hk.1 h).symm.trans (alookup_of_mem_nodup hk.1 h'))

theorem Table.entry?_isSome_iff (M : Table σ α γ τ) (hk : M.KeysUnique) (q : σ) (a : Option α) (X : γ) :
    (M.entry? q a X).isSome = true ↔
      ∃ row sp, (q, row) ∈ M.trans ∧ (a, sp) ∈ row ∧ X ∈ akeys sp := by
  rw [Option.isSome_iff_exists]
  constructor
  · rintro ⟨t, ht⟩
    obtain ⟨row, sp, h1, h2, h3⟩ := M.entry?_eq_some.mp ht
    exact ⟨row, sp, alookup_some_mem h1, alookup_some_mem h2, alookup_some_key_mem h3⟩
  · rintro ⟨row, sp, h1, h2, h3⟩
    obtain ⟨t, ht⟩ := exists_alookup h3
    exact ⟨t, M.entry?_eq_some.mpr
      ⟨row, sp, alookup_of_mem_nodup hk.1 h1, alookup_of_mem_nodup (hk.2 _ h1) h2, ht⟩⟩

theorem NPDA.movesMem_of_moves (M : NPDA σ α γ) {q : σ} {a : Option α} {X : γ} {p : σ} {push : List γ}
    (h : M.moves q a X p push) : M.movesMem q a X p push := by
  obtain ⟨ts, hts, hmem⟩ := h
  obtain ⟨row, sp, h1, h2, h3⟩ := M.entry?_some_mem hts
  exact ⟨row, sp, ts, h1, h2, h3, hmem⟩

theorem NPDA.moves_iff_movesMem (M : NPDA σ α γ) (hk : M.KeysUniqueAll) (q : σ) (a : Option α) (X : γ)
    (p : σ) (push : List γ) : M.moves q a X p push ↔ M.movesMem q a X p push :=
  ⟨M.movesMem_of_moves, fun ⟨_, _, ts, h1, h2, h3, hmem⟩ => ⟨ts, M.entry?_of_mem hk h1 h2 h3, hmem⟩⟩

theorem DPDA.moves_iff_movesMem (M : DPDA σ α γ) (hk : M.KeysUniqueAll) (q : σ) (a : Option α) (X : γ)
    (p : σ) (push : List γ) : M.moves q a X p push ↔ M.movesMem q a X p push :=
  ⟨M.entry?_some_mem, fun ⟨_, _, h1, h2, h3⟩ => M.entry?_of_mem hk h1 h2 h3⟩

theorem DPDA.twoMoves_iff_mem (M : DPDA σ α γ) (hk : M.KeysUnique) : M.TwoMoves ↔ M.TwoMovesMem := by
  unfold DPDA.TwoMoves DPDA.TwoMovesMem
  constructor
  · rintro ⟨q, a, X, h1, h2⟩
    obtain ⟨row, sp, hr, hs, hX⟩ := (M.entry?_isSome_iff hk q (some a) X).mp h1
    obtain ⟨row', sp', hr', hs', hX'⟩ := (M.entry?_isSome_iff hk q none X).mp h2
    obtain rfl := M.row_unique hk hr hr'
    exact ⟨q, row, a, sp, sp', X, hr, hs, hs', hX, hX'⟩
  · rintro ⟨q, row, a, sp, sp', X, hr, hs, hs', hX, hX'⟩
    exact ⟨q, a, X, (M.entry?_isSome_iff hk q (some a) X).mpr ⟨row, sp, hr, hs, hX⟩,
      (M.entry?_isSome_iff hk q none X).mpr ⟨row, sp', hr, hs', hX'⟩⟩

set_option linter.unusedSectionVars false in
theorem applyTrans_read (c : Config σ α γ) (a : α) (p : σ) (push : List γ) :
    applyTrans c (some a, p, push) = ⟨p, c.input.tail, replaceStackTop c.stack push⟩ := rfl

set_option linter.unusedSectionVars false in
theorem applyTrans_eps (c : Config σ α γ) (p : σ) (push : List γ) :
    applyTrans c (none, p, push) = ⟨p, c.input, replaceStackTop c.stack push⟩ := rfl

/-- What `_get_transition(s)(q, a, top)` offers: the tuples `(a, p, push)` with `Δ q a X p push` for
the stack top `X` (nothing when the stack is empty, `top = none`). -/
def Offers (Δ : Moves σ α γ) (q : σ) (top : Option γ) (a : Option α) (t : Trans σ α γ) : Prop :=
  ∃ X, top = some X ∧ Δ q a X t.2.1 t.2.2 ∧ t.1 = a

/-- The transition `t = (input_symbol, new_state, new_stack_top)` applies to `c`: the table has
the move for the state and the stack top of `c`, and its symbol, if any, is the next one. -/
def Enabled (Δ : Moves σ α γ) (c : Config σ α γ) (t : Trans σ α γ) : Prop :=
  ∃ X, Stack.top c.stack = some X ∧ Δ c.state t.1 X t.2.1 t.2.2 ∧ (t.1 = none ∨ c.input.head? = t.1)

omit [DecidableEq σ] [DecidableEq α] [DecidableEq γ] in
/-- Both `_get_next_configuration(s)` collect the enabled transitions in two calls: for λ and, when
input is left, for its first symbol. -/
theorem enabled_iff (Δ : Moves σ α γ) (c : Config σ α γ) (t : Trans σ α γ) :
    Enabled Δ c t ↔ Offers Δ c.state (Stack.top c.stack) none t ∨
      ∃ a, c.input.head? = some a ∧ Offers Δ c.state (Stack.top c.stack) (some a) t := by
  obtain ⟨a', p, push⟩ := t
  constructor
  · rintro ⟨X, hX, hm, ht⟩
    cases a' with
    | none => exact .inl ⟨X, hX, hm, rfl⟩
    | some a => exact .inr ⟨a, by simpa using ht, X, hX, hm, rfl⟩
  · rintro (⟨X, hX, hm, rfl⟩ | ⟨a, ha, X, hX, hm, rfl⟩)
    · exact ⟨X, hX, hm, .inl rfl⟩
    · exact ⟨X, hX, hm, .inr ha⟩

omit [DecidableEq σ] [DecidableEq α] in
theorem step_iff (Δ : Moves σ α γ) (c c' : Config σ α γ) :
    Step Δ c c' ↔ ∃ t, Enabled Δ c t ∧ c' = applyTrans c t := by
  constructor
  · intro h
    cases h with
    | read h => exact ⟨(some _, _, _), ⟨_, Stack.top_concat .., h, .inr rfl⟩, by simp [applyTrans_read]⟩
    | eps h => exact ⟨(none, _, _), ⟨_, Stack.top_concat .., h, .inl rfl⟩, by simp [applyTrans_eps]⟩
  · rintro ⟨⟨a, p, push⟩, ⟨X, hX, hΔ, ha⟩, rfl⟩
    obtain ⟨q, inp, st⟩ := c
    obtain ⟨β, rfl⟩ := Stack.top_eq_some hX
    cases a with
    | none => simpa [applyTrans_eps] using Step.eps (w := inp) (β := β) hΔ
    | some x =>
      cases inp with
      | nil => simp at ha
      | cons y w =>
        obtain rfl : y = x := by simpa using ha
        simpa [applyTrans_read] using Step.read (w := w) (β := β) hΔ

omit [DecidableEq σ] [DecidableEq α] in
theorem no_step_of_empty_stack (Δ : Moves σ α γ) {c c' : Config σ α γ} (h : c.stack = []) :
    ¬ Step Δ c c' := by
  rw [step_iff]
  rintro ⟨_, ⟨X, hX, _⟩, _⟩
  rw [h] at hX; cases hX

/-- The guard of both readers' loops: no input left and no λ-transition for the stack top
means that no move applies (`Δ` the moves of the table). -/
theorem no_step_of_guard (M : Table σ α γ τ) {Δ : Moves σ α γ}
    (hΔ : ∀ q X p push, Δ q none X p push → (M.entry? q none X).isSome = true)
    {c c' : Config σ α γ} (hi : c.input = [])
    (hl : M.hasLambdaTransition c.state (Stack.top c.stack) = false) : ¬ Step Δ c c' := by
  rw [step_iff]
  rintro ⟨⟨a, p, push⟩, ⟨X, hX, hm, ha⟩, _⟩
  obtain rfl : a = none := by simpa [hi, eq_comm] using ha
  rw [hX, Table.hasLambdaTransition, hΔ _ _ _ _ hm] at hl
  cases hl

omit [DecidableEq α] [DecidableEq γ] in
theorem hasAccepted_iff (M : Table σ α γ τ) (m : AccMode) (hm : M.mode = m.literal)
    (c : Config σ α γ) : M.hasAccepted c = true ↔ Accepting m M.finals c := by
  unfold Table.hasAccepted Accepting
  rw [hm]
  cases m <;>
    simp [AccMode.literal, Gen.Pda.hasAcceptedRules, Gen.Pda.hasAcceptedChecksInput, Table.accTest,
      List.isEmpty_iff]

theorem acceptsInput_spec {β : Type} (r : List β × Outcome) (hne : r.1 ≠ [])
    (hrej : ∀ e, r.2 = .raised e → e = .lib .rejectionException) :
    (acceptsInput r = some (.ok true) ↔ r.2 = .returned) ∧
    (acceptsInput r = some (.ok false) ↔ r.2 = .raised (.lib .rejectionException)) ∧
    (acceptsInput r = none ↔ r.2 = .outOfFuel) ∧
    (∀ e, acceptsInput r ≠ some (.error e)) ∧
    (r.2 = .returned → readInput r = r.1.getLast?.map .ok) := by
  obtain ⟨ys, out⟩ := r
  cases out with
  | outOfFuel => simp [acceptsInput, readInput]
  | raised e =>
    obtain rfl := hrej e rfl
    simp [acceptsInput, readInput]
  | returned =>
    cases hl : ys.getLast? with
    | none => exact absurd (List.getLast?_eq_none_iff.mp hl) hne
    | some c => simp [acceptsInput, readInput, hl]

theorem readInput_error {β : Type} (r : List β × Outcome) (hne : r.1 ≠ [])
    (hrej : ∀ e, r.2 = .raised e → e = .lib .rejectionException) (e : Exn)
    (he : readInput r = some (.error e)) : e = .lib .rejectionException := by
  obtain ⟨ys, out⟩ := r
  cases out with
  | outOfFuel => cases he
  | raised e' => cases he; exact hrej e rfl
  | returned =>
    cases hl : ys.getLast? with
    | none => exact absurd (List.getLast?_eq_none_iff.mp hl) hne
    | some c => simp [readInput, hl] at he

@[simp] theorem NPDA.getTransitions_none (M : NPDA σ α γ) (q : σ) (a : Option α) :
    M.getTransitions q a none = [] := rfl

theorem NPDA.mem_getTransitions (M : NPDA σ α γ) (q : σ) (a : Option α) (top : Option γ)
    (t : Trans σ α γ) : t ∈ M.getTransitions q a top ↔ Offers M.moves q top a t := by
  unfold Offers
  cases top with
  | none => simp
  | some X =>
    unfold NPDA.moves
    cases h : M.entry? q a X with
    | none => simp [NPDA.getTransitions, h]
    | some ts =>
      simp only [NPDA.getTransitions, h, List.mem_map, Option.some.injEq, exists_eq_left']
      constructor
      · rintro ⟨e, he, rfl⟩; exact ⟨he, rfl⟩
      · rintro ⟨he, rfl⟩; exact ⟨t.2, he, rfl⟩

theorem NPDA.mem_nextConfigs (M : NPDA σ α γ) (c c' : Config σ α γ) :
    c' ∈ M.nextConfigs c ↔ Step M.moves c c' := by
  simp only [step_iff, enabled_iff, ← M.mem_getTransitions, NPDA.nextConfigs, mem_dedup, List.mem_map,
    List.mem_append]
  cases c.input <;> simp [or_comm, eq_comm]

end AV.PDA
