/-
Proofs/NFAOpsShuffle.lean — table-level specification of `NFA.shuffle_product`
(Model/NFAOps.lean): totality, validity of the result and the reading of its transition
table (every move — ε or symbol — moves exactly one component).  The loops only add, so the
table is `Tbl.addRow` folded over a list of rows, and everything is read off that list.  Core only.
-/
import AutomataVerif.Model.NFAOps
import AutomataVerif.Proofs.NFATable
import AutomataVerif.Proofs.NFAOpsUnary

open AV.AL

namespace AV
namespace NFA

variable {σ₁ σ₂ α : Type} [DecidableEq σ₁] [DecidableEq σ₂] [DecidableEq α]

/-- What `for cur in product(states_a, states_b)` writes: the moves of either component. -/
def shufRows (A : NFA σ₁ α) (B : NFA σ₂ α) : List ((σ₁ × σ₂) × Row (σ₁ × σ₂) α) :=
  (lprod A.states B.states).map fun cur =>
    (cur, (A.row cur.1).map (fun e => (e.1, e.2.map fun p => (p, cur.2))) ++
          (B.row cur.2).map (fun e => (e.1, e.2.map fun p => (cur.1, p))))

/-- The record `shuffle_product` passes to the constructor. -/
def shufRaw (A : NFA σ₁ α) (B : NFA σ₂ α) : NFA (σ₁ × σ₂) α :=
  { states := lprod A.states B.states, syms := sunion A.syms B.syms,
    init := (A.init, B.init), finals := lprod A.finals B.finals,
    trans := (shufRows A B).foldl Tbl.addRow [] }

theorem shuffleProduct_eq (A : NFA σ₁ α) (B : NFA σ₂ α) :
    shuffleProduct A B = create (shufRaw A B) := by
  unfold shuffleProduct shufRaw shufRows
  simp only [List.foldl_map, Tbl.addRow, Tbl.addEdges, List.foldl_append]

theorem mem_shufRaw_targets (A : NFA σ₁ α) (B : NFA σ₂ α) (hA : Tbl.Dict A.trans)
    (hB : Tbl.Dict B.trans) (q : σ₁ × σ₂) (a : Option α) (t : σ₁ × σ₂) :
    t ∈ (shufRaw A B).targets q a ↔ q ∈ lprod A.states B.states ∧
      ((t.1 ∈ A.targets q.1 a ∧ t.2 = q.2) ∨ (t.1 = q.1 ∧ t.2 ∈ B.targets q.2 a)) := by
  refine ((Tbl.mem_tgt_addRows (shufRows A B) [] q a t).trans
    (or_iff_right List.not_mem_nil)).trans ⟨?_, fun ⟨hq, h⟩ => ⟨_, List.mem_map.mpr ⟨q, hq, rfl⟩, rfl, ?_⟩⟩
  · rintro ⟨_, hr, rfl, he⟩
    obtain ⟨cur, hc, rfl⟩ := List.mem_map.mp hr
    simp only [List.mem_append, or_and_right, exists_or] at he
    refine ⟨hc, he.imp (fun h => ?_) fun h => ?_⟩
    · obtain ⟨x, hx, rfl⟩ := (Tbl.exists_mem_row_map _ (Tbl.row_nodup hA _) a t).mp h
      exact ⟨hx, rfl⟩
    · obtain ⟨x, hx, rfl⟩ := (Tbl.exists_mem_row_map _ (Tbl.row_nodup hB _) a t).mp h
      exact ⟨rfl, hx⟩
  · simp only [List.mem_append, or_and_right, exists_or]
    rcases h with ⟨h1, h2⟩ | ⟨h1, h2⟩
    · exact Or.inl ((Tbl.exists_mem_row_map _ (Tbl.row_nodup hA _) a t).mpr ⟨t.1, h1, h2 ▸ rfl⟩)
    · exact Or.inr ((Tbl.exists_mem_row_map _ (Tbl.row_nodup hB _) a t).mpr ⟨t.2, h2, h1 ▸ rfl⟩)

theorem shufRaw_valid (A : NFA σ₁ α) (B : NFA σ₂ α) (hA : A.Valid) (hB : B.Valid) :
    (shufRaw A B).Valid := by
  have hi : (A.init, B.init) ∈ lprod A.states B.states := mem_lprod.mpr ⟨hA.wf.initOk, hB.wf.initOk⟩
  refine Valid.of_ext (Tbl.Ext.addRows (fun r hr e he => ?_) []) Tbl.dict_nil Tbl.ok_nil hi
    ((Tbl.mem_akeys_addRows _ [] _).mpr (Or.inr ⟨_, List.mem_map.mpr ⟨_, hi, rfl⟩, rfl⟩)) ?_
  · obtain ⟨cur, hc, rfl⟩ := List.mem_map.mp hr
    obtain ⟨h1, h2⟩ := mem_lprod.mp hc
    rcases List.mem_append.mp he with he | he <;> obtain ⟨e, he', rfl⟩ := List.mem_map.mp he
    · have ha := Tbl.rowOk_lookup hA.wf.ok cur.1 e he'
      exact ⟨fun x hx => mem_sunion.mpr (Or.inl (ha.1 x hx)), fun p hp => by
        obtain ⟨x, hx, rfl⟩ := List.mem_map.mp hp
        exact mem_lprod.mpr ⟨ha.2 x hx, h2⟩⟩
    · have hb := Tbl.rowOk_lookup hB.wf.ok cur.2 e he'
      exact ⟨fun x hx => mem_sunion.mpr (Or.inr (hb.1 x hx)), fun p hp => by
        obtain ⟨x, hx, rfl⟩ := List.mem_map.mp hp
        exact mem_lprod.mpr ⟨h1, hb.2 x hx⟩⟩
  · rintro ⟨p, q⟩ hq
    obtain ⟨h1, h2⟩ := mem_lprod.mp hq
    exact mem_lprod.mpr ⟨hA.wf.finalsOk p h1, hB.wf.finalsOk q h2⟩

theorem shuffleProduct_spec (A : NFA σ₁ α) (B : NFA σ₂ α) (hA : A.Valid) (hB : B.Valid) :
    ∃ R : NFA (σ₁ × σ₂) α, shuffleProduct A B = .ok R ∧ R.Valid ∧
      R.init = (A.init, B.init) ∧
      (∀ p ∈ A.states, ∀ q ∈ B.states, ∀ a t,
        R.rel (p, q) a t ↔ Rx.shufStep A.rel B.rel (p, q) a t) ∧
      (∀ p q, (p, q) ∈ R.finals ↔ (p ∈ A.finals ∧ q ∈ B.finals)) := by
  have hv := shufRaw_valid A B hA hB
  exact ⟨shufRaw A B, (shuffleProduct_eq A B).trans (create_eq_ok _ hv.wf), hv,
    rfl, fun p hp q hq a t =>
      (mem_shufRaw_targets A B hA.dict hB.dict (p, q) a t).trans
        (and_iff_right (mem_lprod.mpr ⟨hp, hq⟩)), fun p q => mem_lprod⟩

end NFA
end AV
