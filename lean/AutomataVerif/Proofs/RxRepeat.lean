/-
Proofs/RxRepeat.lean — `NFARegexBuilder.repeat`: the loop invariant of the copy loop, the edge
characterisation of the result, and from it the language of every state of every copy, the
invariant and the language of the result.  Core only.
-/
import AutomataVerif.Proofs.RxBuilder

namespace AV.Rx

variable {α : Type}

namespace Builder

/-- First name of the block of copy `k ≥ 2` when `repeat` starts with counter value `c`. -/
def blockBase (b : Builder α) (c k : Nat) : Nat := c + 1 + (k - 2) * b.keys.length

/-- The name of state `q` in copy `k` (copy 1 keeps the names). -/
def cp (b : Builder α) (c k q : Nat) : Nat :=
  if k ≤ 1 then q else b.blockBase c k + b.keys.idxOf q

theorem cp_one (b : Builder α) (c q : Nat) : b.cp c 1 q = q := by simp [cp]

theorem cp_ge2 (b : Builder α) (c : Nat) {k : Nat} (hk : 2 ≤ k) (q : Nat) :
    b.cp c k q = b.blockBase c k + b.keys.idxOf q :=
  if_neg (by omega)

set_option linter.unusedSectionVars false in
variable [DecidableEq α] in
theorem blockBase_two (b : Builder α) (c : Nat) : b.blockBase c 2 = c + 1 := by simp [blockBase]

theorem blockBase_succ (b : Builder α) (c : Nat) {k : Nat} (hk : 2 ≤ k) :
    b.blockBase c (k + 1) = b.blockBase c k + b.keys.length := by
  unfold blockBase
  rw [Nat.sub_add_comm hk, Nat.succ_mul, ← Nat.add_assoc (c + 1)]

theorem blockBase_mono (b : Builder α) (c : Nat) {k k' : Nat} (h : k ≤ k') :
    b.blockBase c k ≤ b.blockBase c k' :=
  Nat.add_le_add_left (Nat.mul_le_mul_right _ (Nat.sub_le_sub_right h 2)) _

theorem blockBase_gt (b : Builder α) (c k : Nat) : c < b.blockBase c k :=
  Nat.lt_of_lt_of_le (Nat.lt_succ_self c) (Nat.le_add_right _ _)

theorem cp_range (b : Builder α) (c : Nat) {k q : Nat} (hk : 2 ≤ k) (hq : q ∈ b.keys) :
    b.blockBase c k ≤ b.cp c k q ∧ b.cp c k q < b.blockBase c (k + 1) := by
  rw [cp_ge2 b c hk, blockBase_succ b c hk]
  exact ⟨Nat.le_add_right _ _, Nat.add_lt_add_left (List.idxOf_lt_length_of_mem hq) _⟩

variable [DecidableEq α]

section names
variable {b : Builder α} {l c : Nat} (i : b.Inv l c)
include i

theorem cp_bounds {k p : Nat} (hk : 1 ≤ k) (hp : p ∈ b.keys) :
    l ≤ b.cp c k p ∧ b.cp c k p < b.blockBase c (k + 1) := by
  have := blockBase_gt b c (k + 1)
  have := i.keysRange p hp
  rcases Nat.eq_or_lt_of_le hk with rfl | hk2
  · rw [cp_one]; omega
  · have := cp_range b c hk2 hp
    have := blockBase_gt b c k
    omega

theorem cp_lt_of_lt {k k' p p' : Nat} (hk : 1 ≤ k) (hkk : k < k') (hp : p ∈ b.keys)
    (hp' : p' ∈ b.keys) : b.cp c k p < b.cp c k' p' := by
  have := (cp_bounds i hk hp).2
  have := blockBase_mono b c (show k + 1 ≤ k' by omega)
  have := (cp_range b c (show 2 ≤ k' by omega) hp').1
  omega

theorem cp_inj {k k' p p' : Nat} (hk : 1 ≤ k) (hk' : 1 ≤ k') (hp : p ∈ b.keys) (hp' : p' ∈ b.keys)
    (e : b.cp c k p = b.cp c k' p') : k = k' ∧ p = p' := by
  rcases Nat.lt_trichotomy k k' with hlt | rfl | hgt
  · have := cp_lt_of_lt i hk hlt hp hp'; omega
  · refine ⟨rfl, ?_⟩
    rcases Nat.eq_or_lt_of_le hk with rfl | hk2
    · rwa [cp_one, cp_one] at e
    · rw [cp_ge2 b c hk2, cp_ge2 b c hk2] at e
      exact idxOf_inj_on hp (by omega)
  · have := cp_lt_of_lt i hk' hgt hp' hp; omega

theorem cp_ne_c {k p : Nat} (hk : 1 ≤ k) (hp : p ∈ b.keys) : b.cp c k p ≠ c := by
  rcases Nat.eq_or_lt_of_le hk with rfl | hk2
  · rw [cp_one]; have := i.keysRange _ hp; omega
  · have := cp_range b c hk2 hp
    have := blockBase_gt b c k
    omega

end names

/-- Edges of `new_transitions` after copies `1 … j` have been wired:
the ε-edge from the new initial state, the edges inside each copy, the ε-bridges from the final
states of copy `k` to the initial state of copy `k + 1`. -/
def RepEdges (b : Builder α) (c j q : Nat) (a : Option α) (t : Nat) : Prop :=
  (q = c ∧ a = none ∧ t = b.init) ∨
  (∃ k p p', 1 ≤ k ∧ k ≤ j ∧ q = b.cp c k p ∧ t = b.cp c k p' ∧ p' ∈ b.targets p a) ∨
  (∃ k p, 1 ≤ k ∧ k < j ∧ a = none ∧ p ∈ b.finals ∧ q = b.cp c k p ∧ t = b.cp c (k + 1) b.init)

theorem exists_le_succ {a j : Nat} (h : a ≤ j + 1) {P : Nat → Nat → Prop} :
    (∃ k p, a ≤ k ∧ k ≤ j + 1 ∧ P k p) ↔ (∃ k p, a ≤ k ∧ k ≤ j ∧ P k p) ∨ ∃ p, P (j + 1) p := by
  constructor
  · rintro ⟨k, p, h1, h2, h3⟩
    rcases Nat.lt_or_ge j k with hk | hk
    · exact Or.inr ⟨p, (show k = j + 1 by omega) ▸ h3⟩
    · exact Or.inl ⟨k, p, h1, hk, h3⟩
  · rintro (⟨k, p, h1, h2, h3⟩ | ⟨p, h3⟩)
    · exact ⟨k, p, h1, Nat.le_succ_of_le h2, h3⟩
    · exact ⟨j + 1, p, h, Nat.le_refl _, h3⟩

theorem repEdges_one (b : Builder α) (c q t : Nat) (a : Option α) :
    RepEdges b c 1 q a t ↔ (q = c ∧ a = none ∧ t = b.init) ∨ t ∈ b.targets q a := by
  refine or_congr_right ⟨?_, fun h => Or.inl ⟨1, q, t, Nat.le_refl _, Nat.le_refl _, ?_, ?_, h⟩⟩
  · rintro (⟨k, p, p', h1, h2, rfl, rfl, h5⟩ | ⟨k, p, h1, h2, _⟩)
    · obtain rfl : k = 1 := by omega
      rwa [cp_one, cp_one]
    · omega
  · rw [cp_one]
  · rw [cp_one]

theorem repEdges_succ (b : Builder α) (c : Nat) {j : Nat} (hj : 1 ≤ j) (q t : Nat) (a : Option α) :
    RepEdges b c (j + 1) q a t ↔
      RepEdges b c j q a t ∨
      (∃ p p', q = b.cp c (j + 1) p ∧ t = b.cp c (j + 1) p' ∧ p' ∈ b.targets p a) ∨
      (a = none ∧ ∃ p, p ∈ b.finals ∧ q = b.cp c j p ∧ t = b.cp c (j + 1) b.init) := by
  unfold RepEdges
  constructor
  · rintro (h | ⟨k, p, p', h1, h2, h3, h4, h5⟩ | ⟨k, p, h1, h2, h3, h4, h5, h6⟩)
    · exact Or.inl (Or.inl h)
    · rcases Nat.lt_or_ge j k with hk | hk
      · obtain rfl : k = j + 1 := by omega
        exact Or.inr (Or.inl ⟨p, p', h3, h4, h5⟩)
      · exact Or.inl (Or.inr (Or.inl ⟨k, p, p', h1, hk, h3, h4, h5⟩))
    · rcases Nat.lt_or_ge k j with hk | hk
      · exact Or.inl (Or.inr (Or.inr ⟨k, p, h1, hk, h3, h4, h5, h6⟩))
      · obtain rfl : k = j := by omega
        exact Or.inr (Or.inr ⟨h3, p, h4, h5, h6⟩)
  · rintro ((h | ⟨k, p, p', h1, h2, h3, h4, h5⟩ | ⟨k, p, h1, h2, h3, h4, h5, h6⟩) |
      ⟨p, p', h3, h4, h5⟩ | ⟨h3, p, h4, h5, h6⟩)
    · exact Or.inl h
    · exact Or.inr (Or.inl ⟨k, p, p', h1, Nat.le_succ_of_le h2, h3, h4, h5⟩)
    · exact Or.inr (Or.inr ⟨k, p, h1, Nat.lt_succ_of_lt h2, h3, h4, h5, h6⟩)
    · exact Or.inr (Or.inl ⟨j + 1, p, p', Nat.le_add_left 1 j, Nat.le_refl _, h3, h4, h5⟩)
    · exact Or.inr (Or.inr ⟨j, p, hj, Nat.lt_succ_self j, h3, h4, h5, h6⟩)

/-- Loop invariant of `for i in range(2, number_of_repetitions + 1)` after iteration `i = j`
(`j = 1`: before the loop). -/
structure LoopInv (b : Builder α) (c lo : Nat) (fin1 : List Nat) (j : Nat) (st : RepState α) :
    Prop where
  ctr : st.ctr = b.blockBase c (j + 1)
  keysNodup : (akeys st.T).Nodup
  keys : ∀ q, q ∈ akeys st.T ↔ q = c ∨ ∃ k p, 1 ≤ k ∧ k ≤ j ∧ p ∈ b.keys ∧ q = b.cp c k p
  prevFinals : ∀ q, q ∈ st.prevFinals ↔ ∃ p, p ∈ b.finals ∧ q = b.cp c j p
  prevInit : st.prevInit = b.cp c j b.init
  finals : ∀ q, q ∈ st.finals ↔
    q ∈ fin1 ∨ ∃ k p, 2 ≤ k ∧ k ≤ j ∧ lo ≤ k ∧ p ∈ b.finals ∧ q = b.cp c k p
  tg : ∀ q a t, t ∈ tgts st.T q a ↔ RepEdges b c j q a t

theorem loopInv_base {b : Builder α} {l c : Nat} (i : b.Inv l c) (lo : Nat)
    (fin1 : List Nat) :
    LoopInv b c lo fin1 1
      { T := ainsert c [(none, [b.init])] b.trans, prevFinals := b.finals, prevInit := b.init,
        finals := fin1, ctr := c + 1 } := by
  have hcn : c ∉ akeys b.trans := i.not_key (Or.inr (Nat.le_refl c))
  refine ⟨(blockBase_two b c).symm, nodup_akeys_ainsert i.keysNodup, fun q => ?_, fun q => ?_,
    (cp_one b c _).symm, fun q => ?_, fun q a t => ?_⟩
  · show q ∈ akeys (ainsert c _ b.trans) ↔ _
    rw [mem_akeys_ainsert]
    refine or_congr_right
      ⟨fun h => ⟨1, q, Nat.le_refl _, Nat.le_refl _, h, (cp_one b c q).symm⟩, ?_⟩
    rintro ⟨k, p, h1, h2, h3, rfl⟩
    obtain rfl : k = 1 := by omega
    rwa [cp_one]
  · simp only [cp_one, exists_eq_right']
  · exact ⟨Or.inl, fun h => h.resolve_right (fun ⟨k, _, h1, h2, _⟩ => by omega)⟩
  · show t ∈ tgts (ainsert c _ b.trans) q a ↔ _
    rw [tgts_ainsert, repEdges_one]
    by_cases hq : c = q
    · subst hq
      rw [if_pos rfl, targets_eq, tgts_of_not_key hcn]
      cases a <;> simp [alookup_cons]
    · rw [if_neg hq]
      exact ⟨Or.inr, fun h => h.resolve_left (fun h => hq h.1.symm)⟩

theorem repeatStep_inv {b : Builder α} {l c lo : Nat} (i : b.Inv l c)
    {fin1 : List Nat} {j : Nat} (hj : 1 ≤ j) {st : RepState α}
    (inv : LoopInv b c lo fin1 j st) :
    ∃ st', repeatStep b lo st (j + 1) = .ok st' ∧ LoopInv b c lo fin1 (j + 1) st' := by
  have hfe : copyName b st.ctr = b.cp c (j + 1) :=
    funext fun q => by rw [cp_ge2 b c (Nat.succ_le_succ hj), copyName, inv.ctr]
  have hinj : ∀ p ∈ akeys b.trans, ∀ p' ∈ akeys b.trans,
      b.cp c (j + 1) p = b.cp c (j + 1) p' → p = p' :=
    fun p hp p' hp' e => (cp_inj i (Nat.le_add_left 1 j) (Nat.le_add_left 1 j) hp hp' e).2
  have hCmem : ∀ q, q ∈ akeys (copyTrans (b.cp c (j + 1)) b.trans) ↔
      ∃ p, p ∈ b.keys ∧ q = b.cp c (j + 1) p := by
    intro q
    rw [akeys_copyTrans, List.mem_map]
    exact exists_congr fun p => and_congr_right fun _ => eq_comm
  have hCnd : (akeys (copyTrans (b.cp c (j + 1)) b.trans)).Nodup := by
    rw [akeys_copyTrans]; exact nodup_map_of_inj_on i.keysNodup hinj
  have hdisj : ∀ q, q ∈ akeys (copyTrans (b.cp c (j + 1)) b.trans) → q ∉ akeys st.T := by
    intro q hq hq2
    obtain ⟨p, hp, rfl⟩ := (hCmem q).mp hq
    rcases (inv.keys _).mp hq2 with h1 | ⟨k, p', h1, h2, h3, h4⟩
    · exact cp_ne_c i (Nat.le_add_left 1 j) hp h1
    · obtain rfl := (cp_inj i (Nat.le_add_left 1 j) h1 hp h3 h4).1
      exact Nat.not_succ_le_self j h2
  have hsrc : ∀ s ∈ st.prevFinals,
      s ∈ akeys (aupdate st.T (copyTrans (b.cp c (j + 1)) b.trans)) := by
    intro s hs
    obtain ⟨p, hp, rfl⟩ := (inv.prevFinals s).mp hs
    exact mem_akeys_aupdate.mpr
      (Or.inl ((inv.keys _).mpr (Or.inr ⟨j, p, hj, Nat.le_refl _, i.finalsKeys _ hp, rfl⟩)))
  obtain ⟨T2, hT2, hkeys2, htg2⟩ := addEdgesE_ok hsrc none (b.cp c (j + 1) b.init)
  have hpf : ∀ q, q ∈ dedup (b.finals.map (b.cp c (j + 1))) ↔
      ∃ p, p ∈ b.finals ∧ q = b.cp c (j + 1) p := by
    intro q
    rw [mem_dedup, List.mem_map]
    exact exists_congr fun p => and_congr_right fun _ => eq_comm
  refine ⟨{ T := T2, prevFinals := dedup (b.finals.map (b.cp c (j + 1))),
            prevInit := b.cp c (j + 1) b.init,
            finals := if lo ≤ j + 1 then sunion st.finals (dedup (b.finals.map (b.cp c (j + 1))))
                      else st.finals,
            ctr := st.ctr + b.keys.length }, ?_, ?_, ?_, fun q => ?_, hpf, rfl, fun q => ?_,
            fun q a t => ?_⟩
  · unfold repeatStep
    simp only [hfe, hT2]
  · show st.ctr + b.keys.length = _
    rw [inv.ctr]; exact (blockBase_succ b c (Nat.succ_le_succ hj)).symm
  · show (akeys T2).Nodup
    rw [hkeys2]; exact nodup_akeys_aupdate inv.keysNodup
  · show q ∈ akeys T2 ↔ _
    rw [hkeys2, mem_akeys_aupdate, inv.keys, hCmem, exists_le_succ (Nat.le_add_left 1 j), or_assoc]
  · show q ∈ (if lo ≤ j + 1 then sunion st.finals (dedup (b.finals.map (b.cp c (j + 1))))
              else st.finals) ↔ _
    rw [exists_le_succ (Nat.succ_le_succ hj)]
    by_cases hlo : lo ≤ j + 1
    · rw [if_pos hlo, mem_sunion, hpf, inv.finals, or_assoc]
      simp only [hlo, true_and]
    · rw [if_neg hlo, inv.finals]
      simp only [hlo, false_and, exists_false, or_false]
  · show t ∈ tgts T2 q a ↔ _
    rw [htg2, mem_tgts_aupdate hCnd hdisj, inv.tg, mem_tgts_copyTrans hinj, repEdges_succ b c hj, inv.prevFinals,
      or_assoc]
    refine or_congr_right (or_congr ?_ ?_)
    · exact exists_congr fun p => exists_congr fun p' => and_congr_right fun _ => and_comm
    · constructor
      · rintro ⟨⟨p, hp, e⟩, h2, h3⟩; exact ⟨h2, p, hp, e, h3⟩
      · rintro ⟨h2, p, hp, e, h3⟩; exact ⟨⟨p, hp, e⟩, h2, h3⟩

theorem repeatLoop_inv {b : Builder α} {l c lo : Nat} (i : b.Inv l c)
    {fin1 : List Nat} (len : Nat) :
    ∀ (j : Nat) (st : RepState α), 1 ≤ j → LoopInv b c lo fin1 j st →
      ∃ st', (List.range' (j + 1) len).foldlM (repeatStep b lo) st = .ok st' ∧
        LoopInv b c lo fin1 (j + len) st' := by
  induction len with
  | zero => intro j st _ inv; exact ⟨st, rfl, inv⟩
  | succ len ih =>
    intro j st hj inv
    obtain ⟨st1, h1, inv1⟩ := repeatStep_inv i hj inv
    obtain ⟨st2, h2, inv2⟩ := ih (j + 1) st1 (Nat.le_add_left 1 j) inv1
    refine ⟨st2, ?_, (show j + 1 + len = j + (len + 1) by omega) ▸ inv2⟩
    rw [List.range'_succ, List.foldlM_cons, h1]
    exact h2

/-- Number of copies of the operand in the result (`max number_of_repetitions 1`). -/
def repCopies (lo : Nat) (hi : Option Nat) : Nat :=
  1 + ((match hi with | none => lo | some h => h) - 1)

/-- The automaton `repeat` returns, described without the loop (`repeat_ok`); `acc_cp`, `lang` and
`inv` below read only this.  `k` ranges over the copies `1 … repCopies lo hi`, `cp c k p` is state
`p` of copy `k`; the second disjunct of `tg` is the way back from the end of the last copy to its
start when there is no upper bound. -/
structure RepSpec (b : Builder α) (c lo : Nat) (hi : Option Nat) (r : Builder α) : Prop where
  init : r.init = c
  keysNodup : r.keys.Nodup
  keys : ∀ q, q ∈ r.keys ↔
    q = c ∨ ∃ k p, 1 ≤ k ∧ k ≤ repCopies lo hi ∧ p ∈ b.keys ∧ q = b.cp c k p
  tg : ∀ q a t, t ∈ r.targets q a ↔
    RepEdges b c (repCopies lo hi) q a t ∨
    (hi = none ∧ a = none ∧ ∃ p, p ∈ b.finals ∧ q = b.cp c (repCopies lo hi) p ∧
      t = b.cp c (repCopies lo hi) b.init)
  finals : ∀ f, f ∈ r.finals ↔
    (lo ≤ 1 ∧ (∀ h, hi = some h → 1 ≤ h) ∧ f ∈ b.finals) ∨ (lo = 0 ∧ f = b.init) ∨
    ∃ k p, 2 ≤ k ∧ k ≤ repCopies lo hi ∧ lo ≤ k ∧ p ∈ b.finals ∧ f = b.cp c k p

/-- `new_final_states` before the loop: the `fin0` / `fin1` lets of `Builder.repeat_`, named so
that the loop invariant can speak of them. -/
def repFin1 (b : Builder α) (lo : Nat) (hi : Option Nat) : List Nat :=
  let fin0 : List Nat :=
    if lo ≤ 1 && (match hi with | none => true | some h => decide (1 ≤ h)) then b.finals else []
  if lo = 0 then sinsert b.init fin0 else fin0

omit [DecidableEq α] in
theorem mem_repFin1 (b : Builder α) (lo : Nat) (hi : Option Nat) (f : Nat) :
    f ∈ repFin1 b lo hi ↔
      (lo ≤ 1 ∧ (∀ h, hi = some h → 1 ≤ h) ∧ f ∈ b.finals) ∨ (lo = 0 ∧ f = b.init) := by
  have hfin0 : f ∈ (if lo ≤ 1 && (match hi with | none => true | some h => decide (1 ≤ h))
        then b.finals else []) ↔ (lo ≤ 1 ∧ (∀ h, hi = some h → 1 ≤ h) ∧ f ∈ b.finals) := by
    cases hi with
    | none => by_cases h1 : lo ≤ 1 <;> simp [h1]
    | some h0 => by_cases h1 : lo ≤ 1 <;> by_cases h2 : 1 ≤ h0 <;> simp [h1, h2]
  unfold repFin1
  by_cases h0 : lo = 0
  · rw [if_pos h0, mem_sinsert, hfin0, or_comm]; simp only [h0, true_and]
  · rw [if_neg h0, hfin0]; simp only [h0, false_and, or_false]

theorem repCopies_pos (lo : Nat) (hi : Option Nat) : 1 ≤ repCopies lo hi := by
  unfold repCopies; omega

theorem repeat_ok {b : Builder α} {l c : Nat} (i : b.Inv l c) (lo : Nat)
    (hi : Option Nat) :
    ∃ r, b.repeat_ lo hi c = .ok (r, b.blockBase c (repCopies lo hi + 1)) ∧
      RepSpec b c lo hi r ∧ ∀ P, RowInv P → AllRows P b.trans → AllRows P r.trans := by
  have base := loopInv_base i lo (repFin1 b lo hi)
  cases hi with
  | some h0 =>
    obtain ⟨st, hst, inv⟩ := repeatLoop_inv i (h0 - 1) 1 _ (Nat.le_refl 1) base
    refine ⟨{ trans := st.T, init := c, finals := st.finals }, ?_,
      ⟨rfl, inv.keysNodup, inv.keys, fun q a t => ?_, fun f => ?_⟩, fun P hP hb =>
        foldlM_inv (fun st => AllRows P st.T) (hb.ainsert (hP.epsRow _))
          (fun _ h _ _ _ h1 => hP.repeatStep hb h h1) hst⟩
    · -- `repFin1` unfolds to the `fin1` of `repeat_`: `hst` is then the model's loop verbatim
      unfold repeat_
      simp only
      rw [show (List.range' 2 (h0 - 1)) = List.range' (1 + 1) (h0 - 1) from rfl]
      unfold repFin1 at hst
      simp only [] at hst
      rw [hst]
      simp only [inv.ctr]; rfl
    · show t ∈ tgts st.T q a ↔ _
      rw [inv.tg]
      exact ⟨Or.inl, fun h => h.resolve_right (fun h => nomatch h.1)⟩
    · show f ∈ st.finals ↔ _
      rw [inv.finals, mem_repFin1, or_assoc]; rfl
  | none =>
    obtain ⟨st, hst, inv⟩ := repeatLoop_inv i (lo - 1) 1 _ (Nat.le_refl 1) base
    have hsrc : ∀ s ∈ st.prevFinals, s ∈ akeys st.T := by
      intro s hs
      obtain ⟨p, hp, rfl⟩ := (inv.prevFinals s).mp hs
      exact (inv.keys _).mpr (Or.inr ⟨_, p, by omega, Nat.le_refl _, i.finalsKeys _ hp, rfl⟩)
    obtain ⟨T, hT, hkeys, htg⟩ := addEdgesE_ok hsrc none st.prevInit
    refine ⟨{ trans := T, init := c, finals := st.finals }, ?_,
      ⟨rfl, ?_, fun q => ?_, fun q a t => ?_, fun f => ?_⟩, fun P hP hb =>
        (foldlM_inv (fun st => AllRows P st.T) (hb.ainsert (hP.epsRow _))
          (fun _ h _ _ _ h1 => hP.repeatStep hb h h1) hst).addEdgesE (hP.addEps _) hT⟩
    · unfold repeat_
      simp only
      rw [show (List.range' 2 (lo - 1)) = List.range' (1 + 1) (lo - 1) from rfl]
      unfold repFin1 at hst
      simp only [] at hst
      rw [hst]
      simp only [hT, inv.ctr]; rfl
    · show (akeys T).Nodup
      rw [hkeys]; exact inv.keysNodup
    · show q ∈ akeys T ↔ _
      rw [hkeys]; exact inv.keys q
    · show t ∈ tgts T q a ↔ _
      rw [htg, inv.tg, inv.prevInit, inv.prevFinals]
      refine or_congr_right ⟨?_, ?_⟩
      · rintro ⟨⟨p, hp, e⟩, h2, h3⟩; exact ⟨rfl, h2, p, hp, e, h3⟩
      · rintro ⟨_, h2, p, hp, e, h3⟩; exact ⟨⟨p, hp, e⟩, h2, h3⟩
    · show f ∈ st.finals ↔ _
      rw [inv.finals, mem_repFin1, or_assoc]; rfl

/-- `⋃_{lo ≤ k ≤ hi} L^k` (`hi = none`: unbounded). -/
def RepDen (L : List α → Prop) (lo : Nat) (hi : Option Nat) (w : List α) : Prop :=
  ∃ k, lo ≤ k ∧ (∀ h, hi = some h → k ≤ h) ∧ LPow L k w

theorem le_repCopies_none (lo : Nat) : lo ≤ repCopies lo none := by
  show lo ≤ 1 + (lo - 1); omega

theorem le_repCopies_some (lo h0 : Nat) : h0 ≤ repCopies lo (some h0) := by
  show h0 ≤ 1 + (h0 - 1); omega

theorem le_of_le_repCopies_some {lo h0 k : Nat} (hk : 2 ≤ k) (h : k ≤ repCopies lo (some h0)) :
    k ≤ h0 := by
  change k ≤ 1 + (h0 - 1) at h; omega

namespace RepSpec
variable {b r : Builder α} {l c lo : Nat} {hi : Option Nat} (sp : RepSpec b c lo hi r)
  (i : b.Inv l c)
include sp i

theorem step_init {a : Option α} {t : Nat} : t ∈ r.targets c a ↔ a = none ∧ t = b.init := by
  rw [sp.tg]
  refine ⟨?_, fun h => Or.inl (Or.inl ⟨rfl, h⟩)⟩
  rintro ((h | ⟨k, p, p', h1, _, e, _, h5⟩ | ⟨k, p, h1, _, _, h4, e, _⟩) | ⟨_, _, p, h4, e, _⟩)
  · exact h.2
  · exact absurd e.symm (cp_ne_c i h1 (mem_tgts_key h5))
  · exact absurd e.symm (cp_ne_c i h1 (i.finalsKeys _ h4))
  · exact absurd e.symm (cp_ne_c i (repCopies_pos lo hi) (i.finalsKeys _ h4))

theorem step_cp {k p : Nat} (hk : 1 ≤ k) (hkN : k ≤ repCopies lo hi) (hp : p ∈ b.keys)
    {a : Option α} {t : Nat} :
    t ∈ r.targets (b.cp c k p) a ↔
      (∃ p', p' ∈ b.targets p a ∧ t = b.cp c k p') ∨
      (a = none ∧ p ∈ b.finals ∧
        ((k < repCopies lo hi ∧ t = b.cp c (k + 1) b.init) ∨
         (hi = none ∧ k = repCopies lo hi ∧ t = b.cp c k b.init))) := by
  have hN := repCopies_pos lo hi
  rw [sp.tg]
  constructor
  · rintro ((h | ⟨k', p1, p', h1, _, e, rfl, h5⟩ | ⟨k', p1, h1, h2, h3, h4, e, rfl⟩) |
      ⟨h1, h3, p1, h4, e, rfl⟩)
    · exact absurd h.1 (cp_ne_c i hk hp)
    · obtain ⟨rfl, rfl⟩ := cp_inj i hk h1 hp (mem_tgts_key h5) e
      exact Or.inl ⟨p', h5, rfl⟩
    · obtain ⟨rfl, rfl⟩ := cp_inj i hk h1 hp (i.finalsKeys _ h4) e
      exact Or.inr ⟨h3, h4, Or.inl ⟨h2, rfl⟩⟩
    · obtain ⟨rfl, rfl⟩ := cp_inj i hk hN hp (i.finalsKeys _ h4) e
      exact Or.inr ⟨h3, h4, Or.inr ⟨h1, rfl, rfl⟩⟩
  · rintro (⟨p', h5, rfl⟩ | ⟨h3, h4, ⟨h2, rfl⟩ | ⟨h1, rfl, rfl⟩⟩)
    · exact Or.inl (Or.inr (Or.inl ⟨k, p, p', hk, hkN, rfl, rfl, h5⟩))
    · exact Or.inl (Or.inr (Or.inr ⟨k, p, hk, h2, h3, h4, rfl, rfl⟩))
    · exact Or.inr ⟨h1, h3, p, h4, rfl, rfl⟩

theorem init_not_final : c ∉ r.finals := by
  rw [sp.finals]
  rintro (⟨_, _, h3⟩ | ⟨_, e⟩ | ⟨k, p, h1, _, _, h4, e⟩)
  · exact i.not_key (Or.inr (Nat.le_refl c)) (i.finalsKeys _ h3)
  · exact i.not_key (Or.inr (Nat.le_refl c)) (e ▸ i.initKey)
  · exact cp_ne_c i (Nat.le_of_succ_le h1) (i.finalsKeys _ h4) e.symm

theorem mem_finals_cp {k p : Nat} (hk : 1 ≤ k) (hkN : k ≤ repCopies lo hi) (hp : p ∈ b.keys) :
    b.cp c k p ∈ r.finals ↔
      (k = 1 ∧ ((lo ≤ 1 ∧ (∀ h, hi = some h → 1 ≤ h) ∧ p ∈ b.finals) ∨ (lo = 0 ∧ p = b.init))) ∨
      (2 ≤ k ∧ lo ≤ k ∧ p ∈ b.finals) := by
  have one : ∀ {p'}, p' ∈ b.keys → b.cp c k p = p' → k = 1 ∧ p = p' := fun hp' e =>
    cp_inj i hk (Nat.le_refl 1) hp hp' (e.trans (cp_one b c _).symm)
  rw [sp.finals]
  constructor
  · rintro (⟨h1, h2, h3⟩ | ⟨h1, e⟩ | ⟨k', p', h1, _, h3, h4, e⟩)
    · obtain ⟨rfl, _⟩ := one (i.finalsKeys _ h3) rfl
      rw [cp_one] at h3
      exact Or.inl ⟨rfl, Or.inl ⟨h1, h2, h3⟩⟩
    · obtain ⟨rfl, rfl⟩ := one i.initKey e
      exact Or.inl ⟨rfl, Or.inr ⟨h1, rfl⟩⟩
    · obtain ⟨rfl, rfl⟩ := cp_inj i hk (Nat.le_of_succ_le h1) hp (i.finalsKeys _ h4) e
      exact Or.inr ⟨h1, h3, h4⟩
  · rintro (⟨rfl, ⟨h1, h2, h3⟩ | ⟨h1, rfl⟩⟩ | ⟨h1, h3, h4⟩)
    · exact Or.inl ⟨h1, h2, (cp_one b c p).symm ▸ h3⟩
    · exact Or.inr (Or.inl ⟨h1, cp_one b c _⟩)
    · exact Or.inr (Or.inr ⟨k, p, h1, hkN, h3, h4, rfl⟩)

end RepSpec

/-- What may still follow after copy `k` has been completed. -/
def RepTail (L : List α → Prop) (lo : Nat) (hi : Option Nat) (k : Nat) (w : List α) : Prop :=
  ∃ m, lo ≤ k + m ∧ (∀ h, hi = some h → k + m ≤ h) ∧ LPow L m w

/-- The words accepted from state `p` of copy `k`: the rest of this repetition, then repetitions
up to a total between `lo` and `hi`.  The second case is the initial state of the operand made
final for `lo = 0`. -/
def RepD (b : Builder α) (lo : Nat) (hi : Option Nat) (k p : Nat) (w : List α) : Prop :=
  LCat (b.AccFrom p) (RepTail b.Lang lo hi k) w ∨ (lo = 0 ∧ k = 1 ∧ p = b.init ∧ w = [])

omit [DecidableEq α] in
theorem RepTail.cons {L : List α → Prop} {lo k : Nat} {hi : Option Nat} {w : List α}
    (h : LCat L (RepTail L lo hi (k + 1)) w) : RepTail L lo hi k w := by
  obtain ⟨u, v, hu, ⟨m, h1, h2, h3⟩, rfl⟩ := h
  exact ⟨m + 1, by omega, fun h0 e => by have := h2 h0 e; omega, u, v, hu, h3, rfl⟩

namespace RepSpec
variable {b r : Builder α} {l c lo : Nat} {hi : Option Nat} (sp : RepSpec b c lo hi r)
  (i : b.Inv l c)
include sp i

theorem acc_cp {k p : Nat} (hk : 1 ≤ k) (hkN : k ≤ repCopies lo hi) (hp : p ∈ b.keys)
    (w : List α) : r.AccFrom (b.cp c k p) w ↔ RepD b lo hi k p w := by
  constructor
  · have key : ∀ {s w f}, Path r.step s w f → f ∈ r.finals → ∀ {k p}, 1 ≤ k →
        k ≤ repCopies lo hi → p ∈ b.keys → s = b.cp c k p → RepD b lo hi k p w := by
      intro s w f hpath
      induction hpath with
      | nil =>
        rintro hf k p hk hkN hp rfl
        rcases (sp.mem_finals_cp i hk hkN hp).mp hf with
          ⟨rfl, ⟨h1, h2, h3⟩ | ⟨h1, rfl⟩⟩ | ⟨h1, h3, h4⟩
        · exact Or.inl ⟨[], [], Acc.of_final h3, ⟨0, h1, h2, rfl⟩, rfl⟩
        · exact Or.inr ⟨h1, rfl, rfl, rfl⟩
        · refine Or.inl ⟨[], [], Acc.of_final h4, ⟨0, h3, fun h0 e => ?_, rfl⟩, rfl⟩
          subst e; exact le_of_le_repCopies_some h1 hkN
      | eps he _ ih =>
        rintro hf k p hk hkN hp rfl
        rcases (sp.step_cp i hk hkN hp).mp he with
          ⟨p', h5, rfl⟩ | ⟨_, h4, ⟨h2, rfl⟩ | ⟨h1, rfl, rfl⟩⟩
        · rcases ih hf hk hkN (i.tgtKeys _ _ _ h5) rfl with ⟨u, v, hu, hv, rfl⟩ | ⟨_, _, rfl, _⟩
          · exact Or.inl ⟨u, v, Acc.eps h5 hu, hv, rfl⟩
          · exact absurd h5 (i.noIntoInit _ _)
        · rcases ih hf (Nat.le_add_left 1 k) h2 i.initKey rfl with h | ⟨_, e, _⟩
          · exact Or.inl ⟨[], _, Acc.of_final h4, RepTail.cons h, rfl⟩
          · omega
        · have hnb : ∀ h0, hi = some h0 → False := fun _ e => by cases h1.symm.trans e
          rcases ih hf hk hkN i.initKey rfl with ⟨u, v, hu, ⟨m, hm1, _, hm3⟩, rfl⟩ | ⟨h0, _, _, rfl⟩
          · exact Or.inl ⟨[], _, Acc.of_final h4,
              ⟨m + 1, Nat.le_succ_of_le hm1, fun _ e => (hnb _ e).elim, u, v, hu, hm3, rfl⟩, rfl⟩
          · exact Or.inl ⟨[], [], Acc.of_final h4,
              ⟨0, Nat.le_trans (Nat.le_of_eq h0) (Nat.zero_le _), fun _ e => (hnb _ e).elim, rfl⟩, rfl⟩
      | sym he _ ih =>
        rintro hf k p hk hkN hp rfl
        rcases (sp.step_cp i hk hkN hp).mp he with ⟨p', h5, rfl⟩ | ⟨e, _⟩
        · rcases ih hf hk hkN (i.tgtKeys _ _ _ h5) rfl with ⟨u, v, hu, hv, rfl⟩ | ⟨_, _, rfl, _⟩
          · exact Or.inl ⟨_ :: u, v, Acc.sym h5 hu, hv, rfl⟩
          · exact absurd h5 (i.noIntoInit _ _)
        · cases e
    rintro ⟨f, hf, hpath⟩
    exact key hpath hf hk hkN hp rfl
  · -- a path of `b` is a path inside each copy
    have embed : ∀ {k p u p'}, 1 ≤ k → k ≤ repCopies lo hi → p ∈ b.keys → Path b.step p u p' →
        Path r.step (b.cp c k p) u (b.cp c k p') ∧ p' ∈ b.keys := fun h1 h2 hp hpath =>
      hpath.map_on (S := (· ∈ b.keys)) (b.cp c _) (fun _ _ _ _ hst => i.tgtKeys _ _ _ hst)
        (fun q hq a t hst => (sp.step_cp i h1 h2 hq).mpr (Or.inl ⟨t, hst, rfl⟩)) hp
    -- `m` more repetitions after the current one
    have back : ∀ m {k p u v f}, 1 ≤ k → k ≤ repCopies lo hi → p ∈ b.keys → Path b.step p u f →
        f ∈ b.finals → lo ≤ k + m → (∀ h0, hi = some h0 → k + m ≤ h0) → LPow b.Lang m v →
        r.AccFrom (b.cp c k p) (u ++ v) := by
      intro m
      induction m with
      | zero =>
        rintro k p u v f hk hkN hp hpath hf hm1 hm2 rfl
        obtain ⟨hpath', hfk⟩ := embed hk hkN hp hpath
        refine ⟨_, (sp.mem_finals_cp i hk hkN hfk).mpr ?_, by rwa [List.append_nil]⟩
        rcases Nat.eq_or_lt_of_le hk with rfl | hk2
        · exact Or.inl ⟨rfl, Or.inl ⟨hm1, hm2, hf⟩⟩
        · exact Or.inr ⟨hk2, hm1, hf⟩
      | succ m ih =>
        rintro k p u v f hk hkN hp hpath hf hm1 hm2 ⟨u', v', ⟨f', hf', hpath'⟩, hv', rfl⟩
        obtain ⟨hpath1, hfk⟩ := embed hk hkN hp hpath
        refine Acc.prepend hpath1 ?_
        rcases Nat.lt_or_ge k (repCopies lo hi) with hlt | hge
        · exact Acc.eps ((sp.step_cp i hk hkN hfk).mpr (Or.inr ⟨rfl, hf, Or.inl ⟨hlt, rfl⟩⟩))
            (ih (Nat.le_add_left 1 k) hlt i.initKey hpath' hf' (by omega)
              (fun h0 e => by have := hm2 h0 e; omega) hv')
        · obtain rfl : k = repCopies lo hi := Nat.le_antisymm hkN hge
          -- the last copy is left only when there is no upper bound
          obtain rfl : hi = none := by
            cases hi with
            | none => rfl
            | some h0 => have := hm2 h0 rfl; have := le_repCopies_some lo h0; omega
          exact Acc.eps ((sp.step_cp i hk hkN hfk).mpr (Or.inr ⟨rfl, hf, Or.inr ⟨rfl, rfl, rfl⟩⟩))
            (ih hk hkN i.initKey hpath' hf' (Nat.le_add_right_of_le (le_repCopies_none lo))
              (fun _ e => nomatch e) hv')
    rintro (⟨u, v, ⟨f, hf, hpath⟩, ⟨m, hm1, hm2, hm3⟩, rfl⟩ | ⟨h0, rfl, rfl, rfl⟩)
    · exact back m hk hkN hp hpath hf hm1 hm2 hm3
    · exact Acc.of_final ((sp.mem_finals_cp i hk hkN hp).mpr (Or.inl ⟨rfl, Or.inr ⟨h0, rfl⟩⟩))

theorem lang (w : List α) : r.Lang w ↔ RepDen b.Lang lo hi w := by
  have hacc := sp.acc_cp i (Nat.le_refl 1) (repCopies_pos lo hi) i.initKey w
  rw [cp_one] at hacc
  have first : r.Lang w ↔ r.AccFrom b.init w := by
    rw [Lang, sp.init, AccFrom,
      Acc.new_source (step := r.step) (J := (· = b.init)) fun _ _ => sp.step_init i]
    exact ⟨fun h => h.elim (fun h => absurd h.1 (sp.init_not_final i)) fun ⟨_, e, h⟩ => e ▸ h,
      fun h => Or.inr ⟨_, rfl, h⟩⟩
  rw [first, hacc]
  constructor
  · rintro (⟨u, v, hu, ⟨m, h1, h2, h3⟩, rfl⟩ | ⟨h0, _, _, rfl⟩)
    · exact ⟨m + 1, by omega, fun h0 e => by have := h2 h0 e; omega, u, v, hu, h3, rfl⟩
    · exact ⟨0, by omega, fun _ _ => Nat.zero_le _, rfl⟩
  · rintro ⟨k, h1, h2, h3⟩
    cases k with
    | zero => exact Or.inr ⟨by omega, rfl, rfl, h3⟩
    | succ m =>
      obtain ⟨u, v, hu, hv, rfl⟩ := h3
      exact Or.inl ⟨u, v, hu, ⟨m, by omega, fun h0 e => by have := h2 h0 e; omega, hv⟩, rfl⟩

theorem inv : r.Inv l (b.blockBase c (repCopies lo hi + 1)) := by
  have hN := repCopies_pos lo hi
  have keyOf : ∀ {k p}, 1 ≤ k → k ≤ repCopies lo hi → p ∈ b.keys →
      b.cp c k p ∈ r.keys ∧ b.cp c k p ≠ r.init := fun h1 h2 h3 =>
    ⟨(sp.keys _).mpr (Or.inr ⟨_, _, h1, h2, h3, rfl⟩), sp.init ▸ cp_ne_c i h1 h3⟩
  have keyOf1 : ∀ {p}, p ∈ b.keys → p ∈ r.keys ∧ p ≠ r.init := fun hp => by
    have := keyOf (Nat.le_refl 1) hN hp; rwa [cp_one] at this
  refine Inv.of_edges sp.keysNodup ?_ ?_ ?_ ?_
  · intro q hq
    rcases (sp.keys q).mp hq with rfl | ⟨k, p, h1, h2, h3, rfl⟩
    · have := blockBase_gt b q (repCopies lo hi + 1)
      have := i.lo_lt_hi
      omega
    · have := cp_bounds i h1 h3
      have := blockBase_mono b c (show k + 1 ≤ repCopies lo hi + 1 by omega)
      omega
  · rw [sp.init]; exact (sp.keys _).mpr (Or.inl rfl)
  · intro f hf
    rcases (sp.finals f).mp hf with ⟨_, _, h3⟩ | ⟨_, rfl⟩ | ⟨k, p, h1, h2, _, h4, rfl⟩
    · exact (keyOf1 (i.finalsKeys _ h3)).1
    · exact (keyOf1 i.initKey).1
    · exact (keyOf (Nat.le_of_succ_le h1) h2 (i.finalsKeys _ h4)).1
  · intro q a t ht
    rcases (sp.tg q a t).mp ht with (⟨_, _, rfl⟩ | ⟨k, p, p', h1, h2, _, rfl, h5⟩ |
      ⟨k, p, h1, h2, _, _, _, rfl⟩) | ⟨_, _, p, _, _, rfl⟩
    · exact keyOf1 i.initKey
    · exact keyOf h1 h2 (i.tgtKeys _ _ _ h5)
    · exact keyOf (Nat.le_add_left 1 k) h2 i.initKey
    · exact keyOf hN (Nat.le_refl _) i.initKey

end RepSpec

theorem _root_.AV.Rx.Built.repeat_ {S : α → Prop} {L : List α → Prop} {b : Builder α} {c0 c : Nat}
    (g : Built S L c0 b c) (lo : Nat) (hi : Option Nat) :
    ∃ r c', b.repeat_ lo hi c = .ok (r, c') ∧ Built S (RepDen L lo hi) c0 r c' := by
  obtain ⟨r, hr, sp, rows⟩ := repeat_ok g.inv lo hi
  exact ⟨r, _, hr, sp.inv g.inv, rows _ rowInv_nodup g.rows, rows _ (rowInv_syms S) g.syms,
    fun w => by rw [sp.lang g.inv, funext fun w => propext (g.lang w)]⟩

end Builder
end AV.Rx
