/-
Proofs/ConvertERenum.lean — the `retain_names=False` loop of `_expand_dfa`
(Model/ConvertERenum.lean) simulates the `retain_names=True` loop (Model/ConvertE.lean) through
the renaming "discovery index", hence never fails where that one does not, and builds the
`renumber` of its result.
-/
import AutomataVerif.Model.ConvertERenum
import AutomataVerif.Proofs.ConvertE

namespace AV

namespace DFA
variable {S α : Type} [DecidableEq S] [DecidableEq α]

def renRow (f : S → Nat) (row : List (α × S)) : List (α × Nat) := row.map fun e => (e.1, f e.2)
def renT (f : S → Nat) (tr : List (S × List (α × S))) : List (Nat × List (α × Nat)) :=
  tr.map fun kv => (f kv.1, renRow f kv.2)

omit [DecidableEq S] in
theorem renRow_ainsert (f : S → Nat) (a : α) (t : S) (row : List (α × S)) :
    renRow f (ainsert a t row) = ainsert a (f t) (renRow f row) :=
  ainsert_map_val f a t row

omit [DecidableEq α] in
theorem renT_ainsert (f : S → Nat) {k : S} (hinj : ∀ k', f k' = f k → k' = k)
    (v : List (α × S)) (tr : List (S × List (α × S))) :
    renT f (ainsert k v tr) = ainsert (f k) (renRow f v) (renT f tr) :=
  ainsert_map_key f (renRow f) hinj v tr

/-- The state of the `retain_names=False` loop that corresponds to a state of the
`retain_names=True` loop under a renaming `f`. -/
def toRf (f : S → Nat) (st : ExpSt S α) : ExpStR S α :=
  { trans := renT f st.trans, states := st.states.map f, finals := st.finals.map f,
    queue := st.queue, visited := st.states, names := st.states }

theorem expEdgeE_ok {isFin : S → Bool} {cur : S} {st st' : ExpSt S α} {a : α} {t : S}
    (h : expEdgeE isFin cur st (a, t) = .ok st') :
    ∃ row, alookup cur (if t ∈ st.states then st.trans else ainsert t [] st.trans) = some row ∧
      st' = ⟨ainsert cur (ainsert a t row) (if t ∈ st.states then st.trans else ainsert t [] st.trans),
        sinsert t st.states, if isFin t then sinsert t st.finals else st.finals,
        if t ∈ st.states then st.queue else st.queue ++ [t]⟩ := by
  cases st
  rw [expEdgeE_mk] at h
  split at h
  · cases h
  · next row hrow => exact ⟨row, hrow, (Except.ok.inj h).symm⟩

/-- One edge: the loop on names does what the named loop does, read through the renaming "index
in `F`", for every list `F` that the discovered states stay a prefix of. -/
theorem expEdge_sim (isFin : S → Bool) {F : List S} {cur : S} {st st' : ExpSt S α} {e : α × S}
    (hcur : cur ∈ st.states) (hF : st'.states <+: F) (h : expEdgeE isFin cur st e = .ok st') :
    expEdgeRE isFin cur (toRf (fun s => indexOf s F) st) e =
      .ok (toRf (fun s => indexOf s F) st') := by
  obtain ⟨a, t⟩ := e
  obtain ⟨row, hrow, rfl⟩ := expEdgeE_ok h
  generalize hf : (fun s => indexOf s F) = f
  have hfa : ∀ s, indexOf s F = f s := fun s => congrFun hf s
  have hXF : st.states <+: F := (prefix_sinsert t st.states).trans hF
  have ht : t ∈ sinsert t st.states := mem_sinsert.mpr (.inl rfl)
  have hinj : ∀ q ∈ F, ∀ k', f k' = f q → k' = q := fun q hq k' he => by
    rw [← hfa, ← hfa] at he; exact (indexOf_inj hq he.symm).symm
  have hinjc := hinj cur (hXF.subset hcur)
  have hinjt := hinj t (hF.subset ht)
  have hcn : indexOf cur (sinsert cur st.states) = f cur := by
    rw [sinsert_of_mem hcur, indexOf_of_prefix hXF hcur, hfa]
  have htn : indexOf t (sinsert t (sinsert cur st.states)) = f t := by
    rw [sinsert_of_mem hcur, indexOf_of_prefix hF ht, hfa]
  have htr1 : (if f t ∈ st.states.map f then renT f st.trans else ainsert (f t) [] (renT f st.trans)) =
      renT f (if t ∈ st.states then st.trans else ainsert t [] st.trans) := by
    by_cases htX : t ∈ st.states
    · rw [if_pos htX, if_pos ((mem_map_iff_of_inj fun k _ => hinjt k).mpr htX)]
    · rw [if_neg htX, if_neg fun h => htX ((mem_map_iff_of_inj fun k _ => hinjt k).mp h), renT_ainsert f hinjt]
      rfl
  have hlook : alookup (f cur) (renT f (if t ∈ st.states then st.trans else ainsert t [] st.trans)) =
      some (renRow f row) := by
    rw [renT, alookup_map_key f (renRow f) fun k _ => hinjc k, hrow]; rfl
  simp only [expEdgeRE, toRf, hcn, htn, htr1, hlook]
  rw [sinsert_of_mem hcur, renT_ainsert f hinjc, renRow_ainsert, apply_ite (List.map f),
    map_sinsert f hinjt st.states, map_sinsert f hinjt st.finals]
  rfl

theorem expEdgeE_mono {isFin : S → Bool} {cur : S} {st st' : ExpSt S α} {e : α × S}
    (h : expEdgeE isFin cur st e = .ok st') :
    st.states <+: st'.states ∧ ((∀ x ∈ st.queue, x ∈ st.states) → ∀ x ∈ st'.queue, x ∈ st'.states) := by
  obtain ⟨a, t⟩ := e
  obtain ⟨row, _, rfl⟩ := expEdgeE_ok h
  refine ⟨prefix_sinsert t _, fun hq x hx => mem_sinsert.mpr ?_⟩
  dsimp only at hx
  split at hx
  · exact .inr (hq x hx)
  · exact (List.mem_append.mp hx).elim (fun h => .inr (hq x h)) fun h => .inl (List.mem_singleton.mp h)

theorem foldlE_mono (isFin : S → Bool) (cur : S) (es : List (α × S)) {st st' : ExpSt S α}
    (h : foldlE (expEdgeE isFin cur) st es = .ok st') :
    st.states <+: st'.states ∧
      ((∀ x ∈ st.queue, x ∈ st.states) → ∀ x ∈ st'.queue, x ∈ st'.states) :=
  foldlM_inv (fun s : ExpSt S α => st.states <+: s.states ∧
      ((∀ x ∈ st.queue, x ∈ st.states) → ∀ x ∈ s.queue, x ∈ s.states))
    ⟨List.prefix_refl _, id⟩
    (fun _ hs _ _ _ h1 => ⟨hs.1.trans (expEdgeE_mono h1).1, fun hq => (expEdgeE_mono h1).2 (hs.2 hq)⟩)
    ((foldlE_eq_foldlM _ es st).symm.trans h)

theorem foldlE_sim (isFin : S → Bool) {F : List S} {cur : S} (es : List (α × S))
    {st st' : ExpSt S α} (hcur : cur ∈ st.states) (hF : st'.states <+: F)
    (h : foldlE (expEdgeE isFin cur) st es = .ok st') :
    foldlE (expEdgeRE isFin cur) (toRf (fun s => indexOf s F) st) es =
      .ok (toRf (fun s => indexOf s F) st') := by
  induction es generalizing st with
  | nil => cases h; rfl
  | cons e es ih =>
    obtain ⟨st1, h1, h2⟩ := foldlE_cons_ok h
    rw [foldlE, expEdge_sim isFin hcur ((foldlE_mono isFin cur es h2).1.trans hF) h1]
    exact ih ((expEdgeE_mono h1).1.subset hcur) h2

theorem expLoopE_mono (succE : S → Res (List (α × S))) (isFin : S → Bool) (fuel : Nat)
    {st st' : ExpSt S α} (h : expLoopE succE isFin fuel st = .ok st') :
    st.states <+: st'.states := by
  induction fuel generalizing st with
  | zero => cases h; exact List.prefix_refl _
  | succ n ih =>
    rcases expLoopE_succ_ok h with ⟨_, rfl⟩ | ⟨q, work, es, st1, _, _, h1, h2⟩
    · exact List.prefix_refl _
    · exact (foldlE_mono isFin q es h1).1.trans (ih h2)

theorem expLoopRE_cons {succE : S → Res (List (α × S))} (isFin : S → Bool) (n : Nat) (f : S → Nat)
    {st : ExpSt S α} {q : S} {work : List S} {es : List (α × S)} (h : st.queue = q :: work)
    (hs : succE q = .ok es) :
    expLoopRE succE isFin (n + 1) (toRf f st) =
      match foldlE (expEdgeRE isFin q) (toRf f ⟨st.trans, st.states, st.finals, work⟩) es with
      | .error e => .error e
      | .ok r' => expLoopRE succE isFin n r' := by
  rw [expLoopRE, show (toRf f st).queue = _ from h]
  simp only [hs]
  rfl

theorem expLoop_sim (succE : S → Res (List (α × S))) (isFin : S → Bool) {F : List S} (fuel : Nat)
    {st st' : ExpSt S α} (hq : ∀ x ∈ st.queue, x ∈ st.states) (hF : st'.states <+: F)
    (h : expLoopE succE isFin fuel st = .ok st') :
    expLoopRE succE isFin fuel (toRf (fun s => indexOf s F) st) =
      .ok (toRf (fun s => indexOf s F) st') := by
  induction fuel generalizing st with
  | zero => cases h; rfl
  | succ n ih =>
    rcases expLoopE_succ_ok h with ⟨hqueue, rfl⟩ | ⟨q, work, es, st1, hqueue, hs, h1, h2⟩
    · rw [expLoopRE, show (toRf (fun s => indexOf s F) st').queue = [] from hqueue]
    · rw [expLoopRE_cons isFin n _ hqueue hs,
        foldlE_sim isFin es (st := ⟨st.trans, st.states, st.finals, work⟩)
          (hq q (hqueue ▸ List.mem_cons_self)) ((expLoopE_mono succE isFin n h2).trans hF) h1]
      exact ih ((foldlE_mono isFin q es h1).2 fun x hx =>
        hq x (hqueue ▸ List.mem_cons_of_mem _ hx)) h2

/-- **`_expand_dfa(retain_names=False, minify=False)`**: under the hypotheses of `expandE_eq` the
loop on names never fails at `transitions[cur_state_name]` and builds the `renumber` of the
total model. -/
theorem expandRenumE_eq {succE : S → Res (List (α × S))} {succ : S → List (α × S)} {univ : List S}
    {fuel : Nat} {init : S} (isFin : S → Bool) (syms : List α)
    (h : ExpandHyp succ univ fuel init) (hsE : ∀ u ∈ univ, succE u = .ok (succ u)) :
    expandRenumE succE isFin syms fuel init = .ok (expand succ isFin syms fuel init).renumber := by
  have hE := expLoopE_init_eq isFin h hsE
  have hi : indexOf init (bfsStates succ fuel init) = 0 :=
    (indexOf_of_prefix (expLoopE_mono succE isFin fuel hE) List.mem_cons_self).symm.trans
      (if_pos rfl)
  have h0 : (expInitR isFin init : ExpStR S α) =
      toRf (fun s => indexOf s (bfsStates succ fuel init)) (expInit isFin init) := by
    unfold expInitR expInit toRf renT renRow
    simp only [List.map_cons, List.map_nil, hi]
    split <;> simp only [List.map_cons, List.map_nil, hi]
  unfold expandRenumE
  rw [h0, expLoop_sim succE isFin fuel (fun x hx => hx) (List.prefix_refl _) hE]
  simp only [toRf, renumber, expand, renT, renRow, List.map_map, List.any_map, hi]
  simp [Function.comp_def]

end DFA
end AV
