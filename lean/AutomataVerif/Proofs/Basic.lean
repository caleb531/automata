/-
Proofs/Basic.lean — lemmas about the vocabulary of Model/Basic.lean (the check combinators, lists as
sets, association lists, the generic searches) and what core lacks about plain lists.  "Core only"
in a file header means that the file and what it imports use no Mathlib: the model and its drivers
link without it, and Mathlib's notions enter only where a statement compares the model with them.
-/
import AutomataVerif.Model.Basic

namespace AV

/-- A verdict that evaluates to `ok`: lets a concrete `x = .ok ()` be closed by evaluating `x.isOk`
(`Res Unit` has no decidable equality in core). -/
theorem eq_ok_of_isOk {x : Res Unit} (h : x.isOk = true) : x = .ok () := by
  cases x with
  | ok u => rfl
  | error e => cases h

@[simp] theorem Res.andThen_eq_ok {a b : Res Unit} :
    Res.andThen a b = .ok () ↔ a = .ok () ∧ b = .ok () := by
  cases a <;> simp [Res.andThen]

theorem Res.andThen_eq_error {a b : Res Unit} {e : Exn} :
    Res.andThen a b = .error e ↔ a = .error e ∨ (a = .ok () ∧ b = .error e) := by
  cases a <;> simp [Res.andThen]

theorem Res.andThen_ok (c : Res Unit) : c.andThen (.ok ()) = c := by
  cases c <;> rfl

theorem Res.ne_ok_iff {r : Res Unit} : r ≠ .ok () ↔ ∃ e, r = .error e := by
  cases r with
  | error e => simp
  | ok u => simp

@[simp] theorem guardE_eq_ok {c : Bool} {e : Exn} : guardE c e = .ok () ↔ c = true := by
  cases c <;> simp [guardE]

theorem guardE_eq_error {c : Bool} {e e' : Exn} : guardE c e = .error e' ↔ c = false ∧ e' = e := by
  cases c <;> simp [guardE, eq_comm]

theorem guardE_andThen_guardE (a b : Bool) (e : Exn) :
    (guardE a e).andThen (guardE b e) = guardE (a && b) e := by
  cases a <;> rfl

theorem firstErr_cons {β : Type} (a : β) (t : List β) (f : β → Res Unit) :
    firstErr (a :: t) f = (f a).andThen (firstErr t f) := by
  have key : ∀ (t : List β) (acc : Res Unit),
      t.foldl (fun acc x => Res.andThen acc (f x)) acc = acc.andThen (firstErr t f) := by
    intro t
    induction t with
    | nil => intro acc; cases acc <;> rfl
    | cons a t ih =>
      intro acc
      rw [List.foldl_cons, ih, show firstErr (a :: t) f = _ from ih (f a)]
      cases acc <;> rfl
  exact key t (f a)

@[simp] theorem firstErr_eq_ok {β : Type} (l : List β) (f : β → Res Unit) :
    firstErr l f = .ok () ↔ ∀ x ∈ l, f x = .ok () := by
  induction l with
  | nil => exact ⟨fun _ _ h => (nomatch h), fun _ => rfl⟩
  | cons a t ih => rw [firstErr_cons, Res.andThen_eq_ok, ih, List.forall_mem_cons]

theorem firstErr_eq_error {β : Type} {l : List β} {f : β → Res Unit} {e : Exn}
    (h : firstErr l f = .error e) : ∃ x ∈ l, f x = .error e := by
  induction l with
  | nil => cases h
  | cons a t ih =>
    rw [firstErr_cons, Res.andThen_eq_error] at h
    rcases h with h | ⟨_, h⟩
    · exact ⟨a, List.mem_cons_self, h⟩
    · obtain ⟨x, hx, hfx⟩ := ih h
      exact ⟨x, List.mem_cons_of_mem _ hx, hfx⟩

theorem firstErr_append {β : Type} (l m : List β) (f : β → Res Unit) :
    firstErr (l ++ m) f = (firstErr l f).andThen (firstErr m f) := by
  induction l with
  | nil => rfl
  | cons a t ih =>
    rw [List.cons_append, firstErr_cons, ih, firstErr_cons]
    cases f a <;> rfl

/-- `for x in l: for y in g(x): check(y)`. -/
theorem firstErr_flatMap {β τ : Type} (l : List β) (g : β → List τ) (f : τ → Res Unit) :
    firstErr (l.flatMap g) f = firstErr l fun x => firstErr (g x) f := by
  induction l with
  | nil => rfl
  | cons a t ih => rw [List.flatMap_cons, firstErr_append, ih, firstErr_cons]

theorem firstErr_map_congr {β τ : Type} (m : β → τ) {l : List β} {f : τ → Res Unit}
    {g : β → Res Unit} (h : ∀ x ∈ l, f (m x) = g x) : firstErr (l.map m) f = firstErr l g := by
  induction l with
  | nil => rfl
  | cons a t ih =>
    rw [List.map_cons, firstErr_cons, firstErr_cons, h a List.mem_cons_self,
      ih fun x hx => h x (List.mem_cons_of_mem _ hx)]

theorem firstErr_map {β τ : Type} (l : List β) (m : β → τ) (f : τ → Res Unit) :
    firstErr (l.map m) f = firstErr l fun x => f (m x) :=
  firstErr_map_congr m fun _ _ => rfl

theorem firstErr_congr {β : Type} {l : List β} {f g : β → Res Unit} (h : ∀ x ∈ l, f x = g x) :
    firstErr l f = firstErr l g := by
  rw [← firstErr_map_congr id h, List.map_id]

theorem firstErr_guardE {β : Type} (l : List β) (b : β → Bool) (e : Exn) :
    firstErr l (fun x => guardE (b x) e) = guardE (l.all b) e := by
  induction l with
  | nil => rfl
  | cons a t ih => rw [firstErr_cons, ih, guardE_andThen_guardE, List.all_cons]

/-- For comparisons that return `wrap b` (`.ok b`, `some b`) with `b` specified by a proposition `P`
about the languages: two calls with the same `P` (another operand with the same language, another
tie-breaking `pick`) return the same value. -/
theorem same_answer {β : Type} {x y : β} {wrap : Bool → β} {P : Prop}
    (hx : ∃ b, x = wrap b ∧ (b = true ↔ P)) (hy : ∃ b, y = wrap b ∧ (b = true ↔ P)) : x = y := by
  obtain ⟨b, rfl, hb⟩ := hx
  obtain ⟨b', rfl, hb'⟩ := hy
  rw [Bool.eq_iff_iff.mpr (hb.trans hb'.symm)]

/-- The `∃ b` form of a specification read at the value the call returned. -/
theorem answer_iff {β : Type} {x : β} {wrap : Bool → β} {P : Prop} {b : Bool}
    (inj : ∀ {b b'}, wrap b = wrap b' → b = b') (hx : ∃ b, x = wrap b ∧ (b = true ↔ P))
    (h : x = wrap b) : b = true ↔ P :=
  let ⟨_, hb', hiff⟩ := hx
  inj (hb'.symm.trans h) ▸ hiff

theorem res_ok_bind {γ δ : Type} (x : γ) (f : γ → Res δ) : ((Except.ok x : Res γ) >>= f) = f x := rfl

theorem bind_ok_inv {γ δ : Type} {x : Res γ} {f : γ → Res δ} {b : δ} (h : (x >>= f) = .ok b) :
    ∃ a, x = .ok a ∧ f a = .ok b := by
  cases x with
  | error e => cases h
  | ok a => exact ⟨a, rfl, h⟩

/- `Res` loops, with one convention: the invariant `P` first, then that it holds at the start, then
one round `∀ b, P b → ∀ x ∈ l, …`.  A loop that cannot fail under `P` is its pure fold
(`foldlM_ok_of_inv`; without an invariant `foldlM_eq_ok`); one that cannot fail but has no pure form
succeeds and keeps `P` (`foldlM_ok_inv`); of one that succeeded only `P` is known (`foldlM_inv`). -/

theorem foldlM_ok_of_inv {γ δ : Type} {f : δ → γ → Res δ} {g : δ → γ → δ} (P : δ → Prop)
    {l : List γ} {b : δ} (hb : P b) (h : ∀ b, P b → ∀ x ∈ l, f b x = .ok (g b x) ∧ P (g b x)) :
    l.foldlM f b = .ok (l.foldl g b) ∧ P (l.foldl g b) := by
  induction l generalizing b with
  | nil => exact ⟨rfl, hb⟩
  | cons x l ih =>
    obtain ⟨e, hb'⟩ := h b hb x List.mem_cons_self
    rw [List.foldlM_cons, e, List.foldl_cons]
    exact ih hb' fun b hb y hy => h b hb y (List.mem_cons_of_mem _ hy)

theorem foldlM_eq_ok {γ δ : Type} {f : δ → γ → Res δ} {g : δ → γ → δ} {l : List γ}
    (h : ∀ b, ∀ x ∈ l, f b x = .ok (g b x)) (b : δ) : l.foldlM f b = .ok (l.foldl g b) :=
  (foldlM_ok_of_inv (fun _ => True) trivial fun b _ x hx => ⟨h b x hx, trivial⟩).1

theorem foldlM_ok_inv {γ δ : Type} {f : δ → γ → Res δ} (P : δ → Prop) {l : List γ} {b : δ}
    (hb : P b) (h : ∀ b, P b → ∀ x ∈ l, ∃ b', f b x = .ok b' ∧ P b') :
    ∃ b', l.foldlM f b = .ok b' ∧ P b' := by
  induction l generalizing b with
  | nil => exact ⟨b, rfl, hb⟩
  | cons x l ih =>
    obtain ⟨b1, e, hb1⟩ := h b hb x List.mem_cons_self
    rw [List.foldlM_cons, e]
    exact ih hb1 fun b hb y hy => h b hb y (List.mem_cons_of_mem _ hy)

theorem foldlM_inv {γ δ : Type} {f : δ → γ → Res δ} (P : δ → Prop) {l : List γ} {b b' : δ}
    (hb : P b) (h : ∀ b, P b → ∀ x ∈ l, ∀ b', f b x = .ok b' → P b')
    (e : l.foldlM f b = .ok b') : P b' := by
  induction l generalizing b with
  | nil => cases e; exact hb
  | cons x l ih =>
    rw [List.foldlM_cons] at e
    obtain ⟨b1, h1, h2⟩ := bind_ok_inv e
    exact ih (h b hb x List.mem_cons_self b1 h1) (fun b hb y hy => h b hb y (List.mem_cons_of_mem _ hy)) h2

theorem mapM_ok {γ δ : Type} (f : γ → Res δ) (g : γ → δ) (l : List γ) (h : ∀ x ∈ l, f x = .ok (g x)) :
    l.mapM f = .ok (l.map g) := by
  induction l with
  | nil => rfl
  | cons x t ih =>
    rw [List.mapM_cons, h x (by simp), ih (fun y hy => h y (List.mem_cons_of_mem _ hy))]
    rfl

theorem filter_filter_of_imp {β : Type} {p q : β → Bool} {l : List β}
    (h : ∀ a ∈ l, p a = true → q a = true) : (l.filter q).filter p = l.filter p := by
  rw [List.filter_filter]
  refine List.filter_congr fun a ha => ?_
  cases hp : p a with
  | false => rfl
  | true => rw [h a ha hp]; rfl

theorem filter_sublist_of_imp {β : Type} (p q : β → Bool) (l : List β) (h : ∀ a ∈ l, p a = true → q a = true) :
    (l.filter p).Sublist (l.filter q) := by
  rw [← filter_filter_of_imp h]
  exact List.filter_sublist

theorem filterMap_guard {κ β : Type} (K : List κ) (P : κ → Bool) (g : κ → β) :
    (K.filterMap fun c => if P c then some (c, g c) else none) = (K.filter P).map fun c => (c, g c) := by
  induction K with
  | nil => rfl
  | cons k t ih => cases h : P k <;> simp [h, ih]

theorem all_mem_congr {β : Type} [DecidableEq β] {l m : List β} (h : ∀ a, a ∈ l ↔ a ∈ m) (w : List β) :
    (w.all fun a => decide (a ∈ l)) = (w.all fun a => decide (a ∈ m)) := by
  induction w with
  | nil => rfl
  | cons a w ih => simp only [List.all_cons, ih, decide_eq_decide.mpr (h a)]

/-- Two lists compared as sets, the way the library compares `input_symbols` (`DFA.symsEq`,
`sameSyms`). -/
theorem all_mem_and_all_mem_iff {β : Type} [DecidableEq β] (xs ys : List β) :
    ((xs.all fun a => decide (a ∈ ys)) && ys.all fun a => decide (a ∈ xs)) = true ↔
      ∀ a, a ∈ xs ↔ a ∈ ys := by
  simp only [Bool.and_eq_true, List.all_eq_true, decide_eq_true_eq]
  exact ⟨fun ⟨h1, h2⟩ a => ⟨h1 a, h2 a⟩, fun h => ⟨fun a => (h a).mp, fun a => (h a).mpr⟩⟩

theorem cons_tail_scanl {ι τ : Type} (f : τ → ι → τ) (b : τ) (l : List ι) :
    b :: (List.scanl f b l).tail = List.scanl f b l := by
  cases l <;> simp only [List.scanl_nil, List.scanl_cons, List.tail_cons]

theorem exists_first_not {β : Type} (p : β → Prop) [DecidablePred p] (l : List β) (h : ∃ x ∈ l, ¬ p x) :
    ∃ top x bottom, l = top ++ x :: bottom ∧ ¬ p x ∧ ∀ y ∈ top, p y := by
  obtain ⟨x, hx⟩ := Option.isSome_iff_exists.mp
    (List.find?_isSome.mpr (h.imp fun x hx => ⟨hx.1, decide_eq_true hx.2⟩))
  obtain ⟨hpx, top, bottom, rfl, htop⟩ := List.find?_eq_some_iff_append.mp hx
  exact ⟨top, x, bottom, rfl, of_decide_eq_true hpx, fun y hy => by simpa using htop y hy⟩

theorem mem_map_iff_of_inj {κ κ' : Type} {f : κ → κ'} {l : List κ} {x : κ}
    (hinj : ∀ y ∈ l, f y = f x → y = x) : f x ∈ l.map f ↔ x ∈ l :=
  ⟨fun h => by obtain ⟨y, hy, e⟩ := List.mem_map.mp h; exact hinj y hy e ▸ hy,
   fun h => List.mem_map.mpr ⟨x, h, rfl⟩⟩

theorem nodup_map_of_inj_on {κ κ' : Type} {f : κ → κ'} {l : List κ} (hl : l.Nodup)
    (hf : ∀ a ∈ l, ∀ b ∈ l, f a = f b → a = b) : (l.map f).Nodup :=
  List.pairwise_map.mpr (hl.imp_of_mem fun ha hb hne e => hne (hf _ ha _ hb e))

theorem idxOf_inj_on {ι : Type} [BEq ι] [LawfulBEq ι] {l : List ι} {a b : ι} (ha : a ∈ l)
    (h : l.idxOf a = l.idxOf b) : a = b := by
  have hb : b ∈ l := List.idxOf_lt_length_iff.mp (h ▸ List.idxOf_lt_length_of_mem ha)
  have e : l[l.idxOf a]'(List.idxOf_lt_length_of_mem ha) = l[l.idxOf b]'(List.idxOf_lt_length_of_mem hb) := by
    simp only [h]
  rwa [List.getElem_idxOf, List.getElem_idxOf] at e

theorem foldl_or {ι τ : Type} {F : τ → ι → τ} {X : τ → Prop} {P : ι → Prop}
    (hF : ∀ acc x, X (F acc x) ↔ X acc ∨ P x) (l : List ι) (acc : τ) :
    X (l.foldl F acc) ↔ X acc ∨ ∃ x ∈ l, P x := by
  induction l generalizing acc with
  | nil => simp
  | cons x t ih =>
    rw [List.foldl_cons, ih, hF, or_assoc]
    simp only [List.mem_cons, exists_eq_or_imp]

theorem le_foldl_max_iff (l : List Nat) (b x : Nat) :
    x ≤ l.foldl max b ↔ x ≤ b ∨ ∃ y ∈ l, x ≤ y :=
  foldl_or (F := max) (X := (x ≤ ·)) (P := (x ≤ ·)) (fun _ _ => Std.le_max) l b

theorem mem_foldl_iff {ι τ : Type} {F : List τ → ι → List τ} {P : ι → Prop} {p : τ}
    (hF : ∀ acc x, p ∈ F acc x ↔ p ∈ acc ∨ P x) (l : List ι) (acc : List τ) :
    p ∈ l.foldl F acc ↔ p ∈ acc ∨ ∃ x ∈ l, P x :=
  foldl_or (X := (p ∈ ·)) hF l acc

theorem length_le_of_rel_inj {β γ : Type} [DecidableEq γ] (R : β → γ → Prop) :
    ∀ (l : List β) (L : List γ), l.Nodup → (∀ x ∈ l, ∃ y ∈ L, R x y) →
      (∀ x ∈ l, ∀ x' ∈ l, ∀ y, R x y → R x' y → x = x') → l.length ≤ L.length := by
  intro l
  induction l with
  | nil => intro L _ _ _; exact Nat.zero_le _
  | cons x l ih =>
    intro L hnd hex hinj
    obtain ⟨hxl, hndl⟩ := List.nodup_cons.mp hnd
    obtain ⟨y, hyL, hxy⟩ := hex x List.mem_cons_self
    have hlen : (L.erase y).length = L.length - 1 := List.length_erase_of_mem hyL
    have hpos : 0 < L.length := List.length_pos_of_mem hyL
    have := ih (L.erase y) hndl ?_ ?_
    · exact Nat.succ_le_of_lt (Nat.lt_of_le_of_lt this (hlen ▸ Nat.sub_lt hpos Nat.one_pos))
    · intro x' hx'
      obtain ⟨y', hy'L, hx'y'⟩ := hex x' (List.mem_cons_of_mem _ hx')
      refine ⟨y', ?_, hx'y'⟩
      have hne : y' ≠ y := by
        intro h; subst h
        have := hinj x List.mem_cons_self x' (List.mem_cons_of_mem _ hx') y' hxy hx'y'
        subst this
        exact hxl hx'
      exact (List.mem_erase_of_ne hne).mpr hy'L
    · intro a ha b hb y' h1 h2
      exact hinj a (List.mem_cons_of_mem _ ha) b (List.mem_cons_of_mem _ hb) y' h1 h2

theorem eq_singleton_of_nodup {β : Type} {l : List β} {a : β} (hnd : l.Nodup) (ha : a ∈ l)
    (hall : ∀ x ∈ l, x = a) : l = [a] := by
  match l, hnd, ha, hall with
  | [b], _, _, hall => rw [hall b (List.mem_cons_self ..)]
  | b :: c :: t, hnd, _, hall =>
    obtain rfl := hall b (List.mem_cons_self ..)
    obtain rfl := hall c (List.mem_cons_of_mem _ (List.mem_cons_self ..))
    simp at hnd

theorem subset_of_nodup_length_eq {β : Type} [DecidableEq β] {l m : List β} (hl : l.Nodup)
    (hsub : ∀ x ∈ l, x ∈ m) (hlen : l.length = m.length) : ∀ x ∈ m, x ∈ l := by
  intro x hx
  refine Classical.byContradiction fun hxl => ?_
  -- otherwise `l` would fit into `m` without `x`, which is shorter
  have h1 : l.length ≤ (m.erase x).length := List.Nodup.length_le_of_subset hl fun y hy =>
    (List.mem_erase_of_ne fun (e : y = x) => hxl (e ▸ hy)).mpr (hsub y hy)
  have h2 : (m.erase x).length = m.length - 1 := List.length_erase_of_mem hx
  have h3 : 0 < m.length := List.length_pos_of_mem hx
  omega

section sets
variable {β : Type} [DecidableEq β]

@[simp] theorem mem_sinsert {x y : β} {l : List β} : y ∈ sinsert x l ↔ y = x ∨ y ∈ l := by
  unfold sinsert
  split
  · next hx => exact ⟨Or.inr, fun h => h.elim (fun e => e ▸ hx) id⟩
  · rw [List.mem_append, List.mem_singleton, or_comm]

theorem length_sinsert_le (x : β) (l : List β) : (sinsert x l).length ≤ l.length + 1 := by
  unfold sinsert; split <;> simp

theorem nodup_sinsert {x : β} {l : List β} (h : l.Nodup) : (sinsert x l).Nodup := by
  unfold sinsert
  split
  · exact h
  · next hx =>
    refine List.nodup_append.mpr ⟨h, (List.pairwise_singleton _ x), fun a ha b hb hab => ?_⟩
    rw [List.mem_singleton.mp hb] at hab
    exact hx (hab ▸ ha)

theorem sinsert_of_mem {x : β} {l : List β} (h : x ∈ l) : sinsert x l = l := if_pos h
theorem sinsert_of_not_mem {x : β} {l : List β} (h : x ∉ l) : sinsert x l = l ++ [x] := if_neg h

theorem prefix_sinsert (x : β) (l : List β) : l <+: sinsert x l := by
  unfold sinsert
  split
  · exact List.prefix_refl _
  · exact List.prefix_append _ _

theorem length_le_sinsert (x : β) (l : List β) : l.length ≤ (sinsert x l).length :=
  (prefix_sinsert x l).length_le

theorem filter_sinsert (p : β → Bool) (t : β) (l : List β) :
    (sinsert t l).filter p = if p t = true then sinsert t (l.filter p) else l.filter p := by
  by_cases ht : t ∈ l
  · rw [sinsert_of_mem ht]
    split
    · next hp => exact (sinsert_of_mem (List.mem_filter.mpr ⟨ht, hp⟩)).symm
    · rfl
  · rw [sinsert_of_not_mem ht, List.filter_append]
    split
    · next hp =>
      rw [sinsert_of_not_mem fun h => ht (List.mem_filter.mp h).1, List.filter_cons_of_pos hp]
      rfl
    · next hp => rw [List.filter_cons_of_neg hp]; exact List.append_nil _

theorem drop_sinsert (t : β) {l : List β} {k : Nat} (hk : k ≤ l.length) :
    (sinsert t l).drop k = if t ∈ l then l.drop k else l.drop k ++ [t] := by
  by_cases ht : t ∈ l
  · rw [if_pos ht, sinsert_of_mem ht]
  · rw [if_neg ht, sinsert_of_not_mem ht, List.drop_append_of_le_length hk]

theorem map_sinsert {κ κ' : Type} [DecidableEq κ] [DecidableEq κ'] (f : κ → κ') {t : κ}
    (hinj : ∀ k', f k' = f t → k' = t) (F : List κ) :
    (sinsert t F).map f = sinsert (f t) (F.map f) := by
  by_cases ht : t ∈ F
  · rw [sinsert_of_mem ht, sinsert_of_mem ((mem_map_iff_of_inj fun k _ => hinj k).mpr ht)]
  · rw [sinsert_of_not_mem ht, sinsert_of_not_mem fun h => ht ((mem_map_iff_of_inj fun k _ => hinj k).mp h),
      List.map_append]
    rfl

@[simp] theorem mem_sunion {y : β} {l r : List β} : y ∈ sunion l r ↔ y ∈ l ∨ y ∈ r := by
  unfold sunion
  induction r generalizing l with
  | nil => simp
  | cons x t ih => rw [List.foldl_cons, ih, mem_sinsert, List.mem_cons, or_assoc, or_left_comm]

theorem nodup_sunion {l r : List β} (h : l.Nodup) : (sunion l r).Nodup := by
  unfold sunion
  induction r generalizing l with
  | nil => exact h
  | cons x t ih => exact ih (nodup_sinsert h)

theorem sunion_prefix (l r : List β) : ∃ s, sunion l r = l ++ s ∧ (∀ y, y ∈ s → y ∈ r) := by
  unfold sunion
  induction r generalizing l with
  | nil => exact ⟨[], (List.append_nil l).symm, fun _ h => h⟩
  | cons x t ih =>
    obtain ⟨s, hs, hmem⟩ := ih (sinsert x l)
    rw [List.foldl_cons, hs]
    unfold sinsert
    split
    · exact ⟨s, rfl, fun y hy => List.mem_cons_of_mem _ (hmem y hy)⟩
    · exact ⟨x :: s, List.append_assoc l [x] s,
        fun y hy => List.mem_cons.mpr ((List.mem_cons.mp hy).imp id (hmem y))⟩

theorem sunion_cons (l : List β) (t : β) (r : List β) :
    sunion l (t :: r) = sunion (sinsert t l) r := rfl

/-- What a BFS pop appends to the visited list. -/
theorem sunion_eq_append (vis l : List β) : ∀ acc : List β,
    sunion (vis ++ acc) l = vis ++ sunion acc (l.filter fun t => decide (t ∉ vis)) := by
  induction l with
  | nil => intro _; rfl
  | cons t l ih =>
    intro acc
    rw [sunion_cons]
    by_cases ht : t ∈ vis
    · rw [sinsert_of_mem (List.mem_append_left _ ht), ih acc,
        List.filter_cons_of_neg (by simpa using ht)]
    · rw [List.filter_cons_of_pos (by simpa using ht), sunion_cons, ← ih]
      congr 1
      by_cases hta : t ∈ acc
      · rw [sinsert_of_mem hta, sinsert_of_mem (List.mem_append_right _ hta)]
      · rw [sinsert_of_not_mem hta, sinsert_of_not_mem (by simp [ht, hta]), List.append_assoc]

@[simp] theorem mem_dedup {y : β} {l : List β} : y ∈ dedup l ↔ y ∈ l := by
  unfold dedup; simp

theorem nodup_dedup (l : List β) : (dedup l).Nodup :=
  nodup_sunion List.nodup_nil

theorem indexOf_eq_idxOf (s : β) (l : List β) : indexOf s l = l.idxOf s := by
  induction l with
  | nil => rfl
  | cons z l ih =>
    rw [List.idxOf_cons, ← ih, cond_eq_ite]
    exact ite_congr (propext beq_iff_eq.symm) (fun _ => rfl) fun _ => rfl

theorem indexOf_append_of_mem {s : β} {X : List β} (Y : List β) (h : s ∈ X) :
    indexOf s (X ++ Y) = indexOf s X := by
  rw [indexOf_eq_idxOf, indexOf_eq_idxOf, List.idxOf_append, if_pos h]

theorem indexOf_of_prefix {X F : List β} (h : X <+: F) {s : β} (hs : s ∈ X) :
    indexOf s X = indexOf s F := by
  obtain ⟨Y, rfl⟩ := h
  exact (indexOf_append_of_mem Y hs).symm

theorem indexOf_inj {x y : β} : ∀ {l : List β}, x ∈ l → indexOf x l = indexOf y l → x = y :=
  fun hx h => idxOf_inj_on hx (by rwa [indexOf_eq_idxOf, indexOf_eq_idxOf] at h)

end sets

section alist
variable {κ κ' β γ : Type}

theorem akeys_map_val (f : β → γ) (d : List (κ × β)) :
    akeys (d.map fun kv => (kv.1, f kv.2)) = akeys d := by
  rw [akeys, List.map_map]; rfl

theorem avals_map_val (f : β → γ) (d : List (κ × β)) :
    avals (d.map fun kv => (kv.1, f kv.2)) = (avals d).map f := by
  rw [avals, avals, List.map_map, List.map_map]; rfl

theorem akeys_map_key (f : κ → κ') (g : β → γ) (d : List (κ × β)) :
    akeys (d.map fun kv => (f kv.1, g kv.2)) = (akeys d).map f := by
  rw [akeys, akeys, List.map_map, List.map_map]; rfl

theorem akeys_append (l m : List (κ × β)) : akeys (l ++ m) = akeys l ++ akeys m :=
  List.map_append

theorem akeys_tabulate (l : List κ) (g : κ → β) : akeys (l.map fun a => (a, g a)) = l := by
  rw [akeys, List.map_map]; exact List.map_id l

theorem akeys_filter_sublist (p : κ × β → Bool) (d : List (κ × β)) :
    (akeys (d.filter p)).Sublist (akeys d) :=
  List.Sublist.map _ List.filter_sublist

theorem nodup_akeys_filter (p : κ × β → Bool) {d : List (κ × β)} (h : (akeys d).Nodup) :
    (akeys (d.filter p)).Nodup :=
  h.sublist (akeys_filter_sublist p d)

variable [DecidableEq κ] [DecidableEq κ']

@[simp] theorem alookup_nil (k : κ) : alookup k ([] : List (κ × β)) = none := rfl

theorem alookup_cons (k k' : κ) (v : β) (t : List (κ × β)) :
    alookup k ((k', v) :: t) = if k' = k then some v else alookup k t := rfl

theorem alookup_some_mem {k : κ} {v : β} {d : List (κ × β)} (h : alookup k d = some v) :
    (k, v) ∈ d := by
  induction d with
  | nil => cases h
  | cons kv t ih =>
    obtain ⟨k', v'⟩ := kv
    rw [alookup_cons] at h
    split at h
    · next hk => cases h; subst hk; exact List.mem_cons_self
    · exact List.mem_cons_of_mem _ (ih h)

theorem alookup_isSome_iff {k : κ} {d : List (κ × β)} :
    (alookup k d).isSome ↔ k ∈ akeys d := by
  induction d with
  | nil => simp [akeys]
  | cons kv t ih =>
    obtain ⟨k', v'⟩ := kv
    rw [alookup_cons, akeys, List.map_cons, List.mem_cons]
    split
    · next hk => exact ⟨fun _ => Or.inl hk.symm, fun _ => rfl⟩
    · next hk => rw [ih]; exact (or_iff_right (Ne.symm hk)).symm

theorem exists_alookup {k : κ} {d : List (κ × β)} (h : k ∈ akeys d) : ∃ v, alookup k d = some v :=
  Option.isSome_iff_exists.mp (alookup_isSome_iff.mpr h)

theorem ahas_iff {k : κ} {d : List (κ × β)} : ahas k d = true ↔ k ∈ akeys d :=
  alookup_isSome_iff

theorem ahas_eq_false {k : κ} {d : List (κ × β)} : ahas k d = false ↔ k ∉ akeys d := by
  rw [← ahas_iff, Bool.not_eq_true]

theorem alookup_eq_none_iff {k : κ} {d : List (κ × β)} : alookup k d = none ↔ k ∉ akeys d := by
  rw [← alookup_isSome_iff, Option.isSome_iff_ne_none, Classical.not_not]

theorem alookup_some_val_mem {k : κ} {v : β} {d : List (κ × β)} (h : alookup k d = some v) :
    v ∈ avals d :=
  List.mem_map.mpr ⟨(k, v), alookup_some_mem h, rfl⟩

theorem alookup_some_key_mem {k : κ} {v : β} {d : List (κ × β)} (h : alookup k d = some v) :
    k ∈ akeys d :=
  List.mem_map.mpr ⟨(k, v), alookup_some_mem h, rfl⟩

theorem alookup_of_mem_nodup {k : κ} {v : β} {d : List (κ × β)} (hnd : (akeys d).Nodup)
    (h : (k, v) ∈ d) : alookup k d = some v := by
  induction d with
  | nil => cases h
  | cons kv t ih =>
    obtain ⟨k', v'⟩ := kv
    rw [akeys, List.map_cons, List.nodup_cons] at hnd
    rw [alookup_cons]
    rcases List.mem_cons.mp h with h | h
    · cases h; exact if_pos rfl
    · rw [if_neg fun e => hnd.1 (List.mem_map.mpr ⟨(k, v), h, e.symm⟩)]
      exact ih hnd.2 h

theorem mem_iff_alookup {k : κ} {v : β} {d : List (κ × β)} (h : (akeys d).Nodup) :
    (k, v) ∈ d ↔ alookup k d = some v :=
  ⟨alookup_of_mem_nodup h, alookup_some_mem⟩

omit [DecidableEq κ] in
theorem mem_getD_nil_iff {o : Option (List γ)} {x : γ} : x ∈ o.getD [] ↔ ∃ l, o = some l ∧ x ∈ l := by
  cases o <;> simp

/-- `d.get(k, [])` is the value of an entry of `d`, or empty. -/
theorem getD_alookup_nil_or_mem (k : κ) (d : List (κ × List γ)) :
    (alookup k d).getD [] = [] ∨ (k, (alookup k d).getD []) ∈ d := by
  cases h : alookup k d with
  | none => exact Or.inl rfl
  | some r => exact Or.inr (alookup_some_mem h)

theorem mem_of_mem_getD_alookup {k : κ} {d : List (κ × List γ)} {e : γ}
    (he : e ∈ (alookup k d).getD []) : (k, (alookup k d).getD []) ∈ d :=
  (getD_alookup_nil_or_mem k d).resolve_left (List.ne_nil_of_mem he)

theorem getD_alookup_inv {I : List γ → Prop} {d : List (κ × List γ)} (h0 : I [])
    (hI : ∀ kv ∈ d, I kv.2) (k : κ) : I ((alookup k d).getD []) :=
  (getD_alookup_nil_or_mem k d).elim (fun e => e.symm ▸ h0) (hI _)

theorem mem_getD_alookup_iff {k : κ} {x : γ} {d : List (κ × List γ)} (h : (akeys d).Nodup) :
    x ∈ (alookup k d).getD [] ↔ ∃ v, (k, v) ∈ d ∧ x ∈ v := by
  rw [mem_getD_nil_iff]
  exact exists_congr fun v => and_congr_left fun _ => (mem_iff_alookup h).symm

theorem alookup_map_key (f : κ → κ') (g : β → γ) {k : κ} {d : List (κ × β)}
    (hinj : ∀ k' ∈ akeys d, f k' = f k → k' = k) :
    alookup (f k) (d.map fun kv => (f kv.1, g kv.2)) = (alookup k d).map g := by
  induction d with
  | nil => rfl
  | cons kv t ih =>
    obtain ⟨k₁, v₁⟩ := kv
    rw [List.map_cons, alookup_cons, alookup_cons,
      ih fun k' hk' => hinj k' (List.mem_cons_of_mem _ hk')]
    by_cases h : k₁ = k
    · rw [if_pos h, if_pos (congrArg f h)]; rfl
    · rw [if_neg h, if_neg fun e => h (hinj k₁ List.mem_cons_self e)]

theorem alookup_map_val (f : β → γ) (k : κ) (d : List (κ × β)) :
    alookup k (d.map fun kv => (kv.1, f kv.2)) = (alookup k d).map f :=
  alookup_map_key id f fun _ _ e => e

theorem ahas_map_val (f : β → γ) (k : κ) (d : List (κ × β)) :
    ahas k (d.map fun kv => (kv.1, f kv.2)) = ahas k d := by
  rw [ahas, alookup_map_val, Option.isSome_map]; rfl

theorem getD_alookup_map_key {δ : Type} (f : κ → κ') {g : List β → List δ} (hg : g [] = []) {k : κ}
    {d : List (κ × List β)} (hinj : ∀ k' ∈ akeys d, f k' = f k → k' = k) :
    (alookup (f k) (d.map fun kv => (f kv.1, g kv.2))).getD [] = g ((alookup k d).getD []) := by
  rw [alookup_map_key f g hinj]
  cases alookup k d with
  | none => exact hg.symm
  | some r => rfl

/-- `{k: f(v) for k, v in d.items()}.get(k, [])`, for `f` that keeps `[]`: no case on the look-up. -/
theorem getD_alookup_map_val {δ : Type} {f : List β → List δ} (hf : f [] = []) (k : κ)
    (d : List (κ × List β)) :
    (alookup k (d.map fun kv => (kv.1, f kv.2))).getD [] = f ((alookup k d).getD []) :=
  getD_alookup_map_key id hf fun _ _ e => e

theorem alookup_map_of_inj {ι : Type} (f : ι → κ) (g : ι → β) :
    ∀ (l : List ι) (b : ι), b ∈ l → (∀ c ∈ l, f c = f b → c = b) →
      alookup (f b) (l.map fun c => (f c, g c)) = some (g b) := by
  intro l
  induction l with
  | nil => intro b hb; cases hb
  | cons c l ih =>
    intro b hb hinj
    rw [List.map_cons, alookup_cons]
    by_cases hc : f c = f b
    · have := hinj c List.mem_cons_self hc
      subst this; exact if_pos rfl
    · rw [if_neg hc]
      rcases List.mem_cons.mp hb with h | h
      · subst h; exact absurd rfl hc
      · exact ih b h fun c' hc' => hinj c' (List.mem_cons_of_mem _ hc')

theorem alookup_tabulate (l : List κ) (g : κ → β) (k : κ) :
    alookup k (l.map fun a => (a, g a)) = if k ∈ l then some (g k) else none := by
  induction l with
  | nil => rfl
  | cons a t ih =>
    rw [List.map_cons, alookup_cons, ih]
    by_cases h : a = k
    · rw [if_pos h, if_pos (h ▸ List.mem_cons_self), h]
    · rw [if_neg h]
      simp only [List.mem_cons, Ne.symm h, false_or]

theorem alookup_append_or (k : κ) (l m : List (κ × β)) :
    alookup k (l ++ m) = (alookup k l).or (alookup k m) := by
  induction l with
  | nil => rfl
  | cons kv t ih =>
    rw [List.cons_append, alookup_cons, alookup_cons, ih]
    split <;> rfl

theorem alookup_append_left {k : κ} {l : List (κ × β)} {v : β} (r : List (κ × β))
    (h : alookup k l = some v) : alookup k (l ++ r) = some v := by
  rw [alookup_append_or, h, Option.some_or]

theorem alookup_snoc_eq_some {k k' : κ} {v x : β} {d : List (κ × β)} :
    alookup k' (d ++ [(k, v)]) = some x ↔
      alookup k' d = some x ∨ (alookup k' d = none ∧ k = k' ∧ v = x) := by
  rw [alookup_append_or]
  cases alookup k' d <;> simp [alookup_cons]

omit [DecidableEq κ] in
theorem nodup_akeys_snoc {k : κ} {v : β} {d : List (κ × β)} (hk : k ∉ akeys d)
    (h : (akeys d).Nodup) : (akeys (d ++ [(k, v)])).Nodup := by
  simp only [akeys, List.map_append, List.map_cons, List.map_nil]
  exact List.nodup_append.mpr ⟨h, by simp, fun b hb c hc e => hk (by
    rw [List.mem_singleton.mp hc] at e; exact e ▸ hb)⟩

theorem alookup_filter_key (p : κ → Bool) (d : List (κ × β)) (k : κ) :
    alookup k (d.filter fun kv => p kv.1) = if p k then alookup k d else none := by
  induction d with
  | nil => exact (ite_self none).symm
  | cons kv t ih =>
    obtain ⟨k₁, v₁⟩ := kv
    rw [List.filter_cons, alookup_cons]
    by_cases h : k₁ = k
    · subst h
      cases hp : p k₁
      · rw [if_neg Bool.false_ne_true, ih, hp]; rfl
      · simp only [if_pos, alookup_cons]
    · rw [if_neg h]
      split
      · rw [alookup_cons, if_neg h, ih]
      · exact ih

theorem getD_alookup_filter_key (p : κ → Bool) (d : List (κ × List γ)) (k : κ) :
    (alookup k (d.filter fun kv => p kv.1)).getD [] = if p k then (alookup k d).getD [] else [] := by
  rw [alookup_filter_key]
  split <;> rfl

theorem alookup_filter_val (P : β → Bool) {r : List (κ × β)} (hnd : (akeys r).Nodup) (a : κ) :
    alookup a (r.filter fun e => P e.2) = (alookup a r).filter P := by
  induction r with
  | nil => rfl
  | cons e t ih =>
    obtain ⟨a', v⟩ := e
    simp only [akeys, List.map_cons, List.nodup_cons] at hnd
    simp only [List.filter_cons]
    by_cases ha : a' = a
    · subst ha
      cases hP : P v
      · simp only [Bool.false_eq_true, if_false, alookup_cons, if_true, Option.filter_some, hP]
        have hnot : a' ∉ akeys (t.filter fun e => P e.2) := by
          intro hm
          obtain ⟨e, he, rfl⟩ := List.mem_map.mp hm
          exact hnd.1 (List.mem_map.mpr ⟨e, (List.mem_filter.mp he).1, rfl⟩)
        cases hl : alookup a' (t.filter fun e => P e.2) with
        | none => rfl
        | some v' => exact absurd (alookup_some_key_mem hl) hnot
      · simp [alookup_cons, Option.filter, hP]
    · cases hP : P v
      · simp only [Bool.false_eq_true, if_false, alookup_cons, ha]; exact ih hnd.2
      · simp only [if_true, alookup_cons, ha, if_false]; exact ih hnd.2

theorem alookup_filter_ne (k q : κ) (d : List (κ × β)) :
    alookup q (d.filter fun kv => decide (kv.1 ≠ k)) = if q = k then none else alookup q d := by
  rw [alookup_filter_key fun x => decide (x ≠ k)]
  by_cases h : q = k <;> simp [h]

theorem mem_akeys_filter_ne (k q : κ) (d : List (κ × β)) :
    q ∈ akeys (d.filter fun kv => decide (kv.1 ≠ k)) ↔ q ∈ akeys d ∧ q ≠ k := by
  rw [← alookup_isSome_iff, ← alookup_isSome_iff, alookup_filter_ne]
  by_cases h : q = k <;> simp [h]

theorem not_mem_akeys_filter_ne (k : κ) (d : List (κ × β)) :
    k ∉ akeys (d.filter fun kv => decide (kv.1 ≠ k)) :=
  fun h => ((mem_akeys_filter_ne k k d).mp h).2 rfl

theorem filter_keys_eq_nil {r : List (κ × β)} {K : List κ} (h : ∀ a ∈ akeys r, a ∈ K) :
    r.filter (fun e => decide (e.1 ∉ K)) = [] := by
  rw [List.filter_eq_nil_iff]
  intro e he
  have : e.1 ∈ K := h e.1 (List.mem_map.mpr ⟨e, he, rfl⟩)
  simp [this]

theorem ainsert_cons (k k' : κ) (v v' : β) (t : List (κ × β)) :
    ainsert k v ((k', v') :: t) = if k' = k then (k, v) :: t else (k', v') :: ainsert k v t := rfl

theorem alookup_ainsert (k k' : κ) (v : β) (d : List (κ × β)) :
    alookup k' (ainsert k v d) = if k = k' then some v else alookup k' d := by
  induction d with
  | nil => rfl
  | cons kv t ih =>
    obtain ⟨k₁, v₁⟩ := kv
    rw [ainsert, alookup_cons]
    by_cases h : k₁ = k
    · rw [if_pos h, alookup_cons, h]
      by_cases h' : k = k' <;> simp only [h', if_true, if_false]
    · rw [if_neg h, alookup_cons, ih]
      by_cases h₁ : k₁ = k'
      · simp only [if_pos h₁, if_neg fun e : k = k' => h (h₁.trans e.symm)]
      · simp only [if_neg h₁]

theorem alookup_ainsert_self (k : κ) (v : β) (d : List (κ × β)) :
    alookup k (ainsert k v d) = some v :=
  (alookup_ainsert k k v d).trans (if_pos rfl)

theorem alookup_ainsert_ne {k k' : κ} (v : β) (d : List (κ × β)) (h : k' ≠ k) :
    alookup k' (ainsert k v d) = alookup k' d :=
  (alookup_ainsert k k' v d).trans (if_neg h.symm)

theorem mem_ainsert {k : κ} {v : β} {d : List (κ × β)} {e : κ × β}
    (h : e ∈ ainsert k v d) : e = (k, v) ∨ e ∈ d := by
  induction d with
  | nil => exact Or.inl (List.mem_singleton.mp h)
  | cons kv t ih =>
    obtain ⟨k', v'⟩ := kv
    rw [ainsert] at h
    split at h
    · exact (List.mem_cons.mp h).imp id (List.mem_cons_of_mem _)
    · rcases List.mem_cons.mp h with h | h
      · exact Or.inr (h ▸ List.mem_cons_self)
      · exact (ih h).imp id (List.mem_cons_of_mem _)

theorem mem_ainsert_self (k : κ) (v : β) (d : List (κ × β)) : (k, v) ∈ ainsert k v d := by
  induction d with
  | nil => exact .head _
  | cons kv t ih =>
    unfold ainsert
    split
    · exact .head _
    · exact List.mem_cons_of_mem _ ih

theorem mem_ainsert_of_ne {k : κ} {v : β} {d : List (κ × β)} {e : κ × β} (he : e ∈ d)
    (hk : e.1 ≠ k) : e ∈ ainsert k v d := by
  induction d with
  | nil => cases he
  | cons kv t ih =>
    unfold ainsert
    rcases List.mem_cons.mp he with rfl | he
    · rw [if_neg hk]; exact .head _
    · split
      · exact List.mem_cons_of_mem _ he
      · exact List.mem_cons_of_mem _ (ih he)

theorem ainsert_of_not_mem {k : κ} {v : β} {d : List (κ × β)} (h : k ∉ akeys d) :
    ainsert k v d = d ++ [(k, v)] := by
  induction d with
  | nil => rfl
  | cons kv t ih =>
    obtain ⟨k', v'⟩ := kv
    rw [akeys, List.map_cons, List.mem_cons, not_or] at h
    rw [ainsert, if_neg (Ne.symm h.1), ih h.2, List.cons_append]

theorem ainsert_ainsert (k : κ) (v : β) (d : List (κ × β)) :
    ainsert k v (ainsert k v d) = ainsert k v d := by
  induction d with
  | nil => simp [ainsert]
  | cons e t ih =>
    obtain ⟨a, b⟩ := e
    simp only [ainsert]
    by_cases ha : a = k
    · simp [ha, ainsert]
    · simp [ha, ainsert, ih]

theorem ainsert_map_key (f : κ → κ') (g : β → γ) {k : κ} (hinj : ∀ k', f k' = f k → k' = k)
    (v : β) (d : List (κ × β)) :
    (ainsert k v d).map (fun kv => (f kv.1, g kv.2)) =
      ainsert (f k) (g v) (d.map fun kv => (f kv.1, g kv.2)) := by
  induction d with
  | nil => rfl
  | cons x r ih =>
    rw [List.map_cons, ainsert_cons, ainsert_cons]
    by_cases hk : x.1 = k
    · rw [if_pos hk, if_pos (congrArg f hk)]; rfl
    · rw [if_neg hk, if_neg fun e => hk (hinj x.1 e)]
      exact congrArg _ ih

theorem ainsert_map_val (f : β → γ) (k : κ) (v : β) (d : List (κ × β)) :
    (ainsert k v d).map (fun kv => (kv.1, f kv.2)) =
      ainsert k (f v) (d.map fun kv => (kv.1, f kv.2)) :=
  ainsert_map_key id f (fun _ e => e) v d

/-- `d[k] = v` on a table that tabulates `R` on `l`. -/
theorem ainsert_tab (R : κ → β) (k : κ) (v : β) {l : List κ} (hnd : l.Nodup) (hk : k ∈ l) :
    ainsert k v (l.map fun s => (s, R s)) = l.map fun s => (s, if s = k then v else R s) := by
  induction l with
  | nil => cases hk
  | cons x t ih =>
    have hnd' := List.nodup_cons.mp hnd
    rw [List.map_cons, List.map_cons, ainsert_cons]
    by_cases hx : x = k
    · rw [if_pos hx, if_pos hx, hx]
      congr 1
      refine List.map_congr_left fun s hs => ?_
      have hs' : s ≠ k := fun e => hnd'.1 (hx ▸ e ▸ hs)
      rw [if_neg hs']
    · rw [if_neg hx, if_neg hx, ih hnd'.2 ((List.mem_cons.mp hk).resolve_left fun e => hx e.symm)]

theorem akeys_ainsert (k : κ) (v : β) (d : List (κ × β)) :
    akeys (ainsert k v d) = sinsert k (akeys d) := by
  induction d with
  | nil => rfl
  | cons kv t ih =>
    obtain ⟨k', v'⟩ := kv
    rw [ainsert]
    by_cases h : k' = k
    · rw [if_pos h, h]
      exact (if_pos List.mem_cons_self).symm
    · rw [if_neg h]
      unfold akeys sinsert at ih ⊢
      rw [List.map_cons, ih, List.map_cons]
      simp only [List.mem_cons, Ne.symm h, false_or]
      split <;> rfl

theorem akeys_ainsert_of_mem {k : κ} {v : β} {d : List (κ × β)} (h : k ∈ akeys d) :
    akeys (ainsert k v d) = akeys d :=
  (akeys_ainsert k v d).trans (sinsert_of_mem h)

theorem akeys_ainsert_of_not_mem {k : κ} {v : β} {d : List (κ × β)} (h : k ∉ akeys d) :
    akeys (ainsert k v d) = akeys d ++ [k] :=
  (akeys_ainsert k v d).trans (sinsert_of_not_mem h)

theorem mem_akeys_ainsert {k k' : κ} {v : β} {d : List (κ × β)} :
    k' ∈ akeys (ainsert k v d) ↔ k' = k ∨ k' ∈ akeys d := by
  rw [akeys_ainsert, mem_sinsert]

theorem nodup_akeys_ainsert {k : κ} {v : β} {d : List (κ × β)} (h : (akeys d).Nodup) :
    (akeys (ainsert k v d)).Nodup := by
  rw [akeys_ainsert]; exact nodup_sinsert h

theorem mem_avals_ainsert {k : κ} {v : β} {d : List (κ × β)} {t : β}
    (h : t ∈ avals (ainsert k v d)) : t = v ∨ t ∈ avals d := by
  obtain ⟨e, he, rfl⟩ := List.mem_map.mp h
  exact (mem_ainsert he).imp (congrArg Prod.snd) fun h => List.mem_map.mpr ⟨e, h, rfl⟩

/-- `for q in l: d[q] = F(q)`. -/
theorem alookup_foldl_ainsert (F : κ → β) :
    ∀ (l : List κ) (d : List (κ × β)) (k : κ),
      alookup k (l.foldl (fun d q => ainsert q (F q) d) d) =
        if k ∈ l then some (F k) else alookup k d := by
  intro l
  induction l with
  | nil => intro d k; rfl
  | cons q l ih =>
    intro d k
    rw [List.foldl_cons, ih, alookup_ainsert]
    by_cases hkl : k ∈ l
    · rw [if_pos hkl, if_pos (List.mem_cons_of_mem _ hkl)]
    · rw [if_neg hkl]
      by_cases hkq : k = q
      · rw [if_pos hkq.symm, if_pos (hkq ▸ List.mem_cons_self), hkq]
      · rw [if_neg (Ne.symm hkq), if_neg (fun h => (List.mem_cons.mp h).elim hkq hkl)]

theorem mem_akeys_foldl_ainsert (F : κ → β) (l : List κ) (d : List (κ × β)) (k : κ) :
    k ∈ akeys (l.foldl (fun d q => ainsert q (F q) d) d) ↔ k ∈ l ∨ k ∈ akeys d := by
  rw [← alookup_isSome_iff, alookup_foldl_ainsert, ← alookup_isSome_iff]
  by_cases h : k ∈ l <;> simp [h]

theorem nodup_akeys_foldl_ainsert {ι : Type} (k : List (κ × β) → ι → κ)
    (v : List (κ × β) → ι → β) :
    ∀ (l : List ι) (acc : List (κ × β)), (akeys acc).Nodup →
      (akeys (l.foldl (fun acc x => ainsert (k acc x) (v acc x) acc) acc)).Nodup := by
  intro l
  induction l with
  | nil => exact fun _ h => h
  | cons x l ih => exact fun acc h => ih _ (nodup_akeys_ainsert h)

end alist

theorem lex_iff {β : Type} {r : β → β → Prop} (u v : List β) :
    List.Lex r u v ↔
      (u <+: v ∧ u ≠ v) ∨ ∃ p a b s t, u = p ++ a :: s ∧ v = p ++ b :: t ∧ r a b := by
  induction u generalizing v with
  | nil =>
    cases v with
    | nil => simp
    | cons b v => exact ⟨fun _ => Or.inl ⟨List.nil_prefix, (List.cons_ne_nil _ _).symm⟩, fun _ => .nil⟩
  | cons a u ih =>
    cases v with
    | nil =>
      refine ⟨fun e => (nomatch e), ?_⟩
      rintro (⟨hp, _⟩ | ⟨p, a', b, s, t, _, h2, _⟩)
      · exact absurd (List.prefix_nil.mp hp) (List.cons_ne_nil _ _)
      · cases p <;> cases h2
    | cons b v =>
      rw [List.cons_lex_cons_iff, ih v]
      constructor
      · rintro (h | ⟨rfl, ⟨hp, hne⟩ | ⟨p, a', b', s, t, rfl, rfl, hlt⟩⟩)
        · exact Or.inr ⟨[], a, b, u, v, rfl, rfl, h⟩
        · exact Or.inl ⟨List.cons_prefix_cons.mpr ⟨rfl, hp⟩, fun e => hne (List.cons.inj e).2⟩
        · exact Or.inr ⟨a :: p, a', b', s, t, rfl, rfl, hlt⟩
      · rintro (⟨hp, hne⟩ | ⟨p, a', b', s, t, e1, e2, hlt⟩)
        · obtain ⟨rfl, hp'⟩ := List.cons_prefix_cons.mp hp
          exact Or.inr ⟨rfl, Or.inl ⟨hp', fun e => hne (by rw [e])⟩⟩
        · cases p with
          | nil => cases e1; cases e2; exact Or.inl hlt
          | cons c p => cases e1; cases e2; exact Or.inr ⟨rfl, Or.inr ⟨p, a', b', s, t, rfl, rfl, hlt⟩⟩

theorem lex_of_prefix {β : Type} {r : β → β → Prop} {u v : List β} (h : u <+: v) (hne : u ≠ v) :
    List.Lex r u v :=
  (lex_iff u v).mpr (Or.inl ⟨h, hne⟩)

theorem lex_trichotomy {β : Type} {r : β → β → Prop} (total : ∀ a b, r a b ∨ a = b ∨ r b a) :
    ∀ u v : List β, List.Lex r u v ∨ u = v ∨ List.Lex r v u
  | [], [] => Or.inr (Or.inl rfl)
  | [], _ :: _ => Or.inl .nil
  | _ :: _, [] => Or.inr (Or.inr .nil)
  | a :: u, b :: v => by
    rcases total a b with h | rfl | h
    · exact Or.inl (.rel h)
    · exact (lex_trichotomy total u v).imp .cons (Or.imp (congrArg _) .cons)
    · exact Or.inr (Or.inr (.rel h))

variable {σ : Type} [DecidableEq σ]

/-- `Reach succ a b`: `b` is reached from `a` along the digraph whose edges are given as successor
lists, as the model's searches (`bfs`, `bfsN`) take it; what they compute is stated in it. -/
inductive Reach (succ : σ → List σ) : σ → σ → Prop
  | refl (a : σ) : Reach succ a a
  | tail {a b c : σ} : Reach succ a b → c ∈ succ b → Reach succ a c

omit [DecidableEq σ] in
theorem Reach.trans {succ : σ → List σ} {a b c : σ} (h₁ : Reach succ a b) (h₂ : Reach succ b c) :
    Reach succ a c := by
  induction h₂ with
  | refl => exact h₁
  | tail _ hc ih => exact Reach.tail ih hc

omit [DecidableEq σ] in
theorem Reach.head {succ : σ → List σ} {a b c : σ} (h : b ∈ succ a) (h₂ : Reach succ b c) :
    Reach succ a c :=
  Reach.trans (Reach.tail (Reach.refl a) h) h₂

set_option linter.unusedSectionVars false in
theorem Reach.reverse {p s : σ → List σ} (h : ∀ a b, b ∈ p a → a ∈ s b) {f v : σ}
    (hr : Reach p f v) : Reach s v f := by
  induction hr with
  | refl => exact Reach.refl _
  | tail _ hc ih => exact Reach.head (h _ _ hc) ih

omit [DecidableEq σ] in
theorem Reach.mem_of_closed {succ : σ → List σ} {S : List σ}
    (hcl : ∀ u ∈ S, ∀ v ∈ succ u, v ∈ S) {a b : σ} (h : Reach succ a b) (ha : a ∈ S) : b ∈ S := by
  induction h with
  | refl => exact ha
  | tail _ hc ih => exact hcl _ ih _ hc

omit [DecidableEq σ] in
theorem Reach.mono {s1 s2 : σ → List σ} (h : ∀ a b, b ∈ s1 a → b ∈ s2 a) {a b : σ}
    (hr : Reach s1 a b) : Reach s2 a b := by
  induction hr with
  | refl => exact Reach.refl _
  | tail _ hc ih => exact Reach.tail ih (h _ _ hc)

omit [DecidableEq σ] in
theorem Reach.congr {s1 s2 : σ → List σ} (h : ∀ a b, b ∈ s1 a ↔ b ∈ s2 a) {a b : σ} :
    Reach s1 a b ↔ Reach s2 a b :=
  ⟨Reach.mono fun a b => (h a b).mp, Reach.mono fun a b => (h a b).mpr⟩

theorem Reach.reverse_iff {p s : σ → List σ} (h : ∀ a b, b ∈ p a ↔ a ∈ s b) {f v : σ} :
    Reach p f v ↔ Reach s v f :=
  ⟨Reach.reverse fun a b => (h a b).mp, Reach.reverse fun a b => (h b a).mpr⟩

/-- Invariant of a work-list loop over the edge relation `R` inside a universe `univ`: `vis` lists
the discovered nodes once each, `work` those still to be expanded. -/
structure BfsInv (R : σ → σ → Prop) (univ work vis : List σ) : Prop where
  nodup : vis.Nodup
  sub : ∀ v ∈ vis, v ∈ univ
  work_sub : ∀ v ∈ work, v ∈ vis
  closed : ∀ u ∈ vis, u ∉ work → ∀ v, R u v → v ∈ vis

section worklist
variable {R : σ → σ → Prop}

omit [DecidableEq σ] in
theorem BfsInv.length_le {univ work vis : List σ} (h : BfsInv R univ work vis) :
    vis.length ≤ univ.length :=
  List.Nodup.length_le_of_subset h.nodup fun _ hv => h.sub _ hv

omit [DecidableEq σ] in
theorem BfsInv.start {univ srcs : List σ} (hnd : srcs.Nodup) (hsrc : ∀ s ∈ srcs, s ∈ univ) :
    BfsInv R univ srcs srcs :=
  ⟨hnd, hsrc, fun _ h => h, fun _ hu hnu => absurd hu hnu⟩

/-- One pop: `new` is any duplicate-free list of the successors of `q` not yet visited. -/
theorem BfsInv.step {univ work vis new : List σ} {q : σ}
    (huniv : ∀ u ∈ univ, ∀ v, R u v → v ∈ univ) (h : BfsInv R univ (q :: work) vis)
    (hnd : new.Nodup) (hnew : ∀ x, x ∈ new ↔ R q x ∧ x ∉ vis) :
    BfsInv R univ (work ++ new) (vis ++ new) where
  nodup := List.nodup_append.mpr
    ⟨h.nodup, hnd, fun a ha b hb hab => ((hnew b).mp hb).2 (hab ▸ ha)⟩
  sub v hv := (List.mem_append.mp hv).elim (h.sub v) fun hn =>
    huniv q (h.sub q (h.work_sub q List.mem_cons_self)) v ((hnew v).mp hn).1
  work_sub v hv := (List.mem_append.mp hv).elim
    (fun hw => List.mem_append_left _ (h.work_sub v (List.mem_cons_of_mem _ hw)))
    (List.mem_append_right _)
  closed u hu hnw v hv := by
    have hu' : u ∈ vis :=
      (List.mem_append.mp hu).resolve_right fun hn => hnw (List.mem_append_right _ hn)
    by_cases huq : u = q
    · subst huq
      by_cases hvv : v ∈ vis
      · exact List.mem_append_left _ hvv
      · exact List.mem_append_right _ ((hnew v).mpr ⟨hv, hvv⟩)
    · refine List.mem_append_left _ (h.closed u hu' (fun hh => ?_) v hv)
      exact (List.mem_cons.mp hh).elim huq fun h' => hnw (List.mem_append_left _ h')

omit [DecidableEq σ] in
/-- Each pop shortens `work` by one, and what it appends to `work` it also appends to `vis`, which
cannot outgrow `univ` (`length_le`): hence the measure `work.length + univ.length < fuel + vis.length`. -/
theorem BfsInv.fuel_step {univ work vis new : List σ} {q : σ} {fuel : Nat}
    (hf : (q :: work).length + univ.length < fuel + 1 + vis.length) :
    (work ++ new).length + univ.length < fuel + (vis ++ new).length := by
  rw [List.length_cons] at hf; rw [List.length_append, List.length_append]; omega

end worklist

section bfs
variable (succ : σ → List σ)

theorem bfsAux_sound (srcs : List σ) :
    ∀ (fuel : Nat) (work vis : List σ),
      (∀ v ∈ work, v ∈ vis) →
      (∀ v ∈ vis, ∃ s ∈ srcs, Reach succ s v) →
      ∀ v ∈ bfsAux succ fuel work vis, ∃ s ∈ srcs, Reach succ s v := by
  intro fuel
  induction fuel with
  | zero => intro work vis _ hvis; exact hvis
  | succ n ih =>
    intro work vis hw hvis
    cases work with
    | nil => exact hvis
    | cons q work =>
      refine ih _ _ (fun x hx => ?_) (fun x hx => ?_)
      · exact (List.mem_append.mp hx).elim
          (fun h => List.mem_append_left _ (hw x (List.mem_cons_of_mem _ h)))
          (List.mem_append_right _)
      · rcases List.mem_append.mp hx with h | h
        · exact hvis x h
        · rw [mem_dedup, List.mem_filter] at h
          obtain ⟨s, hs, hr⟩ := hvis q (hw q List.mem_cons_self)
          exact ⟨s, hs, Reach.tail hr h.1⟩

/-- With enough fuel the loop ends with an empty work list, so its result is closed under `succ`. -/
theorem bfsAux_closed {univ : List σ} (huniv : ∀ u ∈ univ, ∀ v ∈ succ u, v ∈ univ) :
    ∀ (fuel : Nat) {work vis : List σ}, BfsInv (fun u v => v ∈ succ u) univ work vis →
      work.length + univ.length < fuel + vis.length →
      BfsInv (fun u v => v ∈ succ u) univ [] (bfsAux succ fuel work vis) ∧
        ∀ v ∈ vis, v ∈ bfsAux succ fuel work vis := by
  intro fuel
  induction fuel with
  | zero => intro _ _ h hf; have := h.length_le; omega
  | succ n ih =>
    intro work vis h hf
    cases work with
    | nil => exact ⟨h, fun v hv => hv⟩
    | cons q work =>
      have h' := h.step huniv (nodup_dedup ((succ q).filter fun t => decide (t ∉ vis)))
        fun x => by rw [mem_dedup, List.mem_filter, decide_eq_true_eq]
      obtain ⟨h1, h2⟩ := ih h' (BfsInv.fuel_step hf)
      exact ⟨h1, fun v hv => h2 v (List.mem_append_left _ hv)⟩

theorem bfsN_spec {univ srcs : List σ} {fuel : Nat} (hf : univ.length < fuel)
    (hsrc : ∀ s ∈ srcs, s ∈ univ) (huniv : ∀ u ∈ univ, ∀ v ∈ succ u, v ∈ univ) :
    BfsInv (fun u v => v ∈ succ u) univ [] (bfsN succ fuel srcs) ∧
      ∀ s ∈ srcs, s ∈ bfsN succ fuel srcs := by
  have h0 : BfsInv (fun u v => v ∈ succ u) univ (dedup srcs) (dedup srcs) :=
    BfsInv.start (nodup_dedup _) fun v hv => hsrc v (mem_dedup.mp hv)
  obtain ⟨h1, h2⟩ := bfsAux_closed succ huniv fuel h0 (by omega)
  exact ⟨h1, fun s hs => h2 s (mem_dedup.mpr hs)⟩

theorem mem_bfsN_iff {univ srcs : List σ} {fuel : Nat} (hf : univ.length < fuel)
    (hsrc : ∀ s ∈ srcs, s ∈ univ)
    (huniv : ∀ u ∈ univ, ∀ v ∈ succ u, v ∈ univ) {v : σ} :
    v ∈ bfsN succ fuel srcs ↔ ∃ s ∈ srcs, Reach succ s v := by
  constructor
  · exact bfsAux_sound succ srcs _ _ _ (fun x hx => hx)
      (fun x hx => ⟨x, mem_dedup.mp hx, Reach.refl x⟩) v
  · rintro ⟨s, hs, hr⟩
    obtain ⟨h1, h2⟩ := bfsN_spec succ hf hsrc huniv
    exact Reach.mem_of_closed (fun u hu => h1.closed u hu List.not_mem_nil) hr (h2 s hs)

theorem nodup_bfsN {univ srcs : List σ} {fuel : Nat} (hf : univ.length < fuel)
    (hsrc : ∀ s ∈ srcs, s ∈ univ)
    (huniv : ∀ u ∈ univ, ∀ v ∈ succ u, v ∈ univ) : (bfsN succ fuel srcs).Nodup :=
  (bfsN_spec succ hf hsrc huniv).1.nodup

/-- `bfs` is `bfsN` with fuel `univ.length + 1`. -/
theorem mem_bfs_iff {univ srcs : List σ} (hsrc : ∀ s ∈ srcs, s ∈ univ)
    (huniv : ∀ u ∈ univ, ∀ v ∈ succ u, v ∈ univ) {v : σ} :
    v ∈ bfs succ univ srcs ↔ ∃ s ∈ srcs, Reach succ s v :=
  mem_bfsN_iff succ (Nat.lt_succ_self _) hsrc huniv

theorem nodup_bfs {univ srcs : List σ} (hsrc : ∀ s ∈ srcs, s ∈ univ)
    (huniv : ∀ u ∈ univ, ∀ v ∈ succ u, v ∈ univ) : (bfs succ univ srcs).Nodup :=
  nodup_bfsN succ (Nat.lt_succ_self _) hsrc huniv

end bfs

theorem head_le_of_sorted {β : Type} {lv : β → Nat} {h : β} {rest : List β}
    (hs : (h :: rest).Pairwise fun a b => lv a ≤ lv b) {q : β} (hq : q ∈ h :: rest) : lv h ≤ lv q :=
  (List.mem_cons.mp hq).elim (fun e => e ▸ Nat.le_refl _) ((List.pairwise_cons.mp hs).1 q)

/-- FIFO order by level: a queue sorted by level whose elements are at most one level above its
head stays so when the head `h` is popped and elements of the next level are appended (`lv'` is the
level function afterwards). -/
theorem fifo_levels {β : Type} {lv lv' : β → Nat} {h : β} {rest new : List β}
    (hs : (h :: rest).Pairwise fun a b => lv a ≤ lv b) (hspan : ∀ b ∈ rest, lv b ≤ lv h + 1)
    (hold : ∀ a ∈ rest, lv' a = lv a) (hnew : ∀ t ∈ new, lv' t = lv h + 1) :
    (∀ a ∈ rest ++ new, lv h ≤ lv' a ∧ lv' a ≤ lv h + 1) ∧
      (rest ++ new).Pairwise fun a b => lv' a ≤ lv' b := by
  obtain ⟨hh, hr⟩ := List.pairwise_cons.mp hs
  have hval : ∀ a ∈ rest ++ new, lv h ≤ lv' a ∧ lv' a ≤ lv h + 1 := fun a ha =>
    (List.mem_append.mp ha).elim (fun ha => by rw [hold a ha]; exact ⟨hh a ha, hspan a ha⟩)
      fun ha => by rw [hnew a ha]; exact ⟨Nat.le_succ _, Nat.le_refl _⟩
  refine ⟨hval, List.pairwise_append.mpr ⟨?_, ?_, fun a ha b hb => ?_⟩⟩
  · exact hr.imp_of_mem fun ha hb hab => by rw [hold _ ha, hold _ hb]; exact hab
  · exact List.pairwise_of_forall_mem_list fun a ha b hb => by
      rw [hnew a ha, hnew b hb]; exact Nat.le_refl _
  · rw [hnew b hb]; exact (hval a (List.mem_append_left _ ha)).2

/-- `while new_state in state_set: new_state += 1` (`FA._add_new_state`), for any function `f`
with the loop's two equations: after `S.length` increments a name outside `S` has been reached,
since `nat` is injective and `k, …, k + S.length` are more names than `S` has elements. -/
theorem firstFree_fresh {nat : Nat → σ} (hinj : Function.Injective nat) {S : List σ}
    {f : Nat → Nat → Nat} (h0 : ∀ k, f 0 k = k)
    (hs : ∀ n k, f (n + 1) k = if nat k ∈ S then f n (k + 1) else k) {fuel : Nat} (k : Nat)
    (hf : S.length ≤ fuel) : nat (f fuel k) ∉ S := by
  have spec : ∀ fuel k, nat (f fuel k) ∉ S ∨
      (f fuel k = k + fuel ∧ ∀ i, i < fuel → nat (k + i) ∈ S) := by
    intro fuel
    induction fuel with
    | zero => exact fun k => Or.inr ⟨h0 k, fun i hi => absurd hi (Nat.not_lt_zero i)⟩
    | succ n ih =>
      intro k
      rw [hs]
      by_cases hk : nat k ∈ S
      · rw [if_pos hk]
        refine (ih (k + 1)).imp id fun ⟨h1, h2⟩ => ⟨by omega, fun i hi => ?_⟩
        cases i with
        | zero => exact hk
        | succ i => rw [show k + (i + 1) = k + 1 + i by omega]; exact h2 i (by omega)
      · rw [if_neg hk]; exact Or.inl hk
  rcases spec fuel k with h | ⟨h1, h2⟩
  · exact h
  · intro hmem
    have hsub : ∀ x ∈ (List.range (fuel + 1)).map fun i => nat (k + i), x ∈ S := by
      intro x hx
      obtain ⟨i, hi, rfl⟩ := List.mem_map.mp hx
      rcases Nat.eq_or_lt_of_le (Nat.le_of_lt_succ (List.mem_range.mp hi)) with e | hlt
      · rw [e, ← h1]; exact hmem
      · exact h2 i hlt
    have hnd : ((List.range (fuel + 1)).map fun i => nat (k + i)).Nodup :=
      List.pairwise_map.mpr (List.nodup_range.imp fun hne e => hne (by have := hinj e; omega))
    have := List.Nodup.length_le_of_subset hnd hsub
    rw [List.length_map, List.length_range] at this
    omega

/-- For the fuelled models of loops that Python runs unboundedly (`r f`: the result and its status
under fuel `f`; `cut`: the status "the fuel ran out"): if a run that was not cut is the same under
every larger fuel, any two runs that were not cut coincide, so the result does not depend on the
fuel (compare both with the run at the larger fuel). -/
theorem eq_of_decided {β E : Type} {cut : E} {r : Nat → β × E}
    (mono : ∀ f f', (r f).2 ≠ cut → f ≤ f' → r f' = r f) {f f' : Nat}
    (h : (r f).2 ≠ cut) (h' : (r f').2 ≠ cut) : r f = r f' := by
  rw [← mono f (max f f') h (Nat.le_max_left ..), ← mono f' (max f f') h' (Nat.le_max_right ..)]

/-- A fuelled loop: with no fuel it is cut, or ends as it does with any fuel; with fuel, from each state
it either ends the same way whatever the fuel, or yields and goes on from a next state with one unit less.  A run that was not cut
is the same under every larger fuel. -/
theorem stable_of_step {S Y E : Type} {cut : E} {loop : Nat → S → List Y × E}
    (h0 : ∀ s, (loop 0 s).2 ≠ cut → ∀ f, loop f s = loop 0 s)
    (hstep : ∀ s, (∃ r : List Y × E, ∀ f, loop (f + 1) s = r) ∨
      ∃ ys s', ∀ f, loop (f + 1) s = (ys ++ (loop f s').1, (loop f s').2)) :
    ∀ f s, (loop f s).2 ≠ cut → ∀ k, loop (f + k) s = loop f s := by
  intro f
  induction f with
  | zero => intro s h k; exact h0 s h _
  | succ f ih =>
    intro s h k
    rw [show f + 1 + k = (f + k) + 1 by omega]
    rcases hstep s with ⟨r, hr⟩ | ⟨ys, s', hs⟩
    · rw [hr, hr]
    · rw [hs] at h ⊢
      rw [hs, ih s' h k]

end AV
