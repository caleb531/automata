/-
Proofs/RxShuffle.lean — builders whose states are the elements of a list named by position
(`Named`: both products are built like this; invariant and language once for both), the universe
of key pairs, and `shuffle_product`.  Core only.
-/
import AutomataVerif.Proofs.RxRepeat

namespace AV.Rx

variable {α : Type} [DecidableEq α]

namespace Builder

section named
variable {ι : Type} [BEq ι] [LawfulBEq ι] {r : Builder α} {L : List ι} {c : Nat}
  {rowOf : ι → Row α} {astep : ι → Option α → ι → Prop} {afin : ι → Prop} {x0 : ι}

/-- `r` is the automaton with states `L`, edges `astep`, final states `afin` and initial state
`x0`, where `x` has the name `c + L.idxOf x` and the row `rowOf x`. -/
structure Named (r : Builder α) (L : List ι) (c : Nat) (rowOf : ι → Row α)
    (astep : ι → Option α → ι → Prop) (afin : ι → Prop) (x0 : ι) : Prop where
  nodup : L.Nodup
  trans : r.trans = L.map fun x => (c + L.idxOf x, rowOf x)
  row : ∀ x ∈ L, ∀ a t,
    t ∈ (alookup a (rowOf x)).getD [] ↔ ∃ y, astep x a y ∧ t = c + L.idxOf y
  closed : ∀ x ∈ L, ∀ a y, astep x a y → y ∈ L
  init : r.init = c + L.idxOf x0
  initMem : x0 ∈ L
  fin : ∀ f, f ∈ r.finals ↔ ∃ x ∈ L, afin x ∧ f = c + L.idxOf x

theorem name_inj {x y : ι} (hx : x ∈ L) (e : c + L.idxOf x = c + L.idxOf y) :
    x = y := idxOf_inj_on hx (Nat.add_left_cancel e)

namespace Named
variable (nm : Named r L c rowOf astep afin x0)
include nm

omit [LawfulBEq ι] in
theorem keys : r.keys = L.map fun x => c + L.idxOf x := by
  show akeys r.trans = _
  rw [nm.trans, akeys_mapTable]

theorem tg {x : ι} (hx : x ∈ L) (a : Option α) (t : Nat) :
    t ∈ r.targets (c + L.idxOf x) a ↔ ∃ y, astep x a y ∧ t = c + L.idxOf y := by
  rw [targets_eq, nm.trans, tgts_mapTable rowOf (fun x hx y _ => name_inj hx) hx, nm.row x hx]

omit [LawfulBEq ι] in
theorem mem_keys {q : Nat} : q ∈ r.keys ↔ ∃ x ∈ L, q = c + L.idxOf x := by
  rw [nm.keys, List.mem_map]
  exact exists_congr fun x => and_congr_right fun _ => eq_comm

theorem inv (hno : ∀ x ∈ L, ∀ a, ¬ astep x a x0) : r.Inv c (c + L.length) := by
  have keyOf : ∀ {x}, x ∈ L → c + L.idxOf x ∈ r.keys := fun hx => nm.mem_keys.mpr ⟨_, hx, rfl⟩
  refine Inv.of_edges ?_ ?_ (nm.init ▸ keyOf nm.initMem) ?_ ?_
  · rw [nm.keys]
    exact nodup_map_of_inj_on nm.nodup (fun x hx y _ => name_inj hx)
  · intro q hq
    obtain ⟨x, hx, rfl⟩ := nm.mem_keys.mp hq
    have := List.idxOf_lt_length_of_mem hx
    omega
  · intro f hf
    obtain ⟨x, hx, _, rfl⟩ := (nm.fin f).mp hf
    exact keyOf hx
  · intro q a t ht
    obtain ⟨x, hx, rfl⟩ := nm.mem_keys.mp (mem_tgts_key ht)
    obtain ⟨y, hy, rfl⟩ := (nm.tg hx a t).mp ht
    have hyL := nm.closed x hx a y hy
    refine ⟨keyOf hyL, fun e => hno x hx a ?_⟩
    rwa [name_inj nm.initMem (nm.init.symm.trans e.symm)]

theorem lang (w : List α) : r.Lang w ↔ Acc astep afin x0 w := by
  rw [Lang, nm.init]
  refine Acc.copy (S := (· ∈ L)) (fun x => c + L.idxOf x) nm.closed
    (fun x hx => nm.tg hx) (fun x hx => (nm.fin _).trans ?_) nm.initMem
  exact ⟨fun ⟨y, _, hf, e⟩ => name_inj hx e ▸ hf, fun hf => ⟨x, hx, hf, rfl⟩⟩

theorem built (hno : ∀ x ∈ L, ∀ a, ¬ astep x a x0) {c0 : Nat} (hc : c0 ≤ c) {S : α → Prop}
    (hrow : ∀ x ∈ L, (akeys (rowOf x)).Nodup ∧ ∀ a, some a ∈ akeys (rowOf x) → S a) :
    Built S (Acc astep afin x0) c0 r (c + L.length) :=
  ⟨(nm.inv hno).mono hc (Nat.le_refl _),
    by rw [RowsNodup, nm.trans]; exact AllRows.mapTable _ _ _ fun x hx => (hrow x hx).1,
    by rw [SymsIn, nm.trans]; exact AllRows.mapTable _ _ _ fun x hx => (hrow x hx).2, nm.lang⟩

end Named
end named

omit [DecidableEq α] in
theorem mem_pairUniverse (b1 b2 : Builder α) (p q : Nat) :
    (p, q) ∈ pairUniverse b1 b2 ↔ p ∈ b1.keys ∧ q ∈ b2.keys :=
  AL.mem_lprod (xs := b1.keys) (ys := b2.keys)

omit [DecidableEq α] in
theorem nodup_pairUniverse {b1 b2 : Builder α} (h1 : b1.keys.Nodup) (h2 : b2.keys.Nodup) :
    (pairUniverse b1 b2).Nodup := AL.nodup_lprod h1 h2

theorem shufStep_keys {b1 b2 : Builder α} {l1 h1 l2 h2 : Nat} (i1 : b1.Inv l1 h1)
    (i2 : b2.Inv l2 h2) {pq pq' : Nat × Nat} {a : Option α} (hk : pq ∈ pairUniverse b1 b2)
    (h : shufStep b1.step b2.step pq a pq') : pq' ∈ pairUniverse b1 b2 :=
  (mem_pairUniverse b1 b2 pq'.1 pq'.2).mpr (shufStep_closed i1.closed i2.closed
    ((mem_pairUniverse b1 b2 pq.1 pq.2).mp hk) h)

theorem shuffleRow_ind (b1 b2 : Builder α) (name : Nat × Nat → Nat) (p q : Nat)
    {P : Row α → Prop} (h0 : P [])
    (hadd : ∀ a ts r, (a ∈ akeys (b1.row p) ∨ a ∈ akeys (b2.row q)) → P r →
      P (addTargets a ts r)) : P (shuffleRow b1 b2 name (p, q)) := by
  have hfold : ∀ (g : List Nat → List Nat) (row : Row α),
      (∀ e ∈ row, e.1 ∈ akeys (b1.row p) ∨ e.1 ∈ akeys (b2.row q)) → ∀ acc, P acc →
      P (row.foldl (fun r e => addTargets e.1 (g e.2) r) acc) := by
    intro g row
    induction row with
    | nil => exact fun _ _ h => h
    | cons e rest ih =>
      exact fun hk acc h => ih (fun e' he' => hk e' (List.mem_cons_of_mem _ he')) _
        (hadd _ _ _ (hk e List.mem_cons_self) h)
  exact hfold _ _ (fun e he => Or.inr (List.mem_map_of_mem he)) _
    (hfold _ _ (fun e he => Or.inl (List.mem_map_of_mem he)) _ h0)

theorem exists_entry_iff {b : Builder α} (h : RowsNodup b.trans) (p : Nat) (a : Option α)
    (P : List Nat → Prop) :
    (∃ e, e ∈ b.row p ∧ e.1 = a ∧ P e.2) ↔ ∃ ts, alookup a (b.row p) = some ts ∧ P ts := by
  constructor
  · rintro ⟨⟨a', ts⟩, he, rfl, hP⟩
    exact ⟨ts, alookup_of_mem_nodup (AllRows.row h List.nodup_nil p) he, hP⟩
  · rintro ⟨ts, hl, hP⟩
    exact ⟨(a, ts), alookup_some_mem hl, rfl, hP⟩

theorem mem_shuffleRow {b1 b2 : Builder α} (r1 : RowsNodup b1.trans) (r2 : RowsNodup b2.trans)
    (name : Nat × Nat → Nat) (pq : Nat × Nat) (a : Option α) (t : Nat) :
    t ∈ (alookup a (shuffleRow b1 b2 name pq)).getD [] ↔
      ∃ pq', shufStep b1.step b2.step pq a pq' ∧ t = name pq' := by
  obtain ⟨p, q⟩ := pq
  unfold shuffleRow
  simp only
  rw [mem_foldl_addTargets (fun ts => ts.map fun t => name (p, t)),
    mem_foldl_addTargets (fun ts => ts.map fun t => name (t, q)),
    exists_entry_iff r1 p a (fun ts => t ∈ ts.map fun t => name (t, q)),
    exists_entry_iff r2 q a (fun ts => t ∈ ts.map fun t => name (p, t))]
  simp only [alookup_nil, Option.getD_none, List.not_mem_nil, false_or, List.mem_map]
  constructor
  · rintro (⟨ts, hl, p', hp', rfl⟩ | ⟨ts, hl, q', hq', rfl⟩)
    · exact ⟨(p', q), Or.inl ⟨(targets_some_iff b1 p p' a).mpr ⟨ts, hl, hp'⟩, rfl⟩, rfl⟩
    · exact ⟨(p, q'), Or.inr ⟨rfl, (targets_some_iff b2 q q' a).mpr ⟨ts, hl, hq'⟩⟩, rfl⟩
  · rintro ⟨⟨p', q'⟩, ⟨h, rfl⟩ | ⟨rfl, h⟩, rfl⟩
    · obtain ⟨ts, hl, hp'⟩ := (targets_some_iff b1 p p' a).mp h
      exact Or.inl ⟨ts, hl, p', hp', rfl⟩
    · obtain ⟨ts, hl, hq'⟩ := (targets_some_iff b2 q q' a).mp h
      exact Or.inr ⟨ts, hl, q', hq', rfl⟩

section shuffle
variable {b1 b2 : Builder α} {l1 h1 l2 h2 : Nat}

theorem shuffle_named (i1 : b1.Inv l1 h1) (i2 : b2.Inv l2 h2) (r1 : RowsNodup b1.trans)
    (r2 : RowsNodup b2.trans) (c : Nat) :
    Named (b1.shuffle b2 c).1 (pairUniverse b1 b2) c
      (shuffleRow b1 b2 fun pq => c + (pairUniverse b1 b2).idxOf pq) (shufStep b1.step b2.step)
      (fun pq => pq.1 ∈ b1.finals ∧ pq.2 ∈ b2.finals) (b1.init, b2.init) := by
  refine ⟨nodup_pairUniverse i1.keysNodup i2.keysNodup, rfl,
    fun pq _ a t => mem_shuffleRow r1 r2 _ pq a t, fun pq hpq a pq' => shufStep_keys i1 i2 hpq,
    rfl, (mem_pairUniverse b1 b2 _ _).mpr ⟨i1.initKey, i2.initKey⟩, fun f => ?_⟩
  show f ∈ dedup ((b1.finals.flatMap fun p => b2.finals.map fun q => (p, q)).map _) ↔ _
  simp only [mem_dedup, List.mem_map, List.mem_flatMap]
  constructor
  · rintro ⟨_, ⟨p, hp, q, hq, rfl⟩, rfl⟩
    exact ⟨(p, q), (mem_pairUniverse b1 b2 p q).mpr ⟨i1.finalsKeys _ hp, i2.finalsKeys _ hq⟩,
      ⟨hp, hq⟩, rfl⟩
  · rintro ⟨⟨p, q⟩, _, ⟨hp, hq⟩, rfl⟩
    exact ⟨(p, q), ⟨p, hp, q, hq, rfl⟩, rfl⟩

theorem _root_.AV.Rx.Built.shuffle {S : α → Prop} {L1 L2 : List α → Prop} {c0 c1 c : Nat}
    (g1 : Built S L1 c0 b1 c1) (g2 : Built S L2 c1 b2 c) :
    Built S (LShuffle L1 L2) c0 (b1.shuffle b2 c).1 (b1.shuffle b2 c).2 := by
  have i1 := g1.inv
  have i2 := g2.inv
  obtain rfl := funext fun w => propext (g1.lang w)
  obtain rfl := funext fun w => propext (g2.lang w)
  refine ((shuffle_named i1 i2 g1.rows g2.rows c).built ?_
    (Nat.le_of_lt (Nat.lt_trans i1.lo_lt_hi i2.lo_lt_hi)) fun pq _ => ?_).congr fun w =>
      Acc.shuffle_iff
  · rintro pq _ a (⟨h, _⟩ | ⟨_, h⟩)
    · exact i1.noIntoInit _ _ h
    · exact i2.noIntoInit _ _ h
  · exact shuffleRow_ind b1 b2 _ pq.1 pq.2
      (P := fun r => (akeys r).Nodup ∧ ∀ x, some x ∈ akeys r → S x)
      ⟨List.nodup_nil, fun _ hx => nomatch hx⟩ fun a ts r ha h =>
        ⟨nodup_akeys_ainsert h.1, fun x hx => (mem_akeys_ainsert.mp hx).elim
          (fun e => ha.elim (fun k => symsIn_row g1.syms pq.1 x (e ▸ k))
            (fun k => symsIn_row g2.syms pq.2 x (e ▸ k))) (h.2 x)⟩

end shuffle

end Builder
end AV.Rx
