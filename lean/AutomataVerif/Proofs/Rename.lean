/-
Proofs/Rename.lean — renaming the states of a DFA through a function `f` (core only): validity is
kept by every `f`, the verdict on every word when `f` tells each state apart from every other name
that occurs (`Sep`), the shape of a Python value when `f` is injective on the names that occur
(`InjOn`: states and row keys).  Instance: `renumber` (= `get_renaming_function(count(0))`, the BFS
discovery index), used by every `retain_names=False` path of `_expand_dfa`.
-/
import AutomataVerif.Proofs.Read
import AutomataVerif.Proofs.PyShape
import AutomataVerif.Model.DFAOps

namespace AV
namespace C04
open DFA

variable {σ τ α : Type} [DecidableEq σ] [DecidableEq τ] [DecidableEq α]

def InjOn (f : σ → τ) (l : List σ) : Prop := ∀ x ∈ l, ∀ y ∈ l, f x = f y → x = y

section
omit [DecidableEq σ] [DecidableEq τ]

theorem InjOn.mono {f : σ → τ} {l m : List σ} (h : InjOn f l) (hsub : ∀ x ∈ m, x ∈ l) : InjOn f m :=
  fun x hx y hy e => h x (hsub x hx) y (hsub y hy) e

theorem injOn_of_injective {f : σ → τ} (hf : Function.Injective f) (l : List σ) : InjOn f l :=
  fun _ _ _ _ e => hf e

end

/-- `f` tells every state apart from every other name that occurs: all that a run of the renamed
DFA needs (`indexOf · d.states` does so whatever the row keys are). -/
def Sep (f : σ → τ) (d : DFA σ α) : Prop :=
  ∀ q ∈ d.states, ∀ k ∈ d.states ++ akeys d.trans, f k = f q → k = q

omit [DecidableEq σ] [DecidableEq τ] [DecidableEq α] in
theorem InjOn.sep {f : σ → τ} {d : DFA σ α} (h : InjOn f (d.states ++ akeys d.trans)) : Sep f d :=
  fun q hq k hk e => h k hk q (List.mem_append_left _ hq) e

/-- The states renamed through `f`; `renumber` is the case `f = indexOf · d.states`
(`renumber_eq_rename`).  Used by the proofs only. -/
def _root_.AV.DFA.rename (f : σ → τ) (d : DFA σ α) : DFA τ α :=
  { states := d.states.map f, syms := d.syms,
    trans := d.trans.map fun kv => (f kv.1, kv.2.map fun e => (e.1, f e.2)),
    init := f d.init, finals := d.finals.map f, allowPartial := d.allowPartial }

omit [DecidableEq α] in
theorem renumber_eq_rename (d : DFA σ α) :
    d.renumber = d.rename (fun s => indexOf s d.states) := rfl

variable (f : σ → τ) (d : DFA σ α)

set_option linter.unusedSectionVars false in
@[simp] theorem rename_syms : (d.rename f).syms = d.syms := rfl
set_option linter.unusedSectionVars false in
@[simp] theorem rename_allowPartial : (d.rename f).allowPartial = d.allowPartial := rfl

omit [DecidableEq σ] [DecidableEq τ] [DecidableEq α] in
theorem rename_keys : akeys (d.rename f).trans = (akeys d.trans).map f := by
  simp only [rename]; exact akeys_map_key f _ d.trans

omit [DecidableEq σ] [DecidableEq τ] [DecidableEq α] in
theorem rename_wf {d : DFA σ α} (wf : d.WF) : (d.rename f).WF where
  rows := by
    intro q' hq'
    obtain ⟨q, hq, rfl⟩ := List.mem_map.mp hq'
    rw [rename_keys]
    exact List.mem_map_of_mem (wf.rows q hq)
  complete := by
    intro hp kv' hkv' a ha
    obtain ⟨kv, hkv, rfl⟩ := List.mem_map.mp hkv'
    rw [akeys_map_val]
    exact wf.complete hp kv hkv a ha
  symsOk := by
    intro kv' hkv' a ha
    obtain ⟨kv, hkv, rfl⟩ := List.mem_map.mp hkv'
    rw [akeys_map_val] at ha
    exact wf.symsOk kv hkv a ha
  tgtOk := by
    intro kv' hkv' q' hq'
    obtain ⟨kv, hkv, rfl⟩ := List.mem_map.mp hkv'
    rw [avals_map_val] at hq'
    obtain ⟨q, hq, rfl⟩ := List.mem_map.mp hq'
    exact List.mem_map_of_mem (wf.tgtOk kv hkv q hq)
  initOk := List.mem_map_of_mem wf.initOk
  finalsOk := by
    intro q' hq'
    obtain ⟨q, hq, rfl⟩ := List.mem_map.mp hq'
    exact List.mem_map_of_mem (wf.finalsOk q hq)

theorem rename_valid {d : DFA σ α} (h : d.validate = .ok ()) : (d.rename f).validate = .ok () :=
  (validate_eq_ok _).mpr (rename_wf f ((validate_eq_ok d).mp h))

omit [DecidableEq σ] [DecidableEq τ] [DecidableEq α] in
theorem rename_pyShape {d : DFA σ α} (wf : d.WF) (p : d.PyShape)
    (hinj : InjOn f (d.states ++ akeys d.trans)) : (d.rename f).PyShape := by
  refine ⟨?_, p.syms_nodup, ?_, ?_, ?_⟩
  · exact nodup_map_of_inj_on p.states_nodup (hinj.mono fun x hx => List.mem_append_left _ hx)
  · exact nodup_map_of_inj_on p.finals_nodup
      (hinj.mono fun x hx => List.mem_append_left _ (wf.finalsOk x hx))
  · rw [rename_keys]
    exact nodup_map_of_inj_on p.keys_nodup (hinj.mono fun x hx => List.mem_append_right _ hx)
  · intro kv' hkv'
    obtain ⟨kv, hkv, rfl⟩ := List.mem_map.mp hkv'
    simp only
    rw [akeys_map_val]
    exact p.rows_nodup kv hkv

omit [DecidableEq α] in
theorem rename_row {d : DFA σ α} (hinj : Sep f d) {q : σ}
    (hq : q ∈ d.states) : (d.rename f).row (f q) = (d.row q).map fun e => (e.1, f e.2) :=
  getD_alookup_map_key f rfl fun k hk => hinj q hq k (List.mem_append_right _ hk)

theorem rename_step? {d : DFA σ α} (hinj : Sep f d) {s : Option σ}
    (hs : d.Good s) (a : α) : (d.rename f).step? (s.map f) a = (d.step? s a).map f := by
  cases s with
  | none => rfl
  | some q =>
    simp only [Option.map_some, step?]
    rw [rename_row f hinj hs, alookup_map_val]

theorem rename_run {d : DFA σ α} (wf : d.WF) (hinj : Sep f d)
    (w : List α) : ∀ s, d.Good s → (d.rename f).run (s.map f) w = (d.run s w).map f := by
  induction w with
  | nil => intro s _; rfl
  | cons a w ih =>
    intro s hs
    rw [run_cons, run_cons, rename_step? f hinj hs, ih _ (good_step wf _ a)]

theorem rename_reach {d : DFA σ α} (wf : d.WF) (hinj : Sep f d)
    (h : ∀ q ∈ d.states, ∃ w, d.run (some d.init) w = some q) :
    ∀ q ∈ (d.rename f).states, ∃ w, (d.rename f).run (some (d.rename f).init) w = some q := by
  intro q' hq'
  obtain ⟨q, hq, rfl⟩ := List.mem_map.mp hq'
  obtain ⟨w, hw⟩ := h q hq
  exact ⟨w, (rename_run f wf hinj w (some d.init) wf.initOk).trans (by rw [hw]; rfl)⟩

omit [DecidableEq α] in
theorem rename_isFinal {d : DFA σ α} (wf : d.WF) (hinj : Sep f d)
    {s : Option σ} (hs : d.Good s) : (d.rename f).isFinal (s.map f) = d.isFinal s := by
  cases s with
  | none => rfl
  | some q =>
    simp only [Option.map_some, isFinal, rename]
    exact decide_eq_decide.mpr (mem_map_iff_of_inj fun y hy =>
      hinj q hs y (List.mem_append_left _ (wf.finalsOk y hy)))

theorem rename_accepts {d : DFA σ α} (wf : d.WF) (hinj : Sep f d)
    (w : List α) : (d.rename f).accepts w = d.accepts w :=
  accepts_eq_of_rel wf (rename_wf f wf) rfl (R := fun s t => t = s.map f)
    (fun _ _ hs e a _ => e ▸ rename_step? f hinj hs a)
    (fun _ _ hs e => e ▸ rename_isFinal f wf hinj hs) rfl w

omit [DecidableEq α] in
theorem renumber_injOn {S : Type} [DecidableEq S] (d : DFA S α) (hk : ∀ k ∈ akeys d.trans, k ∈ d.states) :
    InjOn (fun s => indexOf s d.states) (d.states ++ akeys d.trans) :=
  fun x hx _ _ e => indexOf_inj ((List.mem_append.mp hx).elim id (hk x)) e

omit [DecidableEq α] in
theorem renumber_sep {S : Type} [DecidableEq S] (d : DFA S α) : Sep (fun s => indexOf s d.states) d :=
  fun _ hq _ _ e => (indexOf_inj hq e.symm).symm

end C04
end AV
