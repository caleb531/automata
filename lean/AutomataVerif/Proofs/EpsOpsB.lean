/-
Proofs/EpsOpsB.lean — product constructions on Mathlib's `εNFA`, stated for an arbitrary
result automaton `M` whose transition function is characterised on the relevant product
states: intersection (ε-moves of either side independently, symbols jointly) and shuffle
product (every move — ε or symbol — moves exactly one side).
-/
import AutomataVerif.Proofs.EpsOpsA

namespace AV.EpsOps

open Set

section
universe u
variable {α : Type u}

/-- `w` is an interleaving of `u` and `v`.  The same relation as `Rx.Interleave` of Proofs/EpsPath,
which the path calculus (`Rx.Acc.shuffle_iff`) speaks of; this one is what `shuffleLang`, and through it
the statement of `C08_shuffle_product`, is written with.  `shuffle_iff_interleave` identifies the two. -/
inductive Shuffle : List α → List α → List α → Prop
  | nil : Shuffle [] [] []
  | left {u v w : List α} (a : α) : Shuffle u v w → Shuffle (a :: u) v (a :: w)
  | right {u v w : List α} (a : α) : Shuffle u v w → Shuffle u (a :: v) (a :: w)

def shuffleLang (L₁ L₂ : Language α) : Language α :=
  {w | ∃ u ∈ L₁, ∃ v ∈ L₂, Shuffle u v w}

end

variable {α σ₁ σ₂ : Type}

open AV.Rx

theorem shuffle_iff_interleave {u v w : List α} : Shuffle u v w ↔ Interleave u v w := by
  constructor
  · intro h
    induction h with
    | nil => exact .nil
    | left a _ ih => exact .left a ih
    | right a _ ih => exact .right a ih
  · intro h
    induction h with
    | nil => exact .nil
    | left a _ ih => exact .left a ih
    | right a _ ih => exact .right a ih

/-- Intersection on the product states in `R` (a set containing the initial pair and closed
under the transitions of `M`, e.g. the pairs a work-list search has expanded): on `R`, `M` is the
synchronous product `prodStep`. -/
theorem accepts_inter
    (M : εNFA α (σ₁ × σ₂)) (M₁ : εNFA α σ₁) (M₂ : εNFA α σ₂) (R : Set (σ₁ × σ₂))
    (i₁ : σ₁) (i₂ : σ₂)
    (hs₁ : M₁.start = {i₁}) (hs₂ : M₂.start = {i₂}) (hs : M.start = {(i₁, i₂)})
    (hR_init : (i₁, i₂) ∈ R) (hR_closed : Closed M R)
    (hstep : ∀ s ∈ R, ∀ a t, rel M s a t ↔ prodStep (rel M₁) (rel M₂) s a t)
    (hacc : ∀ s ∈ R, s ∈ M.accept ↔ s.1 ∈ M₁.accept ∧ s.2 ∈ M₂.accept) :
    M.accepts = M₁.accepts ⊓ M₂.accepts := by
  ext w
  rw [Language.mem_inf, mem_accepts_iff_acc hs, mem_accepts_iff_acc hs₁, mem_accepts_iff_acc hs₂]
  exact (Acc.congr_on (S := (· ∈ R))
    (fun s hs a t h => hR_closed s hs a t ((hstep s hs a t).mpr h)) hstep hacc hR_init).trans
    Acc.prod_iff

/-- Shuffle product on `Q₁ × Q₂` (closed sets of states of the operands): there `M` is the
asynchronous product `shufStep`. -/
theorem accepts_shuffle
    (M : εNFA α (σ₁ × σ₂)) {M₁ : εNFA α σ₁} {M₂ : εNFA α σ₂} {Q₁ : Set σ₁} {Q₂ : Set σ₂}
    {i₁ : σ₁} {i₂ : σ₂} (h₁ : On M₁ Q₁ i₁) (h₂ : On M₂ Q₂ i₂) (hs : M.start = {(i₁, i₂)})
    (hstep : ∀ p ∈ Q₁, ∀ q ∈ Q₂, ∀ a t,
      rel M (p, q) a t ↔ shufStep (rel M₁) (rel M₂) (p, q) a t)
    (hacc : ∀ p ∈ Q₁, ∀ q ∈ Q₂, (p, q) ∈ M.accept ↔ p ∈ M₁.accept ∧ q ∈ M₂.accept) :
    M.accepts = shuffleLang M₁.accepts M₂.accepts := by
  ext w
  rw [mem_accepts_iff_acc hs]
  refine (Acc.congr_on (S := fun s => s.1 ∈ Q₁ ∧ s.2 ∈ Q₂) (step := shufStep (rel M₁) (rel M₂))
    (fun _ hs _ _ => shufStep_closed h₁.closed h₂.closed hs)
    (fun s hs a t => hstep s.1 hs.1 s.2 hs.2 a t)
    (fun s hs => hacc s.1 hs.1 s.2 hs.2) ⟨h₁.init, h₂.init⟩).trans (Acc.shuffle_iff.trans ?_)
  simp only [LShuffle, ← mem_accepts_iff_acc h₁.start, ← mem_accepts_iff_acc h₂.start,
    ← shuffle_iff_interleave]
  exact ⟨fun ⟨u, v, hu, hv, h⟩ => ⟨u, hu, v, hv, h⟩, fun ⟨u, hu, v, hv, h⟩ => ⟨u, v, hu, hv, h⟩⟩

end AV.EpsOps
