/-
Proofs/Expand.lean — `_expand_dfa`: the DFA built by BFS over an implicit deterministic
graph runs exactly like the implicit graph (core only).
-/
import AutomataVerif.Proofs.Read
import AutomataVerif.Model.DFAOps

namespace AV

namespace DFA

variable {S α : Type} [DecidableEq S] [DecidableEq α]

/-- One step of the implicit deterministic graph given by `expand_state_fn`. -/
def implStep (succ : S → List (α × S)) : Option S → α → Option S
  | none, _ => none
  | some s, a => alookup a (succ s)

def implRun (succ : S → List (α × S)) (s : Option S) (w : List α) : Option S :=
  w.foldl (implStep succ) s

set_option linter.unusedSectionVars false in
@[simp] theorem implRun_nil (succ : S → List (α × S)) (s : Option S) : implRun succ s [] = s := rfl

section
omit [DecidableEq S]

@[simp] theorem implRun_cons (succ : S → List (α × S)) (s : Option S) (a : α) (w : List α) :
    implRun succ s (a :: w) = implRun succ (implStep succ s a) w := rfl

theorem implRun_append (succ : S → List (α × S)) (s : Option S) (u v : List α) :
    implRun succ s (u ++ v) = implRun succ (implRun succ s u) v := by
  simp [implRun, List.foldl_append]

@[simp] theorem implRun_none (succ : S → List (α × S)) (w : List α) : implRun succ none w = none := by
  induction w with
  | nil => rfl
  | cons a w ih => simpa [implStep] using ih

end

/-- Hypotheses under which the BFS of `_expand_dfa` is exhaustive: a finite universe closed
under the successor function, and enough fuel. -/
structure ExpandHyp (succ : S → List (α × S)) (univ : List S) (fuel : Nat) (init : S) : Prop where
  init_mem : init ∈ univ
  closed : ∀ u ∈ univ, ∀ e ∈ succ u, e.2 ∈ univ
  keysNodup : ∀ u ∈ univ, (akeys (succ u)).Nodup
  fuel_ok : univ.length < fuel

variable {succ : S → List (α × S)} {univ : List S} {fuel : Nat} {init : S}

omit [DecidableEq S] [DecidableEq α] in
theorem ExpandHyp.src (h : ExpandHyp succ univ fuel init) : ∀ x ∈ [init], x ∈ univ :=
  fun _ hx => List.mem_singleton.mp hx ▸ h.init_mem

omit [DecidableEq S] [DecidableEq α] in
theorem ExpandHyp.closed_vals (h : ExpandHyp succ univ fuel init) :
    ∀ u ∈ univ, ∀ v ∈ avals (succ u), v ∈ univ := by
  intro u hu v hv
  obtain ⟨e, he, rfl⟩ := List.mem_map.mp hv
  exact h.closed u hu e he

section
omit [DecidableEq α]

theorem mem_bfsStates_iff (h : ExpandHyp succ univ fuel init) {s : S} :
    s ∈ bfsStates succ fuel init ↔ Reach (fun s => avals (succ s)) init s := by
  unfold bfsStates
  rw [mem_bfsN_iff (fun s => avals (succ s)) h.fuel_ok h.src h.closed_vals]
  simp only [List.mem_singleton, exists_eq_left]

theorem nodup_bfsStates (h : ExpandHyp succ univ fuel init) : (bfsStates succ fuel init).Nodup :=
  nodup_bfsN (fun s => avals (succ s)) h.fuel_ok h.src h.closed_vals

omit [DecidableEq S] in
theorem reach_mem_univ (h : ExpandHyp succ univ fuel init) {s : S}
    (hr : Reach (fun s => avals (succ s)) init s) : s ∈ univ :=
  hr.mem_of_closed h.closed_vals h.init_mem

theorem mem_bfsStates_univ (h : ExpandHyp succ univ fuel init) {s : S}
    (hs : s ∈ bfsStates succ fuel init) : s ∈ univ :=
  reach_mem_univ h ((mem_bfsStates_iff h).mp hs)

theorem init_mem_bfsStates (h : ExpandHyp succ univ fuel init) : init ∈ bfsStates succ fuel init :=
  (mem_bfsStates_iff h).mpr (Reach.refl _)

end

theorem bfsStates_closed (h : ExpandHyp succ univ fuel init) {s t : S} {a : α}
    (hs : s ∈ bfsStates succ fuel init) (ht : alookup a (succ s) = some t) :
    t ∈ bfsStates succ fuel init := by
  rw [mem_bfsStates_iff h] at hs ⊢
  exact Reach.tail hs (alookup_some_val_mem ht)

theorem bfsStates_reachable (h : ExpandHyp succ univ fuel init) {s : S}
    (hs : s ∈ bfsStates succ fuel init) : ∃ w, implRun succ (some init) w = some s := by
  have hr : Reach (fun s => avals (succ s)) init s := (mem_bfsStates_iff h).mp hs
  clear hs
  induction hr with
  | refl => exact ⟨[], rfl⟩
  | @tail b c hab hc ih =>
    obtain ⟨w, hw⟩ := ih
    obtain ⟨e, he, rfl⟩ := List.mem_map.mp hc
    refine ⟨w ++ [e.1], ?_⟩
    rw [implRun_append, hw]
    exact alookup_of_mem_nodup (h.keysNodup b (reach_mem_univ h hab)) he

theorem implRun_mem_bfsStates (h : ExpandHyp succ univ fuel init) {s t : S}
    (hs : s ∈ bfsStates succ fuel init) {w : List α} (ht : implRun succ (some s) w = some t) :
    t ∈ bfsStates succ fuel init :=
  List.foldlRecOn w (implStep succ) (motive := fun x => ∀ t, x = some t → t ∈ bfsStates succ fuel init)
    (fun _ e => Option.some.inj e ▸ hs)
    (fun x hx a _ t e => by
      cases x with
      | none => cases e
      | some q => exact bfsStates_closed h (hx q rfl) e) t ht

set_option linter.unusedSectionVars false in
theorem alookup_map_self_none (f : S → List (α × S)) (l : List S) {s : S} (hs : s ∉ l) :
    alookup s (l.map fun s => (s, f s)) = none := by
  rw [alookup_tabulate, if_neg hs]

variable (isFin : S → Bool) (syms : List α)

section
omit [DecidableEq α]

theorem expand_states : (expand succ isFin syms fuel init).states = bfsStates succ fuel init := rfl

theorem expand_trans :
    (expand succ isFin syms fuel init).trans = (bfsStates succ fuel init).map fun s => (s, succ s) :=
  rfl

theorem expand_finals :
    (expand succ isFin syms fuel init).finals = (bfsStates succ fuel init).filter isFin := rfl

theorem mem_expand_trans {kv : S × List (α × S)} :
    kv ∈ (expand succ isFin syms fuel init).trans ↔ kv.1 ∈ bfsStates succ fuel init ∧ kv.2 = succ kv.1 := by
  rw [expand_trans, List.mem_map]
  constructor
  · rintro ⟨s, hs, rfl⟩; exact ⟨hs, rfl⟩
  · rintro ⟨hs, he⟩; exact ⟨kv.1, hs, by rw [← he]⟩

theorem expand_row {s : S} (hs : s ∈ bfsStates succ fuel init) :
    (expand succ isFin syms fuel init).row s = succ s := by
  simp only [row, row?, expand_trans, alookup_tabulate, if_pos hs, Option.getD_some]

end

theorem expand_step? {s : S} (hs : s ∈ bfsStates succ fuel init) (a : α) :
    (expand succ isFin syms fuel init).step? (some s) a = implStep succ (some s) a := by
  simp only [step?, implStep, expand_row isFin syms hs]

theorem expand_run_from (h : ExpandHyp succ univ fuel init) (w : List α) {s : S}
    (hs : s ∈ bfsStates succ fuel init) :
    (expand succ isFin syms fuel init).run (some s) w = implRun succ (some s) w := by
  induction w generalizing s with
  | nil => rfl
  | cons a w ih =>
    rw [run_cons, implRun_cons, expand_step? isFin syms hs]
    cases hq : implStep succ (some s) a with
    | none => rw [run_none, implRun_none]
    | some q => exact ih (bfsStates_closed h hs hq)

theorem expand_run (h : ExpandHyp succ univ fuel init) (w : List α) :
    (expand succ isFin syms fuel init).run (some init) w = implRun succ (some init) w ∧
    ∀ t, implRun succ (some init) w = some t → t ∈ bfsStates succ fuel init :=
  ⟨expand_run_from isFin syms h w (init_mem_bfsStates h),
    fun _ => implRun_mem_bfsStates h (init_mem_bfsStates h)⟩

theorem expand_accepts (h : ExpandHyp succ univ fuel init) (w : List α) :
    (expand succ isFin syms fuel init).accepts w = (implRun succ (some init) w).any isFin := by
  unfold accepts
  obtain ⟨h1, h2⟩ := expand_run isFin syms h w
  show (expand succ isFin syms fuel init).isFinal ((expand succ isFin syms fuel init).run (some init) w) = _
  rw [h1]
  cases hr : implRun succ (some init) w with
  | none => rfl
  | some t =>
    simp only [isFinal, expand_finals, List.mem_filter, h2 t hr, true_and, Bool.decide_eq_true,
      Option.any_some]

theorem expand_all_reachable (h : ExpandHyp succ univ fuel init) :
    ∀ q ∈ (expand succ isFin syms fuel init).states,
      ∃ w, (expand succ isFin syms fuel init).run
        (some (expand succ isFin syms fuel init).init) w = some q := by
  intro q hq
  obtain ⟨w, hw⟩ := bfsStates_reachable h hq
  exact ⟨w, (expand_run isFin syms h w).1.trans hw⟩

end DFA
end AV
