/-
Proofs/MinRep.lean — two facts about the quotient construction of `_minify` that the
language / validity theorems only imply (core only): none of the `getD` / `filterMap` / `head?`
totalisations of `minifyCore` takes its default on the arguments the callers pass
(`MinSource.no_keyerror`), and the result does not depend on which member of a block
`next(iter(eq))` returns (`MinSource.rep_independent`).
-/
import AutomataVerif.Proofs.MinifyCorrect

namespace AV
namespace DFA

variable {σ α : Type} [DecidableEq σ] [DecidableEq α]

/-- The row of a block under `repPick`: `repPick l` chooses a position in the list `l` of
original states of the block (Python: whatever `next(iter(eq))` returns). -/
def repRow (repPick : List σ → Nat) (good : List (Nat × List (Option σ)))
    (trans : List (σ × List (α × σ))) (b : Nat × List (Option σ)) : List (α × MinName σ) :=
  match (blockStates b.2)[repPick (blockStates b.2) % (blockStates b.2).length]? with
  | none => []
  | some r => qrowAt good trans r

/-- The quotient with an arbitrary choice of representatives: `quotOf` with `repRow repPick` in
place of `qrow`.  Not a model of other code: `repPick` stands for the unspecified iteration
order of `next(iter(eq))`, and `minifyCore` is the instance "head of the block". -/
def quotOfRep (repPick : List σ → Nat) (p : Part (Option σ)) (syms : List α)
    (trans : List (σ × List (α × σ))) (init : σ) (finals : List σ) : DFA (MinName σ) α :=
  if (goodBlocks p).isEmpty then
    { states := [MinName.zero], syms := syms,
      trans := [(MinName.zero, syms.map fun a => (a, MinName.zero))],
      init := MinName.zero, finals := [], allowPartial := false }
  else
    let rowOf := fun (b : Nat × List (Option σ)) =>
      match (blockStates b.2)[repPick (blockStates b.2) % (blockStates b.2).length]? with
      | none => []
      | some r => qrowAt (goodBlocks p) trans r
    { states := (goodBlocks p).map bname, syms := syms,
      trans := (goodBlocks p).map fun b => (bname b, rowOf b),
      init := (nameOfIn (goodBlocks p) init).getD MinName.zero,
      finals := dedup (finals.filterMap (nameOfIn (goodBlocks p))),
      allowPartial := ((goodBlocks p).map fun b => (bname b, rowOf b)).any
        fun kv => kv.2.length != syms.length }

/-- `_minify` with the representative choice as a parameter. -/
def minifyCoreRep (repPick : List σ → Nat) (kept : List σ) (syms : List α)
    (trans : List (σ × List (α × σ))) (init : σ) (finals : List σ) (pick : List Nat → Nat) :
    DFA (MinName σ) α :=
  quotOfRep repPick (hopcroft kept syms trans finals pick) syms trans init finals

omit [DecidableEq α] in
theorem quotOfRep_eq (repPick : List σ → Nat) (p : Part (Option σ)) (syms : List α)
    (trans : List (σ × List (α × σ))) (init : σ) (finals : List σ) :
    quotOfRep repPick p syms trans init finals =
      quotWith (repRow repPick (goodBlocks p) trans) p syms init finals := rfl

theorem repRow_rowsFrom {kept : List σ} {syms : List α} {trans : List (σ × List (α × σ))} {init : σ}
    {finals : List σ} {p : Part (Option σ)} (H : QuotHyp kept syms trans init finals p)
    (repPick : List σ → Nat) : RowsFrom kept trans p (repRow repPick (goodBlocks p) trans) := by
  intro b hb
  obtain ⟨r0, _, hr0b, _⟩ := good_rep H hb
  have hlt : repPick (blockStates b.2) % (blockStates b.2).length < (blockStates b.2).length :=
    Nat.mod_lt _ (List.length_pos_of_mem (mem_blockStates.mpr hr0b))
  have hr := mem_blockStates.mp (List.getElem_mem hlt)
  obtain ⟨q, hq, he⟩ := good_elem H hb hr
  refine ⟨_, Option.some.inj he ▸ hq, hr, ?_⟩
  unfold repRow
  rw [List.getElem?_eq_getElem hlt]

section source
variable {d : DFA σ α} {kept finals : List σ} (S : MinSource d kept finals)
  (pick : List Nat → Nat)
include S

/-- **No `KeyError` / `StopIteration` inside `_minify`** (when it does not return
`empty_language`): `back_map[initial_state]` and `back_map[acc]` for every final state are
defined, every class has a first element, and `transitions[eq_class_rep]` is defined — i.e.
none of the `getD` / `filterMap` / `head?` totalisations of `minifyCore` takes its default. -/
theorem MinSource.no_keyerror
    (hne : (goodBlocks (hopcroft kept d.syms d.trans finals pick)).isEmpty = false) :
    (nameOfIn (goodBlocks (hopcroft kept d.syms d.trans finals pick)) d.init).isSome = true ∧
    (∀ f ∈ finals,
      (nameOfIn (goodBlocks (hopcroft kept d.syms d.trans finals pick)) f).isSome = true) ∧
    (∀ b ∈ goodBlocks (hopcroft kept d.syms d.trans finals pick),
      ∃ r row, (blockStates b.2).head? = some r ∧ alookup r d.trans = some row) ∧
    (∀ b ∈ goodBlocks (hopcroft kept d.syms d.trans finals pick), ∀ r ∈ blockStates b.2,
      ∃ row, alookup r d.trans = some row) := by
  have H := S.quotHyp pick
  have rowOf : ∀ r ∈ kept, ∃ row, alookup r d.trans = some row := by
    intro r hr
    have := S.hyp.rows r hr
    cases hl : alookup r d.trans with
    | none => exact absurd this (alookup_eq_none_iff.mp hl)
    | some row => exact ⟨row, rfl⟩
  refine ⟨?_, ?_, ?_, ?_⟩
  · exact Option.isSome_iff_exists.mpr ⟨_, init_named H hne S.reach⟩
  · intro f hf
    have hk : f ∈ kept := S.hyp.finals_sub f hf
    cases hcl : cls (goodBlocks (hopcroft kept d.syms d.trans finals pick)) (some f) with
    | none =>
      obtain ⟨_, he⟩ := cls_none H hk hcl
      have := he []
      simp [mrun, mfin, hf] at this
    | some n => exact Option.isSome_iff_exists.mpr ⟨n, hcl⟩
  · intro b hb
    obtain ⟨r, hr, _, hrk⟩ := good_rep H hb
    obtain ⟨row, hrow⟩ := rowOf r hrk
    exact ⟨r, row, hr, hrow⟩
  · intro b hb r hr
    obtain ⟨q, hq, he⟩ := good_elem H hb (mem_blockStates.mp hr)
    cases he
    exact rowOf r hq

/-- **Representative independence of `_minify`.**  Whatever member of each class is used as
`eq_class_rep` (`repPick`), the result has the same states, alphabet, initial state, final
states and `allow_partial` flag as `minifyCore` (which uses the head of the block), the same
transition function, rows with the same entries, the same language, and it is valid. -/
theorem MinSource.rep_independent (repPick : List σ → Nat) :
    (minifyCoreRep repPick kept d.syms d.trans d.init finals pick).states =
      (minifyCore kept d.syms d.trans d.init finals pick).states ∧
    (minifyCoreRep repPick kept d.syms d.trans d.init finals pick).syms = d.syms ∧
    (minifyCoreRep repPick kept d.syms d.trans d.init finals pick).init =
      (minifyCore kept d.syms d.trans d.init finals pick).init ∧
    (minifyCoreRep repPick kept d.syms d.trans d.init finals pick).finals =
      (minifyCore kept d.syms d.trans d.init finals pick).finals ∧
    (minifyCoreRep repPick kept d.syms d.trans d.init finals pick).allowPartial =
      (minifyCore kept d.syms d.trans d.init finals pick).allowPartial ∧
    (∀ s a, (minifyCoreRep repPick kept d.syms d.trans d.init finals pick).step? s a =
      (minifyCore kept d.syms d.trans d.init finals pick).step? s a) ∧
    (∀ kv ∈ (minifyCoreRep repPick kept d.syms d.trans d.init finals pick).trans,
      ∃ kv' ∈ (minifyCore kept d.syms d.trans d.init finals pick).trans, kv'.1 = kv.1 ∧
        ∀ a n, (a, n) ∈ kv.2 ↔ (a, n) ∈ kv'.2) ∧
    (∀ w, (minifyCoreRep repPick kept d.syms d.trans d.init finals pick).accepts w = d.accepts w) ∧
    (minifyCoreRep repPick kept d.syms d.trans d.init finals pick).validate = .ok () := by
  have H := S.quotHyp pick
  have h := qrow_rowsFrom H
  have h' := repRow_rowsFrom H repPick
  obtain ⟨hst, hin, hfi⟩ := quotWith_fields (syms := d.syms) (init := d.init) (finals := finals)
    (p := hopcroft kept d.syms d.trans finals pick) (rowOf := qrow _ d.trans)
    (rowOf' := repRow repPick _ d.trans)
  unfold minifyCoreRep
  rw [minifyCore_eq, quotOf_eq, quotOfRep_eq]
  refine ⟨hst, quotWith_syms, hin, hfi, quotWith_allowPartial_congr H h h',
    quotWith_step?_congr H h h', fun _ hkv => quotWith_trans_entries H h h' hkv, fun w => ?_,
    (validate_eq_ok _).mpr (quotWith_wf H h' S.reach)⟩
  rw [quotWith_accepts H h' w]
  exact S.sys_accepts w

end source

end DFA
end AV
