/-
Proofs/CtorFLAdd.lean — from_finite_language (C15): what `add_to_trie` does to the
dicts, in closed form (no invariant needed).  Core only.
-/
import AutomataVerif.Proofs.CtorFLOrder

namespace AV.Ctor.FL

variable {α : Type} [DecidableEq α]

/-- `transitions[q].get(a)` with a missing row read as `{}`. -/
def look (s : FLState α) (q : List α) (a : α) : Option (List α) :=
  (alookup q s.trans).bind fun row => alookup a row

theorem look_eq (s : FLState α) (q : List α) (a : α) :
    look s q a = alookup a ((alookup q s.trans).getD []) := by
  unfold look
  cases alookup q s.trans <;> simp

theorem look_of_row {s : FLState α} {q : List α} {row : List (α × List α)}
    (h : alookup q s.trans = some row) (a : α) : look s q a = alookup a row := by
  rw [look, h]; rfl

theorem look_of_not_key {s : FLState α} {q : List α} (h : q ∉ akeys s.trans) (a : α) :
    look s q a = none := by
  rw [look, alookup_eq_none_iff.mpr h]; rfl

theorem key_of_look {s : FLState α} {q t : List α} {a : α} (h : look s q a = some t) :
    q ∈ akeys s.trans :=
  Classical.byContradiction fun hn => by rw [look_of_not_key hn] at h; cases h

theorem exists_lt_cons {β : Type} (a : β) (l : List β) (P : Nat → Prop) :
    (∃ j, j < (a :: l).length ∧ P j) ↔ P 0 ∨ ∃ j, j < l.length ∧ P (j + 1) := by
  constructor
  · rintro ⟨j, hj, h⟩
    cases j with
    | zero => exact Or.inl h
    | succ j => exact Or.inr ⟨j, Nat.lt_of_succ_lt_succ hj, h⟩
  · rintro (h | ⟨j, hj, h⟩)
    · exact ⟨0, Nat.zero_lt_succ _, h⟩
    · exact ⟨j + 1, Nat.succ_lt_succ hj, h⟩

structure SymEffect (s s' : FLState α) (pre : List α) (a : α) : Prop where
  finals : s'.finals = s.finals
  sigs : s'.sigs = s.sigs
  keys : ∀ q, q ∈ akeys s'.trans ↔ q = pre ∨ q ∈ akeys s.trans
  row : ∀ q, q ≠ pre → alookup q s'.trans = alookup q s.trans
  look : ∀ q b, look s' q b =
    match look s q b with
    | some t => some t
    | none => if q = pre ∧ a = b then some (pre ++ [a]) else none
  back : ∀ t, alookup t s'.back =
    if t = pre ++ [a] then some (sinsert pre ((alookup t s.back).getD [])) else alookup t s.back
  keysNodup : (akeys s.trans).Nodup → (akeys s'.trans).Nodup
  rowsNodup : (∀ q row, alookup q s.trans = some row → (akeys row).Nodup) →
    ∀ q row, alookup q s'.trans = some row → (akeys row).Nodup

theorem flAddSym_effect (s : FLState α) (pre : List α) (a : α) :
    SymEffect s (flAddSym (s, pre) a).1 pre a ∧ (flAddSym (s, pre) a).2 = pre ++ [a] := by
  have htrans : ∀ q, alookup q (flAddSym (s, pre) a).1.trans =
      if pre = q then some (asetdefault a (pre ++ [a]) ((alookup pre s.trans).getD []))
      else alookup q s.trans := fun q => alookup_ainsert ..
  refine ⟨⟨rfl, rfl, fun q => mem_akeys_ainsert, fun q hq => ?_, fun q b => ?_, fun t => ?_,
    nodup_akeys_ainsert, fun h q row hq => ?_⟩, rfl⟩
  · rw [htrans, if_neg fun e => hq e.symm]
  · rw [look, look, htrans]
    by_cases h : pre = q
    · subst h
      rw [if_pos rfl, Option.bind_some, alookup_asetdefault]
      cases alookup pre s.trans with
      | none => simp
      | some row => cases h2 : alookup b row <;> simp [h2]
    · rw [if_neg h, if_neg fun e => h e.1.symm]
      cases (alookup q s.trans).bind fun row => alookup b row <;> rfl
  · show alookup t (ainsert _ _ _) = _
    rw [alookup_ainsert]
    by_cases h : pre ++ [a] = t
    · rw [if_pos h, if_pos h.symm, h]
    · rw [if_neg h, if_neg fun e => h e.symm]
  · rw [htrans] at hq
    by_cases e : pre = q
    · rw [if_pos e] at hq
      rw [← Option.some.inj hq]
      apply nodup_akeys_asetdefault
      cases h1 : alookup pre s.trans with
      | none => exact List.nodup_nil
      | some r => exact h pre r h1
    · rw [if_neg e] at hq
      exact h q row hq

/-- Effect of the whole walk along `rest` starting at the prefix `pre`. -/
structure WalkEffect (s s' : FLState α) (pre rest : List α) : Prop where
  finals : s'.finals = s.finals
  sigs : s'.sigs = s.sigs
  keys : ∀ q, q ∈ akeys s'.trans ↔ q ∈ akeys s.trans ∨ ∃ j, j < rest.length ∧ q = pre ++ rest.take j
  row : ∀ q, (∀ j, j < rest.length → q ≠ pre ++ rest.take j) → alookup q s'.trans = alookup q s.trans
  look : ∀ q b, look s' q b =
    match look s q b with
    | some t => some t
    | none => if ∃ j, j < rest.length ∧ q = pre ++ rest.take j ∧ rest[j]? = some b then some (q ++ [b]) else none
  back : ∀ t, alookup t s'.back =
    if ∃ j, j < rest.length ∧ t = pre ++ rest.take (j + 1)
    then some (sinsert t.dropLast ((alookup t s.back).getD [])) else alookup t s.back
  keysNodup : (akeys s.trans).Nodup → (akeys s'.trans).Nodup
  rowsNodup : (∀ q row, alookup q s.trans = some row → (akeys row).Nodup) →
    ∀ q row, alookup q s'.trans = some row → (akeys row).Nodup

set_option linter.unusedSectionVars false in
theorem append_take_ne {pre : List α} {r1 r2 : List α} {i j : Nat} (hi : i ≤ r1.length) (hj : j ≤ r2.length)
    (h : i ≠ j) : pre ++ r1.take i ≠ pre ++ r2.take j := by
  intro e
  have := congrArg List.length e
  simp only [List.length_append, List.length_take] at this
  omega

theorem walk_effect (rest : List α) : ∀ (s : FLState α) (pre : List α),
    WalkEffect s (rest.foldl flAddSym (s, pre)).1 pre rest ∧
      (rest.foldl flAddSym (s, pre)).2 = pre ++ rest := by
  induction rest with
  | nil =>
    intro s pre
    refine ⟨⟨rfl, rfl, fun q => ?_, fun _ _ => rfl, fun q b => ?_, fun t => ?_, id, id⟩,
      (List.append_nil _).symm⟩
    · exact ⟨Or.inl, fun | .inl h => h | .inr ⟨_, hj, _⟩ => nomatch hj⟩
    · show look s q b = _
      rw [if_neg fun ⟨_, hj, _⟩ => nomatch hj]
      cases look s q b <;> rfl
    · exact (if_neg fun ⟨_, hj, _⟩ => nomatch hj).symm
  | cons a rest ih =>
    intro s pre
    obtain ⟨e1, t1⟩ := flAddSym_effect s pre a
    rw [List.foldl_cons]
    obtain ⟨e2, t2⟩ : WalkEffect (flAddSym (s, pre) a).1 (rest.foldl flAddSym (flAddSym (s, pre) a)).1
        (pre ++ [a]) rest ∧ (rest.foldl flAddSym (flAddSym (s, pre) a)).2 = pre ++ [a] ++ rest :=
      ih (flAddSym (s, pre) a).1 (pre ++ [a])
    -- the walk along `rest` from `pre ++ [a]` is the walk along `a :: rest` from `pre` after its first step
    have hshift : ∀ j, pre ++ [a] ++ rest.take j = pre ++ (a :: rest).take (j + 1) := by
      intro j; rw [List.take_succ_cons, List.append_assoc]; rfl
    refine ⟨⟨e2.finals.trans e1.finals, e2.sigs.trans e1.sigs, fun q => ?_, fun q hq => ?_,
      fun q b => ?_, fun t => ?_, fun h => e2.keysNodup (e1.keysNodup h),
      fun h => e2.rowsNodup (e1.rowsNodup h)⟩, by rw [t2, List.append_assoc]; rfl⟩
    · rw [e2.keys, e1.keys, exists_lt_cons, List.take_zero, List.append_nil, or_assoc, or_left_comm]
      simp only [hshift]
    · rw [e2.row q fun j hj => hshift j ▸ hq (j + 1) (Nat.succ_lt_succ hj)]
      exact e1.row q (by simpa using hq 0 (Nat.zero_lt_succ _))
    · rw [e2.look, e1.look]
      simp only [exists_lt_cons, hshift, List.take_zero, List.append_nil, List.getElem?_cons_zero,
        List.getElem?_cons_succ, Option.some.injEq]
      cases look s q b with
      | some t => rfl
      | none =>
        simp only
        by_cases h1 : q = pre ∧ a = b
        · rw [if_pos h1, if_pos (Or.inl h1), h1.1, h1.2]
        · simp only [if_neg h1]
          by_cases h2 : ∃ j, j < rest.length ∧ q = pre ++ (a :: rest).take (j + 1) ∧ rest[j]? = some b
          · rw [if_pos h2, if_pos (Or.inr h2)]
          · rw [if_neg h2, if_neg fun h => h2 (h.resolve_left h1)]
    · rw [e2.back, e1.back]
      simp only [exists_lt_cons, hshift]
      by_cases h1 : t = pre ++ [a]
      · -- the entry created by the first step; no later step touches it
        have hno : ¬ ∃ j, j < rest.length ∧ t = pre ++ (a :: rest).take (j + 1 + 1) := by
          rintro ⟨j, hj, e⟩
          have := congrArg List.length (h1.symm.trans e)
          simp only [List.length_append, List.length_take, List.length_cons, List.length_nil] at this
          omega
        rw [if_neg hno, if_pos h1, if_pos (Or.inl (by rw [h1]; rfl)), h1]
        simp
      · rw [if_neg h1]
        by_cases h2 : ∃ j, j < rest.length ∧ t = pre ++ (a :: rest).take (j + 1 + 1)
        · rw [if_pos h2, if_pos (Or.inr h2)]
        · rw [if_neg h2, if_neg fun h => h2 (h.resolve_left fun e => h1 (by rw [e]; rfl))]

/-- Effect of `add_to_trie(word)`. -/
structure AddEffect (s s' : FLState α) (w : List α) : Prop where
  finals : s'.finals = sinsert w s.finals
  sigs : s'.sigs = s.sigs
  keys : ∀ q, q ∈ akeys s'.trans ↔ q ∈ akeys s.trans ∨ ∃ j, j ≤ w.length ∧ q = w.take j
  row : ∀ q, (∀ j, j ≤ w.length → q ≠ w.take j) → alookup q s'.trans = alookup q s.trans
  look : ∀ q b, look s' q b =
    if q = w then none else
    match look s q b with
    | some t => some t
    | none => if ∃ j, j < w.length ∧ q = w.take j ∧ w[j]? = some b then some (q ++ [b]) else none
  back : ∀ t, alookup t s'.back =
    if ∃ j, j < w.length ∧ t = w.take (j + 1)
    then some (sinsert t.dropLast ((alookup t s.back).getD [])) else alookup t s.back
  keysNodup : (akeys s.trans).Nodup → (akeys s'.trans).Nodup
  rowsNodup : (∀ q row, alookup q s.trans = some row → (akeys row).Nodup) →
    ∀ q row, alookup q s'.trans = some row → (akeys row).Nodup

theorem AddEffect.look_self {s s' : FLState α} {w : List α} (e : AddEffect s s' w) (b : α) :
    FL.look s' w b = none := by
  rw [e.look, if_pos rfl]

theorem AddEffect.look_some {s s' : FLState α} {w : List α} (e : AddEffect s s' w) {q t : List α}
    {b : α} (h : FL.look s' q b = some t) :
    q ≠ w ∧ (FL.look s q b = some t ∨
      FL.look s q b = none ∧ ∃ j, j < w.length ∧ q = w.take j ∧ w[j]? = some b ∧ t = w.take (j + 1)) := by
  rw [e.look] at h
  by_cases hq : q = w
  · rw [if_pos hq] at h; cases h
  · rw [if_neg hq] at h
    refine ⟨hq, ?_⟩
    cases h0 : FL.look s q b with
    | some t' => rw [h0] at h; exact Or.inl h
    | none =>
      rw [h0] at h
      simp only at h
      split at h
      · rename_i hex
        obtain ⟨j, hj, e1, e2⟩ := hex
        refine Or.inr ⟨rfl, j, hj, e1, e2, ?_⟩
        rw [← Option.some.inj h, e1, List.take_add_one, e2]; rfl
      · cases h

theorem look_of_trans_ainsert_nil {s s' : FLState α} {w : List α}
    (h : s'.trans = ainsert w [] s.trans) (q : List α) (b : α) :
    look s' q b = if q = w then none else look s q b := by
  rw [look, h, alookup_ainsert]
  by_cases h1 : w = q
  · rw [if_pos h1, if_pos h1.symm]; rfl
  · rw [if_neg h1, if_neg fun e => h1 e.symm]; rfl

theorem flAddWord_effect (s : FLState α) (w : List α) : AddEffect s (flAddWord s w) w := by
  obtain ⟨e, t⟩ := walk_effect w s []
  rw [List.nil_append] at t
  have hs' : flAddWord s w =
      { (w.foldl flAddSym (s, [])).1 with
        trans := ainsert w [] (w.foldl flAddSym (s, [])).1.trans,
        finals := sinsert w (w.foldl flAddSym (s, [])).1.finals } := by
    unfold flAddWord; simp only; rw [t]
  rw [hs']
  generalize (w.foldl flAddSym (s, [])).1 = s1 at e
  refine ⟨congrArg (sinsert w) e.finals, e.sigs, fun q => ?_, fun q hq => ?_, fun q b => ?_, fun t' => ?_,
    fun h => nodup_akeys_ainsert (e.keysNodup h), fun h q row hq => ?_⟩
  · show q ∈ akeys (ainsert w [] s1.trans) ↔ _
    rw [mem_akeys_ainsert, e.keys]
    simp only [List.nil_append]
    constructor
    · rintro (h | h | ⟨j, hj, h⟩)
      · exact Or.inr ⟨w.length, Nat.le_refl _, by rw [h, List.take_length]⟩
      · exact Or.inl h
      · exact Or.inr ⟨j, Nat.le_of_lt hj, h⟩
    · rintro (h | ⟨j, hj, h⟩)
      · exact Or.inr (Or.inl h)
      · by_cases hjw : j = w.length
        · left; rw [h, hjw, List.take_length]
        · exact Or.inr (Or.inr ⟨j, by omega, h⟩)
  · show alookup q (ainsert w [] s1.trans) = _
    rw [alookup_ainsert, if_neg fun e' => hq w.length (Nat.le_refl _) (by rw [← e', List.take_length])]
    exact e.row q fun j hj => by rw [List.nil_append]; exact hq j (Nat.le_of_lt hj)
  · rw [look_of_trans_ainsert_nil rfl, e.look]
    simp only [List.nil_append]
  · have := e.back t'
    simp only [List.nil_append] at this
    exact this
  · have hq' : alookup q (ainsert w [] s1.trans) = some row := hq
    rw [alookup_ainsert] at hq'
    by_cases h1 : w = q
    · rw [if_pos h1] at hq'
      rw [← Option.some.inj hq']; exact List.nodup_nil
    · rw [if_neg h1] at hq'
      exact e.rowsNodup h q row hq'

end AV.Ctor.FL
