/-
Proofs/CtorACBfs.lean — from_substrings (C15), phase 2c: the breadth-first computation of all
failure and output links (`acFailBfs`).  Core only.
-/
import AutomataVerif.Proofs.CtorACLink

namespace AV.Ctor.AC

variable {α : Type} [DecidableEq α]

/-- Popping `c` and pushing `k` turns the worklist `c :: r` with the finished set `d` into `r ++ k`
and `c :: d`. -/
theorem rotate_perm (c : Nat) (r d k : List Nat) :
    List.Perm ((r ++ k) ++ (c :: d)) (((c :: r) ++ d) ++ k) := by
  refine List.perm_middle.trans (List.Perm.cons c ?_)
  show List.Perm (r ++ k ++ d) (r ++ d ++ k)
  rw [List.append_assoc, List.append_assoc]
  exact List.perm_append_comm.append_left r

theorem mem_rotate {c : Nat} {r d k : List Nat} {v : Nat} :
    v ∈ (r ++ k) ++ (c :: d) ↔ v ∈ (c :: r) ++ d ∨ v ∈ k :=
  (rotate_perm c r d k).mem_iff.trans List.mem_append

theorem nodup_rotate {c : Nat} {r d k : List Nat} (h : ((c :: r) ++ d).Nodup) (hk : k.Nodup)
    (hfresh : ∀ v ∈ k, v ∉ (c :: r) ++ d) : ((r ++ k) ++ (c :: d)).Nodup :=
  (rotate_perm c r d k).nodup_iff.mpr
    (List.nodup_append.mpr ⟨h, hk, fun _ ha b hb e => hfresh b hb (e ▸ ha)⟩)

theorem not_mem_done {c : Nat} {r d : List Nat} (h : ((c :: r) ++ d).Nodup) : c ∉ d :=
  fun hc => (List.nodup_append.mp h).2.2 c (List.mem_cons_self ..) c hc rfl

theorem count_range {l : List Nat} {n : Nat} (hnd : l.Nodup) (h : ∀ v ∈ l, v < n) : l.length ≤ n := by
  have := List.Nodup.length_le_of_subset hnd fun v hv => List.mem_range.mpr (h v hv)
  rwa [List.length_range] at this

def dep (paths : List (List α)) (v : Nat) : Nat := ((paths[v]?).getD []).length

omit [DecidableEq α] in
theorem dep_eq {paths : List (List α)} {v : Nat} {x : List α} (h : paths[v]? = some x) :
    dep paths v = x.length := by unfold dep; rw [h]; rfl

omit [DecidableEq α] in
theorem ne_nil_of_snoc_path {paths : List (List α)} {v : Nat} {x : List α} {a : α}
    (h : paths[v]? = some (x ++ [a])) {y : List α} (hy : paths[v]? = some y) : y ≠ [] := by
  intro e
  rw [h, e] at hy
  have := congrArg List.length (Option.some.inj hy)
  simp at this

section bfs
variable {pats : List (List α)} {nodes0 : List (ACNode α)} {paths : List (List α)}

theorem acLinkAll_spec (hT : TrieOf pats nodes0 paths) (cur : Nat) (x : List α)
    (hcur : paths[cur]? = some x) (hx : x ≠ []) :
    ∀ (kids : List (α × Nat)) (nodes : List (ACNode α)), SameTree nodes0 nodes →
      (acGet nodes 0).fail = none →
      (∀ v y, paths[v]? = some y → y ≠ [] → y.length ≤ x.length →
        FailOK paths (acGet nodes v) y ∧ OutOK pats (acGet nodes v) y) →
      (∀ e ∈ kids, paths[e.2]? = some (x ++ [e.1])) →
      (kids.map Prod.snd).Nodup →
      (∀ e ∈ kids, (acGet nodes e.2).out = (acGet nodes0 e.2).out) →
      ∃ nodes', acLinkAll cur kids nodes = .ok nodes' ∧ SameTree nodes0 nodes' ∧
        (∀ v, v ∉ kids.map Prod.snd → acGet nodes' v = acGet nodes v) ∧
        (∀ e ∈ kids, FailOK paths (acGet nodes' e.2) (x ++ [e.1]) ∧
          OutOK pats (acGet nodes' e.2) (x ++ [e.1])) := by
  have hsub : ∀ s ∈ pats, s ∈ paths := fun s hs => (hT.mem s).mpr (Or.inr ⟨s, hs, List.prefix_refl _⟩)
  intro kids
  induction kids with
  | nil =>
    intro nodes hs _ _ _ _ _
    exact ⟨nodes, rfl, hs, fun _ _ => rfl, fun e he => nomatch he⟩
  | cons e rest ih =>
    intro nodes hs hroot hOK hk hnd hown
    obtain ⟨a, c⟩ := e
    have hc : paths[c]? = some (x ++ [a]) := hk (a, c) (List.mem_cons_self ..)
    have hT' : Trie nodes paths := hT.toTrie.of_sameTree hs
    have hclt : c < nodes.length := hT'.lt hc
    have hownc : (acGet nodes c).out ≠ [] ↔ x ++ [a] ∈ pats := by
      rw [hown (a, c) (List.mem_cons_self ..)]; exact hT.out c _ hc
    obtain ⟨node', hlink, hsucc, hf, ho⟩ := acLink_spec hT' hroot hsub cur x hcur hx hOK a c hownc
    have hget : ∀ v, acGet (nodes.set c node') v = if v = c then node' else acGet nodes v :=
      fun v => acGet_set nodes c v node' hclt
    -- the nodes the links of the later children are computed from keep their record
    have hkeep : ∀ v y, paths[v]? = some y → y.length ≤ x.length →
        acGet (nodes.set c node') v = acGet nodes v := by
      intro v y hv hl
      rw [hget, if_neg]
      rintro rfl
      have := congrArg List.length (Option.some.inj (hv.symm.trans hc))
      simp at this; omega
    obtain ⟨hcr, hndr⟩ := List.nodup_cons.mp hnd
    obtain ⟨nodes', hr, hs', hframe, hok⟩ := ih (nodes.set c node') (hs.set hclt hsucc)
      (by rw [hkeep 0 [] hT.root (Nat.zero_le _)]; exact hroot)
      (fun v y hv hy hl => by rw [hkeep v y hv hl]; exact hOK v y hv hy hl)
      (fun e he => hk e (List.mem_cons_of_mem _ he)) hndr
      (fun e he => by
        rw [hget, if_neg fun (h : e.2 = c) => hcr (h ▸ List.mem_map.mpr ⟨e, he, rfl⟩)]
        exact hown e (List.mem_cons_of_mem _ he))
    refine ⟨nodes', by unfold acLinkAll; rw [hlink]; exact hr, hs', ?_, ?_⟩
    · intro v hv
      rw [List.map_cons, List.mem_cons, not_or] at hv
      rw [hframe v hv.2, hget, if_neg hv.1]
    · intro e he
      rcases List.mem_cons.mp he with rfl | he'
      · rw [hframe c hcr, hget, if_pos rfl]; exact ⟨hf, ho⟩
      · exact hok e he'

/-- Invariant of the first BFS: `queue ++ done` are the nodes whose links are final. -/
structure BfsInv (pats : List (List α)) (nodes0 : List (ACNode α)) (paths : List (List α))
    (nodes : List (ACNode α)) (queue done : List Nat) : Prop where
  same : SameTree nodes0 nodes
  rootfail : (acGet nodes 0).fail = none
  rootout : (acGet nodes 0).out = (acGet nodes0 0).out
  ok : ∀ v ∈ queue ++ done, ∀ x, paths[v]? = some x →
    x ≠ [] ∧ FailOK paths (acGet nodes v) x ∧ OutOK pats (acGet nodes v) x
  inrange : ∀ v ∈ queue ++ done, v < nodes0.length
  unl : ∀ v, v ∉ queue ++ done → (acGet nodes v).out = (acGet nodes0 v).out
  nodup : (queue ++ done).Nodup
  depth1 : ∀ (v : Nat) (x : List α), paths[v]? = some x → x.length = 1 → v ∈ queue ++ done
  kids : ∀ u ∈ done, ∀ (a : α) (c : Nat), alookup a (acGet nodes0 u).succ = some c → c ∈ queue ++ done
  origin : ∀ v ∈ queue ++ done, dep paths v = 1 ∨
    ∃ u ∈ done, ∃ a : α, alookup a (acGet nodes0 u).succ = some v
  sorted : queue.Pairwise (fun p q => dep paths p ≤ dep paths q)
  span : ∀ h ∈ queue.head?, ∀ q ∈ queue, dep paths q ≤ dep paths h + 1
  low : ∀ h ∈ queue.head?, ∀ (v : Nat) (x : List α), paths[v]? = some x → x ≠ [] →
    x.length ≤ dep paths h → v ∈ queue ++ done

omit [DecidableEq α] in
theorem dep_head_le {queue : List Nat}
    (hs : queue.Pairwise (fun p q => dep paths p ≤ dep paths q)) {h : Nat} (hh : h ∈ queue.head?)
    {q : Nat} (hq : q ∈ queue) : dep paths h ≤ dep paths q := by
  cases queue with
  | nil => cases hq
  | cons h' t => cases hh; exact head_le_of_sorted hs hq

/-- One iteration of the `while queue:` loop. -/
theorem bfs_step (hT : TrieOf pats nodes0 paths) {nodes : List (ACNode α)} {cur : Nat}
    {rest done : List Nat} (inv : BfsInv pats nodes0 paths nodes (cur :: rest) done) :
    ∃ nodes', acLinkAll cur (acGet nodes cur).succ nodes = .ok nodes' ∧
      BfsInv pats nodes0 paths nodes' (rest ++ (acGet nodes cur).succ.map Prod.snd) (cur :: done) := by
  have hcurmem : cur ∈ (cur :: rest) ++ done := List.mem_append_left _ (List.mem_cons_self ..)
  have hhead : cur ∈ (cur :: rest).head? := rfl
  obtain ⟨x, hcur⟩ := hT.exists_path (inv.inrange cur hcurmem)
  obtain ⟨hx, _, _⟩ := inv.ok cur hcurmem x hcur
  have hxlen : x.length ≠ 0 := fun e => hx (List.eq_nil_of_length_eq_zero e)
  have hdepcur : dep paths cur = x.length := dep_eq hcur
  have hcur_notdone : cur ∉ done := not_mem_done inv.nodup
  -- the children of cur: one level deeper, distinct, not linked yet
  rw [inv.same.succ cur]
  have hk : ∀ e ∈ (acGet nodes0 cur).succ, paths[e.2]? = some (x ++ [e.1]) :=
    fun e he => hT.kid_path hcur he
  have hkid : ∀ v ∈ (acGet nodes0 cur).succ.map Prod.snd, ∃ a, paths[v]? = some (x ++ [a]) ∧
      alookup a (acGet nodes0 cur).succ = some v := by
    intro v hv
    obtain ⟨e, he, rfl⟩ := List.mem_map.mp hv
    exact ⟨e.1, hk e he, hT.entries cur e.1 e.2 he⟩
  have hkdep : ∀ v ∈ (acGet nodes0 cur).succ.map Prod.snd, dep paths v = x.length + 1 := by
    intro v hv
    obtain ⟨a, ha, _⟩ := hkid v hv
    rw [dep_eq ha, List.length_append, List.length_singleton]
  have hkfresh : ∀ v ∈ (acGet nodes0 cur).succ.map Prod.snd, v ∉ (cur :: rest) ++ done := by
    intro v hv hmem
    obtain ⟨a, _, hva⟩ := hkid v hv
    rcases inv.origin v hmem with h1 | ⟨u, hu, b, hub⟩
    · rw [hkdep v hv] at h1; omega
    · obtain ⟨xu, hxu⟩ := hT.exists_path (inv.inrange u (List.mem_append_right _ hu))
      exact hcur_notdone (hT.parent_unique hxu hcur hub hva ▸ hu)
  -- everything at depth ≤ |x| is linked
  have hOK : ∀ v y, paths[v]? = some y → y ≠ [] → y.length ≤ x.length →
      FailOK paths (acGet nodes v) y ∧ OutOK pats (acGet nodes v) y := fun v y hv hy hl =>
    (inv.ok v (inv.low cur hhead v y hv hy (hdepcur ▸ hl)) y hv).2
  obtain ⟨nodes', hr, hs', hframe, hok⟩ := acLinkAll_spec hT cur x hcur hx (acGet nodes0 cur).succ nodes
    inv.same inv.rootfail hOK hk (hT.kids_nodup hcur)
    (fun e he => inv.unl e.2 (hkfresh e.2 (List.mem_map.mpr ⟨e, he, rfl⟩)))
  refine ⟨nodes', hr, ?_⟩
  have h0notkid : 0 ∉ (acGet nodes0 cur).succ.map Prod.snd := by
    intro h0
    obtain ⟨a, ha, _⟩ := hkid 0 h0
    exact ne_nil_of_snoc_path ha hT.root rfl
  obtain ⟨hqdep, hsorted⟩ := fifo_levels (lv' := dep paths) inv.sorted
    (fun q hq => inv.span cur hhead q (List.mem_cons_of_mem _ hq)) (fun _ _ => rfl)
    (fun v hv => (hkdep v hv).trans (hdepcur ▸ rfl))
  refine
    { same := hs'
      rootfail := by rw [hframe 0 h0notkid]; exact inv.rootfail
      rootout := by rw [hframe 0 h0notkid]; exact inv.rootout
      ok := ?ok
      inrange := ?inrange
      unl := ?unl
      nodup := nodup_rotate inv.nodup (hT.kids_nodup hcur) hkfresh
      depth1 := fun v y hv hy => mem_rotate.mpr (Or.inl (inv.depth1 v y hv hy))
      kids := ?kids
      origin := ?origin
      sorted := hsorted
      span := fun h hh q hq => by
        have := hqdep h (List.mem_of_mem_head? hh)
        have := hqdep q hq
        omega
      low := ?low }
  case ok =>
    intro v hv y hy
    rcases mem_rotate.mp hv with h | h
    · rw [hframe v fun hk' => hkfresh v hk' h]
      exact inv.ok v h y hy
    · obtain ⟨e, he, rfl⟩ := List.mem_map.mp h
      have := hok e he
      rw [Option.some.inj ((hk e he).symm.trans hy)] at this
      exact ⟨ne_nil_of_snoc_path (hk e he) hy, this⟩
  case inrange =>
    intro v hv
    rcases mem_rotate.mp hv with h | h
    · exact inv.inrange v h
    · obtain ⟨a, ha, _⟩ := hkid v h
      exact hT.lt ha
  case unl =>
    intro v hv
    rw [hframe v fun h => hv (mem_rotate.mpr (Or.inr h))]
    exact inv.unl v fun h => hv (mem_rotate.mpr (Or.inl h))
  case kids =>
    intro u hu a c hc
    rcases List.mem_cons.mp hu with rfl | hu'
    · exact mem_rotate.mpr (Or.inr (List.mem_map.mpr ⟨(a, c), alookup_some_mem hc, rfl⟩))
    · exact mem_rotate.mpr (Or.inl (inv.kids u hu' a c hc))
  case origin =>
    intro v hv
    rcases mem_rotate.mp hv with h | h
    · rcases inv.origin v h with h1 | ⟨u, hu, a, hua⟩
      · exact Or.inl h1
      · exact Or.inr ⟨u, List.mem_cons_of_mem _ hu, a, hua⟩
    · obtain ⟨a, _, hva⟩ := hkid v h
      exact Or.inr ⟨cur, List.mem_cons_self .., a, hva⟩
  case low =>
    intro h hh v y hv hy hl
    by_cases hyl : y.length ≤ x.length
    · exact mem_rotate.mpr (Or.inl (inv.low cur hhead v y hv hy (hdepcur ▸ hyl)))
    · -- depth |x| + 1 = depth of the new head: the parent of `v` has been popped
      have hdeph := hqdep h (List.mem_of_mem_head? hh)
      obtain ⟨y', b, rfl⟩ : ∃ y' b, y = y' ++ [b] :=
        ⟨y.dropLast, y.getLast hy, (List.dropLast_concat_getLast hy).symm⟩
      rw [List.length_append, List.length_singleton] at hl hyl
      have hy'len : y'.length = x.length := by omega
      obtain ⟨u, hu⟩ := hT.pclosed v y' b hv
      have hchild : alookup b (acGet nodes0 u).succ = some v := (hT.child u y' b v hu).mpr hv
      have hy'ne : y' ≠ [] := fun e => hxlen (by rw [← hy'len, e]; rfl)
      rcases List.mem_append.mp (inv.low cur hhead u y' hu hy'ne (by omega)) with h1 | h1
      · rcases List.mem_cons.mp h1 with rfl | h2
        · exact mem_rotate.mpr (Or.inr (List.mem_map.mpr ⟨(b, v), alookup_some_mem hchild, rfl⟩))
        · -- `u` would still be in the queue, behind a head of larger depth
          have := dep_head_le hsorted hh (List.mem_append_left _ h2)
          rw [dep_eq hu] at this
          omega
      · exact mem_rotate.mpr (Or.inl (inv.kids u h1 b v hchild))

theorem bfs_init (hT : TrieOf pats nodes0 paths) :
    BfsInv pats nodes0 paths nodes0 ((acGet nodes0 0).succ.map Prod.snd) [] := by
  have hkid : ∀ v, v ∈ (acGet nodes0 0).succ.map Prod.snd ↔ ∃ a, paths[v]? = some [a] := by
    intro v
    constructor
    · intro hv
      obtain ⟨e, he, rfl⟩ := List.mem_map.mp hv
      exact ⟨e.1, hT.kid_path hT.root he⟩
    · rintro ⟨a, ha⟩
      exact List.mem_map.mpr ⟨(a, v), alookup_some_mem ((hT.child 0 [] a v hT.root).mpr ha), rfl⟩
  have hdep1 : ∀ v, v ∈ (acGet nodes0 0).succ.map Prod.snd → dep paths v = 1 := by
    intro v hv
    obtain ⟨a, ha⟩ := (hkid v).mp hv
    rw [dep_eq ha]; rfl
  have hdepth1 : ∀ (v : Nat) (x : List α), paths[v]? = some x → x.length = 1 →
      v ∈ (acGet nodes0 0).succ.map Prod.snd ++ [] := by
    intro v x hv hx
    obtain ⟨a, rfl⟩ := List.length_eq_one_iff.mp hx
    rw [List.append_nil]; exact (hkid v).mpr ⟨a, hv⟩
  refine
    { same := SameTree.refl _
      rootfail := hT.nofail 0
      rootout := rfl
      ok := ?ok
      inrange := ?inrange
      unl := fun _ _ => rfl
      nodup := by rw [List.append_nil]; exact hT.kids_nodup hT.root
      depth1 := hdepth1
      kids := fun u hu => nomatch hu
      origin := fun v hv => Or.inl (hdep1 v (by rwa [List.append_nil] at hv))
      sorted := List.pairwise_of_forall_mem_list fun p hp q hq => by
        rw [hdep1 p hp, hdep1 q hq]; exact Nat.le_refl _
      span := fun h hh q hq => by rw [hdep1 q hq, hdep1 h (List.mem_of_mem_head? hh)]; omega
      low := ?low }
  case ok =>
    intro v hv x hx
    rw [List.append_nil] at hv
    obtain ⟨a, ha⟩ := (hkid v).mp hv
    obtain rfl : [a] = x := Option.some.inj (ha.symm.trans hx)
    have hsuf : ∀ z : List α, z <:+ [a] → z = [a] ∨ z = [] := fun z hz =>
      (List.suffix_cons_iff.mp hz).imp_right List.suffix_nil.mp
    refine ⟨List.cons_ne_nil _ _, ?_, ?_⟩
    · show FailStr paths [a] (acGet nodes0 v).fail
      rw [hT.nofail v]
      refine ⟨List.nil_suffix, (List.cons_ne_nil _ _).symm, hT.root_mem, fun z hz hne _ => ?_⟩
      rcases hsuf z hz with h | h
      · exact absurd h hne
      · rw [h]; exact Nat.le_refl _
    · show _ ≠ [] ↔ _
      rw [hT.out v [a] ha]
      refine ⟨fun hm => ⟨[a], List.cons_ne_nil _ _, List.suffix_refl _, hm⟩, ?_⟩
      rintro ⟨z, hz, hs, hm⟩
      rcases hsuf z hs with h | h
      · exact h ▸ hm
      · exact absurd h hz
  case inrange =>
    intro v hv
    rw [List.append_nil] at hv
    obtain ⟨a, ha⟩ := (hkid v).mp hv
    exact hT.lt ha
  case low =>
    intro h hh v x hv hx hl
    rw [hdep1 h (List.mem_of_mem_head? hh)] at hl
    have : x.length ≠ 0 := fun e => hx (List.eq_nil_of_length_eq_zero e)
    exact hdepth1 v x hv (by omega)

theorem bfs_loop (hT : TrieOf pats nodes0 paths) : ∀ (fuel : Nat) (queue done : List Nat)
    (nodes : List (ACNode α)), BfsInv pats nodes0 paths nodes queue done →
    nodes0.length ≤ fuel + done.length →
    ∃ nodes' done', acFailBfs fuel queue nodes = .ok nodes' ∧ BfsInv pats nodes0 paths nodes' [] done' := by
  intro fuel
  induction fuel with
  | zero =>
    intro queue done nodes inv hf
    cases queue with
    | nil => exact ⟨nodes, done, rfl, inv⟩
    | cons cur rest =>
      -- the root is not linked: fewer linked nodes than nodes
      exfalso
      have h0 : 0 ∉ (cur :: rest) ++ done := fun hv => (inv.ok 0 hv [] hT.root).1 rfl
      have := count_range (List.nodup_cons.mpr ⟨h0, inv.nodup⟩) fun v hv => by
        rcases List.mem_cons.mp hv with rfl | hv
        · exact hT.pos
        · exact inv.inrange v hv
      simp only [List.length_append, List.length_cons] at this
      omega
  | succ f ih =>
    intro queue done nodes inv hf
    cases queue with
    | nil => exact ⟨nodes, done, rfl, inv⟩
    | cons cur rest =>
      obtain ⟨nodes1, h1, inv1⟩ := bfs_step hT inv
      simp only [acFailBfs, h1]
      exact ih _ _ nodes1 inv1 (by rw [List.length_cons]; omega)

structure Linked (pats : List (List α)) (nodes : List (ACNode α)) (paths : List (List α)) : Prop where
  trie : Trie nodes paths
  mem : ∀ y : List α, y ∈ paths ↔ y = [] ∨ ∃ s ∈ pats, y <+: s
  rootfail : (acGet nodes 0).fail = none
  rootout : (acGet nodes 0).out ≠ [] ↔ [] ∈ pats
  ok : ∀ (v : Nat) (x : List α), paths[v]? = some x → x ≠ [] →
    FailOK paths (acGet nodes v) x ∧ OutOK pats (acGet nodes v) x

theorem linked_of_final (hT : TrieOf pats nodes0 paths) {nodes : List (ACNode α)} {done : List Nat}
    (inv : BfsInv pats nodes0 paths nodes [] done) : Linked pats nodes paths := by
  -- every node is the root or linked
  have hall := hT.toTrie.closed_mem (fun _ => True) (fun v => v = 0 ∨ v ∈ done) (Or.inl rfl)
    (by
      rintro u (rfl | hu) a _ c hc
      · exact Or.inr (inv.depth1 c [a] ((hT.child 0 [] a c hT.root).mp hc) rfl)
      · exact Or.inr (inv.kids u hu a c hc))
  refine ⟨hT.toTrie.of_sameTree inv.same, hT.mem, inv.rootfail, ?_, ?_⟩
  · rw [inv.rootout]; exact hT.out 0 [] hT.root
  · intro v x hv hx
    rcases hall x v hv (fun _ _ => trivial) with rfl | hd
    · exact absurd (Option.some.inj (hv.symm.trans hT.root)) hx
    · exact (inv.ok v hd x hv).2

theorem acFailBfs_spec (hT : TrieOf pats nodes0 paths) :
    ∃ nodes, acFailBfs (nodes0.length + 1) ((acGet nodes0 0).succ.map Prod.snd) nodes0 = .ok nodes ∧
      Linked pats nodes paths := by
  obtain ⟨nodes, done, h1, inv⟩ := bfs_loop hT (nodes0.length + 1) _ [] nodes0 (bfs_init hT)
    (Nat.le_add_right _ _)
  exact ⟨nodes, h1, linked_of_final hT inv⟩

end bfs

end AV.Ctor.AC
