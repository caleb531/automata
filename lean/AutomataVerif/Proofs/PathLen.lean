/-
Proofs/PathLen.lean — paths of a given length in the transition digraph of a DFA
(`transitions[·].values()`: `rowSucc`, which is `succStates`), and how they read as runs and as
`Reach`.  Core only; shared by the pre-pass of `minify` (Proofs/MinPrepass.lean) and the word-length
queries (Proofs/MinLen.lean, Proofs/MaxLen.lean).
-/
import AutomataVerif.Proofs.Read
import AutomataVerif.Model.DFAQuery

namespace AV
namespace DFA
variable {σ α : Type} [DecidableEq σ] [DecidableEq α]

/-- `PathLen d q n r`: there is a path with `n` edges from `q` to `r` following
`transitions[·].values()`. -/
inductive PathLen (d : DFA σ α) : σ → Nat → σ → Prop
  | nil (q : σ) : PathLen d q 0 q
  | cons {q t r : σ} {n : Nat} : t ∈ d.rowSucc q → PathLen d t n r → PathLen d q (n + 1) r

section
omit [DecidableEq α]

theorem PathLen.snoc {d : DFA σ α} {q r s : σ} {n : Nat} (h : PathLen d q n r) (hs : s ∈ d.rowSucc r) :
    PathLen d q (n + 1) s := by
  induction h with
  | nil q => exact .cons hs (.nil s)
  | cons ht _ ih => exact .cons ht (ih hs)

theorem PathLen.unsnoc {d : DFA σ α} {n : Nat} : ∀ {q s : σ}, PathLen d q (n + 1) s →
    ∃ r, PathLen d q n r ∧ s ∈ d.rowSucc r := by
  induction n with
  | zero =>
    intro q s h
    cases h with
    | cons ht hp => cases hp; exact ⟨q, .nil q, ht⟩
  | succ n ih =>
    intro q s h
    cases h with
    | cons ht hp =>
      obtain ⟨r, hr, hs⟩ := ih hp
      exact ⟨r, .cons ht hr, hs⟩

theorem PathLen.zero_eq {d : DFA σ α} {q r : σ} (h : PathLen d q 0 r) : r = q := by
  cases h; rfl

end

set_option linter.unusedSectionVars false in
theorem PathLen.append {d : DFA σ α} {q r s : σ} {n m : Nat} (h1 : PathLen d q n r)
    (h2 : PathLen d r m s) : PathLen d q (n + m) s := by
  induction h1 with
  | nil => simpa using h2
  | cons ht _ ih =>
    rename_i n' _
    have : n' + 1 + m = (n' + m) + 1 := by omega
    rw [this]
    exact .cons ht (ih h2)

/-- A run is a path along the edges; nothing is asked of the table. -/
theorem pathLen_of_run {d : DFA σ α} : ∀ {w : List α} {q r : σ},
    d.run (some q) w = some r → PathLen d q w.length r
  | [], q, _, h => by cases h; exact .nil q
  | a :: w, q, r, h => by
    rw [run_cons] at h
    cases hs : d.step? (some q) a with
    | none => rw [hs, run_none] at h; cases h
    | some t => rw [hs] at h; exact .cons (alookup_some_val_mem (k := a) hs) (pathLen_of_run h)

/-- With dict-shaped rows an edge is a move, so a path is a run. -/
theorem run_of_pathLen {d : DFA σ α} (hr : ∀ kv ∈ d.trans, (akeys kv.2).Nodup) {q r : σ} {n : Nat}
    (h : PathLen d q n r) : ∃ w : List α, w.length = n ∧ d.run (some q) w = some r := by
  induction h with
  | nil q => exact ⟨[], rfl, rfl⟩
  | cons ht _ ih =>
    obtain ⟨a, ha⟩ := (mem_avals_row_iff hr).mp ht
    obtain ⟨w, hl, hw⟩ := ih
    exact ⟨a :: w, by rw [List.length_cons, hl], by rw [run_cons, ha]; exact hw⟩

omit [DecidableEq α] in
theorem reach_iff_pathLen {d : DFA σ α} {q r : σ} :
    Reach d.rowSucc q r ↔ ∃ n, PathLen d q n r := by
  constructor
  · intro h
    induction h with
    | refl => exact ⟨0, .nil _⟩
    | tail _ hc ih => obtain ⟨n, hn⟩ := ih; exact ⟨n + 1, hn.snoc hc⟩
  · rintro ⟨n, h⟩
    induction h with
    | nil => exact Reach.refl _
    | cons ht _ ih => exact Reach.head ht ih

end DFA
end AV
