/-
Proofs/CtorACFollow.lean — from_substrings (C15), phase 2a: failure links as strings; the loop
`while st is not None and symbol not in st.successors: st = st.fail` followed by the lookup of
`symbol` finds the longest suffix of `y0 ++ [symbol]` in the trie, which gives both the failure
link of a child and the goto function.  Core only.
-/
import AutomataVerif.Proofs.CtorACTrie

namespace AV.Ctor.AC

variable {α : Type} [DecidableEq α]

section strings
variable {nodes : List (ACNode α)} {paths : List (List α)} (h : Trie nodes paths)
include h

theorem Trie.root_mem : ([] : List α) ∈ paths := List.mem_iff_getElem?.mpr ⟨0, h.root⟩

theorem Trie.exists_path {v : Nat} (hv : v < nodes.length) : ∃ x, paths[v]? = some x :=
  ⟨paths[v]'(h.len ▸ hv), List.getElem?_eq_getElem _⟩

theorem Trie.prefix_mem {x y : List α} (hy : y ∈ paths) (hxy : x <+: y) : x ∈ paths := by
  obtain ⟨t, rfl⟩ := hxy
  induction t using snoc_induction generalizing x with
  | h0 => simpa using hy
  | hs t a ih =>
    apply ih
    rw [← List.append_assoc] at hy
    obtain ⟨j, hj⟩ := List.mem_iff_getElem?.mp hy
    obtain ⟨i, hi⟩ := h.pclosed j _ a hj
    exact List.mem_iff_getElem?.mpr ⟨i, hi⟩

theorem Trie.child_mem {i : Nat} {x : List α} (hi : paths[i]? = some x) (a : α) :
    ahas a (acGet nodes i).succ = true ↔ x ++ [a] ∈ paths := by
  rw [ahas, Option.isSome_iff_exists, List.mem_iff_getElem?]
  exact exists_congr fun j => h.child i x a j hi

theorem Trie.depth_lt {v : Nat} {x : List α} (hv : paths[v]? = some x) :
    x.length < nodes.length := by
  have hx : x ∈ paths := List.mem_iff_getElem?.mpr ⟨v, hv⟩
  -- the `|x| + 1` prefixes of `x` are distinct strings of the trie
  have hsub : ∀ y ∈ (List.range (x.length + 1)).map x.take, y ∈ paths := by
    intro y hy
    obtain ⟨k, _, rfl⟩ := List.mem_map.mp hy
    exact h.prefix_mem hx (List.take_prefix _ _)
  have hnd : ((List.range (x.length + 1)).map x.take).Nodup := by
    refine (List.pairwise_map.mpr ?_ : List.Pairwise _ _)
    refine List.Pairwise.imp_of_mem ?_ (List.nodup_range (n := x.length + 1))
    intro i j hi hj hne e
    have := congrArg List.length e
    rw [List.length_take, List.length_take] at this
    have h1 := List.mem_range.mp hi
    have h2 := List.mem_range.mp hj
    omega
  have := List.Nodup.length_le_of_subset hnd hsub
  rw [h.len, List.length_map, List.length_range] at this
  exact this

theorem Trie.kid_path {i : Nat} {x : List α} (hi : paths[i]? = some x) {e : α × Nat}
    (he : e ∈ (acGet nodes i).succ) : paths[e.2]? = some (x ++ [e.1]) :=
  (h.child i x e.1 e.2 hi).mp (h.entries i e.1 e.2 he)

theorem Trie.parent_unique {u v c : Nat} {xu xv : List α} {a b : α} (hu : paths[u]? = some xu)
    (hv : paths[v]? = some xv) (hua : alookup a (acGet nodes u).succ = some c)
    (hvb : alookup b (acGet nodes v).succ = some c) : u = v := by
  have e := ((h.child u xu a c hu).mp hua).symm.trans ((h.child v xv b c hv).mp hvb)
  exact h.inj u v xu hu ((List.append_singleton_inj.mp (Option.some.inj e)).1 ▸ hv)

theorem Trie.kids_nodup {i : Nat} {x : List α} (hi : paths[i]? = some x) :
    ((acGet nodes i).succ.map Prod.snd).Nodup := by
  have hkeys : List.Pairwise _ _ := h.keysNodup i
  refine (List.pairwise_map.mpr ?_ : List.Pairwise _ _)
  refine List.Pairwise.imp_of_mem ?_ (List.pairwise_map.mp hkeys)
  intro e1 e2 h1 h2 hne heq
  have p1 := h.kid_path hi h1
  rw [heq, h.kid_path hi h2] at p1
  exact hne (List.append_singleton_inj.mp (Option.some.inj p1)).2.symm

theorem Trie.closed_mem (P : α → Prop) (S : Nat → Prop) (h0 : S 0)
    (hc : ∀ u, S u → ∀ a, P a → ∀ c, alookup a (acGet nodes u).succ = some c → S c) :
    ∀ (x : List α) (v : Nat), paths[v]? = some x → (∀ a ∈ x, P a) → S v := by
  intro x
  induction x using snoc_induction with
  | h0 => intro v hv _; rw [h.inj v 0 [] hv h.root]; exact h0
  | hs y b ih =>
    intro v hv hP
    obtain ⟨u, hu⟩ := h.pclosed v y b hv
    exact hc u (ih u hu fun a ha => hP a (List.mem_append_left _ ha)) b (hP b (by simp)) v
      ((h.child u y b v hu).mpr hv)

end strings

/-- `y` is the longest proper suffix of `x` that is a string of the trie. -/
def IsFail (paths : List (List α)) (x y : List α) : Prop :=
  y <:+ x ∧ y ≠ x ∧ y ∈ paths ∧ ∀ z, z <:+ x → z ≠ x → z ∈ paths → z.length ≤ y.length

omit [DecidableEq α] in
theorem IsFail.chain {paths : List (List α)} {x y z : List α} (h : IsFail paths x y)
    (hz : z <:+ x) (hne : z ≠ x) (hm : z ∈ paths) : z <:+ y :=
  List.suffix_of_suffix_length_le hz h.1 (h.2.2.2 z hz hne hm)

omit [DecidableEq α] in
theorem IsFail.length_lt {paths : List (List α)} {x y : List α} (h : IsFail paths x y) :
    y.length < x.length := by
  have h1 := h.1.length_le
  have : y.length ≠ x.length := fun e => h.2.1 (h.1.eq_of_length e)
  omega

/-- The node `st` (`None` stands for the root) spells `y`. -/
def Spells (paths : List (List α)) (st : Option Nat) (y : List α) : Prop :=
  match st with
  | none => y = []
  | some s => paths[s]? = some y

/-- The stored link `fl` leads to a node whose string satisfies `P`: `None` stands for the root,
an index is stored only for a non-empty string. -/
def Leads (paths : List (List α)) (fl : Option Nat) (P : List α → Prop) : Prop :=
  match fl with
  | none => P []
  | some c => ∃ y, y ≠ [] ∧ paths[c]? = some y ∧ P y

omit [DecidableEq α] in
theorem Leads.imp {paths : List (List α)} {fl : Option Nat} {P Q : List α → Prop}
    (h : Leads paths fl P) (hPQ : ∀ y, P y → Q y) : Leads paths fl Q := by
  cases fl with
  | none => exact hPQ [] h
  | some c => obtain ⟨y, hne, hc, hy⟩ := h; exact ⟨y, hne, hc, hPQ y hy⟩

omit [DecidableEq α] in
theorem Leads.spells {paths : List (List α)} {fl : Option Nat} {P : List α → Prop}
    (h : Leads paths fl P) : ∃ y, Spells paths fl y ∧ P y := by
  cases fl with
  | none => exact ⟨[], rfl, h⟩
  | some c => obtain ⟨y, _, hc, hy⟩ := h; exact ⟨y, hc, hy⟩

/-- The failure link stored in a node record is right for a node spelling `x ≠ []`: it leads to the
failure string of `x` (`Leads paths node.fail (IsFail paths x)`). -/
def FailOK (paths : List (List α)) (node : ACNode α) (x : List α) : Prop :=
  match node.fail with
  | none => IsFail paths x []
  | some u => ∃ y, y ≠ [] ∧ paths[u]? = some y ∧ IsFail paths x y

/-- `y` is the longest suffix of `w` that is a string of the trie. -/
def IsLongest (paths : List (List α)) (w y : List α) : Prop :=
  y <:+ w ∧ y ∈ paths ∧ ∀ z, z <:+ w → z ∈ paths → z.length ≤ y.length

omit [DecidableEq α] in
theorem IsLongest.snoc_of {paths : List (List α)} {y y0 r : List α} {a : α}
    (hr : IsLongest paths (y ++ [a]) r) (hy : y <:+ y0)
    (hdown : ∀ z, z <:+ y0 → z ++ [a] ∈ paths → z <:+ y) : IsLongest paths (y0 ++ [a]) r := by
  refine ⟨hr.1.trans (suffix_snoc_snoc.mpr ⟨hy, rfl⟩), hr.2.1, fun z hz hm => ?_⟩
  rcases List.suffix_concat_iff.mp hz with rfl | ⟨t, rfl, ht⟩
  · exact Nat.zero_le _
  · exact hr.2.2 _ (suffix_snoc_snoc.mpr ⟨hdown t ht hm, rfl⟩) hm

section follow
variable {nodes : List (ACNode α)} {paths : List (List α)} (h : Trie nodes paths)
include h

theorem leads_here {s : Nat} {y : List α} (hs : paths[s]? = some y) (a : α)
    (hstop : alookup a (acGet nodes s).succ = none → y = []) :
    Leads paths (alookup a (acGet nodes s).succ) (IsLongest paths (y ++ [a])) := by
  cases hl : alookup a (acGet nodes s).succ with
  | some c =>
    have hc := (h.child s y a c hs).mp hl
    exact ⟨y ++ [a], by simp, hc, List.suffix_refl _, List.mem_iff_getElem?.mpr ⟨c, hc⟩,
      fun z hz _ => hz.length_le⟩
  | none =>
    refine ⟨List.nil_suffix, h.root_mem, fun z hz hm => ?_⟩
    -- the only other suffix of `[a]` is `[a]`, and the root has no `a`-child
    rw [hstop hl] at hs hz
    rcases List.suffix_concat_iff.mp hz with rfl | ⟨t, rfl, ht⟩
    · exact Nat.le_refl _
    · rw [List.suffix_nil.mp ht, ← h.child_mem hs a, ahas, hl] at hm
      cases hm

/-- The walk along the failure chain from a node spelling `y0` (`fuel` bounds its length), followed
by the lookup of `a` below the node where it stopped (the root if it fell off the chain): the child
spelling the longest suffix of `y0 ++ [a]` in the trie, `None` when that suffix is empty. -/
theorem acFollow_spec (a : α) (hroot : (acGet nodes 0).fail = none) :
    ∀ (fuel : Nat) (y0 : List α) (st : Option Nat), y0.length + 2 ≤ fuel → Spells paths st y0 →
      (∀ v x, paths[v]? = some x → x ≠ [] → x.length ≤ y0.length → FailOK paths (acGet nodes v) x) →
      ∃ r, acFollow nodes a fuel st = .ok r ∧
        Leads paths (alookup a (acGet nodes (r.getD 0)).succ) (IsLongest paths (y0 ++ [a])) := by
  intro fuel
  induction fuel with
  | zero => intro y0 st hf; omega
  | succ f ih =>
    intro y0 st hf hst hchain
    -- falling off the chain: the lookup happens at the root
    have hoff : ∀ f', acFollow nodes a (f' + 1) none = .ok none ∧
        Leads paths (alookup a (acGet nodes ((none : Option Nat).getD 0)).succ)
          (IsLongest paths ([] ++ [a])) :=
      fun f' => ⟨rfl, leads_here h h.root a fun _ => rfl⟩
    cases st with
    | none => rw [show y0 = [] from hst]; exact ⟨none, hoff f⟩
    | some s =>
      have hs : paths[s]? = some y0 := hst
      show ∃ r, (if ahas a (acGet nodes s).succ = true then .ok (some s)
        else acFollow nodes a f (acGet nodes s).fail) = .ok r ∧ _
      by_cases hh : ahas a (acGet nodes s).succ = true
      · rw [if_pos hh]
        exact ⟨some s, rfl, leads_here h hs a fun hl => by rw [ahas, hl] at hh; cases hh⟩
      · rw [if_neg hh]
        have hnot : y0 ++ [a] ∉ paths := fun hm => hh ((h.child_mem hs a).mpr hm)
        -- the failure string `y` of `y0` (both empty at the root) covers all candidates
        obtain ⟨y, hsp, hy, hlt⟩ : ∃ y, Spells paths (acGet nodes s).fail y ∧
            (y <:+ y0 ∧ ∀ z', z' <:+ y0 → z' ++ [a] ∈ paths → z' <:+ y) ∧
            (y0 ≠ [] → y.length < y0.length) := by
          by_cases hy0 : y0 = []
          · subst hy0
            rw [h.inj s 0 [] hs h.root, hroot]
            exact ⟨[], rfl, ⟨List.suffix_refl _, fun z' hz' _ => hz'⟩, fun e => absurd rfl e⟩
          · obtain ⟨y, hsp, hfy⟩ := Leads.spells (hchain s y0 hs hy0 (Nat.le_refl _))
            refine ⟨y, hsp, ⟨hfy.1, fun z' hz' hm => ?_⟩, fun _ => hfy.length_lt⟩
            exact hfy.chain hz' (fun e => hnot (e ▸ hm)) (h.prefix_mem hm (List.prefix_append _ _))
        cases hfl : (acGet nodes s).fail with
        | none =>
          rw [hfl] at hsp
          obtain ⟨f', rfl⟩ : ∃ f', f = f' + 1 := ⟨f - 1, by omega⟩
          have hy' : y = [] := hsp
          exact ⟨none, (hoff f').1, (hoff f').2.imp fun r hl => hl.snoc_of (hy' ▸ hy.1) (hy' ▸ hy.2)⟩
        | some u =>
          rw [hfl] at hsp
          have hy0 : y0 ≠ [] := by
            intro e; subst e
            rw [h.inj s 0 [] hs h.root, hroot] at hfl; cases hfl
          have hlt' := hlt hy0
          obtain ⟨r, hr, ht⟩ := ih y (some u) (by omega) hsp
            fun v x hv hx hl => hchain v x hv hx (by omega)
          exact ⟨r, hr, ht.imp fun r hl => hl.snoc_of hy.1 hy.2⟩

end follow

end AV.Ctor.AC
