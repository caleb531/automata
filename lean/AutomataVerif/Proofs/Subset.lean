/-
Proofs/Subset.lean — the subset construction `DFA.from_nfa` (model `NFA.toDFA`), the embedding
`NFA.from_dfa` (model `NFA.ofDFA`) and the renaming by discovery index (core only).  The universe
of the subset construction is `powerset n.states`; a row of the implicit subset automaton maps `a`
to the canonical name of `nextStates S a` (`subsetSucc_lookup`), so its run tracks the NFA run
(`canon_run`, `subset_implRun`).
-/
import AutomataVerif.Proofs.Rename
import AutomataVerif.Proofs.ExpandValid
import AutomataVerif.Proofs.PyShape
import AutomataVerif.Proofs.MinSystem
import AutomataVerif.Proofs.NFATable
import AutomataVerif.Model.Convert

namespace AV
namespace C07

variable {σ α κ β γ : Type} [DecidableEq σ] [DecidableEq α] [DecidableEq κ] [DecidableEq β]

set_option linter.unusedSectionVars false in
theorem mem_iff_alookup {d : List (κ × β)} (hnd : (akeys d).Nodup) {k : κ} {v : β} :
    (k, v) ∈ d ↔ alookup k d = some v :=
  ⟨alookup_of_mem_nodup hnd, alookup_some_mem⟩

omit [DecidableEq σ] [DecidableEq α] [DecidableEq β] in
theorem akeys_sub_ainsert {k k' : κ} {v : β} {d : List (κ × β)} (h : k' ∈ akeys d) :
    k' ∈ akeys (ainsert k v d) :=
  mem_akeys_ainsert.mpr (.inr h)

/-- All sublists of `l` (every `l.filter p` is one of them). -/
def powerset : List σ → List (List σ)
  | [] => [[]]
  | x :: t => powerset t ++ (powerset t).map (x :: ·)

omit [DecidableEq σ] in
theorem length_powerset (l : List σ) : (powerset l).length = 2 ^ l.length := by
  induction l with
  | nil => rfl
  | cons x t ih =>
    simp only [powerset, List.length_append, List.length_map, ih, List.length_cons, Nat.pow_succ]
    omega

omit [DecidableEq σ] in
theorem filter_mem_powerset (p : σ → Bool) (l : List σ) : l.filter p ∈ powerset l := by
  induction l with
  | nil => simp [powerset]
  | cons x t ih =>
    simp only [powerset, List.filter_cons, List.mem_append, List.mem_map]
    cases p x
    · exact Or.inl ih
    · exact Or.inr ⟨_, ih, rfl⟩

section
omit [DecidableEq α]

theorem mem_canon (n : NFA σ α) (S : List σ) (q : σ) :
    q ∈ n.canon S ↔ q ∈ n.states ∧ q ∈ S := by
  simp [NFA.canon, List.mem_filter]

theorem canon_congr (n : NFA σ α) {S T : List σ} (h : ∀ q, q ∈ S ↔ q ∈ T) :
    n.canon S = n.canon T := by
  unfold NFA.canon
  apply List.filter_congr
  intro q _
  simp [h q]

theorem mem_canon_of_sub (n : NFA σ α) {S : List σ} (hS : ∀ q ∈ S, q ∈ n.states) (q : σ) :
    q ∈ n.canon S ↔ q ∈ S := by
  rw [mem_canon]; exact ⟨fun h => h.2, fun h => ⟨hS q h, h⟩⟩

end

@[simp] theorem runFrom_nil (n : NFA σ α) (S : List σ) : n.runFrom S [] = S := rfl

theorem runFrom_congr (n : NFA σ α) (w : List α) : ∀ {S T : List σ}, (∀ q, q ∈ S ↔ q ∈ T) →
    ∀ p, p ∈ n.runFrom S w ↔ p ∈ n.runFrom T w :=
  fun h => NFA.runFrom_congr n h w

set_option linter.unusedSectionVars false in
theorem anyFinal_iff (n : NFA σ α) (S : List σ) :
    n.anyFinal S = true ↔ ∃ q ∈ S, q ∈ n.finals :=
  NFA.anyFinal_iff n S

@[simp] theorem nextStates_nil (n : NFA σ α) (a : α) : n.nextStates [] a = [] := rfl

theorem runFrom_sub_states {n : NFA σ α} (wf : n.WF) {S : List σ} (hS : ∀ q ∈ S, q ∈ n.states)
    (w : List α) : ∀ q ∈ n.runFrom S w, q ∈ n.states :=
  NFA.runFrom_sub_states wf hS w

theorem self_mem_closure (n : NFA σ α) {q : σ} (hq : q ∈ n.nodes) : q ∈ n.closure q :=
  have _ := hq
  NFA.closure_self n q

theorem closure_trans {n : NFA σ α} (wf : n.WF) {q p r : σ} (hq : q ∈ n.states)
    (hp : p ∈ n.closure q) (hr : r ∈ n.closure p) : r ∈ n.closure q := by
  have _ := wf
  have _ := hq
  exact NFA.closure_trans hp hr

theorem closure_eq_singleton (n : NFA σ α) {q : σ} (h : n.epsSucc q = []) : n.closure q = [q] :=
  NFA.closure_eq_singleton n h

set_option linter.unusedSectionVars false in
/-- `PyShape.rows_nodup` read at `n.row q` (a missing row is `[]`).  Its full name is
`AV.C07.NFA.PyShape.row_nodup`, so it is called as a function, not by dot notation. -/
theorem NFA.PyShape.row_nodup {n : NFA σ α} (h : n.PyShape) (q : σ) : (akeys (n.row q)).Nodup :=
  getD_alookup_inv (I := fun r => (akeys r).Nodup) List.nodup_nil h.rows_nodup q

set_option linter.unusedSectionVars false in
theorem row_mem_trans {n : NFA σ α} {q : σ} {e : Option α × List σ} (he : e ∈ n.row q) :
    ∃ r, (q, r) ∈ n.trans ∧ e ∈ r :=
  ⟨_, NFA.row_mem_trans he, he⟩

theorem mem_targets_iff {n : NFA σ α} (ps : n.PyShape) (q : σ) (x : Option α) (t : σ) :
    t ∈ n.targets q x ↔ ∃ ts, (x, ts) ∈ n.row q ∧ t ∈ ts :=
  NFA.mem_targets_iff_row ps.rows_nodup

/-- The `(symbol, targets)` pairs met by `_iterate_through_symbol_path_pairs`. -/
def entries (n : NFA σ α) (S : List σ) : List (α × List σ) :=
  S.flatMap fun q =>
    (n.row q).filterMap fun e =>
      match e.1 with
      | some a => if e.2.isEmpty then none else some (a, e.2)
      | none => none

theorem subsetSucc_eq (n : NFA σ α) (S : List σ) :
    n.subsetSucc S = (dedup ((entries n S).map Prod.fst)).map fun a =>
      (a, n.canon (((entries n S).filter fun e => decide (e.1 = a)).flatMap
        fun e => e.2.flatMap n.closure)) := by rfl

omit [DecidableEq α] in
theorem mem_entries (n : NFA σ α) (S : List σ) (a : α) (ts : List σ) :
    (a, ts) ∈ entries n S ↔ ∃ q ∈ S, (some a, ts) ∈ n.row q ∧ ts ≠ [] := by
  unfold entries
  simp only [List.mem_flatMap, List.mem_filterMap]
  constructor
  · rintro ⟨q, hq, e, he, h⟩
    obtain ⟨e1, e2⟩ := e
    cases e1 with
    | none => simp at h
    | some b =>
      simp only at h
      by_cases hemp : e2.isEmpty = true
      · simp [hemp] at h
      · simp only [hemp, Bool.false_eq_true, if_false, Option.some.injEq, Prod.mk.injEq] at h
        obtain ⟨rfl, rfl⟩ := h
        exact ⟨q, hq, he, by simpa using hemp⟩
  · rintro ⟨q, hq, he, hne⟩
    refine ⟨q, hq, (some a, ts), he, ?_⟩
    have : ts.isEmpty = false := by cases ts <;> simp_all
    simp [this]

theorem mem_succ_set {n : NFA σ α} (ps : n.PyShape) (S : List σ) (a : α) (p : σ) :
    p ∈ ((entries n S).filter fun e => decide (e.1 = a)).flatMap (fun e => e.2.flatMap n.closure) ↔
      p ∈ n.nextStates S a := by
  rw [NFA.mem_nextStates]
  simp only [List.mem_flatMap, List.mem_filter, decide_eq_true_eq]
  constructor
  · rintro ⟨⟨b, ts⟩, ⟨he, hb⟩, t, ht, hp⟩
    simp only at hb ht; subst hb
    obtain ⟨q, hq, hrow, _⟩ := (mem_entries n S b ts).mp he
    exact ⟨q, hq, t, (mem_targets_iff ps q (some b) t).mpr ⟨ts, hrow, ht⟩, hp⟩
  · rintro ⟨q, hq, t, ht, hp⟩
    obtain ⟨ts, hrow, hts⟩ := (mem_targets_iff ps q (some a) t).mp ht
    have hne : ts ≠ [] := by intro e; rw [e] at hts; cases hts
    exact ⟨(a, ts), ⟨(mem_entries n S a ts).mpr ⟨q, hq, hrow, hne⟩, rfl⟩, t, hts, hp⟩

theorem key_mem_iff {n : NFA σ α} (ps : n.PyShape) (S : List σ) (a : α) :
    a ∈ (entries n S).map Prod.fst ↔ ∃ p, p ∈ n.nextStates S a := by
  simp only [NFA.mem_nextStates, List.mem_map]
  constructor
  · rintro ⟨⟨b, ts⟩, he, hb⟩
    simp only at hb; subst hb
    obtain ⟨q, hq, hrow, hne⟩ := (mem_entries n S b ts).mp he
    cases ts with
    | nil => exact absurd rfl hne
    | cons t ts' =>
      have ht : t ∈ n.targets q (some b) :=
        (mem_targets_iff ps q (some b) t).mpr ⟨_, hrow, by simp⟩
      exact ⟨t, q, hq, t, ht, NFA.closure_self n t⟩
  · rintro ⟨p, q, hq, t, ht, _⟩
    obtain ⟨ts, hrow, hts⟩ := (mem_targets_iff ps q (some a) t).mp ht
    have hne : ts ≠ [] := by intro e; rw [e] at hts; cases hts
    exact ⟨(a, ts), (mem_entries n S a ts).mpr ⟨q, hq, hrow, hne⟩, rfl⟩

/-- Python skips symbols without targets: the subset DFA is partial there. -/
theorem subsetSucc_lookup {n : NFA σ α} (ps : n.PyShape) (S : List σ) (a : α) :
    alookup a (n.subsetSucc S) =
      if n.nextStates S a = [] then none else some (n.canon (n.nextStates S a)) := by
  rw [subsetSucc_eq, alookup_tabulate]
  by_cases hk : a ∈ dedup ((entries n S).map Prod.fst)
  · rw [if_pos hk]
    obtain ⟨p, hp⟩ := (key_mem_iff ps S a).mp (mem_dedup.mp hk)
    have hne : n.nextStates S a ≠ [] := by intro e; rw [e] at hp; cases hp
    rw [if_neg hne]
    exact congrArg some (canon_congr n (mem_succ_set ps S a))
  · rw [if_neg hk]
    have hne : n.nextStates S a = [] := by
      rw [List.eq_nil_iff_forall_not_mem]
      intro p hp
      exact hk (mem_dedup.mpr ((key_mem_iff ps S a).mpr ⟨p, hp⟩))
    rw [if_pos hne]

theorem subsetSucc_keys_nodup (n : NFA σ α) (S : List σ) : (akeys (n.subsetSucc S)).Nodup := by
  rw [subsetSucc_eq, akeys_tabulate]; exact nodup_dedup _

theorem subsetSucc_keys_sub {n : NFA σ α} (wf : n.WF) (S : List σ) :
    ∀ a ∈ akeys (n.subsetSucc S), a ∈ n.syms := by
  rw [subsetSucc_eq, akeys_tabulate]
  intro a ha
  rw [mem_dedup] at ha
  obtain ⟨⟨b, ts⟩, he, hb⟩ := List.mem_map.mp ha
  simp only at hb; subst hb
  obtain ⟨q, _, hrow, _⟩ := (mem_entries n S b ts).mp he
  obtain ⟨r, hr, her⟩ := row_mem_trans hrow
  exact wf.symsOk (q, r) hr b (List.mem_map.mpr ⟨_, her, rfl⟩)

theorem subsetSucc_vals_canon (n : NFA σ α) (S : List σ) :
    ∀ e ∈ n.subsetSucc S, ∃ T, e.2 = n.canon T := by
  rw [subsetSucc_eq]
  intro e he
  obtain ⟨a, _, rfl⟩ := List.mem_map.mp he
  exact ⟨_, rfl⟩

/-- The BFS of `_expand_dfa` over the subset automaton is exhaustive: the universe is the
list of all sublists of `n.states` (`2 ^ |states|` of them). -/
theorem subset_expandHyp (n : NFA σ α) (S₀ : List σ) :
    DFA.ExpandHyp n.subsetSucc (powerset n.states) (2 ^ n.states.length + 1) (n.canon S₀) := by
  refine ⟨filter_mem_powerset _ _, ?_, fun u _ => subsetSucc_keys_nodup n u, ?_⟩
  · intro u _ e he
    obtain ⟨T, hT⟩ := subsetSucc_vals_canon n u e he
    rw [hT]; exact filter_mem_powerset _ _
  · rw [length_powerset]; omega

omit [DecidableEq α] in
theorem subsetFinal_canon {n : NFA σ α} (wf : n.WF) (S : List σ) :
    n.subsetFinal (n.canon S) = n.anyFinal S := by
  rw [Bool.eq_iff_iff]
  simp only [NFA.subsetFinal, NFA.anyFinal, List.any_eq_true, decide_eq_true_eq, mem_canon]
  constructor
  · rintro ⟨q, ⟨_, hq⟩, hf⟩; exact ⟨q, hq, hf⟩
  · rintro ⟨q, hq, hf⟩; exact ⟨q, ⟨wf.finalsOk q hf, hq⟩, hf⟩

/-- **The subset run**, once for `DFA.from_nfa` (C07) and `NFA.__eq__` (C09): stepping canonical
subset states tracks the NFA run. -/
theorem canon_run {n : NFA σ α} (wf : n.WF) {S : List σ} (hS : ∀ q ∈ S, q ∈ n.states) (w : List α) :
    w.foldl (fun T a => n.canon (n.nextStates T a)) (n.canon S) = n.canon (n.runFrom S w) :=
  (List.foldl_rel (r := fun T' T => (∀ q ∈ T, q ∈ n.states) ∧ T' = n.canon T) ⟨hS, rfl⟩
    fun a _ _ T ⟨hT, e⟩ => ⟨fun _ hq => NFA.nextStates_sub_states wf T a hq,
      e ▸ canon_congr n (NFA.nextStates_congr n (mem_canon_of_sub n hT) a)⟩).2

omit [DecidableEq α] in
theorem canon_nil (n : NFA σ α) : n.canon [] = [] := by simp [NFA.canon]

/-- The partial run of `_expand_dfa` over `subsetSucc` is that run with `none` read as the empty
set: an exact homomorphism (no invariant), by `subsetSucc_lookup`. -/
theorem implRun_getD {n : NFA σ α} (ps : n.PyShape) (x : Option (List σ)) (w : List α) :
    (DFA.implRun n.subsetSucc x w).getD [] =
      w.foldl (fun T a => n.canon (n.nextStates T a)) (x.getD []) :=
  (List.foldl_hom (fun x : Option (List σ) => x.getD []) fun x a => by
    cases x with
    | none => exact canon_nil n
    | some T =>
      show _ = (alookup a (n.subsetSucc T)).getD []
      rw [subsetSucc_lookup ps]; split
      · rename_i h; exact (congrArg n.canon h).trans (canon_nil n)
      · rfl).symm

theorem subset_implRun {n : NFA σ α} (wf : n.WF) (ps : n.PyShape) (w : List α) {S : List σ}
    (hS : ∀ q ∈ S, q ∈ n.states) :
    (DFA.implRun n.subsetSucc (some (n.canon S)) w).getD [] = n.canon (n.runFrom S w) :=
  (implRun_getD ps _ w).trans (canon_run wf hS w)

/-- The verdict of the subset automaton started at `canon S`, in the form `expand_accepts` gives
it (the analogue of `cross_verdict`). -/
theorem subset_verdict {n : NFA σ α} (wf : n.WF) (ps : n.PyShape) (w : List α) {S : List σ}
    (hS : ∀ q ∈ S, q ∈ n.states) :
    (DFA.implRun n.subsetSucc (some (n.canon S)) w).any n.subsetFinal =
      n.anyFinal (n.runFrom S w) := by
  rw [← subsetFinal_canon wf, ← subset_implRun wf ps w hS]
  cases DFA.implRun n.subsetSucc (some (n.canon S)) w <;> rfl

theorem subset_run {n : NFA σ α} (wf : n.WF) (ps : n.PyShape) (w : List α) :
    ∀ S : List σ, (∀ q ∈ S, q ∈ n.states) →
      (match DFA.implRun n.subsetSucc (some (n.canon S)) w with
        | some T => n.subsetFinal T
        | none => false) = n.anyFinal (n.runFrom S w) := by
  intro S hS
  rw [← subset_verdict wf ps w hS]
  cases DFA.implRun n.subsetSucc (some (n.canon S)) w <;> rfl

theorem subset_run_set {n : NFA σ α} (wf : n.WF) (ps : n.PyShape) (w : List α) :
    ∀ S : List σ, (∀ q ∈ S, q ∈ n.states) → ∀ T,
      DFA.implRun n.subsetSucc (some (n.canon S)) w = some T →
        ∀ q, q ∈ T ↔ q ∈ n.runFrom S w := by
  intro S hS T hT q
  have h : T = _ := (congrArg (·.getD []) hT).symm.trans (subset_implRun wf ps w hS)
  rw [h]
  exact mem_canon_of_sub n (runFrom_sub_states wf hS w) q

section expand
variable {S : Type} [DecidableEq S] {succ : S → List (α × S)} {univ : List S} {fuel : Nat} {init : S}

/-- The arguments with which `_expand_dfa(minify=True)` calls `_minify`. -/
theorem expand_minHyp (isFin : S → Bool) (syms : List α) (h : DFA.ExpandHyp succ univ fuel init)
    (hsyms : syms.Nodup) (hkeys : ∀ u ∈ univ, ∀ a ∈ akeys (succ u), a ∈ syms) :
    let P := DFA.expand succ isFin syms fuel init
    DFA.MinHyp P.states P.syms P.trans P.init P.finals := by
  intro P
  have wf := C04.expand_wf isFin syms h hkeys
  refine ⟨DFA.nodup_bfsStates h, hsyms, wf.initOk, wf.finalsOk, wf.rows, ?_⟩
  intro q r hqr a ha
  exact wf.symsOk (q, r) (alookup_some_mem hqr) a ha

end expand

omit [DecidableEq α] in
theorem ofDFA_row (d : DFA σ α) (q : σ) :
    (NFA.ofDFA d).row q = (d.row q).map fun e => (some e.1, [e.2]) :=
  getD_alookup_map_val rfl q d.trans

theorem ofDFA_targets_none (d : DFA σ α) (q : σ) : (NFA.ofDFA d).targets q none = [] := by
  unfold NFA.targets
  rw [ofDFA_row, alookup_eq_none_iff.mpr, Option.getD_none]
  rw [akeys_map_key some fun t => [t]]
  exact fun h => let ⟨_, _, e⟩ := List.mem_map.mp h; nomatch e

theorem ofDFA_targets_some (d : DFA σ α) (q : σ) (a : α) :
    (NFA.ofDFA d).targets q (some a) = (d.step? (some q) a).toList := by
  unfold NFA.targets
  rw [ofDFA_row, alookup_map_key some (fun t => [t]) fun _ _ => Option.some.inj]
  show _ = (alookup a (d.row q)).toList
  cases alookup a (d.row q) <;> rfl

theorem ofDFA_closure (d : DFA σ α) (q : σ) : (NFA.ofDFA d).closure q = [q] :=
  closure_eq_singleton _ (ofDFA_targets_none d q)

theorem ofDFA_rel (d : DFA σ α) : (NFA.ofDFA d).rel = d.rel := by
  funext q a t
  cases a with
  | none =>
    exact propext ⟨fun h => absurd (ofDFA_targets_none d q ▸ h : t ∈ []) List.not_mem_nil,
      fun h => absurd h DFA.not_rel_none⟩
  | some c =>
    show (t ∈ (NFA.ofDFA d).targets q (some c)) = _
    rw [ofDFA_targets_some, Option.mem_toList]
    exact propext ⟨fun h => ⟨c, rfl, h⟩, fun ⟨_, e, h⟩ => Option.some.inj e ▸ h⟩

theorem ofDFA_run (d : DFA σ α) (w : List α) : ∀ (s : Option σ) (p : σ),
    p ∈ (NFA.ofDFA d).runFrom s.toList w ↔ d.run s w = some p
  | none, p => by rw [Option.toList_none, NFA.runFrom_empty, DFA.run_none]; exact ⟨nofun, nofun⟩
  | some q, p => (NFA.mem_runFrom_iff w [] [q]
      (fun p => by rw [← ofDFA_closure d q]; exact NFA.mem_closure_iff_path _) p).trans
      (ofDFA_rel d ▸ DFA.run_eq_some_iff_path.symm)

theorem ofDFA_accepts (d : DFA σ α) (w : List α) : (NFA.ofDFA d).accepts w = d.accepts w :=
  Bool.eq_iff_iff.mpr <| (NFA.accepts_iff_acc _ w).trans <|
    ofDFA_rel d ▸ (DFA.accepts_iff_acc d w).symm

set_option linter.unusedSectionVars false in
theorem ofDFA_wf {d : DFA σ α} (wf : d.WF) : (NFA.ofDFA d).WF := by
  refine (NFA.wf_iff_ok _).mpr ⟨fun kv hkv e he => ?_, wf.initOk, Or.inl ?_, wf.finalsOk⟩
  · obtain ⟨⟨k, r⟩, hr, rfl⟩ := List.mem_map.mp hkv
    obtain ⟨e', he', rfl⟩ := List.mem_map.mp he
    exact ⟨fun x hx => Option.some.inj hx ▸ wf.symsOk (k, r) hr e'.1 (List.mem_map_of_mem he'),
      fun p hp => List.mem_singleton.mp hp ▸ wf.tgtOk (k, r) hr e'.2 (List.mem_map_of_mem he')⟩
  · show d.init ∈ akeys (d.trans.map fun kv => (kv.1, kv.2.map fun e => (some e.1, [e.2])))
    rw [akeys_map_val]
    exact wf.rows _ wf.initOk

section renumber
variable {S : Type} [DecidableEq S]

theorem alookup_rename_key {β γ : Type} (f : S → Nat) (g : β → γ) (q : S)
    (hinj : ∀ k, f k = f q → k = q) (l : List (S × β)) :
    alookup (f q) (l.map fun kv => (f kv.1, g kv.2)) = (alookup q l).map g :=
  alookup_map_key f g fun k _ => hinj k

/-! `renumber` is `rename` through the discovery index (Proofs/Rename.lean), which tells every
state apart from every name, whatever the row keys are: no shape hypothesis is needed. -/

theorem renumber_run {d : DFA S α} (wf : d.WF) (w : List α) : ∀ q ∈ d.states,
    d.renumber.run (some (indexOf q d.states)) w =
      (d.run (some q) w).map fun s => indexOf s d.states :=
  fun q hq => C04.rename_run _ wf (C04.renumber_sep d) w (some q) hq

theorem renumber_accepts {d : DFA S α} (wf : d.WF) (w : List α) :
    d.renumber.accepts w = d.accepts w :=
  C04.rename_accepts _ wf (C04.renumber_sep d) w

set_option linter.unusedSectionVars false in
theorem renumber_wf {d : DFA S α} (wf : d.WF) : d.renumber.WF :=
  C04.rename_wf _ wf

end renumber

/-- The language `_minify` is asked to preserve is the language of the DFA. -/
theorem mlang_eq_accepts {S : Type} [DecidableEq S] {d : DFA S α} (wf : d.WF) (w : List α) :
    DFA.mfin d.finals (DFA.mrun d.states d.trans (some d.init) w) = d.accepts w := by
  rw [DFA.mrun_states wf]
  unfold DFA.accepts
  cases d.run (some d.init) w <;> rfl

end C07
end AV
