/-
Proofs/MinSystem.lean — the refinement system of `_minify` (`mdelta`, `mrun`, `mfin`,
`muniverse`, `MEquiv`; Proofs/MinifySpec.lean): how it runs, that its universe is closed under
alphabet moves, and how `mdelta` reads off `DFA.step?`.  Shared by the loop
(Proofs/Hopcroft.lean) and the quotient (Proofs/MinQuotient.lean).
-/
import AutomataVerif.Proofs.MinifySpec
import AutomataVerif.Proofs.Read

namespace AV
namespace DFA

variable {σ α : Type} [DecidableEq σ] [DecidableEq α]
variable {kept : List σ} {syms : List α} {trans : List (σ × List (α × σ))} {finals : List σ}

@[simp] theorem mrun_nil (s : Option σ) : mrun kept trans s [] = s := rfl

@[simp] theorem mrun_cons_eq (s : Option σ) (a : α) (w : List α) :
    mrun kept trans s (a :: w) = mrun kept trans (mdelta kept trans s a) w := rfl

theorem mrun_append (s : Option σ) (u v : List α) :
    mrun kept trans s (u ++ v) = mrun kept trans (mrun kept trans s u) v :=
  List.foldl_append

theorem mdelta_none (a : α) : mdelta kept trans none a = none := rfl

@[simp] theorem mrun_none (w : List α) : mrun kept trans none w = none := by
  induction w with
  | nil => rfl
  | cons a w ih => exact ih

theorem mfin_mrun_none (w : List α) : mfin finals (mrun kept trans none w) = false := by
  rw [mrun_none]; rfl

theorem mdelta_some_kept {x : Option σ} {a : α} {t : σ} (h : mdelta kept trans x a = some t) :
    t ∈ kept := by
  cases x with
  | none => cases h
  | some q =>
    simp only [mdelta] at h
    split at h
    · split at h
      · cases h; assumption
      · cases h
    · cases h

theorem mdelta_foreign (hk : ∀ q r, alookup q trans = some r → ∀ a ∈ akeys r, a ∈ syms) {a : α}
    (ha : a ∉ syms) (x : Option σ) : mdelta kept trans x a = none := by
  cases x with
  | none => rfl
  | some q =>
    have : alookup a ((alookup q trans).getD []) = none := by
      rw [alookup_eq_none_iff]
      cases hr : alookup q trans with
      | none => exact List.not_mem_nil
      | some r => exact fun hm => ha (hk q r hr a hm)
    simp only [mdelta, this]

section
variable (kept) (trans) (finals)

theorem MEquiv.refl (x : Option σ) : MEquiv (α := α) kept trans finals x x := fun _ => rfl

theorem MEquiv.symm {x y : Option σ} (h : MEquiv (α := α) kept trans finals x y) :
    MEquiv kept trans finals y x := fun w => (h w).symm

theorem MEquiv.tr {x y z : Option σ} (h₁ : MEquiv (α := α) kept trans finals x y)
    (h₂ : MEquiv kept trans finals y z) : MEquiv kept trans finals x z :=
  fun w => (h₁ w).trans (h₂ w)

end

theorem MEquiv.run {x y : Option σ} (h : MEquiv (α := α) kept trans finals x y) (u : List α) :
    MEquiv kept trans finals (mrun kept trans x u) (mrun kept trans y u) := by
  intro w
  rw [← mrun_append, ← mrun_append]
  exact h (u ++ w)

theorem MEquiv.step {x y : Option σ} (a : α) (h : MEquiv kept trans finals x y) :
    MEquiv kept trans finals (mdelta kept trans x a) (mdelta kept trans y a) :=
  h.run [a]

theorem mem_muniverse_some {q : σ} : some q ∈ muniverse kept syms trans ↔ q ∈ kept := by
  unfold muniverse
  split <;> simp

theorem mem_muniverse_none : none ∈ muniverse kept syms trans ↔ needTrap kept syms trans = true := by
  unfold muniverse
  split <;> simp_all

theorem MinHyp.muniverse_ne_nil {init : σ} (h : MinHyp kept syms trans init finals) :
    muniverse kept syms trans ≠ [] :=
  List.ne_nil_of_mem (mem_muniverse_some.mpr h.init_mem)

theorem MinHyp.finals_mem_muniverse {init : σ} (h : MinHyp kept syms trans init finals) :
    ∀ x ∈ finals.map some, x ∈ muniverse kept syms trans := fun _ hx =>
  let ⟨f, hf, e⟩ := List.mem_map.mp hx
  e ▸ mem_muniverse_some.mpr (h.finals_sub f hf)

theorem mdelta_closed {x : Option σ} (hx : x ∈ muniverse kept syms trans) {a : α} (ha : a ∈ syms) :
    mdelta kept trans x a ∈ muniverse kept syms trans := by
  cases x with
  | none => exact hx
  | some q =>
    cases hd : mdelta kept trans (some q) a with
    | none =>
      rw [mem_muniverse_none]
      exact List.any_eq_true.mpr ⟨q, mem_muniverse_some.mp hx,
        List.any_eq_true.mpr ⟨a, ha, by rw [hd]; rfl⟩⟩
    | some t => exact mem_muniverse_some.mpr (mdelta_some_kept hd)

variable (kept syms trans) in
theorem mdelta_mem_muniverse {q : σ} (hq : q ∈ kept) {a : α} (ha : a ∈ syms) :
    mdelta kept trans (some q) a ∈ muniverse kept syms trans :=
  mdelta_closed (mem_muniverse_some.mpr hq) ha

theorem needTrap_eq_false_iff :
    needTrap kept syms trans = false ↔
      ∀ q ∈ kept, ∀ a ∈ syms, ∃ t, mdelta kept trans (some q) a = some t := by
  simp only [needTrap, List.any_eq_false, Bool.not_eq_true, Option.isNone_eq_false_iff,
    Option.isSome_iff_exists]

theorem mdelta_of_step?_none {d : DFA σ α} {q : σ} {a : α} (h : d.step? (some q) a = none) :
    mdelta kept d.trans (some q) a = none := by
  have h' : alookup a ((alookup q d.trans).getD []) = none := h
  simp only [mdelta, h']

theorem mdelta_of_step? {d : DFA σ α} {q t : σ} {a : α} (h : d.step? (some q) a = some t) :
    mdelta kept d.trans (some q) a = if t ∈ kept then some t else none := by
  have h' : alookup a ((alookup q d.trans).getD []) = some t := h
  simp only [mdelta, h']

theorem mdelta_eq_filter {d : DFA σ α} (s : Option σ) (a : α) :
    mdelta kept d.trans s a = (d.step? s a).filter fun t => decide (t ∈ kept) := by
  cases s with
  | none => rfl
  | some q =>
    cases h : d.step? (some q) a with
    | none => exact mdelta_of_step?_none h
    | some t => rw [mdelta_of_step? h, Option.filter_some]; simp only [decide_eq_true_eq]

theorem mdelta_states {d : DFA σ α} (wf : d.WF) (s : Option σ) (a : α) :
    mdelta d.states d.trans s a = d.step? s a := by
  cases s with
  | none => rfl
  | some q =>
    cases hst : d.step? (some q) a with
    | none => exact mdelta_of_step?_none hst
    | some t => exact (mdelta_of_step? hst).trans (if_pos (step?_mem wf hst))

theorem mrun_states {d : DFA σ α} (wf : d.WF) (s : Option σ) (w : List α) :
    mrun d.states d.trans s w = d.run s w :=
  congrArg (fun f => List.foldl f s w) (funext fun s => funext fun a => mdelta_states wf s a)

end DFA
end AV
