/-
Proofs/PdaDpda.lean — `DPDA._get_next_configuration` and the `while` loop of
`DPDA.read_input_stepwise` against the reference semantics, for any table and set order; on a
deterministic table the run is unique and the DPDA reader is the NPDA reader on singleton levels.
-/
import AutomataVerif.Proofs.PdaNpda

namespace AV.PDA

variable {σ α γ τ : Type} [DecidableEq σ] [DecidableEq α] [DecidableEq γ]

theorem DPDA.getTransition_some (M : DPDA σ α γ) (q : σ) (a : Option α) (X : γ) :
    M.getTransition q a (some X) = (M.entry? q a X).map fun e => (a, e.1, e.2) := by
  cases h : M.entry? q a X <;> simp [DPDA.getTransition, h]

@[simp] theorem DPDA.getTransition_none (M : DPDA σ α γ) (q : σ) (a : Option α) :
    M.getTransition q a none = none := rfl

theorem DPDA.moves_isSome (M : DPDA σ α γ) {q : σ} {a : Option α} {X : γ} {p : σ} {push : List γ}
    (h : M.moves q a X p push) : (M.entry? q a X).isSome = true := by
  rw [show M.entry? q a X = some (p, push) from h]; rfl

theorem DPDA.getTransition_eq_some (M : DPDA σ α γ) (q : σ) (a : Option α) (top : Option γ)
    (t : Trans σ α γ) : M.getTransition q a top = some t ↔ Offers M.moves q top a t := by
  obtain ⟨a', p, push⟩ := t
  unfold Offers
  cases top with
  | none => simp
  | some X =>
    simp only [DPDA.getTransition_some, Option.map_eq_some_iff, Prod.mk.injEq, Prod.exists,
      Option.some.injEq, exists_eq_left', DPDA.moves]
    constructor
    · rintro ⟨p', push', h, rfl, rfl, rfl⟩; exact ⟨h, rfl⟩
    · rintro ⟨h, rfl⟩; exact ⟨p, push, h, rfl, rfl, rfl⟩

/-- `_get_next_configuration` applies an enabled transition (whatever the set order `pick`); it
raises only when none is enabled, `RejectionException` when input is left and `IndexError` (from
formatting the message) when none is left. -/
theorem DPDA.nextConfig_spec (M : DPDA σ α γ) (pick : Config σ α γ → Bool) (c : Config σ α γ) :
    match M.nextConfig pick c with
    | .ok c' => ∃ t, Enabled M.moves c t ∧ c' = applyTrans c t
    | .error e => (∀ t, ¬ Enabled M.moves c t) ∧
        ((c.input ≠ [] ∧ e = .lib .rejectionException) ∨ (c.input = [] ∧ e = .py .indexError)) := by
  obtain ⟨q, inp, st⟩ := c
  simp only [enabled_iff, ← M.getTransition_eq_some]
  cases inp with
  | nil =>
    cases h2 : M.getTransition q none (Stack.top st) with
    | none => simp [DPDA.nextConfig, h2]
    | some t₂ => simp only [DPDA.nextConfig, h2]; exact ⟨t₂, .inl rfl, rfl⟩
  | cons a w =>
    cases h1 : M.getTransition q (some a) (Stack.top st) with
    | none =>
      cases h2 : M.getTransition q none (Stack.top st) with
      | none => simp [DPDA.nextConfig, h1, h2]
      | some t₂ => simp only [DPDA.nextConfig, h1, h2]; exact ⟨t₂, .inl rfl, rfl⟩
    | some t₁ =>
      cases h2 : M.getTransition q none (Stack.top st) with
      | none => simp only [DPDA.nextConfig, h1, h2]; exact ⟨t₁, .inr ⟨a, rfl, h1⟩, rfl⟩
      | some t₂ =>
        simp only [DPDA.nextConfig, h1, h2]
        cases pick ⟨q, a :: w, st⟩
        · exact ⟨t₂, .inl rfl, rfl⟩
        · exact ⟨t₁, .inr ⟨a, rfl, h1⟩, rfl⟩

theorem DPDA.nextConfig_sound (M : DPDA σ α γ) (pick : Config σ α γ → Bool) (c c' : Config σ α γ)
    (h : M.nextConfig pick c = .ok c') : Step M.moves c c' := by
  have := M.nextConfig_spec pick c
  rw [h] at this
  exact (step_iff _ _ _).mpr this

theorem DPDA.nextConfig_error (M : DPDA σ α γ) (pick : Config σ α γ → Bool) (c : Config σ α γ)
    (e : Exn) (h : M.nextConfig pick c = .error e) :
    (¬ ∃ c', Step M.moves c c') ∧
    ((c.input ≠ [] ∧ e = .lib .rejectionException) ∨ (c.input = [] ∧ e = .py .indexError)) := by
  have := M.nextConfig_spec pick c
  rw [h] at this
  exact ⟨fun ⟨c', hc'⟩ => by obtain ⟨t, ht, _⟩ := (step_iff _ _ _).mp hc'; exact this.1 t ht, this.2⟩

theorem DPDA.exists_step_of_lambda (M : DPDA σ α γ) (c : Config σ α γ)
    (h : M.hasLambdaTransition c.state (Stack.top c.stack) = true) : ∃ c', Step M.moves c c' := by
  cases hX : Stack.top c.stack with
  | none => rw [hX] at h; cases h
  | some X =>
    rw [hX] at h
    obtain ⟨e, he⟩ := Option.isSome_iff_exists.mp h
    exact ⟨_, (step_iff _ _ _).mpr ⟨(none, e.1, e.2), ⟨X, hX, he, .inl rfl⟩, rfl⟩⟩

/-- One iteration of the loop from a configuration that is not accepting.  The guard decides
nothing: where it fails there is no move and `_get_next_configuration` would raise as well; where it
holds, `_get_next_configuration` raises `RejectionException` only. -/
theorem DPDA.loop_succ (M : DPDA σ α γ) (pick : Config σ α γ → Bool) (fuel : Nat) {cur : Config σ α γ}
    (hna : M.hasAccepted cur = false) :
    M.loop pick (fuel + 1) cur =
      match M.nextConfig pick cur with
      | .error _ => ([], .raised (.lib .rejectionException))
      | .ok nxt =>
        match M.hasAccepted nxt with
        | true => ([nxt], .returned)
        | false => (nxt :: (M.loop pick fuel nxt).1, (M.loop pick fuel nxt).2) := by
  rw [DPDA.loop]
  cases hg : ((!cur.input.isEmpty) || M.hasLambdaTransition cur.state (Stack.top cur.stack)) with
  | false =>
    simp only [Bool.or_eq_false_iff, Bool.not_eq_false', List.isEmpty_iff] at hg
    cases hn : M.nextConfig pick cur with
    | ok nxt =>
      exact absurd (M.nextConfig_sound pick cur nxt hn) (no_step_of_guard M (fun _ _ _ _ => M.moves_isSome) hg.1 hg.2)
    | error e => simp only [DPDA.checkForInputRejection, hna]
  | true =>
    cases hn : M.nextConfig pick cur with
    | ok nxt => rfl
    | error e =>
      -- the `IndexError` (no input left) cannot occur: the guard then promises a λ-move
      obtain ⟨hns, ⟨_, rfl⟩ | ⟨hi, _⟩⟩ := M.nextConfig_error pick cur e hn
      · rfl
      · simp only [hi, List.isEmpty_nil, Bool.not_true, Bool.false_or] at hg
        exact absurd (M.exists_step_of_lambda cur hg) hns

/-- What `loop pick fuel cur` does when `cur` — already yielded and found not accepting — is
reachable from `c₀` in `j` moves. -/
structure DPDA.LoopSpec (M : DPDA σ α γ) (c₀ : Config σ α γ) (fuel j : Nat) (cur : Config σ α γ)
    (r : List (Config σ α γ) × Outcome) : Prop where
  len : r.1.length ≤ fuel
  level : ∀ i c, r.1[i]? = some c → StepN M.moves (j + 1 + i) c₀ c
  chain : ∀ i c c', (cur :: r.1)[i]? = some c → (cur :: r.1)[i + 1]? = some c' → Step M.moves c c'
  before : ∀ i c, r.1[i]? = some c → i + 1 < r.1.length → M.hasAccepted c = false
  returned : r.2 = .returned ↔ ∃ c, r.1.getLast? = some c ∧ M.hasAccepted c = true
  rejected : r.2 = .raised (.lib .rejectionException) ↔
    r.1.length < fuel ∧ M.hasAccepted ((r.1.getLast?).getD cur) = false ∧
      ¬ ∃ c', Step M.moves ((r.1.getLast?).getD cur) c'
  fuelOut : r.2 = .outOfFuel ↔ r.1.length = fuel ∧ M.hasAccepted ((r.1.getLast?).getD cur) = false
  onlyRej : ∀ e, r.2 = .raised e → e = .lib .rejectionException

section
variable {M : DPDA σ α γ} {c₀ cur nxt : Config σ α γ} {fuel j : Nat}

theorem DPDA.LoopSpec.of_no_fuel (hna : M.hasAccepted cur = false) :
    DPDA.LoopSpec M c₀ 0 j cur ([], .outOfFuel) :=
  { len := Nat.le_refl _, level := fun _ _ h => (nomatch h), chain := fun _ _ _ _ h => (nomatch h),
    before := fun _ _ h => (nomatch h), returned := by simp, rejected := by simp,
    fuelOut := ⟨fun _ => ⟨rfl, hna⟩, fun _ => rfl⟩, onlyRej := fun _ h => (nomatch h) }

theorem DPDA.LoopSpec.of_no_step (hna : M.hasAccepted cur = false) (hns : ¬ ∃ c', Step M.moves cur c') :
    DPDA.LoopSpec M c₀ (fuel + 1) j cur ([], .raised (.lib .rejectionException)) :=
  { len := Nat.zero_le _, level := fun _ _ h => (nomatch h), chain := fun _ _ _ _ h => (nomatch h),
    before := fun _ _ h => (nomatch h), returned := by simp,
    rejected := ⟨fun _ => ⟨Nat.succ_pos _, hna, hns⟩, fun _ => rfl⟩,
    fuelOut := ⟨fun h => (nomatch h), fun h => (nomatch h.1)⟩,
    onlyRej := fun _ h => by cases h; rfl }

theorem DPDA.LoopSpec.last (hstep : Step M.moves cur nxt) (hnxt : StepN M.moves (j + 1) c₀ nxt)
    (ha : M.hasAccepted nxt = true) :
    DPDA.LoopSpec M c₀ (fuel + 1) j cur ([nxt], .returned) := by
  refine { len := Nat.succ_le_succ (Nat.zero_le _), level := ?_, chain := ?_,
           before := fun _ _ _ h => absurd (Nat.lt_of_succ_lt_succ h) (Nat.not_lt_zero _), returned := by simp [ha],
           rejected := by simp [ha], fuelOut := by simp [ha], onlyRej := fun _ h => (nomatch h) }
  · rintro (_ | i) c hc
    · cases hc; exact hnxt
    · cases hc
  · rintro (_ | i) c c' hc hc'
    · cases hc; cases hc'; exact hstep
    · cases hc'

theorem DPDA.LoopSpec.cons {r : List (Config σ α γ) × Outcome} (hstep : Step M.moves cur nxt)
    (hnxt : StepN M.moves (j + 1) c₀ nxt) (ha : M.hasAccepted nxt = false)
    (IH : DPDA.LoopSpec M c₀ fuel (j + 1) nxt r) :
    DPDA.LoopSpec M c₀ (fuel + 1) j cur (nxt :: r.1, r.2) := by
  refine { len := Nat.succ_le_succ IH.len, level := ?_, chain := ?_, before := ?_, returned := ?_,
           rejected := ?_, fuelOut := ?_, onlyRej := IH.onlyRej }
  · rintro (_ | i) c hc
    · cases hc; exact hnxt
    · rw [show j + 1 + (i + 1) = j + 1 + 1 + i by omega]; exact IH.level i c hc
  · rintro (_ | i) c c' hc hc'
    · cases hc; cases hc'; exact hstep
    · exact IH.chain i c c' hc hc'
  · rintro (_ | i) c hc hi
    · cases hc; exact ha
    · exact IH.before i c hc (Nat.lt_of_succ_lt_succ hi)
  · rw [IH.returned]
    cases r.1 with
    | nil => simp [ha]
    | cons b t => simp [List.getLast?_cons_cons]
  · rw [List.length_cons, List.getLast?_cons, Option.getD_some, Nat.succ_lt_succ_iff]; exact IH.rejected
  · rw [List.length_cons, List.getLast?_cons, Option.getD_some, Nat.succ.injEq]; exact IH.fuelOut

end

theorem DPDA.loop_spec (M : DPDA σ α γ) (pick : Config σ α γ → Bool) (c₀ : Config σ α γ) :
    ∀ (fuel j : Nat) (cur : Config σ α γ), StepN M.moves j c₀ cur → M.hasAccepted cur = false →
      DPDA.LoopSpec M c₀ fuel j cur (M.loop pick fuel cur) := by
  intro fuel
  induction fuel with
  | zero => intro j cur _ hna; exact .of_no_fuel hna
  | succ fuel ih =>
    intro j cur hcur hna
    rw [M.loop_succ pick fuel hna]
    cases hn : M.nextConfig pick cur with
    | error e => exact .of_no_step hna (M.nextConfig_error pick cur e hn).1
    | ok nxt =>
      have hstep := M.nextConfig_sound pick cur nxt hn
      cases ha : M.hasAccepted nxt with
      | true => simp only [ha]; exact .last hstep (.succ hcur hstep) ha
      | false => simp only [ha]; exact .cons hstep (.succ hcur hstep) ha (ih _ nxt (.succ hcur hstep) ha)

theorem DPDA.loop_mono (M : DPDA σ α γ) (pick : Config σ α γ → Bool) :
    ∀ (fuel : Nat) (cur : Config σ α γ) (d : Nat), (M.loop pick fuel cur).2 ≠ .outOfFuel →
      M.loop pick (fuel + d) cur = M.loop pick fuel cur := by
  refine fun fuel cur d h => stable_of_step (loop := M.loop pick) (fun _ h => absurd rfl h) (fun cur => ?_) fuel cur h d
  cases hg : ((!cur.input.isEmpty) || M.hasLambdaTransition cur.state (Stack.top cur.stack)) with
  | false => exact .inl ⟨([], M.checkForInputRejection cur), fun _ => by simp only [DPDA.loop, hg]⟩
  | true =>
    cases hn : M.nextConfig pick cur with
    | error e => exact .inl ⟨([], .raised e), fun _ => by simp only [DPDA.loop, hg, hn]⟩
    | ok nxt =>
      cases ha : M.hasAccepted nxt with
      | true => exact .inl ⟨([nxt], .returned), fun _ => by simp only [DPDA.loop, hg, hn, ha]⟩
      | false => exact .inr ⟨[nxt], nxt, fun _ => by simp only [DPDA.loop, hg, hn, ha, List.singleton_append]⟩

theorem DPDA.readStepwise_mono (M : DPDA σ α γ) (pick : Config σ α γ → Bool) (fuel fuel' : Nat)
    (w : List α) (h : (M.readStepwise pick fuel w).2 ≠ .outOfFuel) (hle : fuel ≤ fuel') :
    M.readStepwise pick fuel' w = M.readStepwise pick fuel w := by
  obtain ⟨d, rfl⟩ := Nat.le.dest hle
  unfold DPDA.readStepwise at h ⊢
  cases ha : M.hasAccepted (M.start w) with
  | true => simp only [ha]
  | false =>
    simp only [ha] at h ⊢
    rw [M.loop_mono pick fuel _ d h]

theorem DPDA.getTransition_not_both (M : DPDA σ α γ) (hdet : ¬ M.TwoMoves) {q : σ} {top : Option γ} {a : α}
    {t t' : Trans σ α γ} (h : M.getTransition q none top = some t)
    (h' : M.getTransition q (some a) top = some t') : False := by
  obtain ⟨X, hX, hm, _⟩ := (M.getTransition_eq_some ..).mp h
  obtain ⟨X', hX', hm', _⟩ := (M.getTransition_eq_some ..).mp h'
  obtain rfl : X = X' := Option.some.inj (hX.symm.trans hX')
  exact hdet ⟨q, a, X, M.moves_isSome hm', M.moves_isSome hm⟩

theorem DPDA.step_functional (M : DPDA σ α γ) (hdet : ¬ M.TwoMoves) {c c₁ c₂ : Config σ α γ}
    (h₁ : Step M.moves c c₁) (h₂ : Step M.moves c c₂) : c₁ = c₂ := by
  obtain ⟨t₁, e₁, rfl⟩ := (step_iff _ _ _).mp h₁
  obtain ⟨t₂, e₂, rfl⟩ := (step_iff _ _ _).mp h₂
  simp only [enabled_iff, ← M.getTransition_eq_some] at e₁ e₂
  -- two enabled transitions with the same symbol are the same table entry
  rcases e₁ with h | ⟨a, ha, h⟩ <;> rcases e₂ with h' | ⟨a', ha', h'⟩
  · rw [Option.some.inj (h.symm.trans h')]
  · exact (M.getTransition_not_both hdet h h').elim
  · exact (M.getTransition_not_both hdet h' h).elim
  · obtain rfl : a = a' := Option.some.inj (ha.symm.trans ha')
    rw [Option.some.inj (h.symm.trans h')]

theorem DPDA.twoMoves_iff (M : DPDA σ α γ) :
    M.TwoMoves ↔ ∃ c c₁ c₂ : Config σ α γ, Step M.moves c c₁ ∧ Step M.moves c c₂ ∧ c₁ ≠ c₂ := by
  constructor
  · rintro ⟨q, a, X, h₁, h₂⟩
    obtain ⟨e₁, he₁⟩ := Option.isSome_iff_exists.mp h₁
    obtain ⟨e₂, he₂⟩ := Option.isSome_iff_exists.mp h₂
    refine ⟨⟨q, [a], [] ++ [X]⟩, ⟨e₁.1, [], [] ++ e₁.2.reverse⟩, ⟨e₂.1, [a], [] ++ e₂.2.reverse⟩,
      .read (by exact he₁), .eps (by exact he₂), ?_⟩
    intro h
    have := congrArg Config.input h
    simp at this
  · rintro ⟨c, c₁, c₂, h₁, h₂, hne⟩
    apply Classical.byContradiction
    intro hdet
    exact hne (M.step_functional hdet h₁ h₂)

/-- `pick` is consulted only when both transitions exist. -/
theorem DPDA.nextConfig_pick (M : DPDA σ α γ) (hdet : ¬ M.TwoMoves) (pick pick' : Config σ α γ → Bool)
    (c : Config σ α γ) : M.nextConfig pick c = M.nextConfig pick' c := by
  obtain ⟨q, inp, st⟩ := c
  cases inp with
  | nil => cases h2 : M.getTransition q none (Stack.top st) <;> simp only [DPDA.nextConfig, h2]
  | cons a w =>
    cases h1 : M.getTransition q (some a) (Stack.top st) with
    | none => cases h2 : M.getTransition q none (Stack.top st) <;> simp only [DPDA.nextConfig, h1, h2]
    | some t₁ =>
      cases h2 : M.getTransition q none (Stack.top st) with
      | none => simp only [DPDA.nextConfig, h1, h2]
      | some t₂ => exact (M.getTransition_not_both hdet h2 h1).elim

theorem DPDA.loop_pick (M : DPDA σ α γ) (hdet : ¬ M.TwoMoves) (pick pick' : Config σ α γ → Bool) :
    ∀ (fuel : Nat) (cur : Config σ α γ), M.loop pick fuel cur = M.loop pick' fuel cur := by
  intro fuel
  induction fuel with
  | zero => intro cur; rfl
  | succ fuel ih =>
    intro cur
    simp only [DPDA.loop, M.nextConfig_pick hdet pick pick' cur, ih]

theorem DPDA.lift_entry? (M : DPDA σ α γ) (q : σ) (a : Option α) (X : γ) :
    M.lift.entry? q a X = (M.entry? q a X).map fun e => [e] := by
  simp only [Table.entry?_eq_bind, DPDA.lift, alookup_map_val, alookup_map_val (fun e : σ × List γ => [e]),
    Option.bind_map, Option.map_bind, Function.comp_def]

theorem DPDA.lift_moves (M : DPDA σ α γ) (q : σ) (a : Option α) (X : γ) (p : σ) (push : List γ) :
    M.lift.moves q a X p push ↔ M.moves q a X p push := by
  simp only [NPDA.moves, DPDA.moves, DPDA.lift_entry?]
  cases M.entry? q a X with
  | none => simp
  | some e =>
    simp only [Option.map_some, Option.some.injEq, exists_eq_left', List.mem_singleton]
    exact eq_comm

omit [DecidableEq α] [DecidableEq γ] in
theorem DPDA.lift_hasAccepted (M : DPDA σ α γ) : M.lift.hasAccepted = M.hasAccepted := rfl

theorem DPDA.lift_moves_eq (M : DPDA σ α γ) : M.lift.moves = M.moves := by
  funext q a X p push
  exact propext (M.lift_moves q a X p push)

theorem DPDA.mem_lift_addSuccessors (M : DPDA σ α γ) (c x : Config σ α γ) :
    x ∈ M.lift.addSuccessors [] c ↔ Step M.moves c x := by
  rw [NPDA.mem_addSuccessors, NPDA.mem_nextConfigs, M.lift_moves_eq]
  simp

theorem DPDA.lift_addSuccessors_of_step (M : DPDA σ α γ) (hdet : ¬ M.TwoMoves) {c c' : Config σ α γ}
    (h : Step M.moves c c') : M.lift.addSuccessors [] c = [c'] :=
  eq_singleton_of_nodup (M.lift.nodup_addSuccessors List.nodup_nil c) ((M.mem_lift_addSuccessors c c').mpr h)
    fun x hx => M.step_functional hdet ((M.mem_lift_addSuccessors c x).mp hx) h

theorem DPDA.lift_addSuccessors_of_no_step (M : DPDA σ α γ) {c : Config σ α γ}
    (h : ¬ ∃ c', Step M.moves c c') : M.lift.addSuccessors [] c = [] :=
  List.eq_nil_iff_forall_not_mem.mpr fun x hx => h ⟨x, (M.mem_lift_addSuccessors c x).mp hx⟩

/-- The levels the lifted reader yields after the singletons of the DPDA's configurations: none
when the DPDA returns; otherwise the level after the last configuration (empty when the DPDA
rejects), which the NPDA loop computes and yields before it looks at it. -/
def DPDA.tailLevel (M : DPDA σ α γ) (last : Config σ α γ) : Outcome → List (List (Config σ α γ))
  | .returned => []
  | _ => [M.lift.addSuccessors [] last]

/-- **The DPDA reader is the NPDA reader on singleton levels** (deterministic table): one more
iteration of the NPDA loop yields the DPDA's configurations as singleton sets, then `tailLevel`,
and ends the same way. -/
theorem DPDA.lift_run (M : DPDA σ α γ) (hdet : ¬ M.TwoMoves) (pick : Config σ α γ → Bool) :
    ∀ (fuel : Nat) (cur : Config σ α γ), M.hasAccepted cur = false →
      M.lift.run (fuel + 1) [cur] =
        ((M.loop pick fuel cur).1.map ([·]) ++
          M.tailLevel (((M.loop pick fuel cur).1.getLast?).getD cur) (M.loop pick fuel cur).2,
         (M.loop pick fuel cur).2) := by
  intro fuel
  induction fuel with
  | zero =>
    intro cur hna
    rw [NPDA.run_singleton, M.lift_hasAccepted, hna]
    simp [DPDA.loop, NPDA.run, DPDA.tailLevel]
  | succ fuel ih =>
    intro cur hna
    rw [NPDA.run_singleton, M.lift_hasAccepted, hna, M.loop_succ pick fuel hna]
    cases hn : M.nextConfig pick cur with
    | error e =>
      -- without a move from `cur` the next level is empty and both readers reject
      simp [M.lift_addSuccessors_of_no_step (M.nextConfig_error pick cur e hn).1, NPDA.run, DPDA.tailLevel]
    | ok nxt =>
      have hstep := M.nextConfig_sound pick cur nxt hn
      rw [M.lift_addSuccessors_of_step hdet hstep]
      cases ha : M.hasAccepted nxt with
      | true =>
        simp [NPDA.run_singleton, M.lift_hasAccepted, ha, DPDA.tailLevel]
      | false =>
        simp only [ha, ih nxt ha, List.map_cons, List.cons_append, List.getLast?_cons, Option.getD_some]

theorem DPDA.lift_readStepwise (M : DPDA σ α γ) (hdet : ¬ M.TwoMoves) (pick : Config σ α γ → Bool)
    (fuel : Nat) (w : List α) :
    M.lift.readStepwise (fuel + 1) w =
      ((M.readStepwise pick fuel w).1.map ([·]) ++
        M.tailLevel (((M.readStepwise pick fuel w).1.getLast?).getD (M.start w)) (M.readStepwise pick fuel w).2,
       (M.readStepwise pick fuel w).2) := by
  unfold NPDA.readStepwise DPDA.readStepwise
  show (([M.start w] :: (M.lift.run (fuel + 1) [M.start w]).1, (M.lift.run (fuel + 1) [M.start w]).2) :
    List (List (Config σ α γ)) × Outcome) = _
  cases ha : M.hasAccepted (M.start w) with
  | true =>
    simp [NPDA.run_singleton, M.lift_hasAccepted, ha, DPDA.tailLevel]
  | false =>
    simp only [ha, M.lift_run hdet pick fuel _ ha, List.map_cons, List.cons_append, List.getLast?_cons, Option.getD_some]

theorem DPDA.lift_outcome (M : DPDA σ α γ) (hdet : ¬ M.TwoMoves) (pick : Config σ α γ → Bool)
    (fuel : Nat) (w : List α) :
    (M.lift.readStepwise (fuel + 1) w).2 = (M.readStepwise pick fuel w).2 := by
  rw [M.lift_readStepwise hdet pick]

theorem DPDA.exists_outcome_lift (M : DPDA σ α γ) (hdet : ¬ M.TwoMoves) (pick : Config σ α γ → Bool)
    (w : List α) {o : Outcome} (ho : o ≠ .outOfFuel) :
    (∃ fuel, (M.readStepwise pick fuel w).2 = o) ↔ ∃ fuel, (M.lift.readStepwise fuel w).2 = o := by
  constructor
  · rintro ⟨f, h⟩; exact ⟨f + 1, by rw [M.lift_outcome hdet pick, h]⟩
  · rintro ⟨f, h⟩
    cases f with
    | zero => exact absurd h.symm ho
    | succ f => exact ⟨f, by rw [← M.lift_outcome hdet pick, h]⟩

/-- What `DPDA.read_input_stepwise` does (any table, any set order `pick`). -/
structure DPDA.ReadSpec (M : DPDA σ α γ) (w : List α) (fuel : Nat)
    (r : List (Config σ α γ) × Outcome) : Prop where
  head : r.1[0]? = some (M.start w)
  chain : ∀ k c c', r.1[k]? = some c → r.1[k + 1]? = some c' → Step M.moves c c'
  level : ∀ k c, r.1[k]? = some c → StepN M.moves k (M.start w) c
  lenPos : 1 ≤ r.1.length
  len : r.1.length ≤ fuel + 1
  before : ∀ k c, r.1[k]? = some c → k + 1 < r.1.length → M.hasAccepted c = false
  returned : r.2 = .returned ↔ ∃ c, r.1.getLast? = some c ∧ M.hasAccepted c = true
  rejected : r.2 = .raised (.lib .rejectionException) ↔
    r.1.length ≤ fuel ∧ ∃ c, r.1.getLast? = some c ∧ M.hasAccepted c = false ∧ ¬ ∃ c', Step M.moves c c'
  fuelOut : r.2 = .outOfFuel ↔
    r.1.length = fuel + 1 ∧ ∃ c, r.1.getLast? = some c ∧ M.hasAccepted c = false
  onlyRej : ∀ e, r.2 = .raised e → e = .lib .rejectionException

theorem DPDA.ReadSpec.of_accepting {M : DPDA σ α γ} {w : List α} {fuel : Nat}
    (ha : M.hasAccepted (M.start w) = true) : DPDA.ReadSpec M w fuel ([M.start w], .returned) := by
  refine { head := rfl, chain := fun _ _ _ _ h => (nomatch h), level := ?_, lenPos := Nat.le_refl _,
           len := Nat.succ_le_succ (Nat.zero_le _), before := fun _ _ _ h => absurd (Nat.lt_of_succ_lt_succ h) (Nat.not_lt_zero _),
           returned := by simp [ha], rejected := by simp [ha], fuelOut := by simp [ha],
           onlyRej := fun _ h => (nomatch h) }
  rintro (_ | k) c hc
  · cases hc; exact .zero _
  · cases hc

theorem DPDA.ReadSpec.of_loop {M : DPDA σ α γ} {w : List α} {fuel : Nat}
    {r : List (Config σ α γ) × Outcome} (ha : M.hasAccepted (M.start w) = false)
    (S : DPDA.LoopSpec M (M.start w) fuel 0 (M.start w) r) :
    DPDA.ReadSpec M w fuel (M.start w :: r.1, r.2) := by
  refine { head := rfl, chain := S.chain, level := ?_, lenPos := Nat.succ_le_succ (Nat.zero_le _),
           len := Nat.succ_le_succ S.len, before := ?_, returned := ?_, rejected := ?_, fuelOut := ?_,
           onlyRej := S.onlyRej }
  · rintro (_ | k) c hc
    · cases hc; exact .zero _
    · have := S.level k c hc
      rwa [show 0 + 1 + k = k + 1 by omega] at this
  · rintro (_ | k) c hc hk
    · cases hc; exact ha
    · exact S.before k c hc (Nat.lt_of_succ_lt_succ hk)
  · rw [S.returned]
    cases r.1 with
    | nil => simp [ha]
    | cons b t => simp [List.getLast?_cons_cons]
  · rw [S.rejected, List.length_cons, List.getLast?_cons]
    simp only [Nat.succ_le_iff, Option.some.injEq, exists_eq_left']
  · rw [S.fuelOut, List.length_cons, List.getLast?_cons]
    simp only [Nat.succ.injEq, Option.some.injEq, exists_eq_left']

theorem DPDA.readStepwise_spec (M : DPDA σ α γ) (pick : Config σ α γ → Bool) (fuel : Nat) (w : List α) :
    DPDA.ReadSpec M w fuel (M.readStepwise pick fuel w) := by
  unfold DPDA.readStepwise
  cases ha : M.hasAccepted (M.start w) with
  | true => simp only [ha]; exact .of_accepting ha
  | false => simp only [ha]; exact .of_loop ha (M.loop_spec pick _ fuel 0 _ (.zero _) ha)

end AV.PDA
