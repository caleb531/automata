/-
Proofs/Partial.lean — `to_partial(minify=False)` (core only).

`coaccessible` is co-reachability (a state from which some final state can be reached);
a run that enters a state outside it can never be accepted, and a run that stays among
the kept states is mirrored step by step by the pruned DFA.  `partialStates` names the state
list of `toPartialPlain` for the proofs (`toPartialPlain_states`).
-/
import AutomataVerif.Proofs.Complete
import AutomataVerif.Proofs.MinPrepass

namespace AV
namespace C04
open DFA

variable {σ α : Type} [DecidableEq σ] [DecidableEq α]

section
omit [DecidableEq α]

theorem toPartialPlain_states (d : DFA σ α) : d.toPartialPlain.states = d.partialStates := by
  delta partialStates; simp only [toPartialPlain]

theorem toPartialPlain_trans (d : DFA σ α) : d.toPartialPlain.trans =
    (d.trans.filter fun kv => decide (kv.1 ∈ d.partialStates)).map fun kv =>
      (kv.1, kv.2.filter fun e => decide (e.2 ∈ d.coaccessible)) := by
  delta partialStates; simp only [toPartialPlain]

theorem toPartialPlain_finals (d : DFA σ α) :
    d.toPartialPlain.finals = d.finals.filter fun q => decide (q ∈ d.partialStates) := by
  delta partialStates; simp only [toPartialPlain]

-- By unfolding: `rfl` would first try to unify `d.toPartialPlain` with `d` field by field.
@[simp] theorem toPartialPlain_init (d : DFA σ α) : d.toPartialPlain.init = d.init := by
  simp only [toPartialPlain]

@[simp] theorem toPartialPlain_syms (d : DFA σ α) : d.toPartialPlain.syms = d.syms := by
  simp only [toPartialPlain]

@[simp] theorem toPartialPlain_allowPartial (d : DFA σ α) : d.toPartialPlain.allowPartial = true := by
  simp only [toPartialPlain]

end

theorem partialStates_step {d : DFA σ α} (wf : d.WF) {q t : σ} {a : α} (hq : q ∈ d.partialStates)
    (h : d.step? (some q) a = some t) (ht : t ∈ d.coaccessible) : t ∈ d.partialStates :=
  mem_partialStates.mpr (Or.inr ⟨accessible_step wf (partialStates_accessible wf hq) h, ht⟩)

section toPartial
variable {d : DFA σ α}

omit [DecidableEq α] in
theorem init_mem_partialStates : d.init ∈ d.partialStates := mem_partialStates.mpr (Or.inl rfl)

omit [DecidableEq α] in
theorem toPartialPlain_row {q : σ} (hq : q ∈ d.partialStates) :
    d.toPartialPlain.row q = (d.row q).filter fun e => decide (e.2 ∈ d.coaccessible) := by
  unfold row row?
  rw [toPartialPlain_trans, getD_alookup_map_val rfl,
    getD_alookup_filter_key (fun k => decide (k ∈ d.partialStates)), decide_eq_true hq, if_pos rfl]

theorem toPartialPlain_step? (p : d.PyShape) {q : σ} (hq : q ∈ d.partialStates) (a : α) :
    d.toPartialPlain.step? (some q) a =
      (d.step? (some q) a).filter fun t => decide (t ∈ d.coaccessible) := by
  simp only [step?]
  rw [toPartialPlain_row hq]
  exact alookup_filter_val (fun t => decide (t ∈ d.coaccessible)) (p.row_nodup q) a

omit [DecidableEq α] in
theorem toPartialPlain_isFinal {q : σ} (hq : q ∈ d.partialStates) :
    d.toPartialPlain.isFinal (some q) = d.isFinal (some q) := by
  simp only [isFinal, toPartialPlain_finals, List.mem_filter, hq, decide_true, and_true]

theorem toPartialPlain_accepts (wf : d.WF) (p : d.PyShape) (w : List α) :
    d.toPartialPlain.accepts w = d.accepts w := by
  unfold accepts
  rw [toPartialPlain_init]
  -- both runs are at the same kept state until the pruned run stops, at a dead state of `d`
  exact isFinal_run_prune (g := d.toPartialPlain.step?) (fin := d.toPartialPlain.isFinal)
    (K := (· ∈ d.partialStates)) (keep := fun t => decide (t ∈ d.coaccessible))
    (fun _ => rfl) rfl (fun _ => toPartialPlain_isFinal) (fun _ hq a => toPartialPlain_step? p hq a)
    (fun _ hq _ _ hs ht => partialStates_step wf hq hs (of_decide_eq_true ht))
    (fun _ _ _ _ _ ht hl => of_decide_eq_false ht (coaccessible_of_live wf hl))
    init_mem_partialStates w

omit [DecidableEq α] in
theorem mem_toPartialPlain_trans {kv : σ × List (α × σ)} (h : kv ∈ d.toPartialPlain.trans) :
    ∃ kv₀ ∈ d.trans, kv₀.1 ∈ d.partialStates ∧
      kv = (kv₀.1, kv₀.2.filter fun e => decide (e.2 ∈ d.coaccessible)) := by
  rw [toPartialPlain_trans] at h
  obtain ⟨kv₀, h₀, rfl⟩ := List.mem_map.mp h
  obtain ⟨hm, hp⟩ := List.mem_filter.mp h₀
  exact ⟨kv₀, hm, of_decide_eq_true hp, rfl⟩

omit [DecidableEq α] in
theorem toPartialPlain_keys : akeys d.toPartialPlain.trans =
    akeys (d.trans.filter fun kv => decide (kv.1 ∈ d.partialStates)) := by
  rw [toPartialPlain_trans]
  exact akeys_map_val _ _

theorem toPartialPlain_wf (wf : d.WF) (p : d.PyShape) : d.toPartialPlain.WF where
  rows := by
    intro q hq
    rw [toPartialPlain_states] at hq
    obtain ⟨r, hr⟩ := row?_some_of_mem wf ((kept_partialStates wf).sub q hq)
    rw [toPartialPlain_keys]
    exact List.mem_map.mpr
      ⟨(q, r), List.mem_filter.mpr ⟨alookup_some_mem hr, decide_eq_true hq⟩, rfl⟩
  complete := fun h => by rw [toPartialPlain_allowPartial] at h; cases h
  symsOk := by
    intro kv hkv a ha
    obtain ⟨kv₀, h₀, _, rfl⟩ := mem_toPartialPlain_trans hkv
    rw [toPartialPlain_syms]
    exact wf.symsOk kv₀ h₀ a ((akeys_filter_sublist _ _).subset ha)
  tgtOk := by
    intro kv hkv t ht
    obtain ⟨kv₀, h₀, hk, rfl⟩ := mem_toPartialPlain_trans hkv
    obtain ⟨e, he, rfl⟩ := List.mem_map.mp ht
    obtain ⟨hm, hc⟩ := List.mem_filter.mp he
    have hrow : d.row? kv₀.1 = some kv₀.2 := alookup_of_mem_nodup p.keys_nodup h₀
    have hstep : d.step? (some kv₀.1) e.1 = some e.2 := by
      simp only [step?, row, hrow, Option.getD_some]
      exact alookup_of_mem_nodup (p.rows_nodup kv₀ h₀) hm
    rw [toPartialPlain_states]
    exact partialStates_step wf hk hstep (of_decide_eq_true hc)
  initOk := by rw [toPartialPlain_states, toPartialPlain_init]; exact init_mem_partialStates
  finalsOk := by
    intro q hq
    rw [toPartialPlain_finals] at hq
    rw [toPartialPlain_states]
    exact of_decide_eq_true (List.mem_filter.mp hq).2

theorem toPartialPlain_pyShape (wf : d.WF) (p : d.PyShape) : d.toPartialPlain.PyShape where
  states_nodup := by rw [toPartialPlain_states]; exact (kept_partialStates wf).nodup
  syms_nodup := by rw [toPartialPlain_syms]; exact p.syms_nodup
  finals_nodup := by
    rw [toPartialPlain_finals]; exact List.Nodup.sublist List.filter_sublist p.finals_nodup
  keys_nodup := by
    rw [toPartialPlain_keys]
    exact nodup_akeys_filter _ p.keys_nodup
  rows_nodup := by
    intro kv hkv
    obtain ⟨kv₀, h₀, _, rfl⟩ := mem_toPartialPlain_trans hkv
    exact nodup_akeys_filter _ (p.rows_nodup kv₀ h₀)

theorem toPartialPlain_result (wf : d.WF) (p : d.PyShape) :
    Result d.syms d.toPartialPlain d.accepts :=
  ⟨(validate_eq_ok _).mpr (toPartialPlain_wf wf p), toPartialPlain_pyShape wf p,
    toPartialPlain_syms d, toPartialPlain_accepts wf p⟩

end toPartial

end C04
end AV
