/-
Proofs/RandomSel.lean — `random_word` (Model/DFAQuery.lean): WHICH word the recorded `randint`
results select.  `Sel` follows the word and does not mention the loop; it is exactly the event
"`random_word(k)` returns `w`", so that uniformity (Props/C13.lean) is a statement about the
output of `randomWord`.  Core only.
-/
import AutomataVerif.Proofs.Random

namespace AV
namespace DFA

variable {σ α : Type} [DecidableEq σ] [DecidableEq α]

/-- The outcomes `cs` select the word `w` from the state `q` with `r` symbols to go: the first
outcome picks an edge `(a, t)` of the row of `q` (count-weighted, `pickEdge` with the counts of
the level below), `a` is the first symbol of `w`, and the remaining outcomes select the rest of
`w` from `t`; with no symbol to go the word is empty and the state is final (the `assert`). -/
def Sel (d : DFA σ α) : Nat → σ → List Nat → List α → Prop
  | 0, q, _, w => w = [] ∧ q ∈ d.finals
  | r + 1, q, cs, w =>
      ∃ a t w', w = a :: w' ∧ pickEdge (d.cnt r) (d.row q) (cs.headD 0) = some (a, t) ∧
        Sel d r t cs.tail w'

namespace RandSel

set_option linter.unusedSectionVars false in
theorem sel_zero (d : DFA σ α) (q : σ) (cs : List Nat) (w : List α) :
    d.Sel 0 q cs w ↔ w = [] ∧ q ∈ d.finals := Iff.rfl

omit [DecidableEq α] in
theorem sel_cons (d : DFA σ α) (r : Nat) (q : σ) (c : Nat) (cs : List Nat) (a : α) (w : List α) :
    d.Sel (r + 1) q (c :: cs) (a :: w) ↔
      ∃ t, pickEdge (d.cnt r) (d.row q) c = some (a, t) ∧ d.Sel r t cs w := by
  constructor
  · rintro ⟨a', t, w', hw, hp, hs⟩
    cases hw
    exact ⟨t, hp, hs⟩
  · rintro ⟨t, hp, hs⟩
    exact ⟨a, t, w, rfl, hp, hs⟩

set_option linter.unusedSectionVars false in
theorem not_sel_succ_nil (d : DFA σ α) (r : Nat) (q : σ) (cs : List Nat) : ¬ d.Sel (r + 1) q cs [] := by
  rintro ⟨a, t, w', hw, _⟩
  cases hw

theorem sel_cons_of_step {d : DFA σ α} (hd : d.IsDict) {q t : σ} {a : α}
    (hs : d.step? (some q) a = some t) (r c : Nat) (cs : List Nat) (w : List α) :
    d.Sel (r + 1) q (c :: cs) (a :: w) ↔
      pickEdge (d.cnt r) (d.row q) c = some (a, t) ∧ d.Sel r t cs w := by
  rw [sel_cons]
  constructor
  · rintro ⟨t', hp, hsel⟩
    cases (mem_row_lookup hd (pickEdge_mem hp)).symm.trans hs
    exact ⟨hp, hsel⟩
  · rintro ⟨hp, hsel⟩
    exact ⟨t, hp, hsel⟩

omit [DecidableEq α] in
theorem sel_unique (d : DFA σ α) : ∀ (r : Nat) (q : σ) (cs : List Nat) (w w' : List α),
    d.Sel r q cs w → d.Sel r q cs w' → w = w' := by
  intro r
  induction r with
  | zero =>
    intro q cs w w' h h'
    rw [h.1, h'.1]
  | succ r ih =>
    rintro q cs w w' ⟨a, t, v, hw, hp, hs⟩ ⟨a', t', v', hw', hp', hs'⟩
    rw [hp] at hp'
    cases hp'
    rw [hw, hw', ih t cs.tail v v' hs hs']

theorem sel_accepts {d : DFA σ α} (hd : d.IsDict) : ∀ (r : Nat) (q : σ) (cs : List Nat) (w : List α),
    d.Sel r q cs w → w.length = r ∧ d.acceptsFrom q w = true := by
  intro r
  induction r with
  | zero =>
    rintro q cs w ⟨rfl, hq⟩
    exact ⟨rfl, (acceptsFrom_nil d q).mpr hq⟩
  | succ r ih =>
    rintro q cs w ⟨a, t, v, rfl, hp, hs⟩
    obtain ⟨hl, hacc⟩ := ih t cs.tail v hs
    exact ⟨by simp [hl],
      (acceptsFrom_cons d q a v).mpr ⟨t, mem_row_lookup hd (pickEdge_mem hp), hacc⟩⟩

section
omit [DecidableEq α]

theorem sel_inRange {d : DFA σ α} (wf : d.WF) : ∀ (r : Nat) (q : σ) (cs : List Nat) (w : List α),
    q ∈ d.states → d.Sel r q cs w → d.InRange r q cs := by
  intro r
  induction r with
  | zero => intro q cs w _ _; trivial
  | succ r ih =>
    rintro q cs w hq ⟨a, t, v, _, hp, hs⟩
    have ht : t ∈ d.states := pickEdge_state wf hp
    refine ⟨?_, ?_⟩
    · rw [cnt_succ]
      simp only [hq, if_true]
      rcases Nat.lt_or_ge (cs.headD 0) (weight (d.cnt r) (d.row q)) with hlt | hge
      · exact hlt
      · rw [pickEdge_none_of_ge hge] at hp
        cases hp
    · rw [hp]
      exact ih t cs.tail v ht hs

theorem randomWordLoop_sel {d : DFA σ α} (wf : d.WF) :
    ∀ (r : Nat) (q : σ) (cs : List Nat) (acc : List α), q ∈ d.states → 0 < d.cnt r q →
      d.InRange r q cs →
      ∃ w qf, d.randomWordLoop d.cnt r q cs acc = .ok (acc.reverse ++ w, qf) ∧ qf ∈ d.finals ∧
        d.Sel r q cs w := by
  intro r
  induction r with
  | zero =>
    intro q cs acc _ hpos _
    have hq : q ∈ d.finals := by
      rw [cnt_zero] at hpos
      by_cases h : q ∈ d.finals
      · exact h
      · simp [h] at hpos
    exact ⟨[], q, by simp [randomWordLoop], hq, rfl, hq⟩
  | succ r ih =>
    intro q cs acc hq hpos hin
    obtain ⟨hlt, hrest⟩ := hin
    unfold randomWordLoop
    have hne : decide (d.cnt (r + 1) q = 0) = false := by simp; omega
    simp only [hne]
    have hw : cs.headD 0 < weight (d.cnt r) (d.row q) := by
      rw [cnt_succ] at hlt; simpa [hq] using hlt
    obtain ⟨e, he, hepos⟩ := pickEdge_lt_weight hw
    rw [he] at hrest
    simp only [he]
    obtain ⟨w, qf, hrun, hfin, hsel⟩ :=
      ih e.2 cs.tail (e.1 :: acc) (pickEdge_state wf he) hepos hrest
    refine ⟨e.1 :: w, qf, ?_, hfin, e.1, e.2, w, rfl, he, hsel⟩
    obtain ⟨a, t⟩ := e
    simp only at hrun ⊢
    rw [hrun]; simp

theorem randomWord_ok_iff_sel {d : DFA σ α} (wf : d.WF) (k : Nat) (cs : List Nat) (w : List α)
    (hin : d.InRange k d.init cs) : d.randomWord k cs = .ok w ↔ d.Sel k d.init cs w := by
  by_cases h0 : d.cnt k d.init = 0
  · rw [randomWord_of_cnt_zero h0]
    refine ⟨(nomatch ·), fun hs => ?_⟩
    exfalso
    cases k with
    | zero =>
      rw [cnt_zero] at h0
      simp [hs.2] at h0
    | succ r =>
      have := hin.1
      omega
  · rw [randomWord_eq]
    unfold randomWordCore
    have hdec : decide (d.cnt k d.init = 0) = false := by simpa using h0
    obtain ⟨w0, qf, hrun, hfin, hsel⟩ :=
      randomWordLoop_sel wf k d.init cs [] wf.initOk (Nat.pos_of_ne_zero h0) hin
    simp only [hdec, hrun, List.reverse_nil, List.nil_append]
    have hf : decide (qf ∈ d.finals) = true := by simpa using hfin
    simp only [hf]
    constructor
    · intro h
      cases h
      exact hsel
    · intro hs
      rw [sel_unique d k d.init cs w w0 hs hsel]

theorem randomWord_ok_of_sel {d : DFA σ α} (wf : d.WF) (k : Nat) (cs : List Nat) (w : List α)
    (hs : d.Sel k d.init cs w) : d.randomWord k cs = .ok w :=
  (randomWord_ok_iff_sel wf k cs w (sel_inRange wf k d.init cs w wf.initOk hs)).mpr hs

end

end RandSel
end DFA
end AV
