/-
Proofs/RenameValidate.lean — `DFA.validate` is invariant under every renaming of the states that
is injective on the names that occur in the definition: `(d.rename f).validate = d.validate`
(`ok`, or the same exception).  `Proofs/Rename.lean` has the direction "valid ⇒ renamed valid"
(`rename_valid`, any `f`); this file adds the equality, hence also "renamed valid ⇒ valid".
-/
import AutomataVerif.Proofs.Rename

namespace AV.RenameValidate
open AV AV.C04

variable {σ τ α : Type}

/-- Every state name that occurs in the definition: the states, the keys of the transition
dict, the targets of the transitions, the initial state, the final states. -/
def names (d : DFA σ α) : List σ :=
  d.states ++ akeys d.trans ++ d.trans.flatMap (fun kv => avals kv.2) ++ [d.init] ++ d.finals

theorem mem_names {d : DFA σ α} {q : σ} : q ∈ names d ↔
    q ∈ d.states ∨ q ∈ akeys d.trans ∨ (∃ kv ∈ d.trans, q ∈ avals kv.2) ∨ q = d.init ∨
      q ∈ d.finals := by
  simp only [names, List.mem_append, List.mem_flatMap, List.mem_singleton, or_assoc]

theorem states_sub (d : DFA σ α) : ∀ q ∈ d.states, q ∈ names d :=
  fun _ h => mem_names.mpr (.inl h)
theorem keys_sub (d : DFA σ α) : ∀ q ∈ akeys d.trans, q ∈ names d :=
  fun _ h => mem_names.mpr (.inr (.inl h))
theorem targets_sub (d : DFA σ α) : ∀ kv ∈ d.trans, ∀ q ∈ avals kv.2, q ∈ names d :=
  fun kv hkv _ h => mem_names.mpr (.inr (.inr (.inl ⟨kv, hkv, h⟩)))
theorem init_sub (d : DFA σ α) : d.init ∈ names d :=
  mem_names.mpr (.inr (.inr (.inr (.inl rfl))))
theorem finals_sub (d : DFA σ α) : ∀ q ∈ d.finals, q ∈ names d :=
  fun _ h => mem_names.mpr (.inr (.inr (.inr (.inr h))))

variable [DecidableEq σ] [DecidableEq τ] [DecidableEq α] (f : σ → τ) (d : DFA σ α)

omit [DecidableEq α] in
theorem mem_states_rename (hinj : InjOn f (names d)) {q : σ} (hq : q ∈ names d) :
    decide (f q ∈ (d.rename f).states) = decide (q ∈ d.states) :=
  decide_eq_decide.mpr (mem_map_iff_of_inj fun y hy => hinj y (states_sub d y hy) q hq)

omit [DecidableEq α] in
theorem ahas_rename (hinj : InjOn f (names d)) {q : σ} (hq : q ∈ names d) :
    ahas (f q) (d.rename f).trans = ahas q d.trans := by
  unfold ahas
  simp only [DFA.rename]
  rw [alookup_map_key f (fun (r : List (α × σ)) => r.map fun e => (e.1, f e.2)) fun k hk =>
    hinj k (keys_sub d k hk) q hq]
  cases alookup q d.trans <;> rfl

theorem validateRow_rename (hinj : InjOn f (names d)) (kv : σ × List (α × σ)) (hkv : kv ∈ d.trans) :
    (d.rename f).validateRow (kv.2.map fun e => (e.1, f e.2)) = d.validateRow kv.2 := by
  unfold DFA.validateRow
  simp only [rename_syms, rename_allowPartial, akeys_map_val f kv.2, ahas_map_val f _ kv.2,
    avals_map_val f kv.2]
  congr 2
  exact firstErr_map_congr f fun q hq => by
    rw [mem_states_rename f d hinj (targets_sub d kv hkv q hq)]

theorem validate_rename (hinj : InjOn f (names d)) : (d.rename f).validate = d.validate := by
  unfold DFA.validate DFA.validateStartStates
  have h1 : (firstErr (d.rename f).states fun q =>
        guardE (ahas q (d.rename f).trans) (.lib .missingStateError)) =
      firstErr d.states fun q => guardE (ahas q d.trans) (.lib .missingStateError) :=
    firstErr_map_congr f fun q hq => by rw [ahas_rename f d hinj (states_sub d q hq)]
  have h2 : (firstErr (d.rename f).trans fun kv => (d.rename f).validateRow kv.2) =
      firstErr d.trans fun kv => d.validateRow kv.2 :=
    firstErr_map_congr _ (validateRow_rename f d hinj)
  have h3 : decide ((d.rename f).init ∈ (d.rename f).states) = decide (d.init ∈ d.states) :=
    mem_states_rename f d hinj (init_sub d)
  have h4 : ((d.rename f).finals.all fun q => decide (q ∈ (d.rename f).states)) =
      d.finals.all fun q => decide (q ∈ d.states) := by
    show (d.finals.map f).all _ = _
    rw [List.all_map, Bool.eq_iff_iff, List.all_eq_true, List.all_eq_true]
    exact forall₂_congr fun q hq => by
      rw [Function.comp_apply, mem_states_rename f d hinj (finals_sub d q hq)]
  rw [h1, h2, h3, h4]

instance (l : List σ) : Decidable (InjOn f l) := by
  unfold InjOn; infer_instance

end AV.RenameValidate
