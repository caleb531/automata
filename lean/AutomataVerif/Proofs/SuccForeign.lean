/-
Proofs/SuccForeign.lean — the two failure modes of `successors` (Model/DFASucc.lean) that lie
inside the literal domain of C14 (findings F13, F14).  Core only.

F13: a start string with a symbol `x` outside the alphabet.  Every entry of the state stack
above the position of `x` is `None` (`_get_next_current_state` has no row entry for `x`), so the
traversal can neither descend nor yield there: it scans the siblings of the top character
(`symbol_succ[candidate]`, all present), pops, … until `x` itself is popped and
`symbol_succ[x]` raises `KeyError`.  Nothing is yielded before.
F14: on an empty alphabet `sorted_symbols[-1]` raises `IndexError` before the loop starts.
-/
import AutomataVerif.Proofs.SuccCfg

namespace AV
namespace DFA
namespace SuccForeign

variable {σ α : Type} [DecidableEq σ] [DecidableEq α]

theorem stack_above_foreign {d : DFA σ α} (wf : d.WF) {x : α} (hx : x ∉ d.syms) {bottom : List α} :
    ∀ (top : List α) (states : List (Option σ)), StackOK d states (top ++ x :: bottom) →
      ∃ rest, states = List.replicate (top.length + 1) none ++ rest := by
  intro top
  induction top with
  | nil =>
    intro states h
    cases h with
    | push h' => exact ⟨_, by rw [step?_foreign wf _ hx]; rfl⟩
  | cons c top ih =>
    intro states h
    cases h with
    | @push s states' _ _ h' =>
      obtain ⟨rest, hr⟩ := ih _ h'
      have hs : s = none := by
        rw [List.replicate_succ, List.cons_append] at hr
        exact (List.cons.inj hr).1
      subst hs
      refine ⟨rest, ?_⟩
      rw [hr]
      rfl

/-- Sibling scan on a `None` state: from candidate `a` the loop reaches `candidate = None` on
the same stacks without yielding. -/
theorem scan_siblings {d : DFA σ α} {o : SuccOpts} {c : SuccCfg σ α} {S : List α}
    (tbl : SuccTable S c) (rest : List (Option σ)) (chars : List α) (hch : chars ≠ []) :
    ∀ (r l : List α) (a : α) (sy : Bool), S = l ++ a :: r →
      ∃ n, ∀ fuel, succLoop d o c (fuel + n) ⟨none :: rest, chars, some a, sy⟩ =
        succLoop d o c fuel ⟨none :: rest, chars, none, true⟩ := by
  have one : ∀ {l r : List α} {a : α} (sy : Bool), S = l ++ a :: r → ∀ fuel,
      succLoop d o c (fuel + 1) ⟨none :: rest, chars, some a, sy⟩ =
        succLoop d o c fuel ⟨none :: rest, chars, r.head?, true⟩ := by
    intro l r a sy hS fuel
    rw [succLoop_step (not_atExit fun h => hch h.1) (y := none)
      (s' := ⟨none :: rest, chars, r.head?, true⟩)]
    · rfl
    · simp only [succStep, step?, isFinal, viable, Bool.and_false, Bool.false_and, yieldIf, tbl.next hS]
  intro r
  induction r with
  | nil => intro l a sy hS; exact ⟨1, one sy hS⟩
  | cons b r ih =>
    intro l a sy hS
    obtain ⟨n, hn⟩ := ih (l ++ [a]) b true (by rw [hS]; simp)
    exact ⟨n + 1, fun fuel => by rw [← Nat.add_assoc, one sy hS]; exact hn fuel⟩

theorem scan_any {d : DFA σ α} {o : SuccOpts} {c : SuccCfg σ α} {S : List α} (tbl : SuccTable S c)
    (rest : List (Option σ)) (chars : List α) (hch : chars ≠ []) (cand : Option α)
    (hcand : ∀ a, cand = some a → a ∈ S) (sy : Bool) :
    ∃ n sy', ∀ fuel, succLoop d o c (fuel + n) ⟨none :: rest, chars, cand, sy⟩ =
      succLoop d o c fuel ⟨none :: rest, chars, none, sy'⟩ := by
  cases cand with
  | none => exact ⟨0, sy, fun _ => rfl⟩
  | some a =>
    obtain ⟨l, r, hS⟩ := List.append_of_mem (hcand a rfl)
    obtain ⟨n, hn⟩ := scan_siblings (d := d) (o := o) tbl rest chars hch r l a sy hS
    exact ⟨n, true, hn⟩

/-- **F13 on the loop**: with a foreign symbol `x` on the character stack and only `None` states
above it, the loop raises `KeyError` after finitely many iterations, having yielded nothing. -/
theorem blocked_raises {d : DFA σ α} {o : SuccOpts} {c : SuccCfg σ α} {S : List α}
    (tbl : SuccTable S c) {x : α} (hx : x ∉ S) (bottom : List α)
    (rest : List (Option σ)) :
    ∀ (top : List α) (cand : Option α) (sy : Bool), (∀ ch ∈ top, ch ∈ S) →
      (∀ a, cand = some a → a ∈ S) →
      ∃ n, ∀ fuel, succLoop d o c (fuel + n)
        ⟨List.replicate (top.length + 1) none ++ rest, top ++ x :: bottom, cand, sy⟩ =
          ([], .raised (.py .keyError)) := by
  intro top
  induction top with
  | nil =>
    intro cand sy _ hcand
    obtain ⟨n, sy', hn⟩ := scan_any (d := d) (o := o) tbl rest (x :: bottom) (by simp) cand hcand sy
    refine ⟨1 + n, fun fuel => ?_⟩
    rw [← Nat.add_assoc]
    refine (hn _).trans (succLoop_raise (y := none) rfl ?_ fuel)
    simp only [succStep, isFinal, Bool.and_false, yieldIf, tbl.foreign hx]
  | cons ch top ih =>
    intro cand sy htop hcand
    obtain ⟨n, sy', hn⟩ := scan_any (d := d) (o := o) tbl
      (List.replicate (top.length + 1) none ++ rest) (ch :: (top ++ x :: bottom)) (by simp) cand hcand sy
    obtain ⟨l, r, hS⟩ := List.append_of_mem (htop ch List.mem_cons_self)
    obtain ⟨m, hm⟩ := ih r.head? true (fun c' hc' => htop c' (List.mem_cons_of_mem _ hc'))
      (fun _ => mem_of_head?_after hS)
    refine ⟨m + 1 + n, fun fuel => ?_⟩
    rw [← Nat.add_assoc]
    refine (hn _).trans ((succLoop_step (y := none) rfl ?_ _).trans (hm fuel))
    simp only [succStep, isFinal, Bool.and_false, yieldIf, tbl.next hS]

/-- F13, once the `isfinite()` guard has let the call through. -/
theorem successorsCore_foreign {d : DFA σ α} (wf : d.WF) (hnd : d.syms.Nodup) (hne : d.syms ≠ [])
    (key : α → Int) {w0 : List α} (hw : ∃ x ∈ w0, x ∉ d.syms) (o : SuccOpts) (g : Digraph σ) :
    ∃ n, ∀ fuel, d.successorsCore (.ok true) g key (some w0) o (fuel + n) =
      ([], .raised (.py .keyError)) := by
  have hperm := sortedSymbols_perm d key o.reverse
  obtain ⟨first, last, tbl, hsetup⟩ := succSetup_eq wf hne hnd g key (some w0) o
  -- the top-most foreign symbol of the character stack
  obtain ⟨top, x, bottom, hsplit, hxS, htop⟩ :=
    exists_first_not (· ∈ d.sortedSymbols key o.reverse) w0.reverse
      (hw.imp fun x hx => ⟨List.mem_reverse.mpr hx.1, fun h => hx.2 (hperm.mem_iff.mp h)⟩)
  have hst := (stackOK_readStepwise wf w0).2
  rw [hsplit] at hst
  obtain ⟨rest, hrest⟩ := stack_above_foreign wf (fun h => hxS (hperm.mem_iff.mpr h)) top _ hst
  obtain ⟨n, hn⟩ := blocked_raises (d := d) (o := o) tbl hxS bottom rest top
    (initState d first (some w0) o).cand (!o.strict) htop
    (fun a ha => initState_cand ha ▸ tbl.firstMem)
  refine ⟨n, fun fuel => ?_⟩
  rw [successorsCore_eq_setup, hsetup, ← hn fuel]
  simp only [initState, hrest, hsplit]

theorem successorsCore_empty_alphabet {d : DFA σ α} (hs : d.syms = []) (key : α → Int)
    (input : Option (List α)) (o : SuccOpts) (g : Digraph σ) (fuel : Nat) :
    d.successorsCore (.ok true) g key input o fuel = ([], .raised (.py .indexError)) := by
  simp only [successorsCore, sortedSymbols_eq_nil_iff.mpr hs, List.getLast?_nil, List.head?_nil]

end SuccForeign
end DFA
end AV
