/-
Proofs/SuccCfg.lean — `successors` (Model/DFASucc.lean) up to one execution of the loop body:
the code before the loop, the equations of the loop, and the three moves of its body (descend,
next sibling, pop).  Core only.
-/
import AutomataVerif.Proofs.WordOrder
import AutomataVerif.Proofs.Query
import AutomataVerif.Model.DFASucc

namespace AV

open WordOrder

section symbolSucc
variable {α : Type}

/-- The writes that build `symbol_succ`, in order. -/
def succPairs : List α → List (α × Option α)
  | [] => []
  | [x] => [(x, none)]
  | x :: y :: t => (x, some y) :: succPairs (y :: t)

theorem zip_tail_eq_succPairs : ∀ (S : List α) (last : α), S.getLast? = some last →
    S.zip (S.tail.map some) ++ [(last, none)] = succPairs S := by
  intro S
  induction S with
  | nil => intro last h; simp at h
  | cons x t ih =>
    intro last h
    cases t with
    | nil => simp at h; subst h; simp [succPairs]
    | cons y t' =>
      rw [List.getLast?_cons_cons] at h
      have := ih last h
      simp only [List.tail_cons, List.map_cons, List.zip_cons_cons, List.cons_append, succPairs]
      simp only [List.tail_cons] at this
      rw [this]

theorem akeys_succPairs : ∀ S : List α, akeys (succPairs S) = S := by
  intro S
  induction S with
  | nil => rfl
  | cons x t ih =>
    cases t with
    | nil => rfl
    | cons y t' =>
      simp only [succPairs, akeys, List.map_cons] at ih ⊢
      rw [ih]

theorem mem_succPairs (a : α) (r : List α) : ∀ l : List α, (a, r.head?) ∈ succPairs (l ++ a :: r) := by
  intro l
  induction l with
  | nil => cases r <;> simp [succPairs]
  | cons x l' ih =>
    cases h : l' ++ a :: r with
    | nil => simp at h
    | cons y t =>
      rw [h] at ih
      simp only [List.cons_append, h, succPairs]
      exact List.mem_cons_of_mem _ ih

theorem mem_of_head?_after {S l r : List α} {a x : α} (hS : S = l ++ a :: r) (hx : r.head? = some x) :
    x ∈ S :=
  hS ▸ List.mem_append_right _ (List.mem_cons_of_mem _ (List.mem_of_mem_head? hx))

theorem akeys_symbolSucc {S : List α} {last : α} (hlast : S.getLast? = some last) :
    akeys (DFA.symbolSucc S last) = S.reverse := by
  unfold DFA.symbolSucc akeys
  rw [zip_tail_eq_succPairs S last hlast, List.map_reverse]
  exact congrArg _ (akeys_succPairs S)

theorem alookup_symbolSucc [DecidableEq α] {S : List α} {last : α} (hnd : S.Nodup) (hlast : S.getLast? = some last)
    {l r : List α} {a : α} (hS : S = l ++ a :: r) :
    alookup a (DFA.symbolSucc S last) = some r.head? := by
  apply alookup_of_mem_nodup
  · rw [akeys_symbolSucc hlast]; exact (List.reverse_perm S).nodup_iff.mpr hnd
  · unfold DFA.symbolSucc
    rw [zip_tail_eq_succPairs S last hlast, List.mem_reverse, hS]
    exact mem_succPairs a r l

end symbolSucc

namespace DFA
variable {σ α : Type} [DecidableEq σ] [DecidableEq α]

/-- The key by which `sorted_symbols` is ascending: `key`, or `-key` for `reverse=True`. -/
def dirKey (key : α → Int) (reverse : Bool) : α → Int :=
  match reverse with
  | false => key
  | true => fun a => - key a

section
omit [DecidableEq σ] [DecidableEq α]

theorem sortedSymbols_eq (d : DFA σ α) (key : α → Int) (reverse : Bool) :
    d.sortedSymbols key reverse =
      sortBy (fun a b => decide (dirKey key reverse a < dirKey key reverse b)) d.syms := by
  cases reverse with
  | false => rfl
  | true =>
    unfold sortedSymbols dirKey
    simp only
    congr 1
    funext a b
    congr 1
    apply propext
    constructor <;> intro h <;> omega

theorem dirKey_inj {d : DFA σ α} {key : α → Int} (hk : d.KeyInj key) (reverse : Bool) :
    d.KeyInj (dirKey key reverse) := by
  cases reverse with
  | false => exact hk
  | true =>
    intro a ha b hb h
    apply hk a ha b hb
    simp only [dirKey] at h
    omega

theorem sortedSymbols_perm (d : DFA σ α) (key : α → Int) (reverse : Bool) :
    (d.sortedSymbols key reverse).Perm d.syms := by
  rw [sortedSymbols_eq]; exact sortBy_perm _ _

theorem sortedSymbols_sorted {d : DFA σ α} {key : α → Int} (hnd : d.syms.Nodup) (hk : d.KeyInj key)
    (reverse : Bool) :
    (d.sortedSymbols key reverse).Pairwise fun a b => dirKey key reverse a < dirKey key reverse b := by
  rw [sortedSymbols_eq]
  exact sortBy_strict _ _ hnd (dirKey_inj hk reverse)

end

/-- The state stack (top first) belongs to the character stack (top first): bottom = initial
state, every entry is `_get_next_current_state` of the one below (possibly `None`). -/
inductive StackOK (d : DFA σ α) : List (Option σ) → List α → Prop
  | base : StackOK d [some d.init] []
  | push {s : Option σ} {states : List (Option σ)} {ch : α} {chars : List α} :
      StackOK d (s :: states) chars → StackOK d (d.step? s ch :: s :: states) (ch :: chars)

theorem StackOK.top {d : DFA σ α} {s : Option σ} {rest : List (Option σ)} {chars : List α}
    (h : StackOK d (s :: rest) chars) : s = d.run (some d.init) chars.reverse := by
  generalize hst : s :: rest = st at h
  induction h generalizing s rest with
  | base => cases hst; rfl
  | push h' ih =>
    cases hst
    rw [List.reverse_cons, run_append, ← ih rfl]
    rfl

theorem StackOK.pop {d : DFA σ α} {s : Option σ} {rest : List (Option σ)} {ch : α} {chars : List α}
    (h : StackOK d (s :: rest) (ch :: chars)) : StackOK d rest chars := by
  cases h with
  | push h' => exact h'

theorem StackOK.ne_nil {d : DFA σ α} {states : List (Option σ)} {chars : List α}
    (h : StackOK d states chars) : states ≠ [] := by
  cases h <;> simp

theorem StackOK.bottom {d : DFA σ α} {states : List (Option σ)}
    (h : StackOK d states []) : states = [some d.init] := by
  cases h; rfl

theorem StackOK.read {d : DFA σ α} : ∀ (w : List α) {s : Option σ} {st : List (Option σ)} {chars : List α},
    StackOK d (s :: st) chars →
    StackOK d ((List.scanl d.step? s w).reverse ++ st) (w.reverse ++ chars) := by
  intro w
  induction w with
  | nil => intro s st chars h; simpa using h
  | cons a w ih =>
    intro s st chars h
    have := ih (StackOK.push (ch := a) h)
    simp only [List.scanl_cons, List.reverse_cons, List.append_assoc, List.singleton_append]
    exact this

/-- The stack `deque(self.read_input_stepwise(input_str, ignore_rejection=True))`. -/
theorem stackOK_readStepwise {d : DFA σ α} (wf : d.WF) (w : List α) :
    (d.readStepwise w true).2 = none ∧
      StackOK d (d.readStepwise w true).1.reverse w.reverse := by
  unfold readStepwise
  rw [readAux_eq wf true w (some d.init) wf.initOk]
  refine ⟨by simp [rejectUnless], ?_⟩
  have h := StackOK.read (d := d) w StackOK.base
  simp only [List.append_nil] at h
  simp only [cons_tail_scanl]
  exact h

section
omit [DecidableEq σ] [DecidableEq α]

theorem sortedSymbols_eq_nil_iff {d : DFA σ α} {key : α → Int} {reverse : Bool} :
    d.sortedSymbols key reverse = [] ↔ d.syms = [] :=
  ⟨fun h => (h ▸ sortedSymbols_perm d key reverse).symm.eq_nil,
    fun h => (h ▸ sortedSymbols_perm d key reverse).eq_nil⟩

theorem inWindow_iff {o : SuccOpts} {n : Nat} :
    inWindow o n = true ↔ o.minLen ≤ n ∧ ∀ m, o.maxLen = some m → n ≤ m := by
  unfold inWindow
  cases o.maxLen <;> simp

theorem belowMax_iff {o : SuccOpts} {n : Nat} :
    belowMax o n = true ↔ ∀ m, o.maxLen = some m → n < m := by
  unfold belowMax
  cases o.maxLen <;> simp

theorem atExit_iff {s : SuccState σ α} :
    (s.chars.isEmpty && s.cand.isNone) = true ↔ s.chars = [] ∧ s.cand = none := by
  rw [Bool.and_eq_true, List.isEmpty_iff, Option.isNone_iff_eq_none]

theorem not_atExit {s : SuccState σ α} (h : ¬ (s.chars = [] ∧ s.cand = none)) :
    (s.chars.isEmpty && s.cand.isNone) = false :=
  Bool.eq_false_iff.mpr fun e => h (atExit_iff.mp e)

end

variable {d : DFA σ α} {o : SuccOpts} {c : SuccCfg σ α}

omit [DecidableEq α] in
theorem succFinal_shape (d : DFA σ α) (o : SuccOpts) (s : SuccState σ α) :
    (s.states = [] ∧ succFinal d o s = ([], .raised (.py .indexError))) ∨
      ∃ bottom rest, s.states = bottom :: rest ∧ succFinal d o s =
        ((yieldIf (o.reverse && s.shouldYield && inWindow o s.chars.length && s.cand.isNone
            && d.isFinal bottom) s.chars).toList, .finished) := by
  unfold succFinal
  cases s.states with
  | nil => exact .inl ⟨rfl, rfl⟩
  | cons b r => exact .inr ⟨b, r, rfl, rfl⟩

theorem succLoop_exit {s : SuccState σ α} (h : (s.chars.isEmpty && s.cand.isNone) = true) (fuel : Nat) :
    succLoop d o c (fuel + 1) s = succFinal d o s := by
  rw [succLoop]
  simp only [h]

theorem succLoop_step {s s' : SuccState σ α} {y : Option (List α)}
    (h : (s.chars.isEmpty && s.cand.isNone) = false) (hs : succStep d o c s = (y, .ok s')) (fuel : Nat) :
    succLoop d o c (fuel + 1) s =
      (y.toList ++ (succLoop d o c fuel s').1, (succLoop d o c fuel s').2) := by
  rw [succLoop]
  simp only [h, hs]

theorem succLoop_raise {s : SuccState σ α} {y : Option (List α)} {e : Exn}
    (h : (s.chars.isEmpty && s.cand.isNone) = false) (hs : succStep d o c s = (y, .error e)) (fuel : Nat) :
    succLoop d o c (fuel + 1) s = (y.toList, .raised e) := by
  rw [succLoop]
  simp only [h, hs]

theorem succLoop_stable (d : DFA σ α) (o : SuccOpts) (c : SuccCfg σ α) :
    ∀ (f : Nat) (s : SuccState σ α), (succLoop d o c f s).2 ≠ .outOfFuel →
      ∀ k, succLoop d o c (f + k) s = succLoop d o c f s := by
  refine stable_of_step (fun _ h => absurd rfl h) fun s => ?_
  cases ht : (s.chars.isEmpty && s.cand.isNone) with
  | true => exact .inl ⟨_, succLoop_exit ht⟩
  | false =>
    cases hs : succStep d o c s with
    | mk y r =>
      cases r with
      | error e => exact .inl ⟨_, succLoop_raise ht hs⟩
      | ok s' => exact .inr ⟨_, _, succLoop_step ht hs⟩

/-- Invariant of the loop variables (`S` = `sorted_symbols`). -/
structure SInv (d : DFA σ α) (S : List α) (s : SuccState σ α) : Prop where
  stack : StackOK d s.states s.chars
  charsS : ∀ ch ∈ s.chars, ch ∈ S
  candS : ∀ a, s.cand = some a → a ∈ S

/-- `first_symbol` and `symbol_succ` belong to `sorted_symbols` = `S`. -/
structure SuccTable (S : List α) (c : SuccCfg σ α) : Prop where
  first : S.head? = some c.first
  next : ∀ {l r : List α} {a : α}, S = l ++ a :: r → alookup a c.symSucc = some r.head?
  foreign : ∀ {x : α}, x ∉ S → alookup x c.symSucc = none

omit [DecidableEq σ] in
theorem SuccTable.firstMem {S : List α} (tbl : SuccTable S c) : c.first ∈ S :=
  List.mem_of_mem_head? tbl.first

/-- One execution of the loop body, by what it does to the stacks: descend below `p·a`, go on
from `a` to `symbol_succ[a]` (`None` after the last symbol), or pop `ch` and go on to
`symbol_succ[ch]`.  `S = l ++ a :: r` locates the symbol in `sorted_symbols`; the second index
is the word yielded in the body. -/
inductive Move (d : DFA σ α) (o : SuccOpts) (c : SuccCfg σ α) (S : List α) :
    SuccState σ α → Option (List α) → SuccState σ α → Prop
  | descend {top : Option σ} {rest : List (Option σ)} {chars : List α} {a : α} {sy : Bool}
      {l r : List α} : S = l ++ a :: r →
      (viable c (d.step? top a) && belowMax o chars.length) = true →
      Move d o c S ⟨top :: rest, chars, some a, sy⟩
        (yieldIf (!o.reverse && sy && inWindow o chars.length && decide (a = c.first) && d.isFinal top)
          chars)
        ⟨d.step? top a :: top :: rest, a :: chars, some c.first, true⟩
  | sibling {top : Option σ} {rest : List (Option σ)} {chars : List α} {a : α} {sy : Bool}
      {l r : List α} : S = l ++ a :: r →
      (viable c (d.step? top a) && belowMax o chars.length) = false →
      Move d o c S ⟨top :: rest, chars, some a, sy⟩
        (yieldIf (!o.reverse && sy && inWindow o chars.length && decide (a = c.first) && d.isFinal top)
          chars)
        ⟨top :: rest, chars, r.head?, true⟩
  | pop {top : Option σ} {rest : List (Option σ)} {ch : α} {chars : List α} {sy : Bool}
      {l r : List α} : S = l ++ ch :: r →
      Move d o c S ⟨top :: rest, ch :: chars, none, sy⟩
        (yieldIf (o.reverse && sy && inWindow o (ch :: chars).length && d.isFinal top) (ch :: chars))
        ⟨rest, chars, r.head?, true⟩

theorem succStep_move {S : List α} (tbl : SuccTable S c) {s : SuccState σ α} (inv : SInv d S s)
    (hloop : ¬ (s.chars = [] ∧ s.cand = none)) :
    ∃ y s', succStep d o c s = (y, .ok s') ∧ Move d o c S s y s' ∧ SInv d S s' := by
  obtain ⟨states, chars, cand, sy⟩ := s
  obtain ⟨hstack, hcharsS, hcandS⟩ := inv
  simp only at hstack hcharsS hcandS hloop
  cases states with
  | nil => exact absurd rfl hstack.ne_nil
  | cons top rest =>
  cases cand with
  | some a =>
    have haS : a ∈ S := hcandS a rfl
    obtain ⟨l, r, hS⟩ := List.append_of_mem haS
    cases hb : (viable c (d.step? top a) && belowMax o chars.length) with
    | true =>
      refine ⟨_, _, by simp only [succStep, hb], .descend hS hb, StackOK.push hstack, ?_,
        fun x hx => Option.some.inj hx ▸ tbl.firstMem⟩
      exact List.forall_mem_cons.mpr ⟨haS, hcharsS⟩
    | false =>
      exact ⟨_, _, by simp only [succStep, hb, tbl.next hS], .sibling hS hb, hstack, hcharsS,
        fun _ => mem_of_head?_after hS⟩
  | none =>
    cases chars with
    | nil => exact absurd ⟨rfl, rfl⟩ hloop
    | cons ch chars' =>
      obtain ⟨l, r, hS⟩ := List.append_of_mem (hcharsS ch List.mem_cons_self)
      exact ⟨_, _, by simp only [succStep, tbl.next hS], .pop hS, hstack.pop,
        fun x hx => hcharsS x (List.mem_cons_of_mem _ hx), fun _ => mem_of_head?_after hS⟩

theorem successorsCore_eq_setup (d : DFA σ α) (fin : Res Bool) (g : Digraph σ) (key : α → Int)
    (input : Option (List α)) (o : SuccOpts) (F : Nat) :
    d.successorsCore fin g key input o F =
      match d.succSetup fin g key input o with
      | .error e => ([], .raised e)
      | .ok cs => succLoop d o cs.1 F cs.2 := by
  cases fin with
  | error e => rfl
  | ok b =>
    cases b with
    | false => rfl
    | true =>
      simp only [successorsCore, succSetup]
      cases (d.sortedSymbols key o.reverse).getLast? with
      | none => rfl
      | some last =>
        cases (d.sortedSymbols key o.reverse).head? with
        | none => rfl
        | some first =>
          cases input with
          | none => rfl
          | some w =>
            simp only
            cases d.readStepwise w true with
            | mk tr ex => cases ex <;> rfl

theorem successorsCore_stable (d : DFA σ α) (fin : Res Bool) (g : Digraph σ) (key : α → Int)
    (input : Option (List α)) (o : SuccOpts) {f f' : Nat}
    (h : (d.successorsCore fin g key input o f).2 ≠ .outOfFuel) (hle : f ≤ f') :
    d.successorsCore fin g key input o f' = d.successorsCore fin g key input o f := by
  obtain ⟨k, rfl⟩ := Nat.exists_eq_add_of_le hle
  rw [successorsCore_eq_setup] at h
  rw [successorsCore_eq_setup, successorsCore_eq_setup]
  cases hsu : d.succSetup fin g key input o with
  | error e => rfl
  | ok cs => exact succLoop_stable d o cs.1 f cs.2 (by rwa [hsu] at h) k

def setupCfg (d : DFA σ α) (g : Digraph σ) (key : α → Int) (o : SuccOpts) (first last : α) :
    SuccCfg σ α :=
  { coacc := g.reachable d.finals true, first := first,
    symSucc := symbolSucc (d.sortedSymbols key o.reverse) last }

def initState (d : DFA σ α) (first : α) (input : Option (List α)) (o : SuccOpts) : SuccState σ α :=
  match input with
  | none => { states := [some d.init], chars := [], cand := some first, shouldYield := true }
  | some w =>
    { states := (d.readStepwise w true).1.reverse, chars := w.reverse,
      cand := (match o.reverse with | true => none | false => some first),
      shouldYield := !o.strict }

theorem succSetup_eq (wf : d.WF) (hne : d.syms ≠ []) (hnd : d.syms.Nodup) (g : Digraph σ)
    (key : α → Int) (input : Option (List α)) (o : SuccOpts) :
    ∃ first last, SuccTable (d.sortedSymbols key o.reverse) (setupCfg d g key o first last) ∧
      d.succSetup (.ok true) g key input o =
        .ok (setupCfg d g key o first last, initState d first input o) := by
  have hSne : d.sortedSymbols key o.reverse ≠ [] := mt sortedSymbols_eq_nil_iff.mp hne
  have hf := List.head?_eq_some_head hSne
  have hl := List.getLast?_eq_some_getLast hSne
  refine ⟨_, List.getLast _ hSne, ⟨hf, ?_, fun hx => ?_⟩, ?_⟩
  · exact alookup_symbolSucc ((sortedSymbols_perm d key o.reverse).nodup_iff.mpr hnd) hl
  · exact alookup_eq_none_iff.mpr fun h => hx (List.mem_reverse.mp (akeys_symbolSucc hl ▸ h))
  simp only [succSetup, hl, hf]
  cases input with
  | none => rfl
  | some w =>
    have hex := (stackOK_readStepwise wf w).1
    simp only [initState]
    revert hex
    cases d.readStepwise w true with
    | mk tr ex => rintro rfl; rfl

theorem initState_cand {first a : α} {input : Option (List α)}
    (h : (initState d first input o).cand = some a) : a = first := by
  cases input with
  | none => exact (Option.some.inj h).symm
  | some w =>
    simp only [initState] at h
    revert h
    cases o.reverse with
    | true => exact (nomatch ·)
    | false => exact fun h => (Option.some.inj h).symm

theorem initState_inv (wf : d.WF) {S : List α} (hS : ∀ a, a ∈ S ↔ a ∈ d.syms) {first : α}
    (hfirst : first ∈ S) (input : Option (List α))
    (hin : ∀ w0, input = some w0 → ∀ x ∈ w0, x ∈ d.syms) (o : SuccOpts) :
    SInv d S (initState d first input o) := by
  refine ⟨?_, ?_, fun a ha => initState_cand ha ▸ hfirst⟩
  · cases input with
    | none => exact StackOK.base
    | some w => exact (stackOK_readStepwise wf w).2
  · cases input with
    | none => exact fun _ h => nomatch h
    | some w => exact fun ch hch => (hS ch).mpr (hin w rfl ch (List.mem_reverse.mp hch))

end DFA
end AV
