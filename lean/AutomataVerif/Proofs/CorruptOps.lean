/-
Proofs/CorruptOps.lean — Python-level edits of transition tables held as association lists
(`table[q] = f(table[q])`, `d[k] = v`), the edit operators on DFA / NFA definitions, and what
`transitions[q][a] = t` on a DFA can violate (`setEntry_frame`: an old violation or a defect of the
new entry, `DFA.EntryViolates`).
-/
import AutomataVerif.Proofs.ValidateReserved

namespace AV.VA
open AV

section alist
variable {κ β : Type} [DecidableEq κ]

/-- `table[q] = f(table[q])`, on every row keyed `q`. -/
def editRow {ρ : Type} (q : κ) (f : ρ → ρ) (t : List (κ × ρ)) : List (κ × ρ) :=
  t.map fun kv => if kv.1 = q then (kv.1, f kv.2) else kv

theorem editRow_keys {ρ : Type} (q : κ) (f : ρ → ρ) (t : List (κ × ρ)) : akeys (editRow q f t) = akeys t := by
  unfold editRow akeys
  rw [List.map_map]
  exact List.map_congr_left fun kv _ => by simp only [Function.comp]; split <;> rfl

theorem mem_editRow {ρ : Type} (q : κ) (f : ρ → ρ) (t : List (κ × ρ)) (kv' : κ × ρ)
    (h : kv' ∈ editRow q f t) : ∃ kv ∈ t, kv'.1 = kv.1 ∧ (kv' = kv ∨ (kv.1 = q ∧ kv'.2 = f kv.2)) := by
  obtain ⟨kv, hkv, rfl⟩ := List.mem_map.mp h
  refine ⟨kv, hkv, ?_⟩
  split
  · rename_i hq; exact ⟨rfl, Or.inr ⟨hq, rfl⟩⟩
  · exact ⟨rfl, Or.inl rfl⟩

theorem editRow_mem {ρ : Type} (q : κ) (f : ρ → ρ) (t : List (κ × ρ)) (kv : κ × ρ) (hkv : kv ∈ t)
    (hq : kv.1 = q) : (kv.1, f kv.2) ∈ editRow q f t :=
  List.mem_map.mpr ⟨kv, hkv, if_pos hq⟩

theorem mem_editRow_sub {κ' : Type} (q : κ) (f : List (κ' × β) → List (κ' × β)) (hf : ∀ row, f row ⊆ row)
    (t : List (κ × List (κ' × β))) (kv' : κ × List (κ' × β)) (h : kv' ∈ editRow q f t) :
    ∃ kv ∈ t, kv'.1 = kv.1 ∧ kv'.2 ⊆ kv.2 := by
  obtain ⟨kv, hkv, h1, h2⟩ := mem_editRow q f t kv' h
  refine ⟨kv, hkv, h1, ?_⟩
  rcases h2 with rfl | ⟨_, h2⟩
  · exact fun _ h => h
  · exact h2 ▸ hf kv.2

end alist

theorem mem_editRow_ainsert {κ κ' β : Type} [DecidableEq κ] [DecidableEq κ'] (q : κ) (k : κ') (v : β)
    (t : List (κ × List (κ' × β))) (kv' : κ × List (κ' × β)) (h : kv' ∈ editRow q (ainsert k v) t) :
    ∃ kv ∈ t, kv'.1 = kv.1 ∧ (∀ x ∈ akeys kv'.2, x = k ∨ x ∈ akeys kv.2) ∧
      (∀ y ∈ avals kv'.2, y = v ∨ y ∈ avals kv.2) ∧ ∀ x ∈ akeys kv.2, x ∈ akeys kv'.2 := by
  obtain ⟨kv, hkv, h1, h2⟩ := mem_editRow q (ainsert k v) t kv' h
  refine ⟨kv, hkv, h1, ?_⟩
  rcases h2 with rfl | ⟨_, h2⟩
  · exact ⟨fun _ h => Or.inr h, fun _ h => Or.inr h, fun _ h => h⟩
  · rw [h2]
    exact ⟨fun _ h => mem_akeys_ainsert.mp h, fun _ h => mem_avals_ainsert h,
      fun _ h => mem_akeys_ainsert.mpr (.inr h)⟩

theorem editRow_ainsert_mem {κ κ' β : Type} [DecidableEq κ] [DecidableEq κ'] (k : κ') (v : β)
    (t : List (κ × List (κ' × β))) (kv : κ × List (κ' × β)) (hkv : kv ∈ t) :
    ∃ kv' ∈ editRow kv.1 (ainsert k v) t, kv'.1 = kv.1 ∧ k ∈ akeys kv'.2 ∧ v ∈ avals kv'.2 :=
  ⟨_, editRow_mem kv.1 (ainsert k v) t kv hkv rfl, rfl, mem_akeys_ainsert.mpr (.inl rfl),
    List.mem_map.mpr ⟨_, mem_ainsert_self k v kv.2, rfl⟩⟩

variable {σ α : Type} [DecidableEq σ] [DecidableEq α]

/-- `del transitions[q][a]`. -/
def dropSymbol (d : DFA σ α) (q : σ) (a : α) : DFA σ α :=
  { d with trans := d.trans.map fun kv =>
      if kv.1 = q then (kv.1, kv.2.filter fun e => decide (e.1 ≠ a)) else kv }

theorem dropSymbol_keys (d : DFA σ α) (q : σ) (a : α) : akeys (dropSymbol d q a).trans = akeys d.trans :=
  editRow_keys q _ d.trans

theorem dropSymbol_rows (d : DFA σ α) (q : σ) (a : α) (kv' : σ × List (α × σ))
    (h : kv' ∈ (dropSymbol d q a).trans) : ∃ kv ∈ d.trans, kv'.1 = kv.1 ∧ kv'.2 ⊆ kv.2 :=
  mem_editRow_sub q _ (fun _ _ h => (List.mem_filter.mp h).1) d.trans kv' h

/-- `transitions[q][a] = t` (Python dict assignment: replace or append). -/
def setEntry (d : DFA σ α) (q : σ) (a : α) (t : σ) : DFA σ α :=
  { d with trans := d.trans.map fun kv => if kv.1 = q then (kv.1, ainsert a t kv.2) else kv }

theorem setEntry_keys (d : DFA σ α) (q : σ) (a : α) (t : σ) :
    akeys (setEntry d q a t).trans = akeys d.trans :=
  editRow_keys q _ d.trans

/-- What the new entry of `transitions[q][a] = t` does to violate a rule. -/
def DFA.EntryViolates (d : DFA σ α) (a : α) (t : σ) : DFA.DefRule → Prop
  | .unknownSymbol => a ∉ d.syms
  | .unknownEndState => t ∉ d.states
  | _ => False

/-- Rows keep their keys and only grow. -/
theorem setEntry_frame (R : Reserved σ α) (d : DFA σ α) (q : σ) (a : α) (t : σ) (r' : DFA.DefRule)
    (h : (DFA.defRules R).Violates (setEntry d q a t) r') :
    (DFA.defRules R).Violates d r' ∨ DFA.EntryViolates d a t r' := by
  cases r'
  case reservedStateName => exact .inl (h.imp_right fun h => setEntry_keys d q a t ▸ h)
  case missingRow => exact .inl (h.imp fun p hp => ⟨hp.1, setEntry_keys d q a t ▸ hp.2⟩)
  case missingSymbol =>
    obtain ⟨hp, kv', hkv', b, hb, hnb⟩ := h
    obtain ⟨kv, hkv, _, _, _, hsup⟩ := mem_editRow_ainsert q a t d.trans kv' hkv'
    exact .inl ⟨hp, kv, hkv, b, hb, fun h => hnb (hsup b h)⟩
  case unknownSymbol =>
    obtain ⟨kv', hkv', b, hb, hnb⟩ := h
    obtain ⟨kv, hkv, _, hkeys, _⟩ := mem_editRow_ainsert q a t d.trans kv' hkv'
    exact (hkeys b hb).elim (fun e => .inr (e ▸ hnb)) fun h => .inl ⟨kv, hkv, b, h, hnb⟩
  case unknownEndState =>
    obtain ⟨kv', hkv', p, hp, hnp⟩ := h
    obtain ⟨kv, hkv, _, _, hvals, _⟩ := mem_editRow_ainsert q a t d.trans kv' hkv'
    exact (hvals p hp).elim (fun e => .inr (e ▸ hnp)) fun h => .inl ⟨kv, hkv, p, h, hnp⟩
  all_goals exact .inl h

/-- `transitions[q][a] = ts` on an NFA (Python dict assignment). -/
def NFA.setEntry (n : NFA σ α) (q : σ) (a : Option α) (ts : List σ) : NFA σ α :=
  { n with trans := n.trans.map fun kv => if kv.1 = q then (kv.1, ainsert a ts kv.2) else kv }

theorem NFA.setEntry_keys (n : NFA σ α) (q : σ) (a : Option α) (ts : List σ) :
    akeys (NFA.setEntry n q a ts).trans = akeys n.trans :=
  editRow_keys q _ n.trans

end AV.VA
