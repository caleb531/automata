/-
Proofs/ValidateReserved.lean — the reserved-name checks that `validate()` of DFA, NFA (fixes
b159ae7, 07f4843: `FA._validate_reserved_names`) and of the PDA classes (fix cb4efab) perform
before everything else, and the complete rule systems of these four classes (`defRules`): the
reserved-name rules are the first stages, the staged checks of Proofs/ValidateRules.lean follow
(core only).
-/
import AutomataVerif.Proofs.ValidateRules

namespace AV.VA
open AV

variable {σ α γ : Type}

theorem not_any_eq_true_iff {β : Type} (p : β → Bool) (l : List β) :
    (!l.any p) = true ↔ ∀ x ∈ l, p x = false := by
  simp

theorem not_any_eq_false_iff {β : Type} (p : β → Bool) (l : List β) :
    (!l.any p) = false ↔ ∃ x ∈ l, p x = true := by
  simp

theorem faValidateReserved_eq_ok (R : Reserved σ α) (states keys : List σ) (syms : List α) :
    faValidateReserved R states keys syms = .ok () ↔
      (∀ q ∈ states, R.isNone q = false) ∧ (∀ q ∈ keys, R.isNone q = false) ∧
      (∀ a ∈ syms, R.isEmptyStr a = false) := by
  unfold faValidateReserved
  rw [Res.andThen_eq_ok, guardE_eq_ok, guardE_eq_ok, not_any_eq_true_iff]
  simp only [Bool.not_eq_true', Bool.or_eq_false_iff, List.any_eq_false, Bool.not_eq_true, and_assoc]

@[simp] theorem faValidateReserved_absent (states keys : List σ) (syms : List α) :
    faValidateReserved Reserved.absent states keys syms = .ok () := by
  rw [faValidateReserved_eq_ok]; simp [Reserved.absent]

/-- `_validate_reserved_names` as two stages: `r₁` = "no state and no row key is `None`", then
`r₂` = "no input symbol is `""`". -/
theorem faValidateReserved_staged {ρ : Type} {kind : ρ → Gen.Err} {V : ρ → Prop}
    (R : Reserved σ α) (states keys : List σ) (syms : List α) (r₁ r₂ : ρ)
    (hk₁ : kind r₁ = .invalidStateError) (hk₂ : kind r₂ = .invalidSymbolError)
    (h₁ : V r₁ ↔ (∃ q ∈ states, R.isNone q = true) ∨ ∃ q ∈ keys, R.isNone q = true)
    (h₂ : V r₂ ↔ ∃ a ∈ syms, R.isEmptyStr a = true) :
    Staged kind V [[r₁], [r₂]] (faValidateReserved R states keys syms) := by
  unfold faValidateReserved
  rw [← hk₁, ← hk₂]
  refine .cons (.guard r₁ (h₁.trans ?_)) (.group (.guard r₂ (h₂.trans (not_any_eq_false_iff _ _).symm)))
  simp only [Bool.not_eq_false', Bool.or_eq_true, List.any_eq_true]

variable [DecidableEq σ] [DecidableEq α] [DecidableEq γ]

namespace DFA
open AV.DFA

/-- Well-formedness of a DFA definition under the interpretation `R` of its names: no state and
no row key is named `None`, no input symbol is `""`, and `AV.DFA.WF`. -/
structure WFDef (R : Reserved σ α) (d : DFA σ α) : Prop extends DFA.WF d where
  noNone : ∀ q ∈ d.states, R.isNone q = false
  noNoneKey : ∀ q ∈ akeys d.trans, R.isNone q = false
  noEmptySym : ∀ a ∈ d.syms, R.isEmptyStr a = false

theorem validateDef_eq_ok (R : Reserved σ α) (d : DFA σ α) : validateDef R d = .ok () ↔ WFDef R d := by
  unfold validateDef
  rw [Res.andThen_eq_ok, faValidateReserved_eq_ok, validate_eq_ok]
  exact ⟨fun ⟨⟨a, k, b⟩, c⟩ => ⟨c, a, k, b⟩, fun h => ⟨⟨h.noNone, h.noNoneKey, h.noEmptySym⟩, h.toWF⟩⟩

/-- With name types that cannot express `None` / `""` the reserved-name check is vacuous. -/
@[simp] theorem validateDef_absent (d : DFA σ α) : validateDef Reserved.absent d = d.validate := by
  simp [validateDef, Res.andThen]

omit [DecidableEq σ] [DecidableEq α] in
theorem wfDef_absent (d : DFA σ α) : WFDef Reserved.absent d ↔ d.WF :=
  ⟨fun h => h.toWF, fun h => ⟨h, fun _ _ => rfl, fun _ _ => rfl, fun _ _ => rfl⟩⟩

set_option linter.unusedSectionVars false in
theorem WFDef.reservedOk {R : Reserved σ α} {d : DFA σ α} (wf : WFDef R d) :
    faValidateReserved R d.states (akeys d.trans) d.syms = .ok () :=
  (faValidateReserved_eq_ok R d.states (akeys d.trans) d.syms).mpr ⟨wf.noNone, wf.noNoneKey, wf.noEmptySym⟩

/-- The documented rules of a DFA definition, in the order of the checks. -/
inductive DefRule
  | reservedStateName | reservedInputSymbol
  | missingRow | missingSymbol | unknownSymbol | unknownEndState | badInitial | badFinal
  deriving DecidableEq, Repr

def DefRule.kind : DefRule → Gen.Err
  | .reservedStateName => .invalidStateError
  | .reservedInputSymbol => .invalidSymbolError
  | .missingRow => .missingStateError
  | .missingSymbol => .missingSymbolError
  | .unknownSymbol => .invalidSymbolError
  | .unknownEndState => .invalidStateError
  | .badInitial => .invalidStateError
  | .badFinal => .invalidStateError

def DefRule.stage : DefRule → Nat
  | .reservedStateName => 0
  | .reservedInputSymbol => 1
  | .missingRow => 2
  | .missingSymbol => 3
  | .unknownSymbol => 3
  | .unknownEndState => 3
  | .badInitial => 4
  | .badFinal => 5

def DefRule.ofCore : Rule → DefRule
  | .missingRow => .missingRow
  | .missingSymbol => .missingSymbol
  | .unknownSymbol => .unknownSymbol
  | .unknownEndState => .unknownEndState
  | .badInitial => .badInitial
  | .badFinal => .badFinal

def defRules (R : Reserved σ α) : RuleSys (DFA σ α) DefRule where
  kind := DefRule.kind
  stage := DefRule.stage
  Violates d
    | .reservedStateName => (∃ q ∈ d.states, R.isNone q = true) ∨ (∃ q ∈ akeys d.trans, R.isNone q = true)
    | .reservedInputSymbol => ∃ a ∈ d.syms, R.isEmptyStr a = true
    | .missingRow => ∃ q ∈ d.states, q ∉ akeys d.trans
    | .missingSymbol => d.allowPartial = false ∧ ∃ kv ∈ d.trans, ∃ a ∈ d.syms, a ∉ akeys kv.2
    | .unknownSymbol => ∃ kv ∈ d.trans, ∃ a ∈ akeys kv.2, a ∉ d.syms
    | .unknownEndState => ∃ kv ∈ d.trans, ∃ q ∈ avals kv.2, q ∉ d.states
    | .badInitial => d.init ∉ d.states
    | .badFinal => ∃ q ∈ d.finals, q ∉ d.states

omit [DecidableEq σ] [DecidableEq α] in
theorem defRules_stage (R : Reserved σ α) : (defRules R).stage = DefRule.stage := rfl
set_option linter.unusedSectionVars false in
theorem defRules_kind (R : Reserved σ α) : (defRules R).kind = DefRule.kind := rfl

theorem defRules_correct (R : Reserved σ α) : (defRules R).Correct (validateDef R) :=
  Staged.correct (kind := DefRule.kind) (stage := DefRule.stage) rfl rfl (fun d =>
    .andThen (faValidateReserved_staged R d.states (akeys d.trans) d.syms DefRule.reservedStateName
      DefRule.reservedInputSymbol rfl rfl Iff.rfl Iff.rfl) <|
    (rules_staged d).map DefRule.ofCore (by intro b; cases b <;> rfl) (by intro b; cases b <;> exact Iff.rfl))
  (by intro r; cases r <;> decide) (by decide) (by decide)

theorem wfDef_iff (R : Reserved σ α) (d : DFA σ α) : WFDef R d ↔ ∀ r, ¬ (defRules R).Violates d r :=
  (validateDef_eq_ok R d).symm.trans ((defRules_correct R).ok_iff d)

theorem WFDef.raises {R : Reserved σ α} {d d' : DFA σ α} (wf : WFDef R d) (r : DefRule)
    (hv : (defRules R).Violates d' r)
    (hframe : ∀ r', (defRules R).preempts r' r = true →
      (defRules R).Violates d' r' → (defRules R).Violates d r') :
    validateDef R d' = .error (.lib r.kind) :=
  (defRules_correct R).raises_of_valid ((validateDef_eq_ok R d).mpr wf) r hv hframe

end DFA

namespace NFA
open AV.NFA

structure WFDef (R : Reserved σ α) (n : NFA σ α) : Prop extends NFA.WF n where
  noNone : ∀ q ∈ n.states, R.isNone q = false
  noNoneKey : ∀ q ∈ akeys n.trans, R.isNone q = false
  noEmptySym : ∀ a ∈ n.syms, R.isEmptyStr a = false

theorem validateDef_eq_ok (R : Reserved σ α) (n : NFA σ α) : validateDef R n = .ok () ↔ WFDef R n := by
  unfold validateDef
  rw [Res.andThen_eq_ok, faValidateReserved_eq_ok, validate_eq_ok]
  exact ⟨fun ⟨⟨a, k, b⟩, c⟩ => ⟨c, a, k, b⟩, fun h => ⟨⟨h.noNone, h.noNoneKey, h.noEmptySym⟩, h.toWF⟩⟩

@[simp] theorem validateDef_absent (n : NFA σ α) : validateDef Reserved.absent n = n.validate := by
  simp [validateDef, Res.andThen]

omit [DecidableEq σ] [DecidableEq α] in
theorem wfDef_absent (n : NFA σ α) : WFDef Reserved.absent n ↔ n.WF :=
  ⟨fun h => h.toWF, fun h => ⟨h, fun _ _ => rfl, fun _ _ => rfl, fun _ _ => rfl⟩⟩

set_option linter.unusedSectionVars false in
theorem WFDef.reservedOk {R : Reserved σ α} {n : NFA σ α} (wf : WFDef R n) :
    faValidateReserved R n.states (akeys n.trans) n.syms = .ok () :=
  (faValidateReserved_eq_ok R n.states (akeys n.trans) n.syms).mpr ⟨wf.noNone, wf.noNoneKey, wf.noEmptySym⟩

inductive DefRule
  | reservedStateName | reservedInputSymbol
  | unknownSymbol | unknownEndState | badInitial | initialNoRow | badFinal
  deriving DecidableEq, Repr

def DefRule.kind : DefRule → Gen.Err
  | .reservedStateName => .invalidStateError
  | .reservedInputSymbol => .invalidSymbolError
  | .unknownSymbol => .invalidSymbolError
  | .unknownEndState => .invalidStateError
  | .badInitial => .invalidStateError
  | .initialNoRow => .missingStateError
  | .badFinal => .invalidStateError

def DefRule.stage : DefRule → Nat
  | .reservedStateName => 0
  | .reservedInputSymbol => 1
  | .unknownSymbol => 2
  | .unknownEndState => 2
  | .badInitial => 3
  | .initialNoRow => 4
  | .badFinal => 5

def DefRule.ofCore : Rule → DefRule
  | .unknownSymbol => .unknownSymbol
  | .unknownEndState => .unknownEndState
  | .badInitial => .badInitial
  | .initialNoRow => .initialNoRow
  | .badFinal => .badFinal

def defRules (R : Reserved σ α) : RuleSys (NFA σ α) DefRule where
  kind := DefRule.kind
  stage := DefRule.stage
  Violates n
    | .reservedStateName => (∃ q ∈ n.states, R.isNone q = true) ∨ (∃ q ∈ akeys n.trans, R.isNone q = true)
    | .reservedInputSymbol => ∃ a ∈ n.syms, R.isEmptyStr a = true
    | .unknownSymbol => ∃ kv ∈ n.trans, ∃ a, some a ∈ akeys kv.2 ∧ a ∉ n.syms
    | .unknownEndState => ∃ kv ∈ n.trans, ∃ ts ∈ avals kv.2, ∃ q ∈ ts, q ∉ n.states
    | .badInitial => n.init ∉ n.states
    | .initialNoRow => n.init ∉ akeys n.trans ∧ 1 < n.states.length
    | .badFinal => ∃ q ∈ n.finals, q ∉ n.states

omit [DecidableEq σ] [DecidableEq α] in
theorem defRules_stage (R : Reserved σ α) : (defRules R).stage = DefRule.stage := rfl
set_option linter.unusedSectionVars false in
theorem defRules_kind (R : Reserved σ α) : (defRules R).kind = DefRule.kind := rfl

theorem defRules_correct (R : Reserved σ α) : (defRules R).Correct (validateDef R) :=
  Staged.correct (kind := DefRule.kind) (stage := DefRule.stage) rfl rfl (fun n =>
    .andThen (faValidateReserved_staged R n.states (akeys n.trans) n.syms DefRule.reservedStateName
      DefRule.reservedInputSymbol rfl rfl Iff.rfl Iff.rfl) <|
    (rules_staged n).map DefRule.ofCore (by intro b; cases b <;> rfl) (by intro b; cases b <;> exact Iff.rfl))
  (by intro r; cases r <;> decide) (by decide) (by decide)

theorem wfDef_iff (R : Reserved σ α) (n : NFA σ α) : WFDef R n ↔ ∀ r, ¬ (defRules R).Violates n r :=
  (validateDef_eq_ok R n).symm.trans ((defRules_correct R).ok_iff n)

theorem WFDef.raises {R : Reserved σ α} {n n' : NFA σ α} (wf : WFDef R n) (r : DefRule)
    (hv : (defRules R).Violates n' r)
    (hframe : ∀ r', (defRules R).preempts r' r = true →
      (defRules R).Violates n' r' → (defRules R).Violates n r') :
    validateDef R n' = .error (.lib r.kind) :=
  (defRules_correct R).raises_of_valid ((validateDef_eq_ok R n).mpr wf) r hv hframe

end NFA

omit [DecidableEq γ] in
theorem pdaValidateReserved_eq_ok (isEmptyStr : γ → Bool) (stackSyms : List γ) :
    pdaValidateReserved isEmptyStr stackSyms = .ok () ↔ ∀ g ∈ stackSyms, isEmptyStr g = false := by
  unfold pdaValidateReserved
  rw [guardE_eq_ok, not_any_eq_true_iff]

/-- The documented rules of a PDA definition, in the order of the checks. -/
inductive PdaDefRule
  | reservedStackSymbol
  | unknownInputSymbol | nondeterministic | unknownStackSymbol
  | badInitial | badInitialStackSymbol | badFinal | badAcceptanceMode
  deriving DecidableEq, Repr

def PdaDefRule.kind : PdaDefRule → Gen.Err
  | .reservedStackSymbol => .invalidSymbolError
  | .unknownInputSymbol => .invalidSymbolError
  | .nondeterministic => .nondeterminismError
  | .unknownStackSymbol => .invalidSymbolError
  | .badInitial => .invalidStateError
  | .badInitialStackSymbol => .invalidSymbolError
  | .badFinal => .invalidStateError
  | .badAcceptanceMode => .invalidAcceptanceModeError

def PdaDefRule.stage : PdaDefRule → Nat
  | .reservedStackSymbol => 0
  | .unknownInputSymbol => 1
  | .nondeterministic => 1
  | .unknownStackSymbol => 1
  | .badInitial => 2
  | .badInitialStackSymbol => 3
  | .badFinal => 4
  | .badAcceptanceMode => 5

def PdaDefRule.ofCore : PdaRule → PdaDefRule
  | .unknownInputSymbol => .unknownInputSymbol
  | .nondeterministic => .nondeterministic
  | .unknownStackSymbol => .unknownStackSymbol
  | .badInitial => .badInitial
  | .badInitialStackSymbol => .badInitialStackSymbol
  | .badFinal => .badFinal
  | .badAcceptanceMode => .badAcceptanceMode

omit [DecidableEq γ] in
/-- A complete PDA rule system: the reserved stack symbol first, then the staged checks of the core
system. -/
theorem pdaDefRules_correct {δ : Type} {S : RuleSys δ PdaDefRule} {V₂ : δ → PdaRule → Prop}
    {v : δ → Res Unit} (h₂ : ∀ d, Staged PdaRule.kind (V₂ d) pdaGroups (v d)) (isEmptyStr : γ → Bool)
    (gs : δ → List γ) (hkind : S.kind = PdaDefRule.kind) (hstage : S.stage = PdaDefRule.stage)
    (h₀ : ∀ d, S.Violates d .reservedStackSymbol ↔ ∃ g ∈ gs d, isEmptyStr g = true)
    (hV : ∀ d b, S.Violates d (.ofCore b) ↔ V₂ d b) :
    S.Correct fun d => (pdaValidateReserved isEmptyStr (gs d)).andThen (v d) :=
  Staged.correct hkind hstage (fun d =>
    .cons (.guard PdaDefRule.reservedStackSymbol ((h₀ d).trans (not_any_eq_false_iff _ _).symm)) <|
    (h₂ d).map PdaDefRule.ofCore (by intro b; cases b <;> rfl) (hV d))
  (by intro r; cases r <;> decide) (by decide) (by decide)

namespace DPDA

/-- Well-formedness of a DPDA definition when `isEmptyStr` says which stack symbols stand for
the empty string: none of them is a stack symbol, and `DPDA.WF`. -/
structure WFDef (isEmptyStr : γ → Bool) (d : DPDA σ α γ) : Prop extends d.WF where
  noEmptyStackSym : ∀ g ∈ d.stackSyms, isEmptyStr g = false

theorem validateDef_eq_ok (isEmptyStr : γ → Bool) (d : DPDA σ α γ) :
    d.validateDef isEmptyStr = .ok () ↔ d.WFDef isEmptyStr := by
  unfold validateDef
  rw [Res.andThen_eq_ok, pdaValidateReserved_eq_ok, validate_eq_ok]
  exact ⟨fun ⟨a, c⟩ => ⟨c, a⟩, fun h => ⟨h.noEmptyStackSym, h.toWF⟩⟩

@[simp] theorem validateDef_absent (d : DPDA σ α γ) : d.validateDef (fun _ => false) = d.validate := by
  simp [validateDef, pdaValidateReserved, guardE, Res.andThen]

omit [DecidableEq σ] [DecidableEq γ] in
theorem wfDef_absent (d : DPDA σ α γ) : d.WFDef (fun _ => false) ↔ d.WF :=
  ⟨fun h => h.toWF, fun h => ⟨h, fun _ _ => rfl⟩⟩

omit [DecidableEq σ] [DecidableEq γ] in
theorem WFDef.reservedOk {isEmptyStr : γ → Bool} {d : DPDA σ α γ} (wf : d.WFDef isEmptyStr) :
    pdaValidateReserved isEmptyStr d.stackSyms = .ok () :=
  (pdaValidateReserved_eq_ok isEmptyStr d.stackSyms).mpr wf.noEmptyStackSym

theorem validateDef_eq_validate (isEmptyStr : γ → Bool) (d d' : DPDA σ α γ) (wf : d.WFDef isEmptyStr)
    (hg : d'.stackSyms = d.stackSyms) : d'.validateDef isEmptyStr = d'.validate := by
  unfold validateDef
  rw [hg, wf.reservedOk]
  rfl

def defRules (isEmptyStr : γ → Bool) : RuleSys (DPDA σ α γ) PdaDefRule where
  kind := PdaDefRule.kind
  stage := PdaDefRule.stage
  Violates d
    | .reservedStackSymbol => ∃ g ∈ d.stackSyms, isEmptyStr g = true
    | .unknownInputSymbol => ∃ kv ∈ d.trans, ∃ e ∈ kv.2, ∃ a, e.1 = some a ∧ a ∉ d.syms
    | .nondeterministic => ∃ kv ∈ d.trans, ¬ RowDet kv.2
    | .unknownStackSymbol => ∃ kv ∈ d.trans, ∃ e ∈ kv.2, ∃ g ∈ akeys e.2, g ∉ d.stackSyms
    | .badInitial => d.init ∉ d.states
    | .badInitialStackSymbol => d.initStack ∉ d.stackSyms
    | .badFinal => ∃ q ∈ d.finals, q ∉ d.states
    | .badAcceptanceMode => d.mode ∉ Gen.Validate.pdaAcceptanceModes

omit [DecidableEq σ] [DecidableEq γ] in
theorem defRules_stage (isEmptyStr : γ → Bool) :
    (defRules isEmptyStr : RuleSys (DPDA σ α γ) _).stage = PdaDefRule.stage := rfl
set_option linter.unusedSectionVars false in
theorem defRules_kind (isEmptyStr : γ → Bool) :
    (defRules isEmptyStr : RuleSys (DPDA σ α γ) _).kind = PdaDefRule.kind := rfl

theorem defRules_correct (isEmptyStr : γ → Bool) :
    (defRules isEmptyStr : RuleSys (DPDA σ α γ) _).Correct (validateDef isEmptyStr) :=
  pdaDefRules_correct rules_staged isEmptyStr (fun d => d.stackSyms) rfl rfl (fun _ => Iff.rfl)
    (by intro d b; cases b <;> exact Iff.rfl)

theorem wfDef_iff (isEmptyStr : γ → Bool) (d : DPDA σ α γ) :
    d.WFDef isEmptyStr ↔ ∀ r, ¬ (defRules isEmptyStr).Violates d r :=
  (validateDef_eq_ok isEmptyStr d).symm.trans ((defRules_correct isEmptyStr).ok_iff d)

theorem WFDef.raises {isEmptyStr : γ → Bool} {d d' : DPDA σ α γ} (wf : d.WFDef isEmptyStr)
    (r : PdaDefRule) (hv : (defRules isEmptyStr).Violates d' r)
    (hframe : ∀ r', (defRules isEmptyStr : RuleSys (DPDA σ α γ) _).preempts r' r = true →
      (defRules isEmptyStr).Violates d' r' → (defRules isEmptyStr).Violates d r') :
    d'.validateDef isEmptyStr = .error (.lib r.kind) :=
  (defRules_correct isEmptyStr).raises_of_valid ((validateDef_eq_ok isEmptyStr d).mpr wf) r hv hframe

end DPDA

namespace NPDA

structure WFDef (isEmptyStr : γ → Bool) (d : NPDA σ α γ) : Prop extends d.WF where
  noEmptyStackSym : ∀ g ∈ d.stackSyms, isEmptyStr g = false

theorem validateDef_eq_ok (isEmptyStr : γ → Bool) (d : NPDA σ α γ) :
    d.validateDef isEmptyStr = .ok () ↔ d.WFDef isEmptyStr := by
  unfold validateDef
  rw [Res.andThen_eq_ok, pdaValidateReserved_eq_ok, validate_eq_ok]
  exact ⟨fun ⟨a, c⟩ => ⟨c, a⟩, fun h => ⟨h.noEmptyStackSym, h.toWF⟩⟩

@[simp] theorem validateDef_absent (d : NPDA σ α γ) : d.validateDef (fun _ => false) = d.validate := by
  simp [validateDef, pdaValidateReserved, guardE, Res.andThen]

omit [DecidableEq σ] [DecidableEq α] [DecidableEq γ] in
theorem wfDef_absent (d : NPDA σ α γ) : d.WFDef (fun _ => false) ↔ d.WF :=
  ⟨fun h => h.toWF, fun h => ⟨h, fun _ _ => rfl⟩⟩

omit [DecidableEq σ] [DecidableEq α] [DecidableEq γ] in
theorem WFDef.reservedOk {isEmptyStr : γ → Bool} {d : NPDA σ α γ} (wf : d.WFDef isEmptyStr) :
    pdaValidateReserved isEmptyStr d.stackSyms = .ok () :=
  (pdaValidateReserved_eq_ok isEmptyStr d.stackSyms).mpr wf.noEmptyStackSym

theorem validateDef_eq_validate (isEmptyStr : γ → Bool) (d d' : NPDA σ α γ) (wf : d.WFDef isEmptyStr)
    (hg : d'.stackSyms = d.stackSyms) : d'.validateDef isEmptyStr = d'.validate := by
  unfold validateDef
  rw [hg, wf.reservedOk]
  rfl

def defRules (isEmptyStr : γ → Bool) : RuleSys (NPDA σ α γ) PdaDefRule where
  kind := PdaDefRule.kind
  stage := PdaDefRule.stage
  Violates d
    | .reservedStackSymbol => ∃ g ∈ d.stackSyms, isEmptyStr g = true
    | .unknownInputSymbol => ∃ kv ∈ d.trans, ∃ e ∈ kv.2, ∃ a, e.1 = some a ∧ a ∉ d.syms
    | .nondeterministic => False
    | .unknownStackSymbol => ∃ kv ∈ d.trans, ∃ e ∈ kv.2, ∃ g ∈ akeys e.2, g ∉ d.stackSyms
    | .badInitial => d.init ∉ d.states
    | .badInitialStackSymbol => d.initStack ∉ d.stackSyms
    | .badFinal => ∃ q ∈ d.finals, q ∉ d.states
    | .badAcceptanceMode => d.mode ∉ Gen.Validate.pdaAcceptanceModes

omit [DecidableEq σ] [DecidableEq α] [DecidableEq γ] in
theorem defRules_stage (isEmptyStr : γ → Bool) :
    (defRules isEmptyStr : RuleSys (NPDA σ α γ) _).stage = PdaDefRule.stage := rfl
set_option linter.unusedSectionVars false in
theorem defRules_kind (isEmptyStr : γ → Bool) :
    (defRules isEmptyStr : RuleSys (NPDA σ α γ) _).kind = PdaDefRule.kind := rfl

theorem defRules_correct (isEmptyStr : γ → Bool) :
    (defRules isEmptyStr : RuleSys (NPDA σ α γ) _).Correct (validateDef isEmptyStr) :=
  pdaDefRules_correct rules_staged isEmptyStr (fun d => d.stackSyms) rfl rfl (fun _ => Iff.rfl)
    (by intro d b; cases b <;> exact Iff.rfl)

theorem wfDef_iff (isEmptyStr : γ → Bool) (d : NPDA σ α γ) :
    d.WFDef isEmptyStr ↔ ∀ r, ¬ (defRules isEmptyStr).Violates d r :=
  (validateDef_eq_ok isEmptyStr d).symm.trans ((defRules_correct isEmptyStr).ok_iff d)

theorem WFDef.raises {isEmptyStr : γ → Bool} {d d' : NPDA σ α γ} (wf : d.WFDef isEmptyStr)
    (r : PdaDefRule) (hv : (defRules isEmptyStr).Violates d' r)
    (hframe : ∀ r', (defRules isEmptyStr : RuleSys (NPDA σ α γ) _).preempts r' r = true →
      (defRules isEmptyStr).Violates d' r' → (defRules isEmptyStr).Violates d r') :
    d'.validateDef isEmptyStr = .error (.lib r.kind) :=
  (defRules_correct isEmptyStr).raises_of_valid ((validateDef_eq_ok isEmptyStr d).mpr wf) r hv hframe

end NPDA

end AV.VA
