/-
Props/C09b.lean — C09, the clause "the answer is the same as comparing their
determinisations", stated with the library's OWN functions: `A == B` (model `eqOp`, C09)
equals `DFA.from_nfa(A) == DFA.from_nfa(B)` (models `NFA.toDFA`, C07, and `DFA.eqv`, C06).
Kept in its own module because it imports the `from_nfa` results (Proofs/MinGlueSubset) and the
proof of `DFA.__eq__` (Proofs/CompareEqPick).
-/
import AutomataVerif.Props.C09
import AutomataVerif.Proofs.MinGlueSubset
import AutomataVerif.Proofs.CompareEqPick

namespace AV.Props.C09
open AV AV.NFA

variable {σ α : Type} [DecidableEq σ] [DecidableEq α]

/-- Generic form: `A == B` equals `DA == DB` for ANY two valid DFAs (over one state-name type)
that have the alphabets and the languages of `A` and `B`.  Every option combination of
`DFA.from_nfa` below is an instance. -/
theorem eq_det_of {τ : Type} [DecidableEq τ] (pick₁ : Pick σ σ) (pick₂ : Pick σ σ)
    (A B : AV.NFA σ α) (DA DB : AV.DFA τ α)
    (hA : A.validate = .ok ()) (hB : B.validate = .ok ()) (hs : sameSyms A.syms B.syms = true)
    (hvA : DA.validate = .ok ()) (hvB : DB.validate = .ok ())
    (hsA : DA.syms = A.syms) (hsB : DB.syms = B.syms)
    (hlA : ∀ w, DA.accepts w = A.accepts w) (hlB : ∀ w, DB.accepts w = B.accepts w) :
    eqOp pick₁ pick₂ A B = DA.eqv DB := by
  obtain ⟨v, hv, _, hiff⟩ := C09_eq_iff pick₁ pick₂ A B hA hB hs
  -- `DA.symsEq DB`, which `eqv_spec` asks for, is `sameSyms DA.syms DB.syms` by definition
  have hsy : sameSyms DA.syms DB.syms = true := by rw [hsA, hsB]; exact hs
  exact same_answer ⟨v, hv, hiff⟩ (by simpa only [hlA, hlB] using DFA.eqv_spec DA DB hvA hvB hsy)

/-- `eq_det_of` for two `Result`s: what every option combination of `DFA.from_nfa` provides. -/
theorem eq_det_of_result {τ : Type} [DecidableEq τ] (pick₁ pick₂ : Pick σ σ) (A B : AV.NFA σ α)
    {DA DB : AV.DFA τ α} (hA : A.validate = .ok ()) (hB : B.validate = .ok ())
    (hs : sameSyms A.syms B.syms = true) (rA : C04.Result A.syms DA A.accepts)
    (rB : C04.Result B.syms DB B.accepts) : eqOp pick₁ pick₂ A B = DA.eqv DB :=
  eq_det_of pick₁ pick₂ A B DA DB hA hB hs rA.valid rB.valid rA.syms rB.syms rA.lang rB.lang

/-- **Same as comparing the determinisations (library functions).**  For valid NFAs over a
common alphabet, `A == B` returns exactly what `DFA.from_nfa(A) == DFA.from_nfa(B)` returns,
for every choice of union–find representatives on either side. -/
theorem C09_eq_det_lib (pick₁ : Pick σ σ) (pick₂ : Pick σ σ) (A B : AV.NFA σ α)
    (hA : A.validate = .ok ()) (hB : B.validate = .ok ()) (pA : A.PyShape) (pB : B.PyShape)
    (hs : sameSyms A.syms B.syms = true) :
    eqOp pick₁ pick₂ A B = A.toDFA.eqv B.toDFA :=
  eq_det_of_result pick₁ pick₂ A B hA hB hs (C07.toDFA_result ((NFA.validate_eq_ok A).mp hA) pA).1
    (C07.toDFA_result ((NFA.validate_eq_ok B).mp hB) pB).1

/-- **Same as comparing the determinisations, `minify=True, retain_names=True`.**  `A == B`
returns exactly what `DFA.from_nfa(A, retain_names=True) == DFA.from_nfa(B, retain_names=True)`
returns: each side is determinised AND minimised (for every pop order `pa`, `pb` of the two
Hopcroft loops), and the results are compared by `DFA.__eq__`.  (`minify=True` is the default,
`retain_names=True` is not: the literal default call is `C09_eq_det_lib_default_renumbered`.) -/
theorem C09_eq_det_lib_default (pick₁ pick₂ : Pick σ σ) (pa pb : List Nat → Nat) (A B : AV.NFA σ α)
    (hA : A.validate = .ok ()) (hB : B.validate = .ok ()) (pA : A.PyShape) (pB : B.PyShape)
    (hs : sameSyms A.syms B.syms = true) :
    eqOp pick₁ pick₂ A B = (A.toDFAMin pa).eqv (B.toDFAMin pb) :=
  eq_det_of_result pick₁ pick₂ A B hA hB hs (C07.toDFAMin_result ((NFA.validate_eq_ok A).mp hA) pA pa)
    (C07.toDFAMin_result ((NFA.validate_eq_ok B).mp hB) pB pb)

/-- **Same as comparing the determinisations — the literal default call.**
`DFA.from_nfa(A) == DFA.from_nfa(B)` with the library's default options
(`retain_names=False, minify=True`: subset construction, renumbering by BFS discovery index,
`_minify` on the renumbered table — `NFA.toDFAMinRenum`, C07) returns exactly what `A == B`
returns, for every union–find representative choice and every pop order of the two
Hopcroft loops. -/
theorem C09_eq_det_lib_default_renumbered (pick₁ pick₂ : Pick σ σ) (pa pb : List Nat → Nat)
    (A B : AV.NFA σ α)
    (hA : A.validate = .ok ()) (hB : B.validate = .ok ()) (pA : A.PyShape) (pB : B.PyShape)
    (hs : sameSyms A.syms B.syms = true) :
    eqOp pick₁ pick₂ A B = (A.toDFAMinRenum pa).eqv (B.toDFAMinRenum pb) :=
  eq_det_of_result pick₁ pick₂ A B hA hB hs
    (C07.toDFAMinRenum_result ((NFA.validate_eq_ok A).mp hA) pA pa)
    (C07.toDFAMinRenum_result ((NFA.validate_eq_ok B).mp hB) pB pb)

/-- … and with `retain_names=False, minify=False` (renumbered subset DFAs). -/
theorem C09_eq_det_lib_renumbered (pick₁ pick₂ : Pick σ σ) (A B : AV.NFA σ α)
    (hA : A.validate = .ok ()) (hB : B.validate = .ok ()) (pA : A.PyShape) (pB : B.PyShape)
    (hs : sameSyms A.syms B.syms = true) :
    eqOp pick₁ pick₂ A B = A.toDFA.renumber.eqv B.toDFA.renumber :=
  let ⟨rA, tA⟩ := C07.toDFA_result ((NFA.validate_eq_ok A).mp hA) pA
  let ⟨rB, tB⟩ := C07.toDFA_result ((NFA.validate_eq_ok B).mp hB) pB
  eq_det_of_result pick₁ pick₂ A B hA hB hs (rA.renumber tA.keys) (rB.renumber tB.keys)

theorem exA_pyShape : exA.PyShape := ⟨by decide +kernel, by decide +kernel, by decide +kernel, by decide +kernel, by decide +kernel, by decide +kernel⟩
theorem exB_pyShape : exB.PyShape := ⟨by decide +kernel, by decide +kernel, by decide +kernel, by decide +kernel, by decide +kernel, by decide +kernel⟩
theorem exC_pyShape : exC.PyShape := ⟨by decide +kernel, by decide +kernel, by decide +kernel, by decide +kernel, by decide +kernel, by decide +kernel⟩

example : (exA.toDFAMinRenum).eqv (exB.toDFAMinRenum) = some true ∧
    (exA.toDFAMinRenum).eqv (exC.toDFAMinRenum) = some false := by decide +kernel
example : eqOp exPick exPick exA exB = (exA.toDFAMinRenum).eqv (exB.toDFAMinRenum) :=
  C09_eq_det_lib_default_renumbered _ _ _ _ exA exB (by decide +kernel) (by decide +kernel) exA_pyShape exB_pyShape
    (by decide +kernel)

end AV.Props.C09
