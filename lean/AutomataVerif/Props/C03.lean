/-
Props/C03.lean — C03: Turing-machine simulation is faithful step by step (DTM, NTM, multitape).

English statement (properties.jsonl): for every valid deterministic or nondeterministic
Turing machine and every input, the k-th configuration (set of configurations for a
nondeterministic machine) produced by step-by-step reading is exactly what k applications of
the transition function to the initial configuration give on a tape that is blank-extended
in both directions, and a multitape machine visits exactly the reachable configurations in
breadth-first order; a run accepts as soon as a final state is reached and rejects when every
branch is stuck.  A deterministic table, the same table given as a nondeterministic machine,
and the same table given as a one-tape multitape machine return the same verdict on every
input.  Quantifier: all valid tables (moves L/R/N, writing blanks, running off either tape
end), all inputs, all step counts up to the budget; halting is not assumed.

How it is stated here.
* The model (`Model/TM*.lean`) mirrors the code: `TMTape` as tuple + index with the padding
  of `__init__`/`move`, and the three `read_input_stepwise` generators, observed through `n`
  calls of `next()` (`readStepwise w n` = yields so far + `returned` / `raised e` / `running`).
* The reference (`Spec/TM.lean`) knows nothing of stored cells: a tape is a function
  `Int → Γ` relative to the head, blank outside the input; `vstep` / `VStep` are the textbook
  transition function / relation; `viewCfg`, `viewM` say what a stored configuration stands for.
* Theorems below hold for every machine, input, budget `n` and index `k`.  Validity
  (`validate = .ok ()`) is needed only where the code relies on it (final states carry no
  rows: MNTM acceptance test, agreement of a DTM with its one-tape MNTM; the agreement with its
  NTM, `C03_agree_ntm`, needs none).
-/
import AutomataVerif.Proofs.TMAgree
import AutomataVerif.Proofs.TMValidate
import Batteries.Lean.Except

namespace AV.Props.C03
open AV AV.TM

variable {σ Γ : Type} [DecidableEq σ] [DecidableEq Γ]

set_option linter.unusedSectionVars false in
/-- Class invariant: the constructor, `write_symbol` and `move` always leave a cell under the
cursor (so `read_symbol`/`write_symbol` never raise `IndexError`). -/
theorem C03_tape_invariant (cells : List Γ) (b : Γ) (p : Nat) (t : Tape Γ) (s : Γ) (d : Dir) :
    (Tape.init cells b p).WF ∧ (t.write s).WF ∧ (t.move d).WF :=
  ⟨Tape.init_wf _ _ _, Tape.write_wf _ _, Tape.move_wf _ _⟩

set_option linter.unusedSectionVars false in
/-- `TMTape(w, blank)` stands for: `w` from the head rightwards, blank everywhere else — also
for the empty input, and to the left of the head. -/
theorem C03_tape_init (w : List Γ) (b : Γ) : (Tape.init w b).view = blankTape b w :=
  Tape.init_view w b

set_option linter.unusedSectionVars false in
/-- `read_symbol` returns the scanned cell. -/
theorem C03_tape_read (t : Tape Γ) : t.read = t.view 0 := Tape.read_eq_view t

set_option linter.unusedSectionVars false in
/-- **Write + move** on the stored tape is: overwrite the scanned cell, then shift the
two-way infinite tape — at both ends of the stored cells (a blank is inserted at index 0 on a
left move from index 0, appended on a right move past the end), for `L`, `R`, `N`, and when
the written symbol is the blank.  The blank symbol of the tape never changes. -/
theorem C03_tape_write_move (t : Tape Γ) (h : t.WF) (s : Γ) (d : Dir) :
    ((t.write s).move d).view = shift d (Function.update t.view 0 s) ∧
    ((t.write s).move d).blank = t.blank :=
  ⟨Tape.write_move_view h s d, rfl⟩

/-- The `k`-th configuration yielded by `DTM.read_input_stepwise` stands for `k` applications
of the transition function to the initial configuration (input on a tape that is blank in
both directions).  No validity assumption, any budget `n`. -/
theorem C03_dtm_kth (M : DTM σ Γ) (w : List Γ) (n k : Nat) (c : Cfg σ Γ)
    (h : (M.readStepwise w n).1[k]? = some c) : M.vrun w k = some (viewCfg c) :=
  (M.linGen.yield_view (M.vrun_some_iff w) h _).mp rfl

/-- The sequence of yields stops exactly at the first final state or the first stuck
configuration: a `k`-th configuration is yielded iff the budget allows it, `k` applications
of the transition function are defined, and none of the configurations before is final. -/
theorem C03_dtm_yield_exists_iff (M : DTM σ Γ) (w : List Γ) (n k : Nat) :
    (∃ c, (M.readStepwise w n).1[k]? = some c) ↔
      k < n ∧ (∃ v, M.vrun w k = some v) ∧
        ∀ j, j < k → ∀ v, M.vrun w j = some v → v.state ∉ M.finals :=
  M.linGen.yield_exists_iff_view_ne (M.vrun_some_iff w) M.fin_iff_view (fun _ => ⟨_, rfl⟩) n k

/-- **Accept as soon as a final state is reached**: the generator returns (⇒ `accepts_input`
is `True`) within `n` calls iff the run reaches its first final state after some `k` steps
with `k + 2 ≤ n` (`k + 1` calls yield configurations `0 … k`, the next one returns). -/
theorem C03_dtm_accept_iff (M : DTM σ Γ) (w : List Γ) (n : Nat) :
    (M.readStepwise w n).2 = .returned ↔ ∃ k, k + 2 ≤ n ∧ M.AcceptsAt w k :=
  M.linGen.returned_iff_view (M.vrun_some_iff w) M.fin_iff_view n

/-- **Reject when stuck**: the generator raises within `n` calls iff the run reaches, after
some `k` steps with `k + 2 ≤ n`, a non-final configuration without applicable row, no final
state before — and the exception is `RejectionException`, nothing else. -/
theorem C03_dtm_reject_iff (M : DTM σ Γ) (w : List Γ) (n : Nat) (e : Exn) :
    (M.readStepwise w n).2 = .raised e ↔
      e = .lib .rejectionException ∧ ∃ k, k + 2 ≤ n ∧ M.StuckAt w k :=
  M.linGen.raised_iff_view (M.vrun_some_iff w) M.fin_iff_view
    (P := fun v => v.state ∉ M.finals ∧ M.vstep v = none)
    (fun t => by simp [← M.vstep_eq_none_iff, viewCfg]) n e

/-- While the generator is still running, every call so far yielded a configuration. -/
theorem C03_dtm_running (M : DTM σ Γ) (w : List Γ) (n : Nat)
    (h : (M.readStepwise w n).2 = .running) : (M.readStepwise w n).1.length = n :=
  genStart_running_length _ _ _ n h

/-- The `k`-th set yielded by `NTM.read_input_stepwise` is, as a set of configurations on
blank-extended tapes, exactly the set of `k`-step successors of the initial configuration. -/
theorem C03_ntm_kth (M : NTM σ Γ) (w : List Γ) (n k : Nat) (L : List (Cfg σ Γ))
    (h : (M.readStepwise w n).1[k]? = some L) (v : VCfg σ Γ) :
    (∃ c ∈ L, viewCfg c = v) ↔ M.vlevel w k v :=
  M.linGen.yield_view (M.vlevel_iff w) h v

/-- A `k`-th set is yielded iff the budget allows it and all earlier levels are non-empty and
contain no final state (the `k`-th set itself may be empty: it is yielded, then the next call
rejects). -/
theorem C03_ntm_yield_exists_iff (M : NTM σ Γ) (w : List Γ) (n k : Nat) :
    (∃ L, (M.readStepwise w n).1[k]? = some L) ↔
      k < n ∧ (k = 0 ∨ ∃ v, M.vlevel w (k - 1) v) ∧
        ∀ j, j < k → ∀ v, M.vlevel w j v → v.state ∉ M.finals :=
  M.linGen.yield_exists_iff_view (M.vlevel_iff w) M.fin_iff_view M.stuck_iff_view n k

/-- **Accept as soon as a level contains a final state**. -/
theorem C03_ntm_accept_iff (M : NTM σ Γ) (w : List Γ) (n : Nat) :
    (M.readStepwise w n).2 = .returned ↔ ∃ k, k + 2 ≤ n ∧ M.AcceptsAt w k :=
  M.linGen.returned_iff_view (M.vlevel_iff w) M.fin_iff_view n

/-- **Reject when every branch is stuck** (some level is empty, no final state before), by
`RejectionException` and nothing else. -/
theorem C03_ntm_reject_iff (M : NTM σ Γ) (w : List Γ) (n : Nat) (e : Exn) :
    (M.readStepwise w n).2 = .raised e ↔
      e = .lib .rejectionException ∧ ∃ k, k + 2 ≤ n ∧ M.StuckAt w k :=
  M.linGen.raised_iff_view_set (M.vlevel_iff w) M.fin_iff_view M.stuck_iff_view n e

/-- Validation gives what the run relies on: final states carry no transitions — the MNTM theorems
below take `validate = ok` and get this from it, they do not assume it.  The second part, the initial
state is not final, is the remark in `DTM.read_input_stepwise` ("the first iteration is always
guaranteed to run"); no theorem here needs it. -/
theorem C03_valid_final_no_rows (M : MNTM σ Γ) (hv : M.validate = .ok ()) :
    (∀ q ∈ M.finals, alookup q M.trans = none) ∧ M.init ∉ M.finals :=
  M.validate_final_no_rows hv

/-- **Breadth-first visit.**  For a valid multitape machine, the configurations yielded within
`n` calls stand for the first `n` elements of `level 0 ++ level 1 ++ level 2 ++ …` — level
`d + 1` being the successors, in the order the library enqueues them, of level `d` (path
multiplicity kept, no visited set) — cut right after the first configuration in a final state;
the generator then returns (one more call), raises `RejectionException` when all levels are
exhausted without a final state, and is otherwise still running (`Q.endOf`, characterised by
`Q.endOf_eq_returned` / `Q.endOf_eq_raised`; `Q.cutThrough` keeps a list up to and including its first
final configuration). -/
theorem C03_mntm_bfs (M : MNTM σ Γ) (hv : M.validate = .ok ()) (w : List Γ) (n : Nat) :
    (M.readStepwise w n).1.map viewM = Q.cutThrough M.isFinal ((M.vlevelsUpTo w n).take n) ∧
    (M.readStepwise w n).2 = Q.endOf M.isFinal n ((M.vlevelsUpTo w n).take n) :=
  M.readStepwise_view (M.validate_final_no_rows hv).1 w n

/-- Level `d` consists exactly of the configurations reachable in `d` steps: the visit is over
exactly the reachable configurations. -/
theorem C03_mntm_level_reach (M : MNTM σ Γ) (w : List Γ) (d : Nat) (v : VMCfg σ Γ) :
    v ∈ M.vlevel w d ↔ ReachN M.VStep d (M.vstart w) v :=
  M.mem_vlevel w d v

/-- A valid MNTM accepts (some budget makes the generator return) iff a configuration in a
final state is reachable. -/
theorem C03_mntm_accepts_iff (M : MNTM σ Γ) (hv : M.validate = .ok ()) (w : List Γ) :
    (∃ n, (M.readStepwise w n).2 = .returned) ↔
      ∃ d v, ReachN M.VStep d (M.vstart w) v ∧ v.state ∈ M.finals := by
  simp only [(M.readStepwise_view_qobs (M.validate_final_no_rows hv).1 w _).2]
  rw [Q.qobs_accept_iff]
  simp only [← MNTM.vlevel_eq_lvl, MNTM.mem_vlevel, MNTM.isFinal, decide_eq_true_eq]

/-- A valid MNTM rejects iff every branch is stuck (no configuration is reachable in `D`
steps, for some `D`) and no reachable configuration is in a final state; the exception is
`RejectionException`; the generator raises nothing else. -/
theorem C03_mntm_rejects_iff (M : MNTM σ Γ) (hv : M.validate = .ok ()) (w : List Γ) (e : Exn) :
    (∃ n, (M.readStepwise w n).2 = .raised e) ↔
      e = .lib .rejectionException ∧ (∃ D, ∀ v, ¬ ReachN M.VStep D (M.vstart w) v) ∧
        ∀ d v, ReachN M.VStep d (M.vstart w) v → v.state ∉ M.finals := by
  simp only [(M.readStepwise_view_qobs (M.validate_final_no_rows hv).1 w _).2, Q.qobs_reject_iff,
    ← MNTM.vlevel_eq_lvl, MNTM.mem_vlevel, MNTM.isFinal, decide_eq_false_iff_not,
    List.eq_nil_iff_forall_not_mem]
  rfl

/-- "The same table given as a nondeterministic machine, and the same table given as a one-tape
multitape machine" exist whenever the deterministic machine does: a table the DTM constructor
accepts is accepted by the NTM constructor (results as singleton sets) and by the MNTM
constructor (`n_tapes = 1`, keys as 1-tuples, results as one-element lists of one move). -/
theorem C03_lift_valid (M : DTM σ Γ) (hv : M.validate = .ok ()) :
    M.asNTM.validate = .ok () ∧ M.asMNTM.validate = .ok () :=
  ⟨M.asNTM_validate hv, M.asMNTM_validate hv⟩

/-- The same deterministic table as DTM and as one-tape MNTM: the generators end the same way
at every budget (so `accepts_input` agrees whenever it is decided), and the MNTM yields the
same configurations. -/
theorem C03_agree_mntm (M : DTM σ Γ) (hv : M.validate = .ok ()) (w : List Γ) (n : Nat) :
    M.asMNTM.readStepwise w n =
      ((M.readStepwise w n).1.map DTM.toM, (M.readStepwise w n).2) ∧
    M.asMNTM.verdict w n = M.verdict w n := by
  have h := M.asMNTM_readStepwise (M.validate_final_no_rows hv).1 w n
  exact ⟨h, by unfold MNTM.verdict DTM.verdict; rw [h]⟩

/-- The same deterministic table as DTM and as NTM: whenever one of them is decided within a
budget, the other one is decided the same way (the NTM needs one more call to notice that
the only branch is stuck). -/
theorem C03_agree_ntm (M : DTM σ Γ) (w : List Γ) (n : Nat) :
    ((M.readStepwise w n).2 ≠ .running →
      (M.asNTM.readStepwise w (n + 1)).2 = (M.readStepwise w n).2) ∧
    ((M.asNTM.readStepwise w n).2 ≠ .running →
      (M.readStepwise w n).2 = (M.asNTM.readStepwise w n).2) := by
  cases n with
  | zero => exact ⟨fun h => absurd rfl h, fun h => absurd rfl h⟩
  | succ n =>
    exact M.linGen.singleton_end M.asNTM.linGen M.asNTM_fin M.asNTM_nxt M.asNTM.resume_nil n (M.initCfg w)

/-- **Same verdict, three ways**: for a valid deterministic table and any input, a verdict
(accept / reject) decided by the DTM within `n` calls is the verdict of the same table run as
NTM (within `n + 1` calls) and as one-tape MNTM (within `n` calls).  The converse for the NTM is
`C03_agree_ntm`. -/
theorem C03_agree (M : DTM σ Γ) (hv : M.validate = .ok ()) (w : List Γ) (n : Nat) (v : Verdict)
    (hd : M.verdict w n = .ok v) (hv' : v ≠ .outOfFuel) :
    M.asNTM.verdict w (n + 1) = .ok v ∧ M.asMNTM.verdict w n = .ok v := by
  refine ⟨?_, by rw [(C03_agree_mntm M hv w n).2, hd]⟩
  unfold DTM.verdict at hd
  unfold NTM.verdict
  have hne : (M.readStepwise w n).2 ≠ .running := by
    intro h; rw [h] at hd; simp only [verdictOf, Except.ok.injEq] at hd; exact hv' hd.symm
  rw [(C03_agree_ntm M w n).1 hne, hd]

/-- `q0 -0/#,L→ q0`, `q0 -#/0,L→ q1`, `q1 -#/#,R→ q2 (final)`: erases the input cell, runs off
the left end twice (blank inserted at index 0), comes back. States 0,1,2; symbols 0 ('0'),
9 (blank). -/
def exD : DTM Nat Nat :=
  { states := [0, 1, 2], inputSyms := [0], tapeSyms := [0, 9],
    trans := [(0, [(0, (0, 9, .L)), (9, (1, 0, .L))]), (1, [(9, (2, 9, .R))])],
    init := 0, blank := 9, finals := [2] }

theorem exD_valid : exD.validate = .ok () := by decide +kernel
example : exD.validate = .ok () := exD_valid
example : exD.asNTM.validate = .ok () ∧ exD.asMNTM.validate = .ok () := C03_lift_valid exD exD_valid
example : (exD.readStepwise [0] 6).2 = .returned := by decide +kernel
example : ((exD.readStepwise [0] 6).1.map fun c => (c.state, c.tape.cells, c.tape.pos)) =
    [(0, [0], 0), (0, [9, 9], 0), (1, [9, 0, 9], 0), (2, [9, 0, 9], 1)] := by decide +kernel
example : exD.verdict [0] 6 = .ok .accept ∧ exD.asNTM.verdict [0] 7 = .ok .accept ∧
    exD.asMNTM.verdict [0] 6 = .ok .accept := by decide +kernel
/-- `[0, 5]` is accepted (the `5` is never scanned); on `[5]` the run is stuck at once (`q0` scans a
symbol without row): rejected by all three -/
example : exD.verdict [0, 5] 9 = .ok .accept ∧ exD.verdict [5] 9 = .ok .reject ∧
    exD.asNTM.verdict [5] 10 = .ok .reject ∧ exD.asMNTM.verdict [5] 9 = .ok .reject := by decide +kernel
example : (Tape.init [0] 9).WF := Tape.init_wf _ _ _

/-- A nondeterministic two-tape machine with two successors (queue order: second first). -/
def exM : MNTM Nat Nat :=
  { states := [0, 1], inputSyms := [0], tapeSyms := [0, 9], nTapes := 2,
    trans := [(0, [([0, 9], [(0, [(0, .R), (0, .L)]), (1, [(9, .N), (0, .R)])])])],
    init := 0, blank := 9, finals := [1] }

example : exM.validate = .ok () := by decide +kernel
example : (exM.readStepwise [0, 0] 4).2 = .returned ∧
    (exM.readStepwise [0, 0] 4).1.map (·.state) = [0, 1] := by decide +kernel

end AV.Props.C03
