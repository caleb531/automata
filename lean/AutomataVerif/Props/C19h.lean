/-
Props/C19h.lean — C19, crash-freedom of the conversions whose model is a TOTAL function (the gap
left by Props/C19g.lean): `DFA.from_nfa` (`_expand_dfa` + `_iterate_through_symbol_path_pairs`),
`NFA.eliminate_lambda`, `NFA.from_dfa`, and `DFA.complement(minify=True)` of a PARTIAL operand.

Model/ConvertE.lean refines the total models of Model/Convert.lean with explicit Python failures
(every dict subscript of the real function can raise `KeyError`; the list with line numbers is in
its header).  Here: on a definition accepted by `validate` the failure-tracking version returns
`.ok` of exactly the value of the total model — the model that the C07 language theorems
(`C07_from_nfa_lang`, `C07_from_nfa_min`, `C07_elim_lang`, `C07_from_dfa_lang`) are about.

What validation ACCEPTS and the theorems therefore cover: rows keyed by non-states (their target
sets are validated like every other row, so `lambda_closures[end_state]` hits even when such a row
is read), states without a row (`transitions.get(state, {})`), empty target sets, lambda cycles,
unreachable parts.

`_expand_dfa` is modelled as the loop the code runs (one step per edge yielded by `_bfs_edges`),
and the subscript `transitions[cur_state_name]` is shown to hit at every step; the loop is
proved to produce the very table, state list, final list and `allow_partial` flag of the total
model `DFA.expand`, for ANY successor function satisfying `ExpandHyp` (`expandE_eq`), so the
result also covers the other callers of `_expand_dfa` once their `expand_state_fn` is shown not
to fail.  The `retain_names=False` loop (Model/ConvertERenum.lean: tables keyed by the integers
handed out by `get_renaming_function(count(0))`, `visited_set` / `queue` holding subset states) is
proved to simulate the `retain_names=True` loop step by step (Proofs/ConvertERenum.lean), so it
fails nowhere either and builds `renumber` of the same DFA.  All four `retain_names × minify`
variants of `from_nfa` are covered (for `retain_names=False, minify=True` up to the final renaming
of the blocks inside `_minify`, a `setdefault`, which is the total model's).
No subscript was found that can fail on an accepted definition.
-/
import AutomataVerif.Proofs.ConvertE
import AutomataVerif.Proofs.ConvertERenum
import AutomataVerif.Proofs.MinGlueSubset
import AutomataVerif.Proofs.Complete
import AutomataVerif.Props.C19g
import AutomataVerif.Props.C07

namespace AV

namespace Props.C19
open AV.DFA AV.C07
variable {σ α : Type} [DecidableEq σ] [DecidableEq α]

/-- **`_iterate_through_symbol_path_pairs(S)` raises no `KeyError`** for ANY set `S` of names
(states, non-states, names of rows keyed by non-states): every `lambda_closures[end_state]` hits,
because validation checks the target sets of every row of the table. -/
theorem C19_symbol_path_pairs_no_keyerror (n : AV.NFA σ α) (hv : n.validate = .ok ())
    (S : List σ) : n.subsetSuccE S = .ok (n.subsetSucc S) :=
  NFA.subsetSuccE_eq ((NFA.validate_eq_ok n).mp hv) S

/-- **The loop of `_expand_dfa` raises no `KeyError`** (`transitions[cur_state_name]` at every
edge) whenever the BFS is exhaustive (`ExpandHyp`) and `expand_state_fn` does not fail on the
universe, and it builds exactly the DFA of the total model `DFA.expand` (same state order, same
rows, same final list, same `allow_partial`). -/
theorem C19_expand_dfa_no_keyerror {S : Type} [DecidableEq S] {succE : S → Res (List (α × S))}
    {succ : S → List (α × S)} {univ : List S} {fuel : Nat} {init : S} (isFin : S → Bool)
    (syms : List α) (h : ExpandHyp succ univ fuel init)
    (hsE : ∀ u ∈ univ, succE u = .ok (succ u)) :
    expandE succE isFin syms fuel init = .ok (expand succ isFin syms fuel init) :=
  expandE_eq isFin syms h hsE

/-- **`DFA.from_nfa(n, retain_names=True, minify=False)` raises no `KeyError`** on an accepted
definition — `_get_lambda_closures()[initial_state]`, every `lambda_closures[end_state]`, every
`transitions[cur_state_name]` — and returns the value of the total model (the one
`C07_from_nfa_lang` / `C07_from_nfa_valid` are about). -/
theorem C19_from_nfa_no_keyerror (n : AV.NFA σ α) (hv : n.validate = .ok ()) :
    n.toDFAE = .ok n.toDFA := by
  have wf := (NFA.validate_eq_ok n).mp hv
  unfold NFA.toDFAE
  rw [bindE_ok (NFA.closureE_eq wf.initOk)]
  exact expandE_eq _ _ (subset_expandHyp n (n.closure n.init)) (fun u _ => NFA.subsetSuccE_eq wf u)

/-- **`DFA.from_nfa(n, retain_names=True, minify=True)` raises no `KeyError` / `StopIteration`**
on an accepted definition (expansion, then every subscript of `_minify`, for every pop order
`pick`) and returns the value of the total model (`C07_from_nfa_min`). -/
theorem C19_from_nfa_min_no_keyerror (n : AV.NFA σ α) (hv : n.validate = .ok ()) (ps : n.PyShape)
    (pick : List Nat → Nat) : n.toDFAMinE pick = .ok (n.toDFAMin pick) := by
  have wf := (NFA.validate_eq_ok n).mp hv
  unfold NFA.toDFAMinE
  rw [bindE_ok (C19_from_nfa_no_keyerror n hv)]
  exact minifyCoreE_eq (toDFA_minSource wf ps) pick

/-- **The loop of `_expand_dfa(retain_names=False)` raises no `KeyError`** under the same
hypotheses (tables keyed by the integers of `get_renaming_function(count(0))`), and builds exactly
`renumber` of the total model. -/
theorem C19_expand_dfa_renum_no_keyerror {S : Type} [DecidableEq S]
    {succE : S → Res (List (α × S))} {succ : S → List (α × S)} {univ : List S} {fuel : Nat}
    {init : S} (isFin : S → Bool) (syms : List α) (h : ExpandHyp succ univ fuel init)
    (hsE : ∀ u ∈ univ, succE u = .ok (succ u)) :
    expandRenumE succE isFin syms fuel init = .ok (expand succ isFin syms fuel init).renumber :=
  expandRenumE_eq isFin syms h hsE

/-- **`DFA.from_nfa(n, retain_names=False, minify=False)` raises no `KeyError`** on an accepted
definition and returns the value of the total model (`C07_from_nfa_renumbered`). -/
theorem C19_from_nfa_renum_no_keyerror (n : AV.NFA σ α) (hv : n.validate = .ok ()) :
    n.toDFARenumE = .ok n.toDFA.renumber := by
  have wf := (NFA.validate_eq_ok n).mp hv
  unfold NFA.toDFARenumE
  rw [bindE_ok (NFA.closureE_eq wf.initOk)]
  exact expandRenumE_eq _ _ (subset_expandHyp n (n.closure n.init))
    (fun u _ => NFA.subsetSuccE_eq wf u)

/-- **`DFA.from_nfa(n)` with the DEFAULT options (`retain_names=False, minify=True`) raises no
`KeyError` / `StopIteration`** on an accepted definition, for every pop order, and returns the
value of the total model `toDFAMinRenum` (`C07_from_nfa_min_renumbered`). -/
theorem C19_from_nfa_default_no_keyerror (n : AV.NFA σ α) (hv : n.validate = .ok ())
    (ps : n.PyShape) (pick : List Nat → Nat) :
    n.toDFAMinRenumE pick = .ok (n.toDFAMinRenum pick) := by
  have wf := (NFA.validate_eq_ok n).mp hv
  unfold NFA.toDFAMinRenumE
  rw [bindE_ok (C19_from_nfa_renum_no_keyerror n hv)]
  exact minifyCoreE_eq (toDFA_renumber_minSource wf ps) pick

/-- **`eliminate_lambda()` raises no `KeyError`** on an accepted definition —
`lambda_closures[state]` for every declared state, `lambda_closures[end_state]` inside
`_get_next_current_states` for every state of every lambda enclosure — and hands the constructor
exactly the arguments of the total model (`C07_elim_lang`; by `C07_elim_valid` the constructor
accepts them). -/
theorem C19_eliminate_lambda_no_keyerror (n : AV.NFA σ α) (hv : n.validate = .ok ()) :
    n.eliminateLambdaE = .ok n.eliminateLambda :=
  NFA.eliminateLambdaE_eq ((NFA.validate_eq_ok n).mp hv)

/-- `eliminate_lambda()` ends with no exception at all on an accepted definition: no `KeyError`
in `_eliminate_lambda`, and the final constructor call validates its arguments successfully. -/
theorem C19_eliminate_lambda_total (n : AV.NFA σ α) (hv : n.validate = .ok ()) (ps : n.PyShape) :
    ∃ r, n.eliminateLambdaE = .ok r ∧ r.validate = .ok () :=
  ⟨n.eliminateLambda, C19_eliminate_lambda_no_keyerror n hv, AV.Props.C07.C07_elim_valid n hv ps⟩

/-- **`NFA.from_dfa(d)`** performs no subscript (a dict comprehension over `.items()`); its
constructor call accepts the arguments whenever `d` is an accepted DFA. -/
theorem C19_from_dfa_total (d : AV.DFA σ α) (hv : d.validate = .ok ()) :
    ∃ r, NFA.ofDFAE d = .ok r ∧ r = NFA.ofDFA d ∧ r.validate = .ok () :=
  ⟨NFA.ofDFA d, rfl, rfl, AV.Props.C07.C07_from_dfa_valid d hv⟩

/-- The round trip `DFA.from_nfa(NFA.from_dfa(d), retain_names=True, minify=False)` raises no
`KeyError` on an accepted DFA. -/
theorem C19_from_dfa_from_nfa_no_keyerror (d : AV.DFA σ α) (hv : d.validate = .ok ()) :
    (NFA.ofDFA d).toDFAE = .ok (NFA.ofDFA d).toDFA :=
  C19_from_nfa_no_keyerror _ (AV.Props.C07.C07_from_dfa_valid d hv)

/-- **`complement(retain_names=True, minify=True)` raises no `KeyError` / `StopIteration`** on an
accepted definition, PARTIAL OR COMPLETE, as the code composes it: `to_complete()` iff
`allow_partial` (with the trap id the code finds, any name — the result of `to_complete` is a
well-formed complete table whatever it is), `complete_dfa.transitions[state]` in the BFS, then
`_minify`.  The value is the one of the total model `complementMinFull` (`C04_complement_min`). -/
theorem C19_complement_min_full_no_keyerror (d : AV.DFA σ α) (hv : d.validate = .ok ())
    (ps : d.PyShape) (trap : σ) (pick : List Nat → Nat) :
    ∃ C, (if d.allowPartial then d.toComplete trap false else .ok d) = .ok C ∧
      d.complementMinFull trap pick = .ok (C.complementMin pick) ∧
      d.complementMinFullE trap pick = .ok (C.complementMin pick) := by
  obtain ⟨C, hC, wfC, pC, _, hc, _⟩ :=
    C04.complementOperand_shape ((DFA.validate_eq_ok d).mp hv) ps trap
  exact ⟨C, hC, by rw [complementMinFull, hC],
    by rw [complementMinFullE, hC]; exact complementMinE_eq wfC pC hc pick⟩

/-- The gap of Props/C19g.lean for these operations, in the vocabulary of Props/C19e.lean: none
of them ends with an undocumented Python error on an accepted definition. -/
theorem C19_conversions_no_crash (n : AV.NFA σ α) (hv : n.validate = .ok ()) (ps : n.PyShape)
    (pick : List Nat → Nat) :
    (∀ e : PyErr, n.toDFAE ≠ .error (.py e)) ∧
    (∀ e : PyErr, n.toDFAMinE pick ≠ .error (.py e)) ∧
    (∀ e : PyErr, n.toDFARenumE ≠ .error (.py e)) ∧
    (∀ e : PyErr, n.toDFAMinRenumE pick ≠ .error (.py e)) ∧
    (∀ e : PyErr, n.eliminateLambdaE ≠ .error (.py e)) :=
  ⟨ok_ne_py (C19_from_nfa_no_keyerror n hv), ok_ne_py (C19_from_nfa_min_no_keyerror n hv ps pick),
   ok_ne_py (C19_from_nfa_renum_no_keyerror n hv),
   ok_ne_py (C19_from_nfa_default_no_keyerror n hv ps pick),
   ok_ne_py (C19_eliminate_lambda_no_keyerror n hv)⟩

/-- Equality of results is decidable (for the `decide` examples). -/
local instance decEqRes' {β : Type} [DecidableEq β] : DecidableEq (Res β) := fun a b =>
  match a, b with
  | .ok x, .ok y => if h : x = y then isTrue (by rw [h]) else isFalse (fun he => h (by cases he; rfl))
  | .error x, .error y =>
    if h : x = y then isTrue (by rw [h]) else isFalse (fun he => h (by cases he; rfl))
  | .ok _, .error _ => isFalse (fun he => by cases he)
  | .error _, .ok _ => isFalse (fun he => by cases he)

/-- An accepted NFA with a lambda cycle `0 ⇄ 1`, a state without a row (`3`), an empty target set
(row of `2`), and a row keyed by the non-state `7` (with a lambda edge and a symbol edge). -/
def exCyc : AV.NFA Nat Nat :=
  { states := [0, 1, 2, 3], syms := [0, 1],
    trans := [(0, [(none, [1]), (some 0, [2])]), (1, [(none, [0]), (some 1, [1, 3])]),
              (2, [(some 0, []), (some 1, [0])]), (7, [(some 0, [0]), (none, [2])])],
    init := 0, finals := [3] }

example : exCyc.validate = .ok () := by decide +kernel

theorem exCyc_shape : exCyc.PyShape :=
  ⟨by decide +kernel, by decide +kernel, by decide +kernel, by decide +kernel, by decide +kernel, by decide +kernel⟩

/-- The failure-tracking runs on the example end with `.ok` (computed, not via the theorems). -/
example : (match exCyc.toDFAE with | .ok m => m.states | .error _ => []) =
    [[0, 1], [2], [0, 1, 3]] := by decide +kernel
example : (match exCyc.toDFAE with | .ok m => (m.trans, m.finals, m.allowPartial) | .error _ => ([], [], false)) =
    (exCyc.toDFA.trans, exCyc.toDFA.finals, exCyc.toDFA.allowPartial) := by decide +kernel
example : (match exCyc.toDFAMinE with | .ok m => m.states.length | .error _ => 99) = 3 := by decide +kernel
example : (match exCyc.eliminateLambdaE with | .ok m => (m.states, m.finals) | .error _ => ([], [])) =
    (exCyc.eliminateLambda.states, exCyc.eliminateLambda.finals) := by decide +kernel
example : (match exCyc.toDFARenumE with | .ok m => (m.states, m.trans, m.finals) | .error _ => ([], [], [])) =
    ([0, 1, 2], [(0, [(0, 1), (1, 2)]), (1, [(1, 0)]), (2, [(0, 1), (1, 2)])], [2]) := by decide +kernel
example : (match exCyc.toDFAMinRenumE with | .ok m => m.states.length | .error _ => 99) = 3 := by decide +kernel
/-- Reading the row keyed by the non-state `7` does not fail either. -/
example : (match exCyc.subsetSuccE [7, 3, 9] with | .ok r => r | .error _ => []) = [(0, [0, 1])] := by
  decide +kernel

/-- The failure tracking is not vacuous: a target outside `states` (validation rejects it with
`InvalidStateError`) makes `lambda_closures[end_state]` fail with `KeyError` in `from_nfa` and in
`eliminate_lambda` (through the lambda enclosure of `0`), while the total models go on. -/
def exBadTargetH : AV.NFA Nat Nat :=
  { states := [0, 1], syms := [0], trans := [(0, [(none, [1])]), (1, [(some 0, [5])])],
    init := 0, finals := [1] }

example : exBadTargetH.validate = .error (.lib .invalidStateError) ∧
    (match exBadTargetH.toDFAE with | .error (.py .keyError) => true | _ => false) = true ∧
    (match exBadTargetH.eliminateLambdaE with | .error (.py .keyError) => true | _ => false) = true ∧
    exBadTargetH.toDFA.states.length = 2 := by decide +kernel

/-- An initial state outside `states`: `_get_lambda_closures()[initial_state]` fails. -/
def exBadInitH : AV.NFA Nat Nat :=
  { states := [0], syms := [0], trans := [(0, [(some 0, [0])])], init := 4, finals := [] }

example : exBadInitH.validate = .error (.lib .invalidStateError) ∧
    (match exBadInitH.toDFAE with | .error (.py .keyError) => true | _ => false) = true := by decide +kernel

/-- `transitions[cur_state_name]` is a real obligation of the loop: started from a state whose
row was never created, the first edge fails. -/
example : (match expEdgeE (S := Nat) (α := Nat) (fun _ => false) 5
      { trans := [(0, [])], states := [0], finals := [], queue := [] } (0, 0) with
    | .error (.py .keyError) => true | _ => false) = true := by decide +kernel

/-- A partial accepted DFA: `complement(minify=True)` through `to_complete` (trap id 9). -/
example : (match exDead.complementMinFullE 9 (fun _ => 0) with
    | .ok m => m.states.length | .error _ => 99) = 3 := by decide +kernel

end Props.C19
end AV
