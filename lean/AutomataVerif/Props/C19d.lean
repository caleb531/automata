/-
Props/C19d.lean — C19, part B continued: the operator-level corruption theorems for NTM and MNTM
entries, the input symbol of a PDA move, the TM head rule Σ ⊊ Γ, whole rows of the TM tables and the
shape rules of the GNFA.  Each takes a valid definition, performs one Python-level edit
(`transitions[q][…] = …`, `transitions[q] = …`, `del transitions[q]`, `del transitions[q][t]`, a
changed field; edit operators in Proofs/CorruptOps2.lean, Proofs/CorruptOps3.lean) and states the class
the constructor raises.  Where the order of the checks lets another class win, the hypothesis that
excludes it is stated (`_validate_transition_result` tests state, symbol, direction in this order).
-/
import AutomataVerif.Props.C19c
import AutomataVerif.Proofs.CorruptOps3

namespace AV.Props.C19
open AV AV.VA

variable {σ α γ : Type} [DecidableEq σ] [DecidableEq α] [DecidableEq γ]

/-- NTM / **bad direction**: in a valid NTM, `transitions[q][s] = rs` with `s` a tape symbol, every
result of `rs` naming a state and a tape symbol, and one of them a direction that is not a direction
letter → `InvalidDirectionError`. -/
theorem C19_ntm_corrupt_direction (d : NTM σ γ) (wf : d.WF) (kv : σ × List (γ × List (TMResult σ γ)))
    (hkv : kv ∈ d.trans) (s : γ) (hs : s ∈ d.tapeSyms) (rs : List (TMResult σ γ))
    (hok : ∀ r ∈ rs, r.1 ∈ d.states ∧ r.2.1 ∈ d.tapeSyms)
    (hbad : ∃ r ∈ rs, r.2.2 ∉ Gen.Validate.ntmDirections) :
    (NTM.setEntry d kv.1 s rs).validate = .error (.lib .invalidDirectionError) :=
  wf.of_view fun ok => (NTM.entrySet d hkv s rs).raises_direction ok _
    (List.forall_mem_singleton.mpr hs) hok hbad

/-- NTM / **bad tape symbol (read)**: `transitions[q][s] = rs` with `s` not a tape symbol (states
and directions of the results legal; written symbols may be anything: a foreign one raises the same
class) → `InvalidSymbolError`. -/
theorem C19_ntm_corrupt_read_symbol (d : NTM σ γ) (wf : d.WF) (kv : σ × List (γ × List (TMResult σ γ)))
    (hkv : kv ∈ d.trans) (s : γ) (hs : s ∉ d.tapeSyms) (rs : List (TMResult σ γ))
    (hok : ∀ r ∈ rs, r.1 ∈ d.states ∧ r.2.2 ∈ Gen.Validate.ntmDirections) :
    (NTM.setEntry d kv.1 s rs).validate = .error (.lib .invalidSymbolError) :=
  wf.of_view fun ok => (NTM.entrySet d hkv s rs).raises_symbol ok _
    hok (.inl ⟨s, .head _, hs⟩)

/-- NTM / **bad tape symbol (written)**: `transitions[q][s] = rs` where one result writes a symbol
that is not a tape symbol (states and directions of all results legal) → `InvalidSymbolError`. -/
theorem C19_ntm_corrupt_write_symbol (d : NTM σ γ) (wf : d.WF) (kv : σ × List (γ × List (TMResult σ γ)))
    (hkv : kv ∈ d.trans) (s : γ) (rs : List (TMResult σ γ))
    (hok : ∀ r ∈ rs, r.1 ∈ d.states ∧ r.2.2 ∈ Gen.Validate.ntmDirections)
    (hbad : ∃ r ∈ rs, r.2.1 ∉ d.tapeSyms) :
    (NTM.setEntry d kv.1 s rs).validate = .error (.lib .invalidSymbolError) :=
  wf.of_view fun ok => (NTM.entrySet d hkv s rs).raises_symbol ok _ hok
    (.inr hbad)

/-- NTM / **unknown end state**: `transitions[q][s] = rs` where one result names a non-state (`s` a
tape symbol, written symbols and directions of all results legal) → `InvalidStateError`. -/
theorem C19_ntm_corrupt_end_state (d : NTM σ γ) (wf : d.WF) (kv : σ × List (γ × List (TMResult σ γ)))
    (hkv : kv ∈ d.trans) (s : γ) (hs : s ∈ d.tapeSyms) (rs : List (TMResult σ γ))
    (hok : ∀ r ∈ rs, r.2.1 ∈ d.tapeSyms ∧ r.2.2 ∈ Gen.Validate.ntmDirections)
    (hbad : ∃ r ∈ rs, r.1 ∉ d.states) :
    (NTM.setEntry d kv.1 s rs).validate = .error (.lib .invalidStateError) :=
  wf.of_view fun ok => (NTM.entrySet d hkv s rs).raises_end_state ok _
    (List.forall_mem_singleton.mpr hs) hok hbad

/-- NTM / a final state outside the state set → `InvalidStateError` (the new name is not the
initial state, so the `InitialStateError` check before it passes). -/
theorem C19_ntm_corrupt_final (d : NTM σ γ) (wf : d.WF) (q : σ) (hq : q ∉ d.states) :
    ({ d with finals := q :: d.finals } : NTM σ γ).validate = .error (.lib .invalidStateError) :=
  wf.of_view fun ok => TmView.raises_final ok q hq

/-- NTM / **final state with transitions**: in a valid NTM, `transitions[f] = row` for a final
state `f` and a row that is itself legal (tape symbols; results naming states, tape symbols and
direction letters — e.g. the empty row) → `FinalStateError`, the last check. -/
theorem C19_ntm_corrupt_final_row (d : NTM σ γ) (wf : d.WF) (f : σ) (hf : f ∈ d.finals)
    (row : List (γ × List (TMResult σ γ))) (hreads : ∀ s ∈ akeys row, s ∈ d.tapeSyms)
    (hres : ∀ rs ∈ avals row, ∀ r ∈ rs, TmResultOk d.states d.tapeSyms Gen.Validate.ntmDirections r) :
    (NTM.setRow d f row).validate = .error (.lib .finalStateError) :=
  wf.of_view fun ok => TmView.raises_final_row ok _ hf row hreads
    fun x hx => (List.mem_flatMap.mp hx).elim fun rs h => hres rs h.1 x h.2

/-! ## MNTM: `transitions[q][(s₁,…,s_n)] = [(state, ((w₁,d₁),…,(w_n,d_n))), …]`

The tape-count rule (`_validate_tapes_consistency`) is checked after everything else, so the
theorems need no hypothesis on the lengths of the read tuple and of the move tuples.  A result
without moves is not looked at by `_validate_transition_results` (its state is never tested), so
the defect must sit in a result that has a move. -/

/-- MNTM / **bad direction**: in a valid MNTM, `transitions[q][rd] = rs` with `rd` a tuple of tape
symbols, every move of every result of `rs` writing a tape symbol in a result that names a state,
and one move with a direction that is not a direction letter → `InvalidDirectionError` (whatever
the tuple lengths: the tape count is checked last). -/
theorem C19_mntm_corrupt_direction (d : MNTM σ γ) (wf : d.WF)
    (kv : σ × List (List γ × List (σ × List (γ × String)))) (hkv : kv ∈ d.trans)
    (rd : List γ) (hrd : ∀ s ∈ rd, s ∈ d.tapeSyms) (rs : List (σ × List (γ × String)))
    (hok : ∀ r ∈ rs, ∀ mv ∈ r.2, r.1 ∈ d.states ∧ mv.1 ∈ d.tapeSyms)
    (hbad : ∃ r ∈ rs, ∃ mv ∈ r.2, mv.2 ∉ Gen.Validate.ntmDirections) :
    (MNTM.setEntry d kv.1 rd rs).validate = .error (.lib .invalidDirectionError) :=
  wf.of_view fun ok => (MNTM.entrySet d hkv rd rs).raises_direction ok _
    hrd (MNTM.forall_entryResults.mpr hok) (MNTM.exists_entryResults.mpr hbad)

/-- MNTM / **bad tape symbol (read)**: `transitions[q][rd] = rs` with a component of `rd` that is not
a tape symbol (states and directions of the results legal) → `InvalidSymbolError`. -/
theorem C19_mntm_corrupt_read_symbol (d : MNTM σ γ) (wf : d.WF)
    (kv : σ × List (List γ × List (σ × List (γ × String)))) (hkv : kv ∈ d.trans)
    (rd : List γ) (hrd : ∃ s ∈ rd, s ∉ d.tapeSyms) (rs : List (σ × List (γ × String)))
    (hok : ∀ r ∈ rs, ∀ mv ∈ r.2, r.1 ∈ d.states ∧ mv.2 ∈ Gen.Validate.ntmDirections) :
    (MNTM.setEntry d kv.1 rd rs).validate = .error (.lib .invalidSymbolError) :=
  wf.of_view fun ok => (MNTM.entrySet d hkv rd rs).raises_symbol ok _
    (MNTM.forall_entryResults.mpr hok) (.inl hrd)

/-- MNTM / **bad tape symbol (written)**: `transitions[q][rd] = rs` where a move of a result writes a
symbol that is not a tape symbol (states and directions legal) → `InvalidSymbolError`. -/
theorem C19_mntm_corrupt_write_symbol (d : MNTM σ γ) (wf : d.WF)
    (kv : σ × List (List γ × List (σ × List (γ × String)))) (hkv : kv ∈ d.trans)
    (rd : List γ) (rs : List (σ × List (γ × String)))
    (hok : ∀ r ∈ rs, ∀ mv ∈ r.2, r.1 ∈ d.states ∧ mv.2 ∈ Gen.Validate.ntmDirections)
    (hbad : ∃ r ∈ rs, ∃ mv ∈ r.2, mv.1 ∉ d.tapeSyms) :
    (MNTM.setEntry d kv.1 rd rs).validate = .error (.lib .invalidSymbolError) :=
  wf.of_view fun ok => (MNTM.entrySet d hkv rd rs).raises_symbol ok _
    (MNTM.forall_entryResults.mpr hok) (.inr (MNTM.exists_entryResults.mpr hbad))

/-- MNTM / **unknown end state**: `transitions[q][rd] = rs` where a result *that has a move* names a
non-state (`rd` tape symbols, written symbols and directions legal) → `InvalidStateError`. -/
theorem C19_mntm_corrupt_end_state (d : MNTM σ γ) (wf : d.WF)
    (kv : σ × List (List γ × List (σ × List (γ × String)))) (hkv : kv ∈ d.trans)
    (rd : List γ) (hrd : ∀ s ∈ rd, s ∈ d.tapeSyms) (rs : List (σ × List (γ × String)))
    (hok : ∀ r ∈ rs, ∀ mv ∈ r.2, mv.1 ∈ d.tapeSyms ∧ mv.2 ∈ Gen.Validate.ntmDirections)
    (hbad : ∃ r ∈ rs, r.2 ≠ [] ∧ r.1 ∉ d.states) :
    (MNTM.setEntry d kv.1 rd rs).validate = .error (.lib .invalidStateError) :=
  let ⟨r, hr, hne, ht⟩ := hbad
  let ⟨mv, hmv⟩ := List.exists_mem_of_ne_nil r.2 hne
  wf.of_view fun ok => (MNTM.entrySet d hkv rd rs).raises_end_state ok _
    hrd (MNTM.forall_entryResults.mpr hok) (MNTM.exists_entryResults.mpr ⟨r, hr, mv, hmv, ht⟩)

/-- MNTM / a final state outside the state set → `InvalidStateError`. -/
theorem C19_mntm_corrupt_final (d : MNTM σ γ) (wf : d.WF) (q : σ) (hq : q ∉ d.states) :
    ({ d with finals := q :: d.finals } : MNTM σ γ).validate = .error (.lib .invalidStateError) :=
  wf.of_view fun ok => TmView.raises_final ok q hq

/-- MNTM / **final state with transitions**: in a valid MNTM, `transitions[f] = row` for a final
state `f` and a row whose symbols, states and directions are legal (tuple lengths arbitrary) →
`FinalStateError`. -/
theorem C19_mntm_corrupt_final_row (d : MNTM σ γ) (wf : d.WF) (f : σ) (hf : f ∈ d.finals)
    (row : List (List γ × List (σ × List (γ × String))))
    (hreads : ∀ rd ∈ akeys row, ∀ s ∈ rd, s ∈ d.tapeSyms)
    (hres : ∀ rs ∈ avals row, ∀ r ∈ rs, ∀ mv ∈ r.2,
      TmResultOk d.states d.tapeSyms Gen.Validate.ntmDirections (r.1, mv.1, mv.2)) :
    (MNTM.setRow d f row).validate = .error (.lib .finalStateError) :=
  wf.of_view fun ok => TmView.raises_final_row ok _ hf row
    (fun x hx => (List.mem_flatMap.mp hx).elim fun rd h => hreads rd h.1 x h.2)
    fun _ hx => let ⟨rs, hrs, r, hr, mv, hmv, e⟩ := MNTM.mem_rowResults.mp hx; e ▸ hres rs hrs r hr mv hmv

/-- `exMNTM` (Props/C19.lean) has two tapes; the edits below are on the row of state 0. -/
example : (MNTM.setEntry exMNTM 0 [9, 0] [(1, [(0, "R"), (9, "X")])]).validate =
    .error (.lib .invalidDirectionError) := by decide +kernel
example : (MNTM.setEntry exMNTM 0 [9, 5] [(1, [(0, "R"), (9, "N")])]).validate =
    .error (.lib .invalidSymbolError) := by decide +kernel
example : (MNTM.setEntry exMNTM 0 [9, 0] [(1, [(0, "R"), (5, "N")])]).validate =
    .error (.lib .invalidSymbolError) := by decide +kernel
example : (MNTM.setEntry exMNTM 0 [9, 0] [(1, [(0, "R"), (9, "N")]), (7, [(0, "R"), (9, "N")])]).validate =
    .error (.lib .invalidStateError) := by decide +kernel
/-- a result without moves is not looked at by the row loop: only the tape count catches it -/
example : (MNTM.setEntry exMNTM 0 [9, 0] [(7, [])]).validate =
    .error (.lib .inconsistentTapesException) := by decide +kernel
/-- a bad direction in a move tuple of the wrong length: the direction wins -/
example : (MNTM.setEntry exMNTM 0 [9, 0] [(1, [(0, "X")])]).validate =
    .error (.lib .invalidDirectionError) := by decide +kernel
example : (MNTM.setRow exMNTM 1 []).validate = .error (.lib .finalStateError) := by decide +kernel
example : (MNTM.setRow exMNTM 1 [([0, 0], [(0, [(0, "R"), (9, "N")])])]).validate =
    .error (.lib .finalStateError) := by decide +kernel
example : ({ exMNTM with finals := [7, 1] } : MNTM Nat Nat).validate = .error (.lib .invalidStateError) := by
  decide +kernel

def exNTM : NTM Nat Nat :=
  { states := [0, 1, 2], syms := [0], tapeSyms := [0, 9],
    trans := [(0, [(0, [(1, 0, "R"), (0, 9, "L")]), (9, [(2, 9, "N")])]), (1, [(0, [(0, 9, "L")])])],
    init := 0, blank := 9, finals := [2] }

example : exNTM.validate = .ok () := by decide +kernel
example : (NTM.setEntry exNTM 1 9 [(0, 9, "L"), (1, 0, "X")]).validate = .error (.lib .invalidDirectionError) := by
  decide +kernel
example : (NTM.setEntry exNTM 1 5 [(0, 9, "L")]).validate = .error (.lib .invalidSymbolError) := by decide +kernel
example : (NTM.setEntry exNTM 1 9 [(0, 9, "L"), (0, 5, "L")]).validate = .error (.lib .invalidSymbolError) := by
  decide +kernel
example : (NTM.setEntry exNTM 1 9 [(0, 9, "L"), (7, 9, "L")]).validate = .error (.lib .invalidStateError) := by
  decide +kernel
example : (NTM.setRow exNTM 2 []).validate = .error (.lib .finalStateError) := by decide +kernel
example : (NTM.setRow exNTM 2 [(0, [(1, 9, "R")])]).validate = .error (.lib .finalStateError) := by decide +kernel
example : ({ exNTM with finals := [7, 2] } : NTM Nat Nat).validate = .error (.lib .invalidStateError) := by decide +kernel

/-- DPDA / **unknown input symbol**: in a valid DPDA, `transitions[q][a][g] = r` with `a` neither an
input symbol nor `""` → `InvalidSymbolError`, *provided* `g` has no λ-move in the row of `q`:
otherwise the λ-entry, which comes earlier in the row, is found to have a sibling on `g` and
`NondeterminismError` is raised first (the determinism test of the code runs over the whole row,
foreign entries included).  `g` itself may be foreign (same class).  (`hg` speaks about every row
keyed `q`: in a Python dict there is one.) -/
theorem C19_dpda_corrupt_input_symbol (isEmptyStr : γ → Bool) (d : DPDA σ α γ)
    (wf : d.WFDef isEmptyStr) (kv : σ × List (Option α × List (γ × (σ × List γ)))) (hkv : kv ∈ d.trans)
    (a : α) (ha : a ∉ d.syms) (g : γ)
    (hg : ∀ kv0 ∈ d.trans, kv0.1 = kv.1 → g ∉ akeys (DPDA.lamRow kv0.2)) (r : σ × List γ) :
    (DPDA.setMove d kv.1 (some a) g r).validateDef isEmptyStr = .error (.lib .invalidSymbolError) := by
  refine wf.raises .unknownInputSymbol
    ⟨_, editRow_mem kv.1 (rowSetMove (some a) g r) d.trans kv hkv rfl, _,
      rowSetMove_mem_self (some a) g r kv.2, a, rfl, ha⟩ fun r' => ?_
  cases r'
  case nondeterministic =>
    refine fun _ ⟨kv', hkv', hnd⟩ => absurd (DPDA.setMove_det d wf.det kv.1 (some a) g r ?_ kv' hkv') hnd
    rintro kv0 hkv0 hk (⟨h, _⟩ | ⟨_, _, hg'⟩)
    · cases h
    · exact hg kv0 hkv0 hk hg'
  all_goals rule_unaffected

/-- NPDA / **unknown input symbol**: `transitions[q][a][g] = rs` with `a` neither an input symbol nor
`""` → `InvalidSymbolError` (no determinism test in this class; `g` may be foreign: same class). -/
theorem C19_npda_corrupt_input_symbol (isEmptyStr : γ → Bool) (d : NPDA σ α γ)
    (wf : d.WFDef isEmptyStr) (kv : σ × List (Option α × List (γ × List (σ × List γ)))) (hkv : kv ∈ d.trans)
    (a : α) (ha : a ∉ d.syms) (g : γ) (rs : List (σ × List γ)) :
    (NPDA.setMove d kv.1 (some a) g rs).validateDef isEmptyStr = .error (.lib .invalidSymbolError) := by
  refine wf.raises .unknownInputSymbol
    ⟨_, editRow_mem kv.1 (rowSetMove (some a) g rs) d.trans kv hkv rfl, _,
      rowSetMove_mem_self (some a) g rs kv.2, a, rfl, ha⟩ fun r' => ?_
  cases r' <;> rule_unaffected

def exNPDA : NPDA Nat Nat Nat :=
  { states := [0, 1], syms := [0], stackSyms := [0, 1],
    trans := [(0, [(some 0, [(0, [(0, [1, 0]), (1, [])])]), (none, [(1, [(1, [])])])])],
    init := 0, initStack := 0, finals := [1], mode := "final_state" }

example : exNPDA.validateDef (· == 77) = .ok () := by decide +kernel
example : (NPDA.setMove exNPDA 0 (some 5) 1 [(1, [])]).validateDef (· == 77) =
    .error (.lib .invalidSymbolError) := by decide +kernel
/-- stack symbol 0 has no λ-move in the row of state 0 of `exDPDA` … -/
example : (DPDA.setMove exDPDA 0 (some 5) 0 (1, [])).validateDef (· == 77) =
    .error (.lib .invalidSymbolError) := by decide +kernel
/-- … stack symbol 1 has one: the hypothesis `hg` is needed (the determinism test wins). -/
example : (DPDA.setMove exDPDA 0 (some 5) 1 (1, [])).validateDef (· == 77) =
    .error (.lib .nondeterminismError) := by decide +kernel

/-- DTM / **input symbols not a proper subset of the tape symbols** → `MissingSymbolError`, for every
definition, valid or not: `_read_input_symbol_subset` is the first check. -/
theorem C19_dtm_corrupt_input_symbols (d : DTM σ γ) (h : ¬ ProperSubset d.syms d.tapeSyms) :
    d.validate = .error (.lib .missingSymbolError) :=
  (DTM.validate_eq_check d).trans (TmView.raises_input_symbols _ h)

theorem C19_ntm_corrupt_input_symbols (d : NTM σ γ) (h : ¬ ProperSubset d.syms d.tapeSyms) :
    d.validate = .error (.lib .missingSymbolError) :=
  (NTM.validate_eq_check d).trans (TmView.raises_input_symbols _ h)

theorem C19_mntm_corrupt_input_symbols (d : MNTM σ γ) (h : ¬ ProperSubset d.syms d.tapeSyms) :
    d.validate = .error (.lib .missingSymbolError) :=
  (MNTM.validate_eq_check d).trans (TmView.raises_input_symbols _ h)

/-- DTM / an input symbol added that is not a tape symbol → `MissingSymbolError`. -/
theorem C19_dtm_corrupt_input_symbol_foreign (d : DTM σ γ) (a : γ) (ha : a ∉ d.tapeSyms) :
    ({ d with syms := a :: d.syms } : DTM σ γ).validate = .error (.lib .missingSymbolError) :=
  C19_dtm_corrupt_input_symbols _ (not_properSubset_cons d.syms ha)

/-- DTM / every tape symbol (the blank included) made an input symbol, Σ = Γ → `MissingSymbolError`. -/
theorem C19_dtm_corrupt_input_symbols_all (d : DTM σ γ) :
    ({ d with syms := d.tapeSyms } : DTM σ γ).validate = .error (.lib .missingSymbolError) :=
  C19_dtm_corrupt_input_symbols _ (not_properSubset_self d.tapeSyms)

theorem C19_ntm_corrupt_input_symbol_foreign (d : NTM σ γ) (a : γ) (ha : a ∉ d.tapeSyms) :
    ({ d with syms := a :: d.syms } : NTM σ γ).validate = .error (.lib .missingSymbolError) :=
  C19_ntm_corrupt_input_symbols _ (not_properSubset_cons d.syms ha)

theorem C19_ntm_corrupt_input_symbols_all (d : NTM σ γ) :
    ({ d with syms := d.tapeSyms } : NTM σ γ).validate = .error (.lib .missingSymbolError) :=
  C19_ntm_corrupt_input_symbols _ (not_properSubset_self d.tapeSyms)

theorem C19_mntm_corrupt_input_symbol_foreign (d : MNTM σ γ) (a : γ) (ha : a ∉ d.tapeSyms) :
    ({ d with syms := a :: d.syms } : MNTM σ γ).validate = .error (.lib .missingSymbolError) :=
  C19_mntm_corrupt_input_symbols _ (not_properSubset_cons d.syms ha)

theorem C19_mntm_corrupt_input_symbols_all (d : MNTM σ γ) :
    ({ d with syms := d.tapeSyms } : MNTM σ γ).validate = .error (.lib .missingSymbolError) :=
  C19_mntm_corrupt_input_symbols _ (not_properSubset_self d.tapeSyms)

/-- DTM / **row keyed by a non-state**: in a valid DTM, `transitions[x] = row` with `x` not a state
→ `InvalidStateError`, *whatever the row contains*: the new key goes to the end of the dict, every
older row passes, and `_validate_transition_state` is the first test of a row. -/
theorem C19_dtm_corrupt_row_key (d : DTM σ γ) (wf : d.WF) (x : σ) (hx : x ∉ d.states)
    (row : List (γ × TMResult σ γ)) :
    (DTM.setRow d x row).validate = .error (.lib .invalidStateError) :=
  wf.of_view fun ok => TmView.raises_row_key ok _ hx row

theorem C19_ntm_corrupt_row_key (d : NTM σ γ) (wf : d.WF) (x : σ) (hx : x ∉ d.states)
    (row : List (γ × List (TMResult σ γ))) :
    (NTM.setRow d x row).validate = .error (.lib .invalidStateError) :=
  wf.of_view fun ok => TmView.raises_row_key ok _ hx row

theorem C19_mntm_corrupt_row_key (d : MNTM σ γ) (wf : d.WF) (x : σ) (hx : x ∉ d.states)
    (row : List (List γ × List (σ × List (γ × String)))) :
    (MNTM.setRow d x row).validate = .error (.lib .invalidStateError) :=
  wf.of_view fun ok => TmView.raises_row_key ok _ hx row

/-- DTM / **initial state without a row**: in a valid DTM with more than one state,
`del transitions[initial_state]` → `MissingStateError` (`_validate_initial_state_transitions`; with
a single state the code does not ask for the row). -/
theorem C19_dtm_corrupt_initial_row (d : DTM σ γ) (wf : d.WF) (hlen : 1 < d.states.length) :
    (DTM.dropRow d d.init).validate = .error (.lib .missingStateError) :=
  wf.of_view fun ok => TmView.raises_initial_row ok hlen _

theorem C19_ntm_corrupt_initial_row (d : NTM σ γ) (wf : d.WF) (hlen : 1 < d.states.length) :
    (NTM.dropRow d d.init).validate = .error (.lib .missingStateError) :=
  wf.of_view fun ok => TmView.raises_initial_row ok hlen _

theorem C19_mntm_corrupt_initial_row (d : MNTM σ γ) (wf : d.WF) (hlen : 1 < d.states.length) :
    (MNTM.dropRow d d.init).validate = .error (.lib .missingStateError) :=
  wf.of_view fun ok => TmView.raises_initial_row ok hlen _

example : ({ exDTM with syms := [0, 5] } : DTM Nat Nat).validate = .error (.lib .missingSymbolError) := by decide +kernel
example : ({ exDTM with syms := exDTM.tapeSyms } : DTM Nat Nat).validate = .error (.lib .missingSymbolError) := by
  decide +kernel
example : ({ exNTM with syms := exNTM.tapeSyms } : NTM Nat Nat).validate = .error (.lib .missingSymbolError) := by
  decide +kernel
example : ({ exMNTM with syms := [5, 0] } : MNTM Nat Nat).validate = .error (.lib .missingSymbolError) := by decide +kernel
/-- a row keyed by the non-state 7, itself full of defects: the key is reported -/
example : (DTM.setRow exDTM 7 [(5, (8, 5, "X"))]).validate = .error (.lib .invalidStateError) := by decide +kernel
example : (NTM.setRow exNTM 7 [(5, [(8, 5, "X")])]).validate = .error (.lib .invalidStateError) := by decide +kernel
example : (MNTM.setRow exMNTM 7 [([5], [(8, [(5, "X")])])]).validate = .error (.lib .invalidStateError) := by
  decide +kernel
example : (DTM.dropRow exDTM 0).validate = .error (.lib .missingStateError) := by decide +kernel
example : (NTM.dropRow exNTM 0).validate = .error (.lib .missingStateError) := by decide +kernel
example : (MNTM.dropRow exMNTM 0).validate = .error (.lib .missingStateError) := by decide +kernel
/-- with one state the row of the initial state is not asked for -/
def exDTM1 : DTM Nat Nat :=
  { states := [0], syms := [0], tapeSyms := [0, 9], trans := [], init := 0, blank := 9, finals := [] }

example : exDTM1.validate = .ok () := by decide +kernel

/-- NTM / the initial state made final → `InitialStateError` (the `FinalStateError` its row would
cause is checked later). -/
theorem C19_ntm_corrupt_initial_is_final (d : NTM σ γ) (wf : d.WF) :
    ({ d with finals := d.init :: d.finals } : NTM σ γ).validate = .error (.lib .initialStateError) :=
  wf.of_view fun ok => TmView.raises_initial_is_final ok

/-- MNTM / the initial state made final → `InitialStateError`. -/
theorem C19_mntm_corrupt_initial_is_final (d : MNTM σ γ) (wf : d.WF) :
    ({ d with finals := d.init :: d.finals } : MNTM σ γ).validate = .error (.lib .initialStateError) :=
  wf.of_view fun ok => TmView.raises_initial_is_final ok

/-- MNTM / blank symbol outside the tape alphabet → `InvalidSymbolError`. -/
theorem C19_mntm_corrupt_blank (d : MNTM σ γ) (wf : d.WF) (b : γ) (hb : b ∉ d.tapeSyms) :
    ({ d with blank := b } : MNTM σ γ).validate = .error (.lib .invalidSymbolError) :=
  wf.of_view fun ok => TmView.raises_blank ok b hb

/-- MNTM / **bad tape count inside one entry**: in a valid MNTM, `transitions[q][rd] = rs` with legal
symbols, states and directions, but a read tuple or a move tuple whose length is not `n_tapes` →
`InconsistentTapesException` (the last check: nothing else may be wrong). -/
theorem C19_mntm_corrupt_entry_tape_count (d : MNTM σ γ) (wf : d.WF)
    (kv : σ × List (List γ × List (σ × List (γ × String)))) (hkv : kv ∈ d.trans)
    (rd : List γ) (hrd : ∀ s ∈ rd, s ∈ d.tapeSyms) (rs : List (σ × List (γ × String)))
    (hok : ∀ r ∈ rs, ∀ mv ∈ r.2,
      TmResultOk d.states d.tapeSyms Gen.Validate.ntmDirections (r.1, mv.1, mv.2))
    (hbad : (rd.length : Int) ≠ d.nTapes ∨ ∃ r ∈ rs, (r.2.length : Int) ≠ d.nTapes) :
    (MNTM.setEntry d kv.1 rd rs).validate = .error (.lib .inconsistentTapesException) :=
  wf.of_view fun ok => (MNTM.entrySet d hkv rd rs).raises_tapes ok
    ((MNTM.tapesOk_eq_false _).mpr <|
      have hmem := editRow_mem kv.1 (ainsert rd rs) d.trans kv hkv rfl
      hbad.imp (fun h => ⟨_, hmem, (rd, rs), mem_ainsert_self rd rs kv.2, h⟩)
        fun ⟨r, hr, h⟩ => ⟨_, hmem, (rd, rs), mem_ainsert_self rd rs kv.2, r, hr, h⟩)
    hrd (MNTM.forall_entryResults.mpr hok)

example : (MNTM.setEntry exMNTM 0 [9, 0, 0] [(1, [(0, "R"), (9, "N")])]).validate =
    .error (.lib .inconsistentTapesException) := by decide +kernel
example : (MNTM.setEntry exMNTM 0 [9, 0] [(1, [(0, "R"), (9, "N")]), (0, [(0, "R")])]).validate =
    .error (.lib .inconsistentTapesException) := by decide +kernel
example : ({ exNTM with finals := [0, 2] } : NTM Nat Nat).validate = .error (.lib .initialStateError) := by decide +kernel
example : ({ exMNTM with blank := 5 } : MNTM Nat Nat).validate = .error (.lib .invalidSymbolError) := by decide +kernel

/-- Only the two membership tests, of the same class, come before the test `initial = final`. -/
theorem gnfa_raises_of_init_eq_final (g : GNFA σ α) (h : g.init = g.final) :
    g.validate = .error (.lib .invalidStateError) := by
  refine GNFA.rules_correct.raises .initialEqualsFinal h fun r' => ?_
  cases r' <;> exact fun h => absurd h Bool.false_ne_true

/-- GNFA / **initial = final** (the final state set to the initial one) → `InvalidStateError`, for
every definition. -/
theorem C19_gnfa_corrupt_initial_equals_final (g : GNFA σ α) :
    ({ g with final := g.init } : GNFA σ α).validate = .error (.lib .invalidStateError) :=
  gnfa_raises_of_init_eq_final _ rfl

/-- GNFA / initial = final (the initial state set to the final one) → `InvalidStateError`. -/
theorem C19_gnfa_corrupt_initial_equals_final' (g : GNFA σ α) :
    ({ g with init := g.final } : GNFA σ α).validate = .error (.lib .invalidStateError) :=
  gnfa_raises_of_init_eq_final _ rfl

/-- GNFA / **missing row**: in a valid GNFA, `del transitions[q]` for a non-final state `q` →
`MissingStateError` (the row test comes before the rows are looked at). -/
theorem C19_gnfa_corrupt_missing_row (g : GNFA σ α) (wf : g.WF) (q : σ) (hq : q ∈ g.states)
    (hqf : q ≠ g.final) :
    (GNFA.dropRow g q).validate = .error (.lib .missingStateError) := by
  refine wf.raises .missingRow
    ⟨q, hq, hqf, not_mem_akeys_filter_ne q g.trans⟩ fun r' => ?_
  cases r' <;> rule_unaffected

/-- GNFA / **missing entry**: in a valid GNFA, `del transitions[q][t]` (`q` a non-final state with a
row, `t` a state other than the initial one) → `MissingStateError`. -/
theorem C19_gnfa_corrupt_missing_entry (g : GNFA σ α) (wf : g.WF) (kv : σ × List (σ × Option (GLabel α)))
    (hkv : kv ∈ g.trans) (hq : kv.1 ≠ g.final) (t : σ) (ht : t ∈ g.states) (hti : t ≠ g.init) :
    (GNFA.dropEntry g kv.1 t).validate = .error (.lib .missingStateError) := by
  -- every row of the new table is a sub-row of an old row
  have hsub := mem_editRow_sub kv.1 (adelete t) (fun row e he => (mem_adelete t row e he).1) g.trans
  refine wf.raises .missingEntry
    ⟨(kv.1, adelete t kv.2), editRow_mem kv.1 (adelete t) g.trans kv hkv rfl, hq, t, ht,
      not_mem_akeys_filter_ne t kv.2, hti⟩ fun r' => ?_
  cases r'
  case malformedLabel =>
    rintro _ ⟨kv', hkv', l, hl, hm⟩
    obtain ⟨kv0, hkv0, _, hrow⟩ := hsub kv' hkv'
    exact ⟨kv0, hkv0, l, List.map_subset _ hrow hl, hm⟩
  case labelLexerError =>
    rintro _ ⟨kv', hkv', l, hl, hm⟩
    obtain ⟨kv0, hkv0, _, hrow⟩ := hsub kv' hkv'
    exact ⟨kv0, hkv0, l, List.map_subset _ hrow hl, hm⟩
  case unknownEndState =>
    rintro _ ⟨kv', hkv', x, hx, hnx⟩
    obtain ⟨kv0, hkv0, _, hrow⟩ := hsub kv' hkv'
    exact ⟨kv0, hkv0, x, List.map_subset _ hrow hx, hnx⟩
  case finalHasTransitions =>
    rintro _ ⟨kv', hkv', hfin, hne⟩
    obtain ⟨kv0, hkv0, h1, h2⟩ := mem_editRow kv.1 (adelete t) g.trans kv' hkv'
    rcases h2 with rfl | ⟨hk, _⟩
    · exact ⟨kv', hkv0, hfin, hne⟩
    · exact absurd (hk ▸ h1 ▸ hfin) hq
  case transitionIntoInitial =>
    rintro _ ⟨kv', hkv', hen⟩
    obtain ⟨kv0, hkv0, _, h2⟩ := mem_editRow kv.1 (adelete t) g.trans kv' hkv'
    rcases h2 with rfl | ⟨_, h2⟩
    · exact ⟨kv', hkv0, hen⟩
    · -- `paths.get(init)` after `del paths[t]`, `t ≠ init`
      exact ⟨kv0, hkv0, (g.entersInit_congr (alookup_adelete_ne t g.init kv0.2 fun e => hti e.symm)).symm.trans
        (h2 ▸ hen)⟩
  all_goals rule_unaffected

/-- GNFA / **final-state row present**: in a valid GNFA, `transitions[final_state] = row` with a
non-empty row whose labels are well formed (`None`, or accepted regular expressions over the input
symbols — a malformed label in it would be reported first, as `InvalidRegexError`) →
`InvalidStateError`. -/
theorem C19_gnfa_corrupt_final_row (g : GNFA σ α) (wf : g.WF) (row : List (σ × Option (GLabel α)))
    (hne : row ≠ []) (hlab : ∀ l ∈ avals row, g.LabelOk l) :
    (GNFA.setRow g g.final row).validate = .error (.lib .invalidStateError) := by
  have hrows := fun kv' (h : kv' ∈ ainsert g.final row g.trans) => mem_ainsert h
  refine wf.raises .finalHasTransitions
    ⟨(g.final, row), mem_ainsert_self g.final row g.trans, rfl, hne⟩ fun r' => ?_
  cases r'
  case missingRow =>
    exact fun _ ⟨x, hx, hxf, hxk⟩ => ⟨x, hx, hxf, fun h => hxk (mem_akeys_ainsert.mpr (.inr h))⟩
  case malformedLabel =>
    rintro _ ⟨kv', hkv', l, hl, hm⟩
    rcases hrows kv' hkv' with rfl | h
    · exact absurd hm ((GNFA.labelOk_iff g l).mp (hlab (some l) hl)).1
    · exact ⟨kv', h, l, hl, hm⟩
  case labelLexerError =>
    rintro _ ⟨kv', hkv', l, hl, hm⟩
    rcases hrows kv' hkv' with rfl | h
    · exact absurd hm ((GNFA.labelOk_iff g l).mp (hlab (some l) hl)).2
    · exact ⟨kv', h, l, hl, hm⟩
  case missingEntry =>
    rintro _ ⟨kv', hkv', hnf, rest⟩
    rcases hrows kv' hkv' with rfl | h
    · exact absurd rfl hnf
    · exact ⟨kv', h, hnf, rest⟩
  all_goals rule_unaffected

/-- GNFA / **transition into the initial state**: in a valid GNFA, `transitions[q][initial_state] =
label` with a well-formed label (a malformed one is reported first, as `InvalidRegexError`), `q` any
state with a row → `InvalidStateError`. -/
theorem C19_gnfa_corrupt_into_initial (g : GNFA σ α) (wf : g.WF) (kv : σ × List (σ × Option (GLabel α)))
    (hkv : kv ∈ g.trans) (l : GLabel α) (hl : g.LabelOk (some l)) :
    (GNFA.setEntry g kv.1 g.init (some l)).validate = .error (.lib .invalidStateError) := by
  have hlok := (GNFA.labelOk_iff g l).mp hl
  have hv : g.entersInit (ainsert g.init (some l) kv.2) = true := by
    unfold GNFA.entersInit
    rw [alookup_ainsert_self]
  refine GNFA.rules_correct.raises_of_frame ((GNFA.validate_eq_ok g).mpr wf)
    (GNFA.setEntry_frame g kv.1 g.init (some l)) .transitionIntoInitial
    ⟨_, editRow_mem kv.1 (ainsert g.init (some l)) g.trans kv hkv rfl, hv⟩ fun r' => ?_
  cases r'
  case malformedLabel => exact fun ⟨l', e, hm⟩ => absurd (Option.some.inj e ▸ hm) hlok.1
  case labelLexerError => exact fun ⟨l', e, hm⟩ => absurd (Option.some.inj e ▸ hm) hlok.2
  case finalHasTransitions | unknownEndState | transitionIntoInitial => exact fun _ => .inl rfl
  all_goals exact False.elim

example : ({ exGNFA with final := exGNFA.init } : GNFA Nat Nat).validate = .error (.lib .invalidStateError) := by
  decide +kernel
example : ({ exGNFA with init := exGNFA.final } : GNFA Nat Nat).validate = .error (.lib .invalidStateError) := by
  decide +kernel
example : (GNFA.dropRow exGNFA 1).validate = .error (.lib .missingStateError) := by decide +kernel
example : (GNFA.dropEntry exGNFA 1 2).validate = .error (.lib .missingStateError) := by decide +kernel
example : (GNFA.dropEntry exGNFA 0 1).validate = .error (.lib .missingStateError) := by decide +kernel
example : (GNFA.setRow exGNFA 2 [(1, none)]).validate = .error (.lib .invalidStateError) := by decide +kernel
example : (GNFA.setRow exGNFA 2 [(1, some ⟨[.sym 0], .valid⟩), (7, none)]).validate =
    .error (.lib .invalidStateError) := by decide +kernel
/-- an empty row for the final state is accepted: `row ≠ []` is needed -/
example : (GNFA.setRow exGNFA 2 []).validate = .ok () := by decide +kernel
example : (GNFA.setEntry exGNFA 1 0 (some ⟨[.sym 0], .valid⟩)).validate = .error (.lib .invalidStateError) := by
  decide +kernel
/-- a `None` entry into the initial state is accepted: the label must be a string -/
example : (GNFA.setEntry exGNFA 1 0 none).validate = .ok () := by decide +kernel

end AV.Props.C19
