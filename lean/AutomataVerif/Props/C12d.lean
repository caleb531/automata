/-
Props/C12d.lean — C12: "`GNFA.to_regex` returns a regex for the language, for EVERY GNFA that
`GNFA.validate` accepts", with no hypothesis on the labels.  Props/C12c.lean needs `Denotes Lab`
("every string label denotes a language"); that is a parsing-completeness statement for the label
syntax, proved in Proofs/GnfaLabelParse.lean with the executable parser `parseLabel`: the pair
automaton of `validate_tokens` accepts exactly the strings of the grammar
(`C12_validator_accepts_exactly_grammar`), corner cases `a**`, `()`, `(())`, `a|()`, `()?`, `()()`,
`a?*?` included (examples below).  The hypotheses left are: the constructor accepted the definition, rows
are dicts, the input symbols are literal characters (necessary:
`C12_label_needs_literal_alphabet`, finding `C12:alphabet-has-reserved-regex-character`).
-/
import AutomataVerif.Props.C12b
import AutomataVerif.Props.C12c
import AutomataVerif.Proofs.GnfaLabelParse

namespace AV.Props.C12
open AV AV.GNFA AV.GnfaSpec

variable {σ : Type} [DecidableEq σ]

/-- **C12_label_parse_sound** — a string the label parser accepts renders the expression it
returns (so, by `C12_parser_full_holds`, the library compiles it to that expression's language). -/
theorem C12_label_parse_sound {s : Str} {e : Rx} (h : parseLabel s = some e) : Renders .U e s :=
  parseLabel_sound h

/-- **C12_label_parse_complete** — parsing completeness against the validator: a non-empty string
over literal characters and `* | ( ) ?` on which the model of `re._validate` answers `True` has
a parse. -/
theorem C12_label_parse_complete {s : Str} (hne : s ≠ []) (hch : ∀ c ∈ s, RChar c)
    (hv : simpleRxValid s = .ok true) : ∃ e, parseLabel s = some e :=
  parseLabel_complete hne hch hv

/-- **C12_validator_accepts_exactly_grammar** — on non-empty strings over literal characters and
`* | ( ) ?`: `re._validate` accepts ⇔ `parseLabel` succeeds ⇔ the string renders an expression.
(`⇐` of the first equivalence is `C12_renders_valid`, `⇒` is `C12_label_parse_complete`.) -/
theorem C12_validator_accepts_exactly_grammar {s : Str} (hne : s ≠ []) (hch : ∀ c ∈ s, RChar c) :
    (simpleRxValid s = .ok true ↔ ∃ e, parseLabel s = some e) ∧
    ((∃ e, parseLabel s = some e) ↔ ∃ e, Renders .U e s) :=
  parseLabel_iff_valid hne hch

/-- **C12_label_denotes** — one label: if `_validate_transition_invalid_symbols` accepts the
string `s` over an alphabet of literal characters, then `s` denotes the language `labelDen s`
(`{ε}` for `""`, else the language of the parse). -/
theorem C12_label_denotes {syms : List Char} (hlit : ∀ a ∈ syms, IsLit a) {s : Str}
    (h : strLabelCheck simpleRxValid syms s = .ok ()) : Lab (labelDen s) s :=
  strLabelCheck_lab hlit h

/-- **C12_label_compile** — and the library's own parser model (C10, `NFA.from_regex(s)` with the
inferred alphabet) compiles an accepted label to exactly that language: `labelDen` is not a
convention of this file but what the library reads the label as. -/
theorem C12_label_compile {syms : List Char} (hlit : ∀ a ∈ syms, IsLit a) {s : Str}
    (h : strLabelCheck simpleRxValid syms s = .ok ()) :
    AV.Rx.GnfaGlue.compile s = some (labelDen s) :=
  AV.Rx.GnfaGlue.compile_of_lab (strLabelCheck_lab hlit h)

/-- The edge languages of a GNFA with string labels: `None` / a missing entry is no edge,
a string is read by `labelDen`. -/
def labelLb (tr : Table σ Str) (p r : σ) : Language Char :=
  match lab tr p r with
  | none => 0
  | some s => labelDen s

/-- **C12_validate_gives_denotes** — the hypothesis `Denotes Lab` of the C12c theorems holds for
every accepted GNFA over literal input symbols, with the explicit edge languages `labelLb`. -/
theorem C12_validate_gives_denotes (g : GNFA σ Str)
    (hv : g.validateStr simpleRxValid = .ok ()) (hlit : ∀ a ∈ g.syms, IsLit a) :
    Denotes Lab g.trans (labelLb g.trans) := by
  have hA := accepted_of_validate hv
  intro p r
  unfold labelLb
  cases hl : lab g.trans p r with
  | none => rfl
  | some s => exact strLabelCheck_lab hlit (hA.lab_checked hl)

/-- **C12_validate_gives_denotes_full_holds** — the statement left open in Props/C12c.lean. -/
theorem C12_validate_gives_denotes_full_holds : C12_validate_gives_denotes_full σ :=
  fun g hv hlit => ⟨labelLb g.trans, C12_validate_gives_denotes g hv hlit⟩

/-- **C12_to_regex_of_validate** — `C12_to_regex_strings_of_validate` without `Denotes`: for every
GNFA the constructor accepts (rows are dicts, input symbols literal characters) and every
tie-break order, `to_regex` raises nothing and returns `None` iff the language of the GNFA is
empty, else a well-formed regex string for exactly the language of the GNFA — paths from the
initial to the final state, each edge read with the language of its label. -/
theorem C12_to_regex_of_validate (g : GNFA σ Str)
    (hv : g.validateStr simpleRxValid = .ok ()) (hnd : ∀ kv ∈ g.trans, (akeys kv.2).Nodup)
    (hlit : ∀ a ∈ g.syms, IsLit a)
    (ord : Nat → List σ → List σ) (hord : ∀ k l x, x ∈ ord k l ↔ x ∈ l) :
    ∃ o, toRegex g ord = .ok o ∧ LabO (GLang (labelLb g.trans) g.init g.final) o :=
  C12_to_regex_strings_of_validate simpleRxValid g hv hnd
    (C12_validate_gives_denotes g hv hlit) ord hord

/-- **C12_to_regex_full_of_validate** — the English property for hand-written GNFAs, through the
library's own parser model: every label of an accepted GNFA compiles to `labelDen` of it, and
`to_regex` returns `None` iff the GNFA's language over these edge languages is empty, else a
string that `re._validate` accepts and that `NFA.from_regex` compiles to exactly that language. -/
theorem C12_to_regex_full_of_validate (g : GNFA σ Str)
    (hv : g.validateStr simpleRxValid = .ok ()) (hnd : ∀ kv ∈ g.trans, (akeys kv.2).Nodup)
    (hlit : ∀ a ∈ g.syms, IsLit a)
    (ord : Nat → List σ → List σ) (hord : ∀ k l x, x ∈ ord k l ↔ x ∈ l) :
    (∀ p r s, lab g.trans p r = some s → AV.Rx.GnfaGlue.compile s = some (labelDen s)) ∧
    ∃ o, toRegex g ord = .ok o ∧
      match o with
      | none => GLang (labelLb g.trans) g.init g.final = 0
      | some s => simpleRxValid s = .ok true ∧
          AV.Rx.GnfaGlue.compile s = some (GLang (labelLb g.trans) g.init g.final) := by
  have hA := accepted_of_validate hv
  refine ⟨fun p r s hl => C12_label_compile hlit (hA.lab_checked hl), ?_⟩
  obtain ⟨o, ho, hL⟩ := C12_to_regex_of_validate g hv hnd hlit ord hord
  refine ⟨o, ho, ?_⟩
  cases o with
  | none => exact hL
  | some s => exact ⟨Lab.valid hL, AV.Rx.GnfaGlue.compile_of_lab hL⟩

/-- **C12_to_regex_of_validate_re** — the same for the validator the driver runs (`reValidate`:
C10's lexer with the quantifier rule + `validate_tokens`): over literal input symbols the two
constructors are the same function. -/
theorem C12_to_regex_of_validate_re (g : GNFA σ Str)
    (hv : g.validateStr reValidate = .ok ()) (hnd : ∀ kv ∈ g.trans, (akeys kv.2).Nodup)
    (hlit : ∀ a ∈ g.syms, IsLit a)
    (ord : Nat → List σ → List σ) (hord : ∀ k l x, x ∈ ord k l ↔ x ∈ l) :
    ∃ o, toRegex g ord = .ok o ∧ LabO (GLang (labelLb g.trans) g.init g.final) o := by
  rw [← AV.GNFA.ReValidate.validateStr_congr g (not_mem_brace_of_isLit hlit)] at hv
  exact C12_to_regex_of_validate g hv hnd hlit ord hord

/-- Every corner case the pair automaton lets through is a string of the grammar. -/
example : parseLabel "a**".toList = some (.star (.star (.sym 'a'))) := by decide +kernel
example : parseLabel "()".toList = some .eps := by decide +kernel
example : parseLabel "(())".toList = some .eps := by decide +kernel
example : parseLabel "a|()".toList = some (.union (.sym 'a') .eps) := by decide +kernel
example : parseLabel "()?".toList = some (.opt .eps) := by decide +kernel
example : parseLabel "()()".toList = some (.cat .eps .eps) := by decide +kernel
example : parseLabel "a?*?".toList = some (.opt (.star (.opt (.sym 'a')))) := by decide +kernel
example : parseLabel "(()|a)*b".toList =
    some (.cat (.star (.union .eps (.sym 'a'))) (.sym 'b')) := by decide +kernel
example : parseLabel "ab|c(d|e)*f?".toList =
    some (.union (.cat (.sym 'a') (.sym 'b'))
      (.cat (.cat (.sym 'c') (.star (.union (.sym 'd') (.sym 'e')))) (.opt (.sym 'f')))) := by
  decide +kernel

/-- … and what it rejects has no parse (both sides of the equivalence evaluated). -/
example : parseLabel "".toList = none ∧ simpleRxValid "".toList = .ok true := by decide +kernel
example : parseLabel "(|a)".toList = none ∧ simpleRxValid "(|a)".toList = .ok false := by
  decide +kernel
example : parseLabel "(a|)".toList = none ∧ simpleRxValid "(a|)".toList = .ok false := by
  decide +kernel
example : parseLabel "a)(".toList = none ∧ simpleRxValid "a)(".toList = .ok false := by
  decide +kernel
example : parseLabel "*a".toList = none ∧ simpleRxValid "*a".toList = .ok false := by decide +kernel
example : parseLabel "a|*".toList = none ∧ simpleRxValid "a|*".toList = .ok false := by
  decide +kernel
example : parseLabel "(a".toList = none ∧ simpleRxValid "(a".toList = .ok false := by decide +kernel
example : parseLabel "a|".toList = none ∧ simpleRxValid "a|".toList = .ok false := by decide +kernel

/-- The hand-written GNFA of Props/C12c.lean (compound labels, all three kinds of slack): the end
theorem applies with nothing but decidable hypotheses. -/
example (ord : Nat → List Nat → List Nat) (hord : ∀ k l x, x ∈ ord k l ↔ x ∈ l) :
    ∃ o, toRegex exHand ord = .ok o ∧
      LabO (GLang (labelLb exHand.trans) exHand.init exHand.final) o :=
  C12_to_regex_of_validate exHand exHand_valid exHand_rows (by decide) ord hord

/-- A GNFA whose labels are the validator's corner cases: accepted, so the theorem applies.
0 -`a**`→ 1, 0 -`(())`→ 2, 1 -`a|()`→ 1, 1 -`()?b`→ 2. -/
def exCorner : GNFA Nat Str :=
  { states := [0, 1, 2], syms := ['a', 'b'],
    trans := [(0, [(1, some "a**".toList), (2, some "(())".toList)]),
              (1, [(1, some "a|()".toList), (2, some "()?b".toList)])],
    init := 0, final := 2 }

theorem exCorner_valid : exCorner.validateStr simpleRxValid = .ok () := by decide +kernel

example : exCorner.validateStr simpleRxValid = .ok () := exCorner_valid

example : toRegex exCorner (fun _ l => l) = .ok (some "a**(a|())*()?b|(())".toList) := by
  decide +kernel

example (ord : Nat → List Nat → List Nat) (hord : ∀ k l x, x ∈ ord k l ↔ x ∈ l) :
    ∃ o, toRegex exCorner ord = .ok o ∧
      LabO (GLang (labelLb exCorner.trans) exCorner.init exCorner.final) o :=
  C12_to_regex_of_validate exCorner exCorner_valid (by decide) (by decide) ord hord

/-- **C12_label_needs_literal_alphabet** — the hypothesis "input symbols are literal characters"
cannot be dropped from `C12_label_denotes`: with the reserved character `.` (or `+`) as an input
symbol the constructor's label check accepts the labels `.` and `a+`, which are not strings of
the grammar (this is the open finding `C12:alphabet-has-reserved-regex-character`, see
`C12_reserved_alphabet_fails` in Props/C12b.lean for its effect on `to_regex`). -/
theorem C12_label_needs_literal_alphabet :
    strLabelCheck simpleRxValid ['.'] ['.'] = .ok () ∧ (¬ ∃ e, Renders .U e ['.']) ∧
    strLabelCheck simpleRxValid ['a', '+'] ['a', '+'] = .ok () ∧
    (¬ ∃ e, Renders .U e ['a', '+']) := by
  refine ⟨by decide +kernel, ?_, by decide +kernel, ?_⟩
  · rintro ⟨e, he⟩
    exact absurd (he.rchars '.' (by simp)) (by unfold RChar; decide)
  · rintro ⟨e, he⟩
    exact absurd (he.rchars '+' (by simp)) (by unfold RChar; decide)

end AV.Props.C12
