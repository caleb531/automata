/-
Props/C12c.lean — C12: `to_regex` on every GNFA the constructor accepts (`GNFA.validate = ok`,
checks of /repo commit 084dfed), in place of the hypothesis `Shape` of Props/C12.lean and of the field
`gnfa_to_regex` of Props/C19e.lean.

* `validate = ok → Shape` is false: `Shape` is exact, `GNFA.validate` tolerates (a) an empty row
  for the final state, (b) rows keyed by non-states, (c) `None` entries for the initial state
  (`C12_validate_does_not_give_shape`; `to_regex` returns on that GNFA: a gap of the proof
  interface, not of the code).
* It does give `Loose` (`C12_validate_gives_loose`), which the loop maintains, so `to_regex` on any
  accepted GNFA raises nothing, for every tie-break order (`C12_to_regex_total_of_validate`), and
  returns a label for the language of the GNFA whenever the labels denote languages
  (`C12_to_regex_strings_of_validate`, `C12_elim_ast_all_orders_of_validate`); Props/C12d.lean
  discharges that last hypothesis for string labels.
* The one hypothesis next to `validate = ok` is that each row is a Python dict (no duplicate key);
  it is needed for the model only (`C12_row_nodup_needed`), a real dict has none.
-/
import AutomataVerif.Props.C12
import AutomataVerif.Proofs.GnfaShapeBridge

namespace AV.Props.C12
open AV AV.GNFA AV.GnfaSpec

variable {σ ℓ : Type} [DecidableEq σ] [DecidableEq ℓ]

set_option linter.unusedSectionVars false in
/-- **C12_validate_accepted** — the checks of `GNFA.validate` read off an accepted definition
(any label type, any label check): `init`, `final` are states and differ; every non-final state
has a row; every row keyed by the final state is empty; every other row has an entry for every
state but the initial one; all entry keys are states; no row has a labelled entry for the
initial state; every label passed the label check. -/
theorem C12_validate_accepted (labelCheck : ℓ → Res Unit) (g : GNFA σ ℓ)
    (hv : g.validate labelCheck = .ok ()) : Accepted labelCheck g :=
  accepted_of_validate hv

set_option linter.unusedSectionVars false in
/-- **C12_validate_gives_loose** — an accepted definition whose rows have no duplicate keys has
the one-directional shape `Loose` that `to_regex` needs and maintains: an entry for every pair
(non-final state, non-initial state), and every labelled entry of such a row leads to a
non-initial state. -/
theorem C12_validate_gives_loose (labelCheck : ℓ → Res Unit) (g : GNFA σ ℓ)
    (hv : g.validate labelCheck = .ok ()) (hnd : ∀ kv ∈ g.trans, (akeys kv.2).Nodup) :
    Loose (dedup g.states) g.init g.final g.trans :=
  loose_of_accepted (accepted_of_validate hv) hnd

set_option linter.unusedSectionVars false in
/-- **C12_validate_gives_shape** — the exact predicate `Shape` of the `to_regex` theorems, for an
accepted definition *without slack*: no row keyed by the final state or by a non-state, no entry
keyed by the initial state (what `from_dfa` / `from_nfa` build, and what the class docstring
describes).  Without these two hypotheses the statement is false:
`C12_validate_does_not_give_shape`. -/
theorem C12_validate_gives_shape (labelCheck : ℓ → Res Unit) (g : GNFA σ ℓ)
    (hv : g.validate labelCheck = .ok ())
    (hrows : ∀ kv ∈ g.trans, kv.1 ∈ g.states ∧ kv.1 ≠ g.final)
    (hinit : ∀ kv ∈ g.trans, g.init ∉ akeys kv.2) :
    Shape (dedup g.states) g.init g.final g.trans :=
  shape_of_accepted_tight (accepted_of_validate hv) hrows hinit

set_option linter.unusedSectionVars false in
/-- **C12_validate_gives_core_shape** — for *every* accepted definition (rows without duplicate
keys) the core of the table — rows of non-final states, entries of non-initial states, labels as
in the table — has the exact `Shape`, and agrees with the table on every pair `to_regex` reads. -/
theorem C12_validate_gives_core_shape (labelCheck : ℓ → Res Unit) (g : GNFA σ ℓ)
    (hv : g.validate labelCheck = .ok ()) (hnd : ∀ kv ∈ g.trans, (akeys kv.2).Nodup) :
    Shape (dedup g.states) g.init g.final (coreTable (dedup g.states) g.init g.final g.trans) ∧
    Sim (dedup g.states) g.init g.final g.trans
      (coreTable (dedup g.states) g.init g.final g.trans) :=
  have hL := loose_of_accepted (accepted_of_validate hv) hnd
  ⟨shape_coreTable hL, sim_coreTable hL⟩

omit [DecidableEq ℓ] in
/-- **C12_toRegexG_of_validate** — `toRegexG_spec` with `Shape` replaced by `validate = ok`:
for every label type, label check, sound label rule and tie-break order, `to_regex` of an
accepted GNFA raises nothing and returns a label denoting the language of the GNFA
(`None` iff that language is empty). -/
theorem C12_toRegexG_of_validate {R : Language Char → ℓ → Prop}
    {comb : Option ℓ → Option ℓ → Option ℓ → Option ℓ → Option ℓ} (hcomb : CombSound R comb)
    (labelCheck : ℓ → Res Unit) (g : GNFA σ ℓ) (hv : g.validate labelCheck = .ok ())
    (hnd : ∀ kv ∈ g.trans, (akeys kv.2).Nodup)
    {Lb : σ → σ → Language Char} (hD : Denotes R g.trans Lb)
    (ord : Nat → List σ → List σ) (hord : ∀ k l x, x ∈ ord k l ↔ x ∈ l) :
    ∃ o, toRegexG comb g ord = .ok o ∧ RO R (GLang Lb g.init g.final) o := by
  have hA := accepted_of_validate hv
  obtain ⟨o, ho, hsem⟩ := toRegexG_loose comb g (loose_of_accepted hA hnd) ord hord
  exact ⟨o, ho, hsem R hcomb Lb (final_row_of_accepted hA) hD⟩

omit [DecidableEq ℓ] in
/-- **C12_toRegexG_total_of_validate** — crash freedom alone needs nothing about the labels:
for every label rule `comb` whatsoever and every tie-break order, the elimination loop on an
accepted GNFA ends with `.ok`. -/
theorem C12_toRegexG_total_of_validate
    (comb : Option ℓ → Option ℓ → Option ℓ → Option ℓ → Option ℓ)
    (labelCheck : ℓ → Res Unit) (g : GNFA σ ℓ) (hv : g.validate labelCheck = .ok ())
    (hnd : ∀ kv ∈ g.trans, (akeys kv.2).Nodup)
    (ord : Nat → List σ → List σ) (hord : ∀ k l x, x ∈ ord k l ↔ x ∈ l) :
    ∃ o, toRegexG comb g ord = .ok o := by
  obtain ⟨o, ho, _⟩ :=
    toRegexG_loose comb g (loose_of_accepted (accepted_of_validate hv) hnd) ord hord
  exact ⟨o, ho⟩

/-- **C12_to_regex_total_of_validate** — the code's instance: `GNFA(...)` accepted the definition
(`validateStr`, any model `rxValid` of `re._validate`) ⇒ `to_regex()` returns, whatever state
`_find_min_connected_node` picks among the minimal ones.  This is the field `gnfa_to_regex` of
`Props/C19e.lean` with both hypotheses `Shape` and `Denotes` replaced by `validateStr = ok`. -/
theorem C12_to_regex_total_of_validate (rxValid : Str → Res Bool) (g : GNFA σ Str)
    (hv : g.validateStr rxValid = .ok ()) (hnd : ∀ kv ∈ g.trans, (akeys kv.2).Nodup)
    (ord : Nat → List σ → List σ) (hord : ∀ k l x, x ∈ ord k l ↔ x ∈ l) :
    ∃ o, toRegex g ord = .ok o :=
  C12_toRegexG_total_of_validate ripLabel (strLabelCheck rxValid g.syms) g hv hnd ord hord

/-- **C12_to_regex_strings_of_validate** — `C12_to_regex_strings` with `Shape` discharged: on an
accepted GNFA whose labels are well-formed regex strings for edge languages `Lb`, `to_regex`
returns a well-formed regex string for the language of the GNFA (`None` iff empty), for every
tie-break order. -/
theorem C12_to_regex_strings_of_validate (rxValid : Str → Res Bool) (g : GNFA σ Str)
    (hv : g.validateStr rxValid = .ok ()) (hnd : ∀ kv ∈ g.trans, (akeys kv.2).Nodup)
    {Lb : σ → σ → Language Char} (hD : Denotes Lab g.trans Lb)
    (ord : Nat → List σ → List σ) (hord : ∀ k l x, x ∈ ord k l ↔ x ∈ l) :
    ∃ o, toRegex g ord = .ok o ∧ LabO (GLang Lb g.init g.final) o := by
  obtain ⟨o, ho, hRO⟩ := C12_toRegexG_of_validate ripLabel_combSound
    (strLabelCheck rxValid g.syms) g hv hnd hD ord hord
  exact ⟨o, ho, RO_Lab _ o ▸ hRO⟩

/-- **C12_elim_ast_all_orders_of_validate** — `C12_elim_ast_all_orders` with `Shape` discharged:
with expression labels (where `Denotes` holds by definition) the statement has no hypothesis
left but acceptance: the loop ends in an expression for the language of the GNFA, or in `None`
exactly when that language is empty. -/
theorem C12_elim_ast_all_orders_of_validate (labelCheck : Rx → Res Unit) (g : GNFA σ Rx)
    (hv : g.validate labelCheck = .ok ()) (hnd : ∀ kv ∈ g.trans, (akeys kv.2).Nodup)
    (ord : Nat → List σ → List σ) (hord : ∀ k l x, x ∈ ord k l ↔ x ∈ l) :
    ∃ o, toRegexG ripRx g ord = .ok o ∧
      match o with
      | none => rxLang g.trans g.init g.final = 0
      | some e => e.den = rxLang g.trans g.init g.final := by
  obtain ⟨o, ho, hRO⟩ :=
    C12_toRegexG_of_validate ripRx_sound labelCheck g hv hnd (denotes_rxLb g.trans) ord hord
  refine ⟨o, ho, ?_⟩
  cases o <;> exact hRO

set_option linter.unusedSectionVars false in
/-- **C12_loose_step** — the loop invariant itself: one round of `to_regex` on a loose table
(any inner state `q`) raises nothing, and leaves a loose table for the remaining states. -/
theorem C12_loose_step (comb : Option ℓ → Option ℓ → Option ℓ → Option ℓ → Option ℓ)
    {S : List σ} {init final : σ} {tr : Table σ ℓ} (hS : Loose S init final tr) {q : σ}
    (hq : q ∈ S) (hqi : q ≠ init) (hqf : q ≠ final) :
    ∃ tr', ripStep comb init final S tr q = .ok (S.filter (fun x => decide (x ≠ q)), tr') ∧
      Loose (S.filter fun x => decide (x ≠ q)) init final tr' := by
  obtain ⟨tr', h1, h2, _⟩ := ripStep_loose comb hS hq hqi hqf
  exact ⟨tr', h1, h2⟩

/-- The bridge from acceptance to `Denotes` (proved in Props/C12d.lean,
`C12_validate_gives_denotes_full_holds`): over an alphabet of literal characters every label the
constructor accepts is the empty string or a rendering of an expression, i.e. the labels of an
accepted GNFA denote languages. -/
def C12_validate_gives_denotes_full (σ : Type) [DecidableEq σ] : Prop :=
  ∀ g : GNFA σ Str, g.validateStr simpleRxValid = .ok () → (∀ a ∈ g.syms, IsLit a) →
    ∃ Lb : σ → σ → Language Char, Denotes Lab g.trans Lb

/-- Hand-written, 4 states + slack: initial 0, final 3; compound labels `a|b`, `b*`, `""`;
(a) an empty row for the final state 3, (b) a row keyed by the non-state 7, (c) `None` entries
for the initial state 0 in rows 0 and 1. -/
def exHand : GNFA Nat Str :=
  { states := [0, 1, 2, 3], syms := ['a', 'b'],
    trans := [(0, [(0, none), (1, some ['a']), (2, some []), (3, none)]),
              (1, [(0, none), (1, some ['a', '|', 'b']), (2, some ['b']), (3, some [])]),
              (2, [(1, none), (2, some ['b', '*']), (3, some ['a'])]),
              (3, []),
              (7, [(1, some ['a']), (2, some ['b']), (3, none)])],
    init := 0, final := 3 }

theorem exHand_valid : exHand.validateStr simpleRxValid = .ok () := by decide +kernel

theorem exHand_rows : ∀ kv ∈ exHand.trans, (akeys kv.2).Nodup := by decide +kernel

theorem exHand_toRegex : toRegex exHand (fun _ l => l) =
    .ok (some ("(a(a|b)*b)?(b*)*a|a(a|b)*".toList)) := by decide +kernel

example : exHand.validateStr simpleRxValid = .ok () := exHand_valid
example : ∀ kv ∈ exHand.trans, (akeys kv.2).Nodup := exHand_rows

/-- `to_regex` returns on it (list order as set order). -/
example : toRegex exHand (fun _ l => l) =
    .ok (some ("(a(a|b)*b)?(b*)*a|a(a|b)*".toList)) := exHand_toRegex

example (ord : Nat → List Nat → List Nat) (hord : ∀ k l x, x ∈ ord k l ↔ x ∈ l) :
    ∃ o, toRegex exHand ord = .ok o :=
  C12_to_regex_total_of_validate simpleRxValid exHand exHand_valid exHand_rows ord hord

/-- **C12_validate_does_not_give_shape** — the literal bridge is false: `exHand` is accepted by
the constructor (rows are dicts), `to_regex` returns on it, but its table is not of the exact
`Shape` (the final state has a row). -/
theorem C12_validate_does_not_give_shape :
    exHand.validateStr simpleRxValid = .ok () ∧ (∀ kv ∈ exHand.trans, (akeys kv.2).Nodup) ∧
    (∃ o, toRegex exHand (fun _ l => l) = .ok o) ∧
    ¬ Shape (dedup exHand.states) exHand.init exHand.final exHand.trans := by
  refine ⟨exHand_valid, exHand_rows, ⟨_, exHand_toRegex⟩, fun h => ?_⟩
  exact ((h.rows 3).mp (by decide)).2 rfl

/-- Each kind of slack alone already breaks `Shape`: (b) a row of a non-state, (c) an entry for
the initial state. -/
def exHandJunk : GNFA Nat Str :=
  { states := [0, 1, 2], syms := ['a'],
    trans := [(0, [(1, some ['a']), (2, none)]), (1, [(1, some ['a']), (2, some [])]),
              (7, [(1, none), (2, none)])],
    init := 0, final := 2 }

def exHandInit : GNFA Nat Str :=
  { states := [0, 1, 2], syms := ['a'],
    trans := [(0, [(0, none), (1, some ['a']), (2, none)]), (1, [(1, some ['a']), (2, some [])])],
    init := 0, final := 2 }

theorem C12_validate_does_not_give_shape_junk_row :
    exHandJunk.validateStr simpleRxValid = .ok () ∧
    toRegex exHandJunk (fun _ l => l) = .ok (some "aa*".toList) ∧
    ¬ Shape (dedup exHandJunk.states) exHandJunk.init exHandJunk.final exHandJunk.trans := by
  refine ⟨by decide +kernel, by decide +kernel, fun h => ?_⟩
  exact absurd ((h.rows 7).mp (by decide)).1 (by decide)

theorem C12_validate_does_not_give_shape_init_entry :
    exHandInit.validateStr simpleRxValid = .ok () ∧
    toRegex exHandInit (fun _ l => l) = .ok (some "aa*".toList) ∧
    ¬ Shape (dedup exHandInit.states) exHandInit.init exHandInit.final exHandInit.trans := by
  refine ⟨by decide +kernel, by decide +kernel, fun h => ?_⟩
  exact ((h.entries 0 0).mp (by decide)).2.2.2 rfl

/-- A hand-written GNFA without slack: `C12_validate_gives_shape` applies. -/
def exHandTight : GNFA Nat Str :=
  { states := [0, 1, 2, 3], syms := ['a', 'b'],
    trans := [(0, [(1, some ['a']), (2, some []), (3, none)]),
              (1, [(1, some ['a', '|', 'b']), (2, some ['b']), (3, some [])]),
              (2, [(1, none), (2, some ['b', '*']), (3, some ['a'])])],
    init := 0, final := 3 }

example : Shape (dedup exHandTight.states) exHandTight.init exHandTight.final exHandTight.trans :=
  C12_validate_gives_shape (strLabelCheck simpleRxValid exHandTight.syms) exHandTight
    (by decide +kernel) (by decide +kernel) (by decide +kernel)

example : toRegex exHandTight (fun _ l => l) =
    .ok (some ("(a(a|b)*b)?(b*)*a|a(a|b)*".toList)) := by decide +kernel

/-- The row of state 1 is the association list `[(0, None), (0, "a"), …]`, not a Python dict. -/
def exDupRow : GNFA Nat Str :=
  { states := [0, 1, 2], syms := ['a'],
    trans := [(0, [(1, some ['a']), (2, none)]),
              (1, [(0, none), (0, some ['a']), (1, none), (2, some [])])],
    init := 0, final := 2 }

/-- **C12_row_nodup_needed** — the hypothesis "rows are dicts" is needed for the model: on
`exDupRow` the model of `paths.get(initial_state) is not None` sees `None`, validation passes, and
the model of `state_degree[to_state] += 1` raises `KeyError` on the shadowed labelled entry. -/
theorem C12_row_nodup_needed :
    exDupRow.validateStr simpleRxValid = .ok () ∧
    toRegex exDupRow (fun _ l => l) = .error (.py .keyError) ∧
    ¬ (∀ kv ∈ exDupRow.trans, (akeys kv.2).Nodup) := by
  refine ⟨by decide +kernel, by decide +kernel, by decide +kernel⟩

/-- Expression labels, hand-written with all three kinds of slack: the AST-level theorem applies
with acceptance as its only hypothesis.  0 -a→ 1, 0 -ε→ 2, 1 -(a|b)→ 1, 1 -b→ 2, 1 -ε→ 3,
2 -b*→ 2, 2 -a→ 3. -/
def exHandRx : GNFA Nat Rx :=
  { states := [0, 1, 2, 3], syms := ['a', 'b'],
    trans := [(0, [(0, none), (1, some (.sym 'a')), (2, some .eps), (3, none)]),
              (1, [(0, none), (1, some (.union (.sym 'a') (.sym 'b'))), (2, some (.sym 'b')),
                   (3, some .eps)]),
              (2, [(1, none), (2, some (.star (.sym 'b'))), (3, some (.sym 'a'))]),
              (3, []),
              (7, [(1, some (.sym 'a')), (2, some (.sym 'b')), (3, none)])],
    init := 0, final := 3 }

theorem exHandRx_valid : exHandRx.validate (fun _ => .ok ()) = .ok () := by decide +kernel

example : exHandRx.validate (fun _ => .ok ()) = .ok () := exHandRx_valid

example : ∃ e, toRegexG ripRx exHandRx (fun _ l => l) = .ok (some e) ∧
    e.den = rxLang exHandRx.trans 0 3 := by
  obtain ⟨o, ho, hm⟩ := C12_elim_ast_all_orders_of_validate (fun _ => .ok ()) exHandRx
    exHandRx_valid (by decide +kernel) (fun _ l => l) (fun _ _ _ => Iff.rfl)
  have h2 : (match toRegexG ripRx exHandRx (fun _ l => l) with
      | .ok (some _) => true
      | _ => false) = true := by decide +kernel
  rw [ho] at h2
  cases o with
  | none => cases h2
  | some e => exact ⟨e, ho, hm⟩

end AV.Props.C12
