/-
Props/C19c.lean — C19, part B continued: the corruptions of the English statement that edit one
entry of the transition table of a valid DPDA, NPDA, DTM or GNFA (`transitions[q][…] = …`, edit
operators in Proofs/CorruptOps2.lean), each with the class the constructor raises.  All are instances
of the rule-system theorems (`*.rules_correct`): the edit violates the named rule, and every other
rule it could violate has the same class or is checked later — the rules checked in the same loop
with another class are shown not to be violated.  Part D continued: the options theorem for the DFA
validator on Python-value arguments.
-/
import AutomataVerif.Props.C19
import AutomataVerif.Proofs.CorruptOps2

namespace AV.Props.C19
open AV AV.VA

variable {σ α γ : Type} [DecidableEq σ] [DecidableEq α] [DecidableEq γ]

/-- DPDA / **nondeterminism**: in a valid DPDA, `transitions[q][e][g] = r` such that afterwards the
stack symbol `g` has both a λ-move and a move on an input symbol in the row of `q` — either a
λ-move (`e = ""`) is added where an input symbol already moves on `g`, or a move on an input
symbol is added where a λ-move on `g` exists — raises `NondeterminismError`, wherever the entry
sits in the row.  (`e` is `""` or an input symbol and `g` a stack symbol, so nothing else is
broken.) -/
theorem C19_dpda_corrupt_nondeterministic (isEmptyStr : γ → Bool) (d : DPDA σ α γ)
    (wf : d.WFDef isEmptyStr) (kv : σ × List (Option α × List (γ × (σ × List γ)))) (hkv : kv ∈ d.trans)
    (e : Option α) (he : ∀ a, e = some a → a ∈ d.syms) (g : γ) (hg : g ∈ d.stackSyms) (r : σ × List γ)
    (hconf : (e = none ∧ ∃ en ∈ kv.2, ∃ a, en.1 = some a ∧ g ∈ akeys en.2) ∨
             (∃ a, e = some a ∧ g ∈ akeys (DPDA.lamRow kv.2))) :
    (DPDA.setMove d kv.1 e g r).validateDef isEmptyStr = .error (.lib .nondeterminismError) := by
  refine wf.raises .nondeterministic
    ⟨_, editRow_mem kv.1 (rowSetMove e g r) d.trans kv hkv rfl,
      fun h => (DPDA.rowDet_rowSetMove_iff e g r (wf.det kv hkv)).mp h hconf⟩ fun r' => ?_
  cases r'
  case unknownInputSymbol =>
    -- the new entry is keyed by `""` or an input symbol
    rintro _ ⟨kv', hkv', en, hen, a, ha, hna⟩
    obtain ⟨kv0, hkv0, _, hent⟩ := DPDA.setMove_rows d kv.1 e g r kv' hkv'
    rcases hent en hen with rfl | hen0
    · exact absurd (he a ha) hna
    · exact absurd (wf.symsOk kv0 hkv0 en hen0 a ha) hna
  case unknownStackSymbol =>
    -- the new entry maps `g` and what the old entry mapped
    rintro _ ⟨kv', hkv', en, hen, x, hx, hnx⟩
    obtain ⟨kv0, hkv0, _, hent⟩ := DPDA.setMove_rows d kv.1 e g r kv' hkv'
    rcases hent en hen with rfl | hen0
    · rcases rowSetMove_new_keys e g r kv0.2 x hx with rfl | ⟨m, hm, hxm⟩
      · exact absurd hg hnx
      · exact absurd (wf.stackOk kv0 hkv0 _ hm x hxm) hnx
    · exact absurd (wf.stackOk kv0 hkv0 en hen0 x hx) hnx
  all_goals rule_unaffected

/-- DPDA / invalid stack symbol in a transition, under any key `e`: an `e` that is not an input
symbol breaks `unknownInputSymbol` as well, which has the same class. -/
theorem C19_dpda_corrupt_stack_symbol_any_entry (isEmptyStr : γ → Bool) (d : DPDA σ α γ)
    (wf : d.WFDef isEmptyStr) (kv : σ × List (Option α × List (γ × (σ × List γ)))) (hkv : kv ∈ d.trans)
    (e : Option α) (g : γ) (hg : g ∉ d.stackSyms) (r : σ × List γ) :
    (DPDA.setMove d kv.1 e g r).validateDef isEmptyStr = .error (.lib .invalidSymbolError) := by
  refine wf.raises .unknownStackSymbol
    ⟨_, editRow_mem kv.1 (rowSetMove e g r) d.trans kv hkv rfl, _, rowSetMove_mem_self e g r kv.2, g,
      mem_akeys_ainsert.mpr (.inl rfl), hg⟩ fun r' => ?_
  cases r'
  case nondeterministic =>
    -- `g` occurs nowhere in the old table, so the new move clashes with nothing
    refine fun _ ⟨kv', hkv', hnd⟩ => absurd (DPDA.setMove_det d wf.det kv.1 e g r ?_ kv' hkv') hnd
    rintro kv0 hkv0 _ (⟨_, en, hen, a, _, hg'⟩ | ⟨a, _, hg'⟩)
    · exact hg (wf.stackOk kv0 hkv0 en hen g hg')
    · rcases DPDA.lamRow_mem kv0.2 with h | h
      · rw [h] at hg'; cases hg'
      · exact hg (wf.stackOk kv0 hkv0 _ h g hg')
  all_goals rule_unaffected

/-- DPDA / **invalid stack symbol in a transition**: in a valid DPDA, `transitions[q][e][g] = r`
with `g` not a stack symbol (`e` is `""` or an input symbol) raises `InvalidSymbolError` — the
foreign symbol cannot clash with any existing move, so determinism is kept. -/
theorem C19_dpda_corrupt_stack_symbol (isEmptyStr : γ → Bool) (d : DPDA σ α γ)
    (wf : d.WFDef isEmptyStr) (kv : σ × List (Option α × List (γ × (σ × List γ)))) (hkv : kv ∈ d.trans)
    (e : Option α) (he : ∀ a, e = some a → a ∈ d.syms) (g : γ) (hg : g ∉ d.stackSyms) (r : σ × List γ) :
    (DPDA.setMove d kv.1 e g r).validateDef isEmptyStr = .error (.lib .invalidSymbolError) :=
  C19_dpda_corrupt_stack_symbol_any_entry isEmptyStr d wf kv hkv e g hg r

/-- NPDA / invalid stack symbol in a transition → `InvalidSymbolError`. -/
theorem C19_npda_corrupt_stack_symbol (isEmptyStr : γ → Bool) (d : NPDA σ α γ)
    (wf : d.WFDef isEmptyStr) (kv : σ × List (Option α × List (γ × List (σ × List γ)))) (hkv : kv ∈ d.trans)
    (e : Option α) (g : γ) (hg : g ∉ d.stackSyms) (rs : List (σ × List γ)) :
    (NPDA.setMove d kv.1 e g rs).validateDef isEmptyStr = .error (.lib .invalidSymbolError) := by
  refine wf.raises .unknownStackSymbol
    ⟨_, editRow_mem kv.1 (rowSetMove e g rs) d.trans kv hkv rfl, _, rowSetMove_mem_self e g rs kv.2, g,
      mem_akeys_ainsert.mpr (.inl rfl), hg⟩ fun r' => ?_
  cases r' <;> rule_unaffected

/-- DPDA / a final state outside the state set → `InvalidStateError`. -/
theorem C19_dpda_corrupt_final (isEmptyStr : γ → Bool) (d : DPDA σ α γ) (wf : d.WFDef isEmptyStr)
    (q : σ) (hq : q ∉ d.states) :
    ({ d with finals := q :: d.finals } : DPDA σ α γ).validateDef isEmptyStr =
      .error (.lib .invalidStateError) := by
  refine wf.raises .badFinal ⟨q, .head _, hq⟩ fun r' => ?_
  cases r' <;> rule_unaffected

/-- NPDA / a final state outside the state set → `InvalidStateError`. -/
theorem C19_npda_corrupt_final (isEmptyStr : γ → Bool) (d : NPDA σ α γ) (wf : d.WFDef isEmptyStr)
    (q : σ) (hq : q ∉ d.states) :
    ({ d with finals := q :: d.finals } : NPDA σ α γ).validateDef isEmptyStr =
      .error (.lib .invalidStateError) := by
  refine wf.raises .badFinal ⟨q, .head _, hq⟩ fun r' => ?_
  cases r' <;> rule_unaffected

/-- DTM / **bad direction**: in a valid DTM, `transitions[q][s] = (t, w, dir)` with `t` a state,
`s`, `w` tape symbols and `dir` not one of the direction letters → `InvalidDirectionError`. -/
theorem C19_dtm_corrupt_direction (d : DTM σ γ) (wf : d.WF) (kv : σ × List (γ × TMResult σ γ))
    (hkv : kv ∈ d.trans) (s : γ) (hs : s ∈ d.tapeSyms) (t : σ) (ht : t ∈ d.states) (w : γ)
    (hw : w ∈ d.tapeSyms) (dir : String) (hdir : dir ∉ Gen.Validate.dtmDirections) :
    (DTM.setEntry d kv.1 s (t, w, dir)).validate = .error (.lib .invalidDirectionError) :=
  wf.of_view fun ok => (DTM.entrySet d hkv s (t, w, dir)).raises_direction ok _
    (List.forall_mem_singleton.mpr hs) (List.forall_mem_singleton.mpr ⟨ht, hw⟩) ⟨_, .head _, hdir⟩

/-- DTM / **bad tape symbol (read)**: `transitions[q][s] = (t, w, dir)` with `s` not a tape symbol
(state and direction of the result legal; the written symbol may be anything: a foreign one raises
the same class) → `InvalidSymbolError`. -/
theorem C19_dtm_corrupt_read_symbol (d : DTM σ γ) (wf : d.WF) (kv : σ × List (γ × TMResult σ γ))
    (hkv : kv ∈ d.trans) (s : γ) (hs : s ∉ d.tapeSyms) (t : σ) (ht : t ∈ d.states) (w : γ)
    (dir : String) (hdir : dir ∈ Gen.Validate.dtmDirections) :
    (DTM.setEntry d kv.1 s (t, w, dir)).validate = .error (.lib .invalidSymbolError) :=
  wf.of_view fun ok => (DTM.entrySet d hkv s (t, w, dir)).raises_symbol ok _
    (List.forall_mem_singleton.mpr ⟨ht, hdir⟩) (.inl ⟨s, .head _, hs⟩)

/-- DTM / **bad tape symbol (written)**: `transitions[q][s] = (t, w, dir)` with `w` not a tape
symbol (state and direction legal) → `InvalidSymbolError`. -/
theorem C19_dtm_corrupt_write_symbol (d : DTM σ γ) (wf : d.WF) (kv : σ × List (γ × TMResult σ γ))
    (hkv : kv ∈ d.trans) (s : γ) (t : σ) (ht : t ∈ d.states) (w : γ)
    (hw : w ∉ d.tapeSyms) (dir : String) (hdir : dir ∈ Gen.Validate.dtmDirections) :
    (DTM.setEntry d kv.1 s (t, w, dir)).validate = .error (.lib .invalidSymbolError) :=
  wf.of_view fun ok => (DTM.entrySet d hkv s (t, w, dir)).raises_symbol ok _
    (List.forall_mem_singleton.mpr ⟨ht, hdir⟩) (.inr ⟨_, .head _, hw⟩)

/-- DTM / **unknown end state**: `transitions[q][s] = (t, w, dir)` with `t` not a state →
`InvalidStateError`. -/
theorem C19_dtm_corrupt_end_state (d : DTM σ γ) (wf : d.WF) (kv : σ × List (γ × TMResult σ γ))
    (hkv : kv ∈ d.trans) (s : γ) (hs : s ∈ d.tapeSyms) (t : σ) (ht : t ∉ d.states) (w : γ)
    (hw : w ∈ d.tapeSyms) (dir : String) (hdir : dir ∈ Gen.Validate.dtmDirections) :
    (DTM.setEntry d kv.1 s (t, w, dir)).validate = .error (.lib .invalidStateError) :=
  wf.of_view fun ok => (DTM.entrySet d hkv s (t, w, dir)).raises_end_state ok _
    (List.forall_mem_singleton.mpr hs) (List.forall_mem_singleton.mpr ⟨hw, hdir⟩) ⟨_, .head _, ht⟩

/-- DTM / a final state outside the state set → `InvalidStateError` (the new name is not the
initial state, so the `InitialStateError` check before it passes). -/
theorem C19_dtm_corrupt_final (d : DTM σ γ) (wf : d.WF) (q : σ) (hq : q ∉ d.states) :
    ({ d with finals := q :: d.finals } : DTM σ γ).validate = .error (.lib .invalidStateError) :=
  wf.of_view fun ok => TmView.raises_final ok q hq

/-- DTM / **final state with transitions**: in a valid DTM, `transitions[f] = {}` for a final
state `f` → `FinalStateError` (the last check; nothing else is affected by an empty row of a
state). -/
theorem C19_dtm_corrupt_final_row (d : DTM σ γ) (wf : d.WF) (f : σ) (hf : f ∈ d.finals) :
    (DTM.addEmptyRow d f).validate = .error (.lib .finalStateError) := by
  refine wf.of_view fun ok => ?_
  -- `f` has no row, so the new key goes to the end of the dict
  have h := TmView.raises_final_row ok true hf [] (fun _ h => nomatch h) (fun _ h => nomatch h)
  rw [show ainsert f [] (DTM.view d).trans = d.trans ++ [(f, [])] from
    ainsert_of_not_mem (wf.tail.finalsNoRow f hf)] at h
  exact h

/-- GNFA / **malformed label**: in a valid GNFA, `transitions[q][t] = label` (`q` a non-final state,
`t` a state other than the initial one) with a label that uses a character outside the input
symbols and `* | ( ) ?`, or that the regex validator rejects → `InvalidRegexError`.  (When the
label only uses legal characters the validator is asked and must not let a `LexerError` escape —
that is the separate rule `labelLexerError`.) -/
theorem C19_gnfa_corrupt_label (g : GNFA σ α) (wf : g.WF) (kv : σ × List (σ × Option (GLabel α)))
    (hkv : kv ∈ g.trans) (hq : kv.1 ≠ g.final) (t : σ) (ht : t ∈ g.states) (hti : t ≠ g.init)
    (l : GLabel α) (hl : g.Malformed l) (hlex : l.verdict ≠ .lexerError) :
    (GNFA.setEntry g kv.1 t (some l)).validate = .error (.lib .invalidRegexError) := by
  obtain ⟨kv', hkv', _, _, hval⟩ := editRow_ainsert_mem t (some l) g.trans kv hkv
  refine GNFA.rules_correct.raises_of_frame ((GNFA.validate_eq_ok g).mpr wf)
    (GNFA.setEntry_frame g kv.1 t (some l)) .malformedLabel ⟨kv', hkv', l, hval, hl⟩ fun r' => ?_
  cases r'
  case malformedLabel => exact fun _ => .inl rfl
  case labelLexerError => exact fun ⟨l', e, hv⟩ => absurd (Option.some.inj e ▸ hv) hlex
  case finalHasTransitions => exact fun h => absurd h hq
  case unknownEndState => exact fun h => absurd ht h
  case transitionIntoInitial => exact fun h => absurd h hti
  all_goals exact False.elim

/-- GNFA / unknown end state in any row: in the row of the final state the entry breaks
`finalHasTransitions` as well, which has the same class. -/
theorem C19_gnfa_corrupt_end_state_any_row (g : GNFA σ α) (wf : g.WF)
    (kv : σ × List (σ × Option (GLabel α))) (hkv : kv ∈ g.trans) (t : σ) (ht : t ∉ g.states) :
    (GNFA.setEntry g kv.1 t none).validate = .error (.lib .invalidStateError) := by
  obtain ⟨kv', hkv', _, hkey, _⟩ := editRow_ainsert_mem t none g.trans kv hkv
  refine GNFA.rules_correct.raises_of_frame ((GNFA.validate_eq_ok g).mpr wf)
    (GNFA.setEntry_frame g kv.1 t none) .unknownEndState ⟨kv', hkv', t, hkey, ht⟩ fun r' => ?_
  cases r'
  case malformedLabel | labelLexerError => exact fun ⟨_, e, _⟩ => nomatch e
  case finalHasTransitions | unknownEndState | transitionIntoInitial => exact fun _ => .inl rfl
  all_goals exact False.elim

/-- GNFA / **unknown end state**: in a valid GNFA, `transitions[q][t] = None` (`q` a non-final
state) with `t` not a state → `InvalidStateError`. -/
theorem C19_gnfa_corrupt_end_state (g : GNFA σ α) (wf : g.WF) (kv : σ × List (σ × Option (GLabel α)))
    (hkv : kv ∈ g.trans) (hq : kv.1 ≠ g.final) (t : σ) (ht : t ∉ g.states) :
    (GNFA.setEntry g kv.1 t none).validate = .error (.lib .invalidStateError) :=
  C19_gnfa_corrupt_end_state_any_row g wf kv hkv t ht

/-! ## D continued: the options theorem for the typed DFA validator on Python-value arguments

`C19_options_kwargs` (Props/C19.lean) is stated for *any* validator that reads the abstract value
of the keyword arguments.  Here the hypothesis is discharged for the DFA validator: the decoder
from keyword arguments to the typed definition reads only the abstract value
(`decodeDFA_normKw`, Proofs/KwargsBridge.lean), so the theorem applies to
`DFA.validateDef ∘ decodeDFA`. -/

/-- Constructor keyword arguments (Python values, containers of any kind — `set` or `frozenset`,
`dict` or `frozendict`) that decode to a typed DFA definition `d` passing `validate`: under all
four combinations of `should_validate_automata` / `allow_mutable_automata` the constructor
succeeds, and what it stores (frozen or not) decodes to the same definition `d` — so every
operation, being a function of the definition, gives the same answer. -/
theorem C19_options_kwargs_dfa (kwargs : List (String × PyVal)) (d : DFA Atom Atom)
    (hd : decodeDFA kwargs = some d) (hvalid : DFA.validateDef Reserved.atoms d = .ok ())
    (shouldValidate allowMutable : Bool) :
    ∃ stored, construct normKw (storeKwargs false) validateDFAKwargs false shouldValidate allowMutable
        kwargs = .ok stored ∧ decodeDFA stored = some d := by
  have hv : validateDFAKwargs (normKw kwargs) = .ok () := by
    rw [validateDFAKwargs, decodeDFA_normKw, hd]
    exact hvalid
  obtain ⟨stored, hs, heq⟩ := C19_options_kwargs validateDFAKwargs false kwargs hv shouldValidate allowMutable
  exact ⟨stored, hs, by rw [← decodeDFA_normKw stored, show normKw stored = normKw kwargs from heq,
    decodeDFA_normKw, hd]⟩

/-- An invalid definition: the same error under both values of `allow_mutable_automata`. -/
theorem C19_options_kwargs_dfa_invalid (kwargs : List (String × PyVal)) (d : DFA Atom Atom)
    (hd : decodeDFA kwargs = some d) (e : Exn) (hinvalid : DFA.validateDef Reserved.atoms d = .error e)
    (allowMutable : Bool) :
    construct normKw (storeKwargs false) validateDFAKwargs false true allowMutable kwargs = .error e := by
  have hv : validateDFAKwargs (normKw kwargs) = .error e := by
    rw [validateDFAKwargs, decodeDFA_normKw, hd]
    exact hinvalid
  exact (C19_options_invalid normKw (storeKwargs false) validateDFAKwargs normKw_storeKwargs kwargs e hv
    allowMutable).1

/-- `DFA(states={"p","q"}, input_symbols={"a"}, transitions={"p": {"a": "q"}, "q": {"a": "q"}},
initial_state="p", final_states={"q"})` with mutable containers … -/
def exKwargs : List (String × PyVal) :=
  [("states", .set [.str "p", .str "q"]), ("input_symbols", .set [.str "a"]),
   ("transitions", .dict [(.str "p", .dict [(.str "a", .str "q")]), (.str "q", .dict [(.str "a", .str "q")])]),
   ("initial_state", .str "p"), ("final_states", .set [.str "q"]), ("allow_partial", .int 0)]

/-- … and as the constructor stores it (frozen): the same typed definition, which is valid. -/
example : decodeDFA (storeKwargs false exKwargs) = decodeDFA exKwargs := decodeDFA_storeKwargs exKwargs
example : (decodeDFA (storeKwargs false exKwargs)).map (DFA.validateDef Reserved.atoms) = some (.ok ()) := by
  decide +kernel
example : (decodeDFA exKwargs).map (DFA.validateDef Reserved.atoms) = some (.ok ()) := by decide +kernel
/-- `None` among the states (the harness sends `None` as the object with tag 0) is refused. -/
example : (decodeDFA (("states", .set [.str "p", .str "q", .other 0]) :: exKwargs.tail)).map
    (DFA.validateDef Reserved.atoms) = some (.error (.lib .invalidStateError)) := by decide +kernel

/-- a λ-move on stack symbol 0 added to the row of state 0, where input symbol 0 already moves on it -/
example : (DPDA.setMove exDPDA 0 none 0 (1, [])).validateDef (· == 77) =
    .error (.lib .nondeterminismError) := by decide +kernel
/-- a move on input symbol 0 added on stack symbol 1, where the λ-move lives -/
example : (DPDA.setMove exDPDA 0 (some 0) 1 (1, [])).validateDef (· == 77) =
    .error (.lib .nondeterminismError) := by decide +kernel
example : (DPDA.setMove exDPDA 0 (some 0) 5 (1, [])).validateDef (· == 77) =
    .error (.lib .invalidSymbolError) := by decide +kernel

def exDTM : DTM Nat Nat :=
  { states := [0, 1, 2], syms := [0], tapeSyms := [0, 9],
    trans := [(0, [(0, (1, 0, "R")), (9, (2, 9, "N"))]), (1, [(0, (0, 9, "L"))])],
    init := 0, blank := 9, finals := [2] }

example : exDTM.validate = .ok () := by decide +kernel
example : (DTM.setEntry exDTM 1 9 (0, 9, "X")).validate = .error (.lib .invalidDirectionError) := by decide +kernel
example : (DTM.setEntry exDTM 1 5 (0, 9, "L")).validate = .error (.lib .invalidSymbolError) := by decide +kernel
example : (DTM.setEntry exDTM 1 9 (0, 5, "L")).validate = .error (.lib .invalidSymbolError) := by decide +kernel
example : (DTM.setEntry exDTM 1 9 (7, 9, "L")).validate = .error (.lib .invalidStateError) := by decide +kernel
example : (DTM.addEmptyRow exDTM 2).validate = .error (.lib .finalStateError) := by decide +kernel
example : ({ exDTM with finals := [7, 2] } : DTM Nat Nat).validate = .error (.lib .invalidStateError) := by decide +kernel

example : (GNFA.setEntry exGNFA 1 1 (some ⟨[.sym 9], .valid⟩)).validate = .error (.lib .invalidRegexError) := by
  decide +kernel
example : (GNFA.setEntry exGNFA 1 2 (some ⟨[.sym 0, .extra "|"], .invalid⟩)).validate =
    .error (.lib .invalidRegexError) := by decide +kernel
example : (GNFA.setEntry exGNFA 0 7 none).validate = .error (.lib .invalidStateError) := by decide +kernel

end AV.Props.C19
