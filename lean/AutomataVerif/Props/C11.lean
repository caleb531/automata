/-
Props/C11.lean — C11: regex validation and comparison helpers agree with compilation and are
exact.

English statement (properties.jsonl): any sequence of the documented regex tokens (symbols,
operators, parentheses, well-formed repetition tokens, blanks) passes regex validation exactly
when it belongs to the regex grammar, which is exactly when it can be compiled to an NFA, and an
invalid sequence is reported with the library's regex error types, not an arbitrary exception.
For valid expressions compared over a common alphabet, isequal, issubset and issuperset return
exactly whether the denoted languages are equal or included.

Here: "sequence of documented tokens" is a token list all of whose members satisfy `LexTok`
(everything the lexer can emit) respectively a string `s` with `Renders ts s` (it spells such a
list, blanks anywhere); "the regex grammar" is `InGrammar` (Proofs/RxGrammar.lean);
"can be compiled" is `fromRegex … = .ok N` — the model of `NFA.from_regex` including the NFA
constructor's validation.  The comparison helpers call `NFA.__eq__` and `NFA.union`, which belong
to C09 / C08: they are parameters here, constrained by exactly the contracts those properties
state (`Props/C11b.lean` instantiates them with the library's own models).

Strings that are NOT spellings of documented tokens are covered too
(`C11_validate_from_regex_any`, `…_any_default`): whatever the characters, `regex.validate` and
`NFA.from_regex` agree — both succeed, or both raise the same exception, which is
`InvalidRegexError` or `LexerError` unless some brace group `{g1,g2}` of the string has a non-empty
bound text that `int()` rejects (then `ValueError`; the property puts non-numeric bounds outside
its domain).  In particular numeric but negative or ill-ordered bounds (`a{2,1}`, `a{-1,2}`) are
reported with `InvalidRegexError`.  One limit of the model applies: its `int()` (`pyInt`,
Model/RxLexer.lean) reads ASCII digits only, so a bound written in other decimal digits (Python's
`int` accepts e.g. Arabic-Indic ones) is a `ValueError` in the model and a number in the library.
-/
import AutomataVerif.Props.C10
import AutomataVerif.Proofs.RxLexTotal

namespace AV.Props.C11
open AV AV.Rx

/-- `validate_tokens` accepts a sequence of lexer tokens exactly when it is empty (a blank-only
string) or an expression of the grammar. -/
theorem C11_validate_iff_grammar {α : Type} {ts : List (Tok α)} (hl : ∀ t ∈ ts, LexTok t) :
    validateTokens ts = .ok () ↔ ts = [] ∨ InGrammar ts :=
  validate_iff_grammar hl

/-- An invalid token sequence is reported with `InvalidRegexError`, never `IndexError` or any
other exception. -/
theorem C11_validate_error_kind {α : Type} (ts : List (Tok α)) :
    validateTokens ts = .ok () ∨ validateTokens ts = .error (.lib .invalidRegexError) :=
  validate_error_kind ts

/-- `InvalidRegexError` and `LexerError` are regex error types in the class hierarchy regenerated
from the source. -/
theorem C11_error_classes :
    Gen.Err.isSubclass .invalidRegexError .regexException = true ∧
    Gen.Err.isSubclass .lexerError .regexException = true := by decide

section tokens
variable {α : Type} [DecidableEq α]

/-- What `NFA.from_regex` does after lexing: `parse_regex`'s token pipeline, then the NFA
constructor with its validation. -/
def compileTokens (syms : List α) (ts : List (Tok α)) : Res (NFA Nat α) :=
  match parseTokens syms ts with
  | .error e => .error e
  | .ok b =>
      match (b.toNFA syms).validate with
      | .error e => .error e
      | .ok _ => .ok (b.toNFA syms)

theorem compileTokens_eq (syms : List α) (ts : List (Tok α)) :
    compileTokens syms ts = construct syms (parseTokens syms ts) := rfl

/-- **Validator and compiler agree** on every sequence of lexer tokens whose symbols belong to the
alphabet: `validate_tokens` accepts it exactly when the compilation pipeline produces an NFA; and
when it is rejected, compilation fails with the same `InvalidRegexError` (no crash further down
the pipeline: the validator is at least as strict as shunting-yard / postfix evaluation need). -/
theorem C11_validate_iff_compiles (syms : List α) {ts : List (Tok α)}
    (hl : ∀ t ∈ ts, LexTok t) (hsym : ∀ a, Tok.str [a] ∈ ts → a ∈ syms) :
    (validateTokens ts = .ok () ↔ ∃ N, compileTokens syms ts = .ok N) ∧
    (validateTokens ts ≠ .ok () → compileTokens syms ts = .error (.lib .invalidRegexError)) := by
  by_cases hne : ts = []
  · subst hne
    have hN := (compileTokens_eq syms []).trans (construct_ok (epsNFA_valid syms))
    exact ⟨⟨fun _ => ⟨_, hN⟩, fun _ => rfl⟩, fun h => absurd rfl h⟩
  · have bad : validateTokens ts = .error (.lib .invalidRegexError) →
        compileTokens syms ts = .error (.lib .invalidRegexError) := fun h => by
      rw [compileTokens_eq, parseTokens_of_validate_error syms hne h]
      rfl
    refine ⟨⟨fun hv => ?_, fun ⟨N, hN⟩ => ?_⟩, fun hbad =>
      bad ((validate_error_kind ts).resolve_left hbad)⟩
    · obtain ⟨e, hg⟩ := grammar_of_validate hl hne hv
      obtain ⟨b, _, -, -, hc⟩ :=
        C10.compileTokens_spec syms hg fun a ha => hsym a (lits_mem_tokens hg a ha)
      exact ⟨b.toNFA syms, hc⟩
    · rcases validate_error_kind ts with h | h
      · exact h
      · rw [bad h] at hN
        cases hN

end tokens

/-- Validator against compiler on a string that lexes, the alphabet argument `o` resolved to `Σ`
(`ho`, see `construct`). -/
theorem validate_vs_compile {s : List Char} {ts : List (Tok Char)} (hlex : lex s = .ok ts)
    {o : Option (List Char)} {syms : List Char}
    (ho : fromRegex s o = construct syms (parseRegex s syms))
    (hsym : ∀ a, Tok.str [a] ∈ ts → a ∈ syms) :
    (Rx.validate s = .ok () ↔ ∃ N, fromRegex s o = .ok N) ∧
    (Rx.validate s ≠ .ok () →
      Rx.validate s = .error (.lib .invalidRegexError) ∧
      fromRegex s o = .error (.lib .invalidRegexError)) := by
  obtain ⟨h1, h2⟩ := C11_validate_iff_compiles syms (LexTotal.lex_ok_lexTok hlex) hsym
  rw [validate_of_lex hlex, fromRegex_of_lex hlex ho, ← compileTokens_eq]
  exact ⟨h1, fun hbad => ⟨(validate_error_kind ts).resolve_left hbad, h2 hbad⟩⟩

open LexTotal in
/-- The same on any string: a lexing failure is raised by both sides, and is of a kind `lex_error`
allows. -/
theorem validate_vs_compile_any (s : List Char) {o : Option (List Char)} {syms : List Char}
    (ho : fromRegex s o = construct syms (parseRegex s syms))
    (hsym : ∀ ts, lex s = .ok ts → ∀ a, Tok.str [a] ∈ ts → a ∈ syms) :
    (Rx.validate s = .ok () ↔ ∃ N, fromRegex s o = .ok N) ∧
    (Rx.validate s ≠ .ok () → ∃ e, Rx.validate s = .error e ∧ fromRegex s o = .error e ∧
      (e = .lib .invalidRegexError ∨ e = .lib .lexerError ∨
        (e = .py .valueError ∧ HasBadBound s))) := by
  cases hlex : lex s with
  | error e =>
    rw [validate_of_lex_error hlex, fromRegex_of_lex_error hlex ho]
    refine ⟨⟨nofun, nofun⟩, fun _ => ⟨e, rfl, rfl, ?_⟩⟩
    rcases lex_error hlex with h | h | h
    · exact .inr (.inl h)
    · exact .inl h
    · exact .inr (.inr h)
  | ok ts =>
    obtain ⟨h1, h2⟩ := validate_vs_compile hlex ho (hsym ts hlex)
    exact ⟨h1, fun hbad => ⟨_, (h2 hbad).1, (h2 hbad).2, .inl rfl⟩⟩

/-- **String level**, default alphabet: for a string that spells a sequence of documented tokens
(blanks anywhere), `regex.validate(s)` succeeds exactly when `NFA.from_regex(s)` succeeds; when
it fails both fail with `InvalidRegexError`. -/
theorem C11_validate_iff_from_regex {s : List Char} {ts : List (Tok Char)} (hr : Renders ts s) :
    (Rx.validate s = .ok () ↔ ∃ N, fromRegex s none = .ok N) ∧
    (Rx.validate s ≠ .ok () →
      Rx.validate s = .error (.lib .invalidRegexError) ∧
      fromRegex s none = .error (.lib .invalidRegexError)) :=
  validate_vs_compile (lex_renders hr) (fromRegex_none_eq s) (renders_str_mem hr)

/-- **String level, explicit alphabet** `input_symbols=Σ` (no reserved character, containing the
symbols of the string): for a string that spells a sequence of documented tokens,
`regex.validate(s)` succeeds exactly when `NFA.from_regex(s, input_symbols=Σ)` succeeds; when it
fails both fail with `InvalidRegexError`. -/
theorem C11_validate_iff_from_regex_explicit {s : List Char} {ts : List (Tok Char)}
    (hr : Renders ts s) (syms : List Char) (hres : ∀ c ∈ syms, isReserved c = false)
    (hsym : ∀ a, Tok.str [a] ∈ ts → a ∈ syms) :
    (Rx.validate s = .ok () ↔ ∃ N, fromRegex s (some syms) = .ok N) ∧
    (Rx.validate s ≠ .ok () →
      Rx.validate s = .error (.lib .invalidRegexError) ∧
      fromRegex s (some syms) = .error (.lib .invalidRegexError)) :=
  validate_vs_compile (lex_renders hr) (fromRegex_some_eq s hres) hsym

/-- **Lexing failures are shared**: when `lexer.lex(s)` raises, `regex.validate(s)` and
`NFA.from_regex(s, …)` (default alphabet, or any explicit alphabet that passes the
reserved-character check) raise the same exception. -/
theorem C11_lex_error_agree {s : List Char} {e : Exn} (h : lex s = .error e) :
    Rx.validate s = .error e ∧ fromRegex s none = .error e ∧
    ∀ syms : List Char, (∀ c ∈ syms, isReserved c = false) →
      fromRegex s (some syms) = .error e :=
  ⟨validate_of_lex_error h, fromRegex_of_lex_error h (fromRegex_none_eq s),
    fun _ hres => fromRegex_of_lex_error h (fromRegex_some_eq s hres)⟩

open LexTotal in
/-- **Kinds of lexing failures**, for every string: `lexer.lex(s)` returns lexer tokens, or
raises `LexerError` (a white-space character other than a blank), or `InvalidRegexError`
(a brace group with numeric bounds that are negative or ill-ordered: `a{-1,2}`, `a{2,1}`), or
`ValueError` — the last one only if some brace group `{g1,g2}` of `s` has a non-empty bound text
that `int()` rejects (`HasBadBound`: non-numeric bounds, outside the property's domain). -/
theorem C11_lex_error_kind (s : List Char) :
    (∃ ts, lex s = .ok ts ∧ ∀ t ∈ ts, LexTok t) ∨
    lex s = .error (.lib .lexerError) ∨
    lex s = .error (.lib .invalidRegexError) ∨
    (lex s = .error (.py .valueError) ∧ HasBadBound s) :=
  (lex_error_kind s).imp_left fun ⟨ts, h⟩ => ⟨ts, h, lex_ok_lexTok h⟩

open LexTotal in
/-- **Validator and compiler agree on EVERY string** (explicit alphabet `Σ` without reserved
characters that contains the symbol tokens the lexer produces, if it produces any): whatever the
characters of `s` — lone braces, odd bounds, white space included —
`regex.validate(s)` succeeds exactly when `NFA.from_regex(s, input_symbols=Σ)` succeeds, and
otherwise both raise the SAME exception, which is `InvalidRegexError` or `LexerError` (regex error
types, `C11_error_classes`) — or `ValueError`, but only if some brace group has a non-numeric
bound (`HasBadBound s`). -/
theorem C11_validate_from_regex_any (s : List Char) (syms : List Char)
    (hres : ∀ c ∈ syms, isReserved c = false)
    (hsym : ∀ ts, lex s = .ok ts → ∀ a, Tok.str [a] ∈ ts → a ∈ syms) :
    (Rx.validate s = .ok () ↔ ∃ N, fromRegex s (some syms) = .ok N) ∧
    (Rx.validate s ≠ .ok () → ∃ e, Rx.validate s = .error e ∧ fromRegex s (some syms) = .error e ∧
      (e = .lib .invalidRegexError ∨ e = .lib .lexerError ∨
        (e = .py .valueError ∧ HasBadBound s))) :=
  validate_vs_compile_any s (fromRegex_some_eq s hres) hsym

open LexTotal in
/-- The same with the default alphabet (`input_symbols=None`), for every string whose lexer run
yields no lone-brace symbol (`{` / `}` are reserved, hence never in the default alphabet: for
`a{` the validator answers ok and `from_regex` raises `InvalidSymbolError`; outside the documented
syntax). -/
theorem C11_validate_from_regex_any_default (s : List Char)
    (hbr : ∀ ts, lex s = .ok ts → Tok.str ['{'] ∉ ts ∧ Tok.str ['}'] ∉ ts) :
    (Rx.validate s = .ok () ↔ ∃ N, fromRegex s none = .ok N) ∧
    (Rx.validate s ≠ .ok () → ∃ e, Rx.validate s = .error e ∧ fromRegex s none = .error e ∧
      (e = .lib .invalidRegexError ∨ e = .lib .lexerError ∨
        (e = .py .valueError ∧ HasBadBound s))) := by
  refine validate_vs_compile_any s (fromRegex_none_eq s) fun ts hlex a ha => ?_
  obtain ⟨hm, _, hr | rfl | rfl⟩ := lex_ok_str hlex a ha
  · exact mem_defaultSyms.mpr ⟨hm, hr⟩
  · exact absurd ha (hbr ts hlex).1
  · exact absurd ha (hbr ts hlex).2

section compare
variable (eq : NFA Nat Char → NFA Nat Char → Bool)
variable (uni : NFA Nat Char → NFA Nat Char → NFA Nat Char)

/-- What is assumed of `eq` (the shape of C09's theorem about `NFA.__eq__`): on valid NFAs over
the same alphabet it decides language equality. -/
def EqContract (syms : List Char) : Prop :=
  ∀ A B : NFA Nat Char, A.validate = .ok () → B.validate = .ok () → A.syms = syms → B.syms = syms →
    (eq A B = true ↔ ∀ w, A.accepts w = B.accepts w)

/-- What is assumed of `uni`: on valid NFAs over the same alphabet it returns a valid NFA over
that alphabet accepting the union.  (C08 proves this of the library's `NFA.union` for operands
that are `NFA.Valid`, which is more than `validate = ok`; `Props/C11b.lean` therefore follows the
helpers' calls on the compiled NFAs instead of instantiating this contract.) -/
def UnionContract (syms : List Char) : Prop :=
  ∀ A B : NFA Nat Char, A.validate = .ok () → B.validate = .ok () → A.syms = syms → B.syms = syms →
    (uni A B).validate = .ok () ∧ (uni A B).syms = syms ∧
    ∀ w, (uni A B).accepts w = (A.accepts w || B.accepts w)

theorem sameAcc (A B : NFA Nat Char) (LA LB : Language Char)
    (hA : ∀ w, A.accepts w = true ↔ w ∈ LA) (hB : ∀ w, B.accepts w = true ↔ w ∈ LB) :
    (∀ w, A.accepts w = B.accepts w) ↔ LA = LB := by
  constructor
  · intro h
    ext w
    rw [← hA, ← hB, h]
  · intro h w
    exact Bool.eq_iff_iff.mpr (by rw [hA, hB, h])

/-- What the three `==` of the helpers decide, `U` being the union: `nfa1 == nfa2` equality,
`union == nfa2` and `union == nfa1` the two inclusions. -/
theorem sameAcc_union {A B U : NFA Nat Char} {LA LB : Language Char}
    (hA : ∀ w, A.accepts w = true ↔ w ∈ LA) (hB : ∀ w, B.accepts w = true ↔ w ∈ LB)
    (hU : ∀ w, U.accepts w = true ↔ w ∈ LA + LB) :
    ((∀ w, A.accepts w = B.accepts w) ↔ LA = LB) ∧
    ((∀ w, U.accepts w = B.accepts w) ↔ LA ≤ LB) ∧
    ((∀ w, U.accepts w = A.accepts w) ↔ LB ≤ LA) :=
  ⟨sameAcc A B _ _ hA hB, (sameAcc U B _ _ hU hB).trans sup_eq_right,
    (sameAcc U A _ _ hU hA).trans sup_eq_left⟩

/-- The comparison helpers on two strings that lex to expressions of the grammar (a spelling in
documented tokens is one way to know that they do). -/
theorem comparisons_of_lex {s1 s2 : List Char} {ts1 ts2 : List (Tok Char)} {e1 e2 : Rx Char}
    (hx1 : lex s1 = .ok ts1) (hg1 : G .E e1 ts1) (hx2 : lex s2 = .ok ts2) (hg2 : G .E e2 ts2)
    (syms : List Char) (hres : ∀ c ∈ syms, isReserved c = false)
    (hl1 : ∀ a ∈ e1.lits, a ∈ syms) (hl2 : ∀ a ∈ e2.lits, a ∈ syms)
    (heq : EqContract eq syms) (huni : UnionContract uni syms) :
    (∃ b, isequal eq s1 s2 (some syms) = .ok b ∧ (b = true ↔ den syms e1 = den syms e2)) ∧
    (∃ b, issubset eq uni s1 s2 (some syms) = .ok b ∧ (b = true ↔ den syms e1 ≤ den syms e2)) ∧
    (∃ b, issuperset eq uni s1 s2 (some syms) = .ok b ∧ (b = true ↔ den syms e2 ≤ den syms e1)) := by
  obtain ⟨b1, _, g1, h1⟩ := C10.compile_spec hx1 hg1 (fromRegex_some_eq s1 hres) hl1
  obtain ⟨b2, _, g2, h2⟩ := C10.compile_spec hx2 hg2 (fromRegex_some_eq s2 hres) hl2
  have v1 := g1.toNFA_valid fun _ h => h
  have v2 := g2.toNFA_valid fun _ h => h
  have a1 := g1.accepts_iff syms
  have a2 := g2.accepts_iff syms
  obtain ⟨vu, syu, au⟩ := huni _ _ v1 v2 rfl rfl
  have bu : ∀ w, (uni (b1.toNFA syms) (b2.toNFA syms)).accepts w = true ↔
      w ∈ den syms e1 + den syms e2 := by
    intro w
    rw [au, Bool.or_eq_true, a1, a2, Language.mem_add]
  obtain ⟨i1, i2, i3⟩ := sameAcc_union a1 a2 bu
  exact ⟨⟨_, by rw [isequal, h1, h2], (heq _ _ v1 v2 rfl rfl).trans i1⟩,
    ⟨_, by rw [issubset, h1, h2], (heq _ _ vu v2 syu rfl).trans i2⟩,
    ⟨_, by rw [issuperset, h1, h2], (heq _ _ vu v1 syu rfl).trans i3⟩⟩

/-- **`isequal`, `issubset`, `issuperset` are exact** for valid expressions over a common
explicit alphabet: they return `True` exactly when the denoted languages are equal / included
(for any `eq`, `uni` satisfying `EqContract`, `UnionContract`; with the library's own operations:
`C11_comparisons_lib`, Props/C11b.lean). -/
theorem C11_comparisons {s1 s2 : List Char} {ts1 ts2 : List (Tok Char)} {e1 e2 : Rx Char}
    (hr1 : Renders ts1 s1) (hg1 : G .E e1 ts1) (hr2 : Renders ts2 s2) (hg2 : G .E e2 ts2)
    (syms : List Char) (hres : ∀ c ∈ syms, isReserved c = false)
    (hl1 : ∀ a ∈ e1.lits, a ∈ syms) (hl2 : ∀ a ∈ e2.lits, a ∈ syms)
    (heq : EqContract eq syms) (huni : UnionContract uni syms) :
    (∃ b, isequal eq s1 s2 (some syms) = .ok b ∧ (b = true ↔ den syms e1 = den syms e2)) ∧
    (∃ b, issubset eq uni s1 s2 (some syms) = .ok b ∧ (b = true ↔ den syms e1 ≤ den syms e2)) ∧
    (∃ b, issuperset eq uni s1 s2 (some syms) = .ok b ∧ (b = true ↔ den syms e2 ≤ den syms e1)) :=
  comparisons_of_lex eq uni (lex_renders hr1) hg1 (lex_renders hr2) hg2 syms hres hl1 hl2 heq huni

end compare

/-- Concrete sequences: `(a|b)*` validates and is in the grammar; `(a|)` does not validate; a blank-only string validates and compiles. -/
example : validateTokens ([.lparen, .str ['a'], .union, .str ['b'], .rparen, .star] : List (Tok Char))
    = .ok () := by decide +kernel
example : validateTokens ([.lparen, .str ['a'], .union, .rparen] : List (Tok Char))
    = .error (.lib .invalidRegexError) := by decide +kernel
example : Rx.validate " ".toList = .ok () ∧ (fromRegex " ".toList none).toOption.isSome = true := by
  decide +kernel
example : Renders [.str ['a'], .quant 1 (some 2)] "a {1,2} ".toList :=
  .tok (.sym 'a' ⟨by decide, by decide⟩) (.blank ' ' (by decide)
    (.tok (.quant ['1'] ['2'] 1 (some 2)
      (Or.inr ⟨['1'], .of_digits ⟨by simp, by decide⟩, by decide⟩)
      (Or.inr ⟨['2'], .of_digits ⟨by simp, by decide⟩, by decide, by decide⟩))
      (.blank ' ' (by decide) .nil)))

/-- Strings that do not lex: numeric but ill-ordered / negative bounds are `InvalidRegexError`
(validator and compiler alike), a non-numeric bound is `ValueError`, a newline is `LexerError`. -/
example : (lex "a{2,1}".toList, Rx.validate "a{-1,2}".toList,
    (fromRegex "a{2,1}".toList (some ['a'])).toOption.isSome) =
    (.error (.lib .invalidRegexError), .error (.lib .invalidRegexError), false) := by decide +kernel
example : (lex "a{x,1}".toList, lex "a\nb".toList) =
    (.error (.py .valueError), .error (.lib .lexerError)) := by decide +kernel
example : LexTotal.HasBadBound "a{x,1}".toList :=
  ⟨['a'], "{x,1}".toList, ['x'], ['1'], rfl, by decide, Or.inl ⟨by simp, by decide⟩⟩

/-- The hypotheses of `C11_validate_from_regex_any` are met by a string outside the grammar:
`(a|b` over `Σ = {a, b}` — validator and compiler both fail with `InvalidRegexError`.  (For a
string that does not lex, such as `a{2,1}` above, the hypothesis on symbol tokens is void.) -/
example : (∀ c ∈ ['a', 'b'], isReserved c = false) ∧
    (∀ ts, lex "(a|b".toList = .ok ts → ∀ a, Tok.str [a] ∈ ts → a ∈ ['a', 'b']) ∧
    Rx.validate "(a|b".toList = .error (.lib .invalidRegexError) ∧
    (fromRegex "(a|b".toList (some ['a', 'b'])).toOption.isSome = false := by
  have hlex : lex "(a|b".toList = .ok [.lparen, .str ['a'], .union, .str ['b']] := by
    decide +kernel
  refine ⟨by decide, fun ts h a ha => ?_, ?_, ?_⟩
  · rw [hlex] at h
    cases h
    simp at ha
    rcases ha with rfl | rfl <;> simp
  · rw [validate_of_lex hlex]
    decide +kernel
  · rw [fromRegex_of_lex hlex (fromRegex_some_eq _ (by decide))]
    decide +kernel

/-- The side condition of the default-alphabet version is needed: `a{` lexes to a lone-brace
symbol, validate is ok and `from_regex` raises `InvalidSymbolError`. -/
example : lex "a{".toList = .ok [.str ['a'], .str ['{']] ∧ Rx.validate "a{".toList = .ok () ∧
    (fromRegex "a{".toList none).map (fun _ => ()) = .error (.lib .invalidSymbolError) := by
  decide +kernel

end AV.Props.C11
