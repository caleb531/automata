/-
Props/C12.lean — C12: state elimination yields a regular expression for the same language.

English statement (properties.jsonl): converting any DFA or NFA with a non-empty language to a
generalised NFA and then to a regular expression yields a string that the library's own regex
parser accepts and whose language is exactly the language of the source automaton — for all
valid DFAs and NFAs with non-empty language, including NFAs with parallel and cyclic
empty-string transitions and automata whose final state is the initial state.

How it is stated here.
* The model (`Model/GNFA.lean`) mirrors `GNFA.from_dfa`, `from_nfa`, `_find_min_connected_node`,
  `to_regex` with every string rule; the iteration order of the set that breaks ties among
  minimal-degree states is the argument `ord` and every theorem holds for **every** `ord`.
* "A string the parser accepts, with language L" is `Lab L s` (`Spec/GnfaRx.lean`): `s` is the
  empty string and `L = {ε}`, or `s` is generated by the grammar `Renders` of the library's regex
  syntax (literal = non-reserved character of the regenerated table, `()`, grouping, postfix
  `*` `?` tighter than concatenation tighter than `|`) for an expression `e` with `e.den = L`.
  That the library's parser maps every such rendering to an NFA for `e.den` is property C10; it is
  a hypothesis here (`C12_parser_full`) and discharged in Props/C12b.lean (`C12_parser_full_holds`,
  `C12_to_regex_full`).
* Domain: valid source (`validate = ok`), transition rows without duplicate keys (a Python dict),
  alphabet of literal characters (`IsLit`), `natName` (the embedding of Python ints into state
  names used by `_add_new_state`) injective.
* `IsLit` (not reserved, not white space) is a genuine restriction of the English statement's
  domain and exactly its boundary: outside it the property is FALSE for the code (the output
  syntax has no escaping).  That is the open finding `C12:alphabet-has-reserved-regex-character`,
  proved on the model in Props/C12b.lean (`C12_reserved_alphabet_fails`).
-/
import AutomataVerif.Proofs.GnfaBuild
import AutomataVerif.Proofs.GnfaTotal
import AutomataVerif.Proofs.GnfaAlphabet

namespace AV.Props.C12
open AV AV.GNFA AV.GnfaSpec

variable {σ : Type} [DecidableEq σ]

/-- The label rule of state elimination on expressions: `r4 | r1 r2* r3`, `None` = no edge. -/
def ripRx (r1 r2 r3 r4 : Option Rx) : Option Rx :=
  match r1, r3 with
  | some a, some c =>
    let body : Rx :=
      match r2 with
      | none => .cat a c
      | some b => .cat (.cat a (.star b)) c
    match r4 with
    | none => some body
    | some d => some (.union d body)
  | _, _ => r4

/-- The edge languages of a table with expression labels (`None` / no entry = ∅). -/
def rxLb (tr : Table σ Rx) : σ → σ → Language Char := fun p r =>
  match lab tr p r with
  | none => 0
  | some e => e.den

/-- The language of a GNFA with expression labels: labels of the paths from the initial to the
final state, an edge labelled `e` contributing any word of `e.den`. -/
def rxLang (tr : Table σ Rx) (init final : σ) : Language Char := GLang (rxLb tr) init final

theorem ripRx_sound : CombSound (fun L (e : Rx) => e.den = L) ripRx := by
  intro L1 L2 L3 L4 r1 r2 r3 r4 h1 h2 h3 h4
  cases r1 with
  | none =>
    rw [show L1 = 0 from h1, zero_mul, zero_mul, add_zero]
    exact h4
  | some a =>
    cases r3 with
    | none =>
      rw [show L3 = 0 from h3, mul_zero, add_zero]
      exact h4
    | some c =>
      -- the body `a b* c` (`a c` when there is no loop), then the alternative
      have hbody : (match r2 with
          | none => Rx.cat a c
          | some b => Rx.cat (Rx.cat a (Rx.star b)) c).den = L1 * KStar.kstar L2 * L3 := by
        cases r2 with
        | none => rw [show L2 = 0 from h2, kstar_zero, mul_one, ← h1, ← h3]; rfl
        | some b => rw [← h1, ← h3, ← (h2 : b.den = L2)]; rfl
      cases r4 with
      | none => rw [show L4 = 0 from h4, zero_add]; exact hbody
      | some d => rw [← (h4 : d.den = L4), ← hbody]; rfl

theorem denotes_rxLb (tr : Table σ Rx) : Denotes (fun L (e : Rx) => e.den = L) tr (rxLb tr) := by
  intro p r
  unfold rxLb
  cases lab tr p r <;> rfl

theorem eq_rxLb {tr : Table σ Rx} {Lb : σ → σ → Language Char}
    (h : Denotes (fun L (e : Rx) => e.den = L) tr Lb) : Lb = rxLb tr := by
  funext p r
  have := h p r
  unfold rxLb
  cases hl : lab tr p r with
  | none => rw [hl] at this; exact this
  | some e => rw [hl] at this; exact this.symm

/-- **C12_elim_ast** — on a GNFA table of the documented shape with expression labels, one
iteration of the elimination loop for *any* state `q` other than the initial and the final
state never raises, leaves a table of the documented shape on the remaining states, and
preserves the language of the GNFA. -/
theorem C12_elim_ast {S : List σ} {init final : σ} {tr : Table σ Rx}
    (hS : Shape S init final tr) {q : σ} (hq : q ∈ S) (hqi : q ≠ init) (hqf : q ≠ final) :
    ∃ tr', ripStep ripRx init final S tr q = .ok (S.filter (fun x => decide (x ≠ q)), tr') ∧
      Shape (S.filter fun x => decide (x ≠ q)) init final tr' ∧
      rxLang tr' init final = rxLang tr init final := by
  obtain ⟨tr', hstep, hS', hden⟩ := ripStep_spec ripRx hS hq hqi hqf
  refine ⟨tr', hstep, hS', ?_⟩
  have hD' := hden _ _ ripRx_sound (hS.denotesOn_iff.mpr (denotes_rxLb tr))
  unfold rxLang
  rw [← eq_rxLb (hS'.denotesOn_iff.mp hD')]
  exact GLang_rip (rxLb tr) hqi.symm hqf.symm

/-- **C12_elim_ast_all_orders** — hence the whole loop, whatever state
`_find_min_connected_node` picks at each round (every set-iteration order `ord`), ends without
an exception in an expression for the language of the GNFA, or in `None` exactly when that
language is empty. -/
theorem C12_elim_ast_all_orders (g : GNFA σ Rx)
    (hS : Shape (dedup g.states) g.init g.final g.trans)
    (ord : Nat → List σ → List σ) (hord : ∀ k l x, x ∈ ord k l ↔ x ∈ l) :
    ∃ o, toRegexG ripRx g ord = .ok o ∧
      match o with
      | none => rxLang g.trans g.init g.final = 0
      | some e => e.den = rxLang g.trans g.init g.final := by
  obtain ⟨o, ho, hRO⟩ := toRegexG_spec ripRx_sound g hS (denotes_rxLb g.trans) ord hord
  refine ⟨o, ho, ?_⟩
  cases o with
  | none => exact hRO
  | some e => exact hRO

/-- **C12_strings** — the value `to_regex` assigns to `new_transitions[q_i][q_j]`: if the four
labels read are well-formed regex strings (or `None`) for the languages `L₁ L₂ L₃ L₄`
(`None` = ∅), the assembled label is a well-formed regex string for `L₄ ∪ L₁ L₂* L₃`
(`None` iff there is nothing to assemble). -/
theorem C12_strings {L1 L2 L3 L4 : Language Char} {r1 r2 r3 r4 : Option Str}
    (h1 : LabO L1 r1) (h2 : LabO L2 r2) (h3 : LabO L3 r3) (h4 : LabO L4 r4) :
    LabO (L4 + L1 * KStar.kstar L2 * L3) (ripLabel r1 r2 r3 r4) :=
  ripLabel_sound h1 h2 h3 h4

/-- **C12_isbracket_req** — "needs brackets ↔ `_isbracket_req`": for a well-formed regex
string, `_isbracket_req` answers `False` exactly when the string is of concatenation level,
i.e. may be put inside a concatenation (or before a postfix operator's group) as it is. -/
theorem C12_isbracket_req {e : Rx} {s : Str} (h : Renders .U e s) :
    isBracketReq s = false ↔ Renders .C e s :=
  h.isBracketReq_iff

/-- **C12_single_char** — a well-formed regex string of length one is an atom, so `r2*`
(no brackets when `len(r2) == 1`) is well formed. -/
theorem C12_single_char {e : Rx} {s : Str} (h : Renders .U e s) (hlen : s.length = 1) :
    Renders .P e s :=
  h.single hlen

/-- What the grammar `Renders` takes from the tables regenerated from `automata/regex/parser.py`:
the precedences postfix `*` `?` (3) > concatenation (2) > union (1), and that the five operator
characters are reserved (so no literal is one of them). -/
theorem C12_generated_precedence :
    AV.Gen.Regex.precOf "KleeneStarToken" = some 3 ∧ AV.Gen.Regex.precOf "OptionToken" = some 3 ∧
    AV.Gen.Regex.precOf "ConcatToken" = some 2 ∧ AV.Gen.Regex.precOf "UnionToken" = some 1 ∧
    (∀ c ∈ ['*', '|', '(', ')', '?'], c ∈ AV.Gen.Regex.reservedCharacters) := by
  decide +kernel

/-- **C12_to_regex_strings** — `to_regex` on any GNFA of the documented shape whose labels are
well-formed regex strings for edge languages `Lb`: for every tie-break order it returns, without
an exception, a well-formed regex string for the language of the GNFA (`None` iff empty). -/
theorem C12_to_regex_strings (g : GNFA σ Str)
    (hS : Shape (dedup g.states) g.init g.final g.trans)
    {Lb : σ → σ → Language Char} (hD : Denotes Lab g.trans Lb)
    (ord : Nat → List σ → List σ) (hord : ∀ k l x, x ∈ ord k l ↔ x ∈ l) :
    ∃ o, toRegex g ord = .ok o ∧ LabO (GLang Lb g.init g.final) o := by
  obtain ⟨o, ho, hRO⟩ := toRegexG_spec ripLabel_combSound g hS hD ord hord
  exact ⟨o, ho, RO_Lab _ o ▸ hRO⟩

theorem labO_none_accepts {L : Language Char} {acc : List Char → Bool}
    (hL : ∀ w, w ∈ L ↔ acc w = true) (h : LabO L none) (w : List Char) : acc w = false := by
  have h0 : L = 0 := h
  exact Bool.eq_false_iff.mpr ((hL w).not.mp (h0 ▸ Language.notMem_zero w))

/-- `C12_to_regex_strings` when the paths of the GNFA are the words of an acceptance predicate. -/
theorem toRegex_labO_accepts (g : GNFA σ Str)
    (hS : Shape (dedup g.states) g.init g.final g.trans)
    {Lb : σ → σ → Language Char} (hD : Denotes Lab g.trans Lb) {acc : List Char → Bool}
    (hL : ∀ w, w ∈ GLang Lb g.init g.final ↔ acc w = true)
    (ord : Nat → List σ → List σ) (hord : ∀ k l x, x ∈ ord k l ↔ x ∈ l) :
    ∃ o, toRegex g ord = .ok o ∧
      match o with
      | none => ∀ w, acc w = false
      | some s =>
        (s = [] ∧ ∀ w, acc w = true ↔ w = []) ∨
        ∃ e, Renders .U e s ∧ ∀ w, w ∈ e.den ↔ acc w = true := by
  obtain ⟨o, ho, hlab⟩ := C12_to_regex_strings g hS hD ord hord
  refine ⟨o, ho, ?_⟩
  cases o with
  | none => exact labO_none_accepts hL hlab
  | some s => exact (Lab.iff_accepts hL).mp hlab

/-- **C12_from_dfa** — the GNFA `from_dfa` builds from a valid DFA has the documented shape,
well-formed labels, and exactly the DFA's language. -/
theorem C12_from_dfa (rxValid : Str → Res Bool) (natName : Nat → σ)
    (hinj : Function.Injective natName) (d : DFA σ Char) (hv : d.validate = .ok ())
    (hkeys : ∀ kv ∈ d.trans, (akeys kv.2).Nodup) (hlit : ∀ a ∈ d.syms, IsLit a)
    (g : GNFA σ Str) (h : fromDFA rxValid natName d = .ok g) :
    Shape (dedup g.states) g.init g.final g.trans ∧
    ∃ Lb, Denotes Lab g.trans Lb ∧ ∀ w, w ∈ GLang Lb g.init g.final ↔ d.accepts w = true :=
  fromDFA_spec rxValid natName hinj d ((DFA.validate_eq_ok d).mp hv) hkeys hlit g h

/-- **C12_to_regex_dfa** — for every valid DFA over literal symbols and every tie-break order:
`GNFA.from_dfa(d).to_regex()` does not raise in `to_regex`; it returns `None` exactly when the
DFA accepts nothing; otherwise it returns a string `s` that is well formed in the library's
regex syntax and denotes exactly the language of the DFA (or `s = ""`, and that language is
`{ε}`). -/
theorem C12_to_regex_dfa (rxValid : Str → Res Bool) (natName : Nat → σ)
    (hinj : Function.Injective natName) (d : DFA σ Char) (hv : d.validate = .ok ())
    (hkeys : ∀ kv ∈ d.trans, (akeys kv.2).Nodup) (hlit : ∀ a ∈ d.syms, IsLit a)
    (g : GNFA σ Str) (h : fromDFA rxValid natName d = .ok g)
    (ord : Nat → List σ → List σ) (hord : ∀ k l x, x ∈ ord k l ↔ x ∈ l) :
    ∃ o, toRegex g ord = .ok o ∧
      match o with
      | none => ∀ w, d.accepts w = false
      | some s =>
        (s = [] ∧ ∀ w, d.accepts w = true ↔ w = []) ∨
        ∃ e, Renders .U e s ∧ ∀ w, w ∈ e.den ↔ d.accepts w = true := by
  obtain ⟨hS, Lb, hD, hL⟩ := C12_from_dfa rxValid natName hinj d hv hkeys hlit g h
  exact toRegex_labO_accepts g hS hD hL ord hord

/-- **C12_from_nfa** — the GNFA `from_nfa` builds from a valid NFA (ε-transitions, parallel and
cyclic ones included) has the documented shape, well-formed labels — the `?` cases and the
bracket rule of the merging loop included — and exactly the NFA's language. -/
theorem C12_from_nfa (rxValid : Str → Res Bool) (natName : Nat → σ)
    (hinj : Function.Injective natName) (n : NFA σ Char) (hv : n.validate = .ok ())
    (hkeys : ∀ kv ∈ n.trans, (akeys kv.2).Nodup) (htgts : ∀ kv ∈ n.trans, ∀ e ∈ kv.2, e.2.Nodup)
    (hlit : ∀ a ∈ n.syms, IsLit a)
    (g : GNFA σ Str) (h : fromNFA rxValid natName n = .ok g) :
    Shape (dedup g.states) g.init g.final g.trans ∧
    ∃ Lb, Denotes Lab g.trans Lb ∧ ∀ w, w ∈ GLang Lb g.init g.final ↔ n.accepts w = true :=
  fromNFA_spec rxValid natName hinj n ((NFA.validate_eq_ok n).mp hv) hkeys htgts hlit g h

/-- **C12_to_regex_nfa** — for every valid NFA over literal symbols and every tie-break order:
`GNFA.from_nfa(n).to_regex()` does not raise in `to_regex`; it returns `None` exactly when the
NFA accepts nothing; otherwise it returns a string `s` that is well formed in the library's
regex syntax and denotes exactly the language of the NFA (acceptance = C01's verdict, i.e.
Mathlib's `εNFA.accepts`). -/
theorem C12_to_regex_nfa (rxValid : Str → Res Bool) (natName : Nat → σ)
    (hinj : Function.Injective natName) (n : NFA σ Char) (hv : n.validate = .ok ())
    (hkeys : ∀ kv ∈ n.trans, (akeys kv.2).Nodup) (htgts : ∀ kv ∈ n.trans, ∀ e ∈ kv.2, e.2.Nodup)
    (hlit : ∀ a ∈ n.syms, IsLit a)
    (g : GNFA σ Str) (h : fromNFA rxValid natName n = .ok g)
    (ord : Nat → List σ → List σ) (hord : ∀ k l x, x ∈ ord k l ↔ x ∈ l) :
    ∃ o, toRegex g ord = .ok o ∧
      match o with
      | none => ∀ w, n.accepts w = false
      | some s =>
        (s = [] ∧ ∀ w, n.accepts w = true ↔ w = []) ∨
        ∃ e, Renders .U e s ∧ ∀ w, w ∈ e.den ↔ n.accepts w = true := by
  obtain ⟨hS, Lb, hD, hL⟩ := C12_from_nfa rxValid natName hinj n hv hkeys htgts hlit g h
  exact toRegex_labO_accepts g hS hD hL ord hord

/-- **C12_renders_valid** — every string of the grammar `Renders` (and the empty string) passes
the model of the library's `re._validate` (lexer + `validate_tokens`): the grammar used in the
statements above only contains strings the library's validator accepts. -/
theorem C12_renders_valid {L : Language Char} {s : Str} (h : Lab L s) :
    simpleRxValid s = .ok true :=
  h.valid

/-- **C12_from_dfa_total** — `from_dfa` does not raise on a valid source over literal symbols: no
`KeyError` in the row loops, and the GNFA built passes `GNFA.validate` (checks of /repo commit
084dfed) with the model of `re._validate`. -/
theorem C12_from_dfa_total (natName : Nat → σ) (hinj : Function.Injective natName)
    (d : DFA σ Char) (hv : d.validate = .ok ()) (hlit : ∀ a ∈ d.syms, IsLit a) :
    ∃ g, fromDFA simpleRxValid natName d = .ok g :=
  fromDFA_total natName hinj d ((DFA.validate_eq_ok d).mp hv) hlit

/-- **C12_from_nfa_total** — the same for `from_nfa`. -/
theorem C12_from_nfa_total (natName : Nat → σ) (hinj : Function.Injective natName)
    (n : NFA σ Char) (hv : n.validate = .ok ())
    (hkeys : ∀ kv ∈ n.trans, (akeys kv.2).Nodup) (htgts : ∀ kv ∈ n.trans, ∀ e ∈ kv.2, e.2.Nodup)
    (hlit : ∀ a ∈ n.syms, IsLit a) :
    ∃ g, fromNFA simpleRxValid natName n = .ok g :=
  fromNFA_total natName hinj n ((NFA.validate_eq_ok n).mp hv) hkeys htgts hlit

/-- `toRegex_chars` when the paths are the words of a non-empty `acc`: what `C12_dfa_alphabet` and
`C12_nfa_alphabet` share. -/
theorem toRegex_accepts {g : GNFA σ Str} (hv : g.validateStr simpleRxValid = .ok ())
    (hS : Shape (dedup g.states) g.init g.final g.trans) {Lb : σ → σ → Language Char}
    (hD : Denotes Lab g.trans Lb) {acc : List Char → Bool}
    (hL : ∀ w, w ∈ GLang Lb g.init g.final ↔ acc w = true) (hne : ∃ w, acc w = true)
    (ord : Nat → List σ → List σ) (hord : ∀ k l x, x ∈ ord k l ↔ x ∈ l) :
    ∃ s, toRegex g ord = .ok (some s) ∧ simpleRxValid s = .ok true ∧
      (∀ c ∈ s, c ∈ g.syms ++ ['*', '|', '(', ')', '?']) ∧
      ((s = [] ∧ ∀ w, acc w = true ↔ w = []) ∨
        ∃ e, Renders .U e s ∧ ∀ w, w ∈ e.den ↔ acc w = true) := by
  obtain ⟨o, ho, hlab, hch⟩ := Alphabet.toRegex_chars g hv hS hD ord hord
  cases o with
  | none =>
    obtain ⟨w, hw⟩ := hne
    rw [labO_none_accepts hL hlab w] at hw; cases hw
  | some s => exact ⟨s, ho, Lab.valid hlab, hch s rfl, (Lab.iff_accepts hL).mp hlab⟩

/-- **C12_dfa_alphabet** (end to end) — for every valid DFA with a non-empty language over literal
symbols: `GNFA.from_dfa(d)` succeeds, and for every tie-break order `to_regex()` returns a
string `s` (not `None`, no exception) which the validator accepts and which is a well-formed
regex for exactly the language of `d`; and every character of `s` is a symbol of the source
alphabet or one of the operator characters `* | ( ) ?` (the GNFA built has passed
`_validate_transition_invalid_symbols`, and `to_regex` only adds operator characters).  Hence the
expression it renders mentions only source symbols, which is what
`NFA.from_regex(s, input_symbols=Σ_source)` requires. -/
theorem C12_dfa_alphabet (natName : Nat → σ) (hinj : Function.Injective natName) (d : DFA σ Char)
    (hv : d.validate = .ok ()) (hkeys : ∀ kv ∈ d.trans, (akeys kv.2).Nodup)
    (hlit : ∀ a ∈ d.syms, IsLit a) (hne : ∃ w, d.accepts w = true) :
    ∃ g, fromDFA simpleRxValid natName d = .ok g ∧
      ∀ (ord : Nat → List σ → List σ), (∀ k l x, x ∈ ord k l ↔ x ∈ l) →
        ∃ s, toRegex g ord = .ok (some s) ∧ simpleRxValid s = .ok true ∧
          (∀ c ∈ s, c ∈ d.syms ++ ['*', '|', '(', ')', '?']) ∧
          ((s = [] ∧ ∀ w, d.accepts w = true ↔ w = []) ∨
           ∃ e, Renders .U e s ∧ ∀ w, w ∈ e.den ↔ d.accepts w = true) := by
  obtain ⟨g, hg⟩ := C12_from_dfa_total natName hinj d hv hlit
  refine ⟨g, hg, fun ord hord => ?_⟩
  obtain ⟨hS, Lb, hD, hL⟩ := C12_from_dfa simpleRxValid natName hinj d hv hkeys hlit g hg
  obtain ⟨hvg, hsy⟩ := Alphabet.fromDFA_ok hg
  exact hsy ▸ toRegex_accepts hvg hS hD hL hne ord hord

/-- **C12_nfa_alphabet** (end to end) — the same for every valid NFA with a non-empty language
(ε-transitions, parallel and cyclic, final = initial, … included). -/
theorem C12_nfa_alphabet (natName : Nat → σ) (hinj : Function.Injective natName) (n : NFA σ Char)
    (hv : n.validate = .ok ()) (hkeys : ∀ kv ∈ n.trans, (akeys kv.2).Nodup)
    (htgts : ∀ kv ∈ n.trans, ∀ e ∈ kv.2, e.2.Nodup)
    (hlit : ∀ a ∈ n.syms, IsLit a) (hne : ∃ w, n.accepts w = true) :
    ∃ g, fromNFA simpleRxValid natName n = .ok g ∧
      ∀ (ord : Nat → List σ → List σ), (∀ k l x, x ∈ ord k l ↔ x ∈ l) →
        ∃ s, toRegex g ord = .ok (some s) ∧ simpleRxValid s = .ok true ∧
          (∀ c ∈ s, c ∈ n.syms ++ ['*', '|', '(', ')', '?']) ∧
          ((s = [] ∧ ∀ w, n.accepts w = true ↔ w = []) ∨
           ∃ e, Renders .U e s ∧ ∀ w, w ∈ e.den ↔ n.accepts w = true) := by
  obtain ⟨g, hg⟩ := C12_from_nfa_total natName hinj n hv hkeys htgts hlit
  refine ⟨g, hg, fun ord hord => ?_⟩
  obtain ⟨hS, Lb, hD, hL⟩ := C12_from_nfa simpleRxValid natName hinj n hv hkeys htgts hlit g hg
  obtain ⟨hvg, hsy⟩ := Alphabet.fromNFA_ok hg
  exact hsy ▸ toRegex_accepts hvg hS hD hL hne ord hord

/-- **C12_dfa** (end to end) — `C12_dfa_alphabet` without the clause on the characters: the
English property for DFAs. -/
theorem C12_dfa (natName : Nat → σ) (hinj : Function.Injective natName) (d : DFA σ Char)
    (hv : d.validate = .ok ()) (hkeys : ∀ kv ∈ d.trans, (akeys kv.2).Nodup)
    (hlit : ∀ a ∈ d.syms, IsLit a) (hne : ∃ w, d.accepts w = true) :
    ∃ g, fromDFA simpleRxValid natName d = .ok g ∧
      ∀ (ord : Nat → List σ → List σ), (∀ k l x, x ∈ ord k l ↔ x ∈ l) →
        ∃ s, toRegex g ord = .ok (some s) ∧ simpleRxValid s = .ok true ∧
          ((s = [] ∧ ∀ w, d.accepts w = true ↔ w = []) ∨
           ∃ e, Renders .U e s ∧ ∀ w, w ∈ e.den ↔ d.accepts w = true) := by
  obtain ⟨g, hg, h⟩ := C12_dfa_alphabet natName hinj d hv hkeys hlit hne
  refine ⟨g, hg, fun ord hord => ?_⟩
  obtain ⟨s, hs, hval, _, hm⟩ := h ord hord
  exact ⟨s, hs, hval, hm⟩

/-- **C12_nfa** (end to end) — the same for NFAs. -/
theorem C12_nfa (natName : Nat → σ) (hinj : Function.Injective natName) (n : NFA σ Char)
    (hv : n.validate = .ok ()) (hkeys : ∀ kv ∈ n.trans, (akeys kv.2).Nodup)
    (htgts : ∀ kv ∈ n.trans, ∀ e ∈ kv.2, e.2.Nodup)
    (hlit : ∀ a ∈ n.syms, IsLit a) (hne : ∃ w, n.accepts w = true) :
    ∃ g, fromNFA simpleRxValid natName n = .ok g ∧
      ∀ (ord : Nat → List σ → List σ), (∀ k l x, x ∈ ord k l ↔ x ∈ l) →
        ∃ s, toRegex g ord = .ok (some s) ∧ simpleRxValid s = .ok true ∧
          ((s = [] ∧ ∀ w, n.accepts w = true ↔ w = []) ∨
           ∃ e, Renders .U e s ∧ ∀ w, w ∈ e.den ↔ n.accepts w = true) := by
  obtain ⟨g, hg, h⟩ := C12_nfa_alphabet natName hinj n hv hkeys htgts hlit hne
  refine ⟨g, hg, fun ord hord => ?_⟩
  obtain ⟨s, hs, hval, _, hm⟩ := h ord hord
  exact ⟨s, hs, hval, hm⟩

/-- The parser obligation that C12 inherits from C10 (`C10_compile`), stated for an abstract
`compile : regex string → language of the NFA the library builds, or none when it raises`:
the empty string compiles to `{ε}` and every string of the grammar compiles to the language of
the expression it renders.  A hypothesis in this file (the parser model belongs to C10); it holds
for the model of `NFA.from_regex`: `C12_parser_full_holds` in Props/C12b.lean. -/
def C12_parser_full (compile : Str → Option (Language Char)) : Prop :=
  compile [] = some 1 ∧ ∀ e s, Renders .U e s → compile s = some e.den

theorem C12_parser_full.of_lab {compile : Str → Option (Language Char)}
    (hp : C12_parser_full compile) {L : Language Char} {s : Str} (h : Lab L s) :
    compile s = some L := by
  rcases h with ⟨rfl, rfl⟩ | ⟨e, hr, rfl⟩
  · exact hp.1
  · exact hp.2 e s hr

/-- **C12_to_regex_full_partial** — the English property in full, *given* the parser obligation:
the string `to_regex` returns compiles, and to exactly the language of the source DFA / NFA. -/
theorem C12_to_regex_full_partial (compile : Str → Option (Language Char))
    (hp : C12_parser_full compile) (natName : Nat → σ) (hinj : Function.Injective natName) :
    (∀ (d : DFA σ Char), d.validate = .ok () → (∀ kv ∈ d.trans, (akeys kv.2).Nodup) →
      (∀ a ∈ d.syms, IsLit a) → (∃ w, d.accepts w = true) →
      ∃ g, fromDFA simpleRxValid natName d = .ok g ∧
        ∀ (ord : Nat → List σ → List σ), (∀ k l x, x ∈ ord k l ↔ x ∈ l) →
          ∃ s L, toRegex g ord = .ok (some s) ∧ compile s = some L ∧
            ∀ w, w ∈ L ↔ d.accepts w = true) ∧
    (∀ (n : NFA σ Char), n.validate = .ok () → (∀ kv ∈ n.trans, (akeys kv.2).Nodup) →
      (∀ kv ∈ n.trans, ∀ e ∈ kv.2, e.2.Nodup) →
      (∀ a ∈ n.syms, IsLit a) → (∃ w, n.accepts w = true) →
      ∃ g, fromNFA simpleRxValid natName n = .ok g ∧
        ∀ (ord : Nat → List σ → List σ), (∀ k l x, x ∈ ord k l ↔ x ∈ l) →
          ∃ s L, toRegex g ord = .ok (some s) ∧ compile s = some L ∧
            ∀ w, w ∈ L ↔ n.accepts w = true) := by
  have key : ∀ {acc : List Char → Bool} {s : Str},
      ((s = [] ∧ ∀ w, acc w = true ↔ w = []) ∨
        ∃ e, Renders .U e s ∧ ∀ w, w ∈ e.den ↔ acc w = true) →
      ∃ L, compile s = some L ∧ ∀ w, w ∈ L ↔ acc w = true :=
    fun h => ⟨_, hp.of_lab ((Lab.iff_accepts fun _ => Iff.rfl).mpr h), fun _ => Iff.rfl⟩
  constructor
  · intro d hv hkeys hlit hne
    obtain ⟨g, hg, hall⟩ := C12_dfa natName hinj d hv hkeys hlit hne
    refine ⟨g, hg, fun ord hord => ?_⟩
    obtain ⟨s, hs, _, hm⟩ := hall ord hord
    obtain ⟨L, hc, hL⟩ := key hm
    exact ⟨s, L, hs, hc, hL⟩
  · intro n hv hkeys htgts hlit hne
    obtain ⟨g, hg, hall⟩ := C12_nfa natName hinj n hv hkeys htgts hlit hne
    refine ⟨g, hg, fun ord hord => ?_⟩
    obtain ⟨s, hs, _, hm⟩ := hall ord hord
    obtain ⟨L, hc, hL⟩ := key hm
    exact ⟨s, L, hs, hc, hL⟩

/-- AST level: states 0 (inner), 1 (initial), 2 (final); 1 -ε→ 0, 0 -a→ 0, 0 -b→ 2, 1 -b→ 2. -/
def exTr : Table Nat Rx :=
  [(0, [(0, some (.sym 'a')), (2, some (.sym 'b'))]),
   (1, [(0, some .eps), (2, some (.sym 'b'))])]

theorem exShape : Shape [0, 1, 2] 1 2 exTr :=
  -- as the table of a GNFA it passes `GNFA.validate` and has no slack
  shape_of_accepted_tight (labelCheck := fun _ => .ok ())
    (g := { states := [0, 1, 2], syms := [], trans := exTr, init := 1, final := 2 })
    (accepted_of_validate (by decide +kernel)) (by decide) (by decide)

/-- `C12_elim_ast` applies to it: ripping state 0 gives `b | ε a* b` on the edge 1 → 2. -/
example : ripStep ripRx 1 2 [0, 1, 2] exTr 0 =
    .ok ([1, 2], [(1, [(2, some (.union (.sym 'b') (.cat (.cat .eps (.star (.sym 'a'))) (.sym 'b'))))])]) := by
  rfl

example : ∃ tr', ripStep ripRx 1 2 [0, 1, 2] exTr 0 = .ok ([1, 2], tr') ∧
    rxLang tr' 1 2 = rxLang exTr 1 2 := by
  obtain ⟨tr', h1, _, h3⟩ := C12_elim_ast exShape (q := 0) (by decide) (by decide) (by decide)
  exact ⟨tr', h1, h3⟩

/-- A partial DFA for `(ab)*`: 0 -a→ 1 -b→ 0, initial and final state 0 (final = initial). -/
def exDFA : AV.DFA Nat Char :=
  { states := [0, 1], syms := ['a', 'b'], trans := [(0, [('a', 1)]), (1, [('b', 0)])],
    init := 0, finals := [0], allowPartial := true }

/-- What `from_dfa` builds (new initial state 2, new final state 3). -/
def exG : GNFA Nat Str :=
  { states := [0, 1, 2, 3], syms := ['a', 'b'],
    trans := [(0, [(1, some ['a']), (3, some []), (0, none)]),
              (1, [(0, some ['b']), (1, none), (3, none)]),
              (2, [(0, some []), (1, none), (3, none)])],
    init := 2, final := 3 }

theorem exDFA_valid : exDFA.validate = .ok () := by decide +kernel
theorem exG_built : fromDFA simpleRxValid id exDFA = .ok exG := by decide +kernel
theorem exG_regex : toRegex exG (fun _ l => l) = .ok (some ['(', 'a', 'b', ')', '*']) := by
  decide +kernel

example : exDFA.validate = .ok () := exDFA_valid
example : fromDFA simpleRxValid id exDFA = .ok exG := exG_built
example : toRegex exG (fun _ l => l) = .ok (some ['(', 'a', 'b', ')', '*']) := exG_regex

/-- `C12_to_regex_dfa` on this DFA: the model's output `(ab)*` is a well-formed regex string for
exactly the DFA's language. -/
example : ∃ e, Renders .U e ['(', 'a', 'b', ')', '*'] ∧ ∀ w, w ∈ e.den ↔ exDFA.accepts w = true := by
  obtain ⟨o, ho, hm⟩ := C12_to_regex_dfa simpleRxValid id (fun _ _ h => h) exDFA exDFA_valid
    (by decide +kernel) (by decide +kernel) exG exG_built (fun _ l => l) (fun _ _ _ => Iff.rfl)
  cases Except.ok.inj (exG_regex.symm.trans ho)
  exact hm.resolve_left fun h => List.cons_ne_nil _ _ h.1

/-- Parallel ε-paths: 0 -ε→ {1, 2}, 1 -ε→ 2, final state 2; `to_regex` prints `(())?`. -/
def exNFA : AV.NFA Nat Char :=
  { states := [0, 1, 2], syms := ['a'], trans := [(0, [(none, [1, 2])]), (1, [(none, [2])])],
    init := 0, finals := [2] }

def exGN : GNFA Nat Str :=
  { states := [0, 1, 2, 3, 4], syms := ['a'],
    trans := [(0, [(1, some []), (2, some []), (0, none), (4, none)]),
              (1, [(2, some []), (0, none), (1, none), (4, none)]),
              (2, [(4, some []), (0, none), (1, none), (2, none)]),
              (3, [(0, some []), (1, none), (2, none), (4, none)])],
    init := 3, final := 4 }

theorem exNFA_valid : exNFA.validate = .ok () := by decide +kernel
theorem exGN_built : fromNFA simpleRxValid id exNFA = .ok exGN := by decide +kernel
theorem exGN_regex : toRegex exGN (fun _ l => l) = .ok (some ['(', '(', ')', ')', '?']) := by
  decide +kernel

example : exNFA.validate = .ok () := exNFA_valid
example : fromNFA simpleRxValid id exNFA = .ok exGN := exGN_built
example : toRegex exGN (fun _ l => l) = .ok (some ['(', '(', ')', ')', '?']) := exGN_regex

example : ∃ e, Renders .U e ['(', '(', ')', ')', '?'] ∧ ∀ w, w ∈ e.den ↔ exNFA.accepts w = true := by
  obtain ⟨o, ho, hm⟩ := C12_to_regex_nfa simpleRxValid id (fun _ _ h => h) exNFA exNFA_valid
    (by decide +kernel) (by decide +kernel) (by decide +kernel) exGN exGN_built (fun _ l => l)
    (fun _ _ _ => Iff.rfl)
  cases Except.ok.inj (exGN_regex.symm.trans ho)
  exact hm.resolve_left fun h => List.cons_ne_nil _ _ h.1

/-- The string rule on compound labels: `r1 = a|b`, `r2 = ab`, `r3 = ""`, `r4 = ""` gives
`((a|b)(ab)*)?`. -/
example : ripLabel (some ['a', '|', 'b']) (some ['a', 'b']) (some []) (some []) =
    some ['(', '(', 'a', '|', 'b', ')', '(', 'a', 'b', ')', '*', ')', '?'] := by decide +kernel

/-- The hypotheses of the end-to-end theorems hold for the examples (non-empty languages). -/
example : ∃ w, exDFA.accepts w = true := ⟨['a', 'b'], by decide +kernel⟩
example : ∃ w, exNFA.accepts w = true := ⟨[], by decide +kernel⟩
example : ∀ a ∈ exDFA.syms, IsLit a := by decide +kernel
example : ∀ kv ∈ exNFA.trans, ∀ e ∈ kv.2, e.2.Nodup := by decide +kernel

end AV.Props.C12
