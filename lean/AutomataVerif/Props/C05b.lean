/-
Props/C05b.lean — C05, `complement(minify=True)` of ANY valid DFA (partial operands
included), composed from C04's `to_complete` / complement theorems (Proofs/Complete.lean) and
C05's minimality of `_minify`.
-/
import AutomataVerif.Props.C05

namespace AV.Props.C05
open AV AV.DFA

variable {σ α : Type} [DecidableEq σ] [DecidableEq α]

/-- **`complement(minify=True)` of any valid DFA** — partial or complete, any trap name
outside the states, every pop order — as the code composes it (`complementMinFull`:
`to_complete()` first iff `allow_partial`, then `_minify` of the reachable part with flipped
final states): the call succeeds and the result is a valid COMPLETE DFA that accepts exactly
the words over the alphabet that `d` rejects and has the fewest states of any valid complete
DFA over (at least) that alphabet with that language.  (`C05_complementMin` is the special
case of an operand declared complete; a partial operand whose rows happen to be complete is
returned unchanged by `to_complete`, keeps `allow_partial=True`, and is covered here too.) -/
theorem C05_complementMinFull (d : AV.DFA σ α) (hv : d.validate = .ok ()) (ps : d.PyShape)
    (trap : σ) (ht : trap ∉ d.states) (pick : List Nat → Nat) :
    ∃ M, d.complementMinFull trap pick = .ok M ∧
      MinimalFor M (fun w => (w.all fun a => decide (a ∈ d.syms)) && !d.accepts w) d.syms ∧
      M.allowPartial = false := by
  obtain ⟨C, hCeq, wfC, hCp, hCc, r⟩ := AV.C04.complement_operand d hv ps trap ht
  have S := AV.C04.complementMin_minSource wfC hCp hCc
  refine ⟨C.complementMin pick, by unfold complementMinFull; rw [hCeq], ?_,
    S.complete_of_noTrap pick (AV.C04.complementMin_noTrap wfC hCc)⟩
  rw [← funext r.lang, ← r.syms]
  exact minimalFor_of_source S pick

/-- Non-vacuity: the partial 4-state DFA of finding F1 (`exF1`), trap name 9. -/
example : ∃ M, exF1.complementMinFull 9 (fun _ => 0) = .ok M ∧
    MinimalFor M (fun w => (w.all fun a => decide (a ∈ exF1.syms)) && !exF1.accepts w) exF1.syms ∧
    M.allowPartial = false :=
  C05_complementMinFull exF1 rfl ⟨by decide, by decide, by decide, by decide, by decide⟩ 9
    (by decide) _

example : (match exF1.complementMinFull 9 (fun _ => 0) with
    | .ok M => (M.states.length, M.accepts [0, 0, 1], M.accepts [1], M.accepts [7])
    | .error _ => (0, false, false, false)) = (4, true, false, false) := by decide +kernel

end AV.Props.C05
