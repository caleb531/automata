/-
Props/C17.lean — C17: single-tape simulation of a multitape machine agrees with the native run.

English statement (properties.jsonl): for every valid multitape Turing machine and every
input on which the native multitape run halts, simulating the machine on one extended tape
gives the same accept/reject verdict, and it signals rejection only through the library's
rejection exception.  This includes machines whose heads move left from the leftmost cell of
a tape or right past its end, since tapes are blank-extended in both directions.
Quantifier: all valid 1-, 2-, 3-tape machines (deterministic or not), all inputs, within a
step budget.

How it is stated here.
* Model (`Model/TMSim.lean`): `_read_extended_tape` and the splice loop of
  `read_input_as_ntm` with Python's integer index arithmetic and slicing as written
  (including the blank extension on a left move from the leftmost cell, /repo commit 8f7542c), the
  queue loop observed through `n` calls of `next()` (`simStepwise`), next to the native run
  `MNTM.readStepwise` of C03.  Nothing assumes halting.
* Spec (`Spec/TMSim.lean`): `encode hd sep tapes` — per tape its cells with the head mark right
  after the scanned cell, then the separator (`encTape`); `stepTapes` is the native
  `write_symbol`/`move` on every tape (`zip(moves, tapes)`, `TMTape` exactly as in C03);
  `GoodTape`/`GoodCfg` = representable (class invariant, machine's blank, no cell equal to a mark).
* Domain (`SimDomain`): `validate = ok`, at least one tape, tape alphabet without the two
  marks, `'^' ≠ '_'`; the input must not contain the marks either (`Clean`) — the library
  never checks an input string against `input_symbols`.  The theorems hold for any number of
  tapes ≥ 1 and any symbol type; the code's marks are the instance `hd = '^'`, `sep = '_'`
  of `Γ = Char` (last section).
-/
import AutomataVerif.Proofs.TMSim
import Batteries.Lean.Except

namespace AV.Props.C17
open AV AV.TM

variable {σ Γ : Type} [DecidableEq σ] [DecidableEq Γ]

/-- `_read_extended_tape` on the encoding of a tuple of tapes returns exactly the scanned
symbols (and does not raise `MalformedExtendedTapeError`). -/
theorem C17_decode_heads (hd sep b : Γ) (hne : sep ≠ hd) (ts : List (Tape Γ))
    (hts : ∀ t ∈ ts, GoodTape hd sep b t) :
    readExtended hd sep (encode hd sep ts) = .ok (ts.map Tape.read) :=
  readExtended_encode hd sep hne ts hts

set_option linter.unusedSectionVars false in
/-- The native successor of a configuration is `stepTapes` on its tapes. -/
theorem C17_native_step (tapes : List (Tape Γ)) (q : σ) (moves : List (Γ × Dir)) :
    MNTM.apply tapes (q, moves) = { state := q, tapes := stepTapes moves tapes } := rfl

set_option linter.unusedSectionVars false in
/-- **The splice loop computes the encoding of the native step**: for a transition
`(q, moves)` with one move per tape, tapes without the marks, written symbols and blank
different from the marks, `new_tape` is `encode (stepTapes moves tapes)` — all of `L`, `R`,
`N`, on every tape, at both boundaries (left of the leftmost cell: blank inserted after the
previous separator or at index 0; right of the last cell: blank inserted before the
separator) — the queue entry records the last index, and neither `IndexError` nor
fuel exhaustion occurs. -/
theorem C17_step (hd sep b : Γ) (hne : sep ≠ hd) (hb : b ≠ hd ∧ b ≠ sep) (q : σ)
    (moves : List (Γ × Dir)) (ts : List (Tape Γ)) (hl : moves.length = ts.length)
    (hm : ∀ m ∈ moves, m.1 ≠ hd ∧ m.1 ≠ sep) (hts : ∀ t ∈ ts, GoodTape hd sep b t) :
    spliceAll hd sep b (encode hd sep ts) (q, moves) =
      .ok (some (q, encode hd sep (stepTapes moves ts),
        (((encode hd sep (stepTapes moves ts)).length : Nat) : Int) - 1)) :=
  spliceAll_encode hd sep b hne hb q moves ts hl hm hts

/-- Representable configurations are closed under the machine's steps, and the start
configuration is representable: the hypotheses of `C17_step` hold along every run. -/
theorem C17_representable (M : MNTM σ Γ) (hd sep : Γ) (dom : SimDomain M hd sep) (w : List Γ)
    (hw : Clean hd sep w) :
    GoodCfg M hd sep (M.initCfg w) ∧
    ∀ c, GoodCfg M hd sep c → ∀ x ∈ M.succL c, GoodCfg M hd sep x :=
  ⟨M.goodCfg_init hd sep dom w hw, fun _ hc => M.goodCfg_succL hd sep dom hc⟩

/-- The configurations yielded by `read_input_as_ntm` within `n` calls are (state, extended
tape) = (state, `encode` tapes) of the configurations visited by a FIFO search over the native
successor relation (successors taken in the order of the transition list), and the generator
stands exactly as that search does. -/
theorem C17_sim_visits (M : MNTM σ Γ) (hd sep : Γ) (dom : SimDomain M hd sep) (w : List Γ)
    (hw : Clean hd sep w) (n : Nat) :
    (simStepwise M hd sep w n).1.map strip =
      (Q.qobs M.succL M.accF n [M.initCfg w]).1.map (encS hd sep) ∧
    (simStepwise M hd sep w n).2 = (Q.qobs M.succL M.accF n [M.initCfg w]).2 :=
  M.simStepwise_eq hd sep dom w hw n

/-- **Rejection only through `RejectionException`**: whatever the budget, the simulation has
returned, raised `RejectionException`, or is still running — never
`MalformedExtendedTapeError`, `IndexError` or anything else. -/
theorem C17_only_rejection (M : MNTM σ Γ) (hd sep : Γ) (dom : SimDomain M hd sep) (w : List Γ)
    (hw : Clean hd sep w) (n : Nat) :
    (simStepwise M hd sep w n).2 = .returned ∨
    (simStepwise M hd sep w n).2 = .raised (.lib .rejectionException) ∨
    (simStepwise M hd sep w n).2 = .running := by
  rw [(C17_sim_visits M hd sep dom w hw n).2]
  exact Q.qobs_end_cases _ _ _ _

/-- **Same verdict — acceptance**: some budget makes the native run return iff some budget
makes the simulation return. -/
theorem C17_accept_iff (M : MNTM σ Γ) (hd sep : Γ) (dom : SimDomain M hd sep) (w : List Γ)
    (hw : Clean hd sep w) :
    (∃ n, (M.readStepwise w n).2 = .returned) ↔ ∃ n, (simStepwise M hd sep w n).2 = .returned := by
  simp only [(C17_sim_visits M hd sep dom w hw _).2, MNTM.readStepwise_eq_qobs, M.acc_eq_accF dom.valid]
  exact (Q.qobs_verdict_congr M.mem_succ_iff_succL _ _).1

/-- **Same verdict — rejection**. -/
theorem C17_reject_iff (M : MNTM σ Γ) (hd sep : Γ) (dom : SimDomain M hd sep) (w : List Γ)
    (hw : Clean hd sep w) :
    (∃ n, (M.readStepwise w n).2 = .raised (.lib .rejectionException)) ↔
      ∃ n, (simStepwise M hd sep w n).2 = .raised (.lib .rejectionException) := by
  simp only [(C17_sim_visits M hd sep dom w hw _).2, MNTM.readStepwise_eq_qobs, M.acc_eq_accF dom.valid]
  exact (Q.qobs_verdict_congr M.mem_succ_iff_succL _ _).2

/-- **C17, as the property says it**: if the native run is decided (accept or reject) within
some budget, the simulation reaches the same verdict within some budget — and conversely. -/
theorem C17_verdict (M : MNTM σ Γ) (hd sep : Γ) (dom : SimDomain M hd sep) (w : List Γ)
    (hw : Clean hd sep w) (v : Verdict) (hv : v ≠ .outOfFuel) :
    (∃ n, M.verdict w n = .ok v) ↔ ∃ n, simVerdict M hd sep w n = .ok v := by
  unfold MNTM.verdict simVerdict
  rw [Q.exists_verdict_iff _ (fun n => by rw [MNTM.readStepwise_eq_qobs]; exact Q.qobs_end_cases ..) hv,
    Q.exists_verdict_iff _ (C17_only_rejection M hd sep dom w hw) hv,
    C17_accept_iff M hd sep dom w hw, C17_reject_iff M hd sep dom w hw]

/-- The property for the marks the library uses. -/
theorem C17_verdict_char {σ : Type} [DecidableEq σ] (M : MNTM σ Char)
    (hvalid : M.validate = .ok ()) (hnt : 1 ≤ M.nTapes)
    (halpha : ∀ a ∈ M.tapeSyms, a ≠ '^' ∧ a ≠ '_') (w : List Char)
    (hw : ∀ a ∈ w, a ≠ '^' ∧ a ≠ '_') (v : Verdict) (hv : v ≠ .outOfFuel) (n : Nat)
    (hnative : M.verdict w n = .ok v) :
    (∃ n', simVerdict M '^' '_' w n' = .ok v) ∧
    ∀ k, (simStepwise M '^' '_' w k).2 = .returned ∨
      (simStepwise M '^' '_' w k).2 = .raised (.lib .rejectionException) ∨
      (simStepwise M '^' '_' w k).2 = .running := by
  have dom : SimDomain M '^' '_' := ⟨hvalid, hnt, by decide, halpha⟩
  exact ⟨(C17_verdict M '^' '_' dom w hw v hv).mp ⟨n, hnative⟩,
    C17_only_rejection M '^' '_' dom w hw⟩

/-- `q0 -1/1,L→ q1 -#/#,R→ q2`: a left move from the leftmost cell of tape 1, with a second tape
that runs right past its end; symbols `'1'`, `'#'`. -/
def exF9 : MNTM Nat Char :=
  { states := [0, 1, 2], inputSyms := ['1'], tapeSyms := ['1', '#'], nTapes := 2,
    trans := [(0, [(['1', '#'], [(1, [('1', .L), ('1', .R)])])]),
              (1, [(['#', '#'], [(2, [('#', .R), ('#', .N)]), (1, [('1', .L), ('#', .L)])])])],
    init := 0, blank := '#', finals := [2] }

theorem exF9_dom : SimDomain exF9 '^' '_' :=
  ⟨by decide +kernel, by decide +kernel, by decide +kernel, by decide +kernel⟩
example : SimDomain exF9 '^' '_' := exF9_dom
example : Clean '^' '_' ['1'] := by intro x hx; simp at hx; subst hx; decide
/-- extended tapes of the yields: start; after the left move off tape 1 (blank inserted at
index 0) and the right move off tape 2 (blank inserted before `_`); then the final state —
the simulation enqueues the successors in the order of the transition list, the native run
enqueues `transitions[1:]` before `transitions[0]`, so the native run visits one more
configuration before accepting -/
example : ((simStepwise exF9 '^' '_' ['1'] 4).1.map fun e => (e.1, String.ofList e.2.1, e.2.2)) =
    [(0, "1^_#^_", 0), (1, "#^1_1#^_", 7), (2, "#1^_1#^_", 7)] ∧
    (simStepwise exF9 '^' '_' ['1'] 4).2 = .returned ∧
    (exF9.readStepwise ['1'] 4).1.map (·.state) = [0, 1, 1, 2] := by decide +kernel
example : exF9.verdict ['1'] 6 = .ok .accept ∧ simVerdict exF9 '^' '_' ['1'] 6 = .ok .accept := by
  decide +kernel
example : readExtended '^' '_' "1^_#^_".toList = .ok ['1', '#'] := by decide +kernel

/- The boundary of the domain.  `validate` does not reserve `'^'` / `'_'` and the library never checks an input string, so the
two hypotheses `halpha` / `hw` of `C17_verdict_char` exclude inputs that lie inside the property's
literal quantifier ("all valid machines, all inputs").  On them the property **fails**; the
theorems below prove it on the model with concrete witnesses (finding
`C17:mark-symbol-in-alphabet-or-input` of `known_findings.json`). -/

/-- `q0 -_/_,R→ qf` over the tape alphabet `{'_', '#'}`: a valid one-tape machine whose tape
alphabet contains the separator mark. -/
def exU : MNTM Nat Char :=
  { states := [0, 1], inputSyms := ['_'], tapeSyms := ['_', '#'], nTapes := 1,
    trans := [(0, [(['_'], [(1, [('_', .R)])])])],
    init := 0, blank := '#', finals := [1] }

/-- **`halpha` cannot be dropped**: `exU` is valid and has one tape, the native run accepts
`"_"`, the single-tape simulation raises `MalformedExtendedTapeError` (its initial extended tape
`"_^_"` has a separator before the first head mark). -/
theorem C17_mark_in_alphabet_fails :
    exU.validate = .ok () ∧ 1 ≤ exU.nTapes ∧
    exU.verdict ['_'] 5 = .ok .accept ∧
    simVerdict exU '^' '_' ['_'] 5 = .error (.lib .malformedExtendedTapeError) ∧
    ¬ (∀ a ∈ exU.tapeSyms, a ≠ '^' ∧ a ≠ '_') := by decide +kernel

/-- **`hw` cannot be dropped**: `exF9` satisfies `SimDomain` (valid, two tapes, tape alphabet
`{'1', '#'}`), the native run rejects the input `"^"` (no row for it), the simulation raises
`MalformedExtendedTapeError` (head mark right after a head mark). -/
theorem C17_mark_in_input_fails :
    SimDomain exF9 '^' '_' ∧
    exF9.verdict ['^'] 5 = .ok .reject ∧
    simVerdict exF9 '^' '_' ['^'] 5 = .error (.lib .malformedExtendedTapeError) :=
  ⟨exF9_dom, by decide +kernel, by decide +kernel⟩

/-- A machine that *writes* the head mark (`'^'` in its tape alphabet, clean input):
`q0 -0/^,R→ q1 -#/#,N→ qf`.  Natively it accepts `"0"`; the simulation's second extended tape
is `"^#^_"`, which `_read_extended_tape` refuses. -/
def exW : MNTM Nat Char :=
  { states := [0, 1, 2], inputSyms := ['0'], tapeSyms := ['0', '^', '#'], nTapes := 1,
    trans := [(0, [(['0'], [(1, [('^', .R)])])]), (1, [(['#'], [(2, [('#', .N)])])])],
    init := 0, blank := '#', finals := [2] }

theorem C17_mark_written_fails :
    exW.validate = .ok () ∧ exW.verdict ['0'] 5 = .ok .accept ∧
    (simStepwise exW '^' '_' ['0'] 5).1.map (fun e => String.ofList e.2.1) = ["0^_", "^#^_"] ∧
    simVerdict exW '^' '_' ['0'] 5 = .error (.lib .malformedExtendedTapeError) := by decide +kernel

end AV.Props.C17
