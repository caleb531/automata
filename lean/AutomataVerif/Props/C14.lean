/-
Props/C14.lean — C14: successor / predecessor traversal enumerates the language in order,
completely.

English statement (properties.jsonl): for every DFA, start string, strictness flag, symbol
ordering key and length window, the successor generator yields exactly the accepted words
inside the window that come after the start string (or equal to it when not strict), in
increasing lexicographic order without repeats, and the single-step variant returns the first
of them or None; the predecessor variants do the same in decreasing order for finite languages
and refuse infinite ones with the documented exception.  The empty word and start strings that
are not accepted or not even readable are handled like any other.

Model (Model/DFASucc.lean): `successors` is the explicit-stack loop of the code, run for `fuel`
iterations: it returns the words yielded so far and how the run ended (`finished` = generator
exhausted, `outOfFuel` = still running, `raised e`).  String order is `lexLt key` (Python's `<`
on strings compared through `key`; Proofs/Query.lean).

What is proved (for every fuel, i.e. for every prefix of the generator's output): the words
yielded so far are strictly increasing (decreasing for predecessors), all lie in the window
set and after (before) the start string, and **no word is skipped**: every word of the window
set after the start string has been yielded or is greater than everything yielded so far —
so the output is always an initial segment of the sorted filter of the window set, and is
the whole sorted filter once the generator is exhausted.  The loop never raises inside the
domain.  Consequently `successor`/`predecessor` return the least/greatest such word, or `None`
when there is none.  Termination (`C14_termination`): when a max length is given or the
language is finite, the generator is exhausted after finitely many iterations (a potential
that every iteration lowers), hence its complete output *is* the sorted filter
(`C14_successors_total`, `C14_predecessors_total`).

Domain of the positive theorems (`Dom`): start strings over the alphabet, a non-empty alphabet,
an injective key.  The first two restrictions cut into the literal statement ("not even
readable … handled like any other", "every DFA"): there the code fails, which is proved on the
model as `C14_foreign_start_raises` (`KeyError`, open finding F13) and `C14_empty_alphabet`
(`IndexError`, open finding F14) at the end of this file.
-/
import AutomataVerif.Proofs.Succ
import AutomataVerif.Proofs.SuccTerm
import AutomataVerif.Proofs.SuccForeign
import AutomataVerif.Props.C13

namespace AV.Props.C14
open AV AV.DFA AV.WordOrder AV.Props.C13

variable {σ α : Type} [DecidableEq σ] [DecidableEq α]

/-- The window set: accepted words with `min_length ≤ |w| ≤ max_length`. -/
def Window (d : AV.DFA σ α) (o : SuccOpts) : Set (List α) :=
  {w | w ∈ Lang d ∧ o.minLen ≤ w.length ∧ ∀ m, o.maxLen = some m → w.length ≤ m}

/-- "comes after the start string (or equals it when not strict)"; no start string: every word. -/
def After (key : α → Int) (strict : Bool) : Option (List α) → List α → Prop
  | none, _ => True
  | some w0, w => lexLt key w0 w ∨ (w = w0 ∧ strict = false)

/-- "comes before the start string (or equals it when not strict)". -/
def Before (key : α → Int) (strict : Bool) : Option (List α) → List α → Prop
  | none, _ => True
  | some w0, w => lexLt key w w0 ∨ (w = w0 ∧ strict = false)

/-- The domain of the property. -/
structure Dom (d : AV.DFA σ α) (key : α → Int) (input : Option (List α)) : Prop where
  valid : d.validate = .ok ()
  dict : d.IsDict
  symsNodup : d.syms.Nodup
  symsNe : d.syms ≠ []
  keyInj : d.KeyInj key
  inputOver : ∀ w0, input = some w0 → ∀ x ∈ w0, x ∈ d.syms

theorem target_iff_window (d : AV.DFA σ α) (o : SuccOpts) (w : List α) :
    Target d o w ↔ w ∈ Window d o :=
  and_congr_right fun _ => inWindow_iff

/-- `if reverse and not self.isfinite()` lets the call through. -/
theorem finiteGuard_ok {d : AV.DFA σ α} (hv : d.validate = .ok ()) (hd : d.IsDict) {reverse : Bool}
    (hrev : reverse = true → (Lang d).Finite) : d.finiteGuard reverse = .ok true := by
  cases reverse with
  | false => rfl
  | true =>
    obtain ⟨b, hb, hiff⟩ := C13_isfinite d hv hd
    exact hb.trans (congrArg _ (hiff.mpr (hrev rfl)))

theorem successors_eq_loop {d : AV.DFA σ α} {key : α → Int} {input : Option (List α)}
    (h : Dom d key input) (o : SuccOpts) (hrev : o.reverse = true → (Lang d).Finite) :
    ∃ first last,
      CfgOK d (dirKey key o.reverse) (d.sortedSymbols key o.reverse)
        (setupCfg d d.digraph key o first last) ∧
      SInv d (d.sortedSymbols key o.reverse) (initState d first input o) ∧
      ∀ fuel, d.successors key input o fuel =
        succLoop d o (setupCfg d d.digraph key o first last) fuel (initState d first input o) := by
  have wf := (DFA.validate_eq_ok d).mp h.valid
  obtain ⟨first, last, tbl, hsetup⟩ := succSetup_eq wf h.symsNe h.symsNodup d.digraph key input o
  have cok := cfgOK_of h.dict h.symsNodup h.keyInj tbl
  refine ⟨first, last, cok, initState_inv wf cok.syms cok.tbl.firstMem input h.inputOver o, fun fuel => ?_⟩
  rw [DFA.successors, finiteGuard_ok h.valid h.dict hrev, successorsCore_eq_setup, hsetup]

/-- `After` or `Before` the start string, by direction. -/
def Side (key : α → Int) (strict : Bool) (input : Option (List α)) : Bool → List α → Prop
  | false => After key strict input
  | true => Before key strict input

/-- **Both directions**: after any number of loop iterations the loop has not raised, and the
words yielded so far are strictly monotone in the string order, lie in the window set on the
side of the start string, and miss nothing. -/
theorem C14_run (d : AV.DFA σ α) (key : α → Int) (input : Option (List α))
    (h : Dom d key input) (o : SuccOpts) (hrev : o.reverse = true → (Lang d).Finite) (fuel : Nat) :
    Enumerates (dirLt key o.reverse) (fun w => w ∈ Window d o ∧ Side key o.strict input o.reverse w)
      (d.successors key input o fuel) := by
  obtain ⟨first, last, cok, -, hrun⟩ := successors_eq_loop h o hrev
  rw [hrun]
  refine (run_ev ((DFA.validate_eq_ok d).mp h.valid) h.dict cok input h.inputOver fuel).mono
    (fun _ _ _ _ => id) fun w => and_congr (target_iff_window d o w) ?_
  cases input <;> cases o.reverse <;> simp [Side, After, Before, dirLt]

/-- **Successors**: after any number of loop iterations (1) the loop has not raised, and the
words yielded so far (2) are strictly increasing in the string order (no repeats); (3) are
accepted words inside the window that come after the start string (or equal it when not
strict); (4) miss nothing: every such word has been yielded, or — only while the generator is
still running — is greater than everything yielded so far. -/
theorem C14_successors (d : AV.DFA σ α) (key : α → Int) (input : Option (List α))
    (h : Dom d key input) (o : SuccOpts) (ho : o.reverse = false) (fuel : Nat) :
    ((d.successors key input o fuel).2 = .finished ∨ (d.successors key input o fuel).2 = .outOfFuel) ∧
    (d.successors key input o fuel).1.Pairwise (lexLt key) ∧
    (∀ w ∈ (d.successors key input o fuel).1, w ∈ Window d o ∧ After key o.strict input w) ∧
    (∀ w ∈ Window d o, After key o.strict input w →
      w ∈ (d.successors key input o fuel).1 ∨
        ((d.successors key input o fuel).2 = .outOfFuel ∧
          ∀ y ∈ (d.successors key input o fuel).1, lexLt key y w)) := by
  have := C14_run d key input h o (fun hr => nomatch ho ▸ hr) fuel
  rw [ho] at this
  exact ⟨this.alive, this.sorted, this.sound, fun w hw ha => this.complete w ⟨hw, ha⟩⟩

/-- Once the generator is exhausted its output is exactly the sorted filter of the window
set: strictly monotone, and a word is in it iff it is in the window set and on the side of the
start string. -/
theorem C14_run_exhausted (d : AV.DFA σ α) (key : α → Int) (input : Option (List α))
    (h : Dom d key input) (o : SuccOpts) (hrev : o.reverse = true → (Lang d).Finite) (fuel : Nat)
    (hfin : (d.successors key input o fuel).2 = .finished) :
    (d.successors key input o fuel).1.Pairwise (dirLt key o.reverse) ∧
    ∀ w, w ∈ (d.successors key input o fuel).1 ↔
      (w ∈ Window d o ∧ Side key o.strict input o.reverse w) := by
  have h := C14_run d key input h o hrev fuel
  exact ⟨h.sorted, h.mem_iff hfin⟩

theorem C14_successors_exhausted (d : AV.DFA σ α) (key : α → Int) (input : Option (List α))
    (h : Dom d key input) (o : SuccOpts) (ho : o.reverse = false) (fuel : Nat)
    (hfin : (d.successors key input o fuel).2 = .finished) :
    (d.successors key input o fuel).1.Pairwise (lexLt key) ∧
    ∀ w, w ∈ (d.successors key input o fuel).1 ↔ (w ∈ Window d o ∧ After key o.strict input w) := by
  have := C14_run_exhausted d key input h o (fun hr => nomatch ho ▸ hr) fuel hfin
  rwa [ho] at this

theorem C14_predecessors_exhausted (d : AV.DFA σ α) (key : α → Int) (input : Option (List α))
    (h : Dom d key input) (o : SuccOpts) (ho : o.reverse = true) (fuel : Nat)
    (hfinite : (Lang d).Finite) (hfin : (d.successors key input o fuel).2 = .finished) :
    (d.successors key input o fuel).1.Pairwise (fun u v => lexLt key v u) ∧
    ∀ w, w ∈ (d.successors key input o fuel).1 ↔ (w ∈ Window d o ∧ Before key o.strict input w) := by
  have := C14_run_exhausted d key input h o (fun _ => hfinite) fuel hfin
  rwa [ho] at this

omit [DecidableEq α] in
/-- The single-step wrappers: the first word of a run with the four properties of the generator
theorems is the least element of the filtered window set, `None` iff that set is empty. -/
theorem firstOf_least {W : Set (List α)} {A : List α → Prop} {lt : List α → List α → Prop}
    {r : List (List α) × SuccStatus} (h : Enumerates lt (fun w => w ∈ W ∧ A w) r) :
    match firstOf r with
    | .word w => (w ∈ W ∧ A w) ∧ ∀ w' ∈ W, A w' → w' = w ∨ lt w w'
    | .none => ∀ w ∈ W, ¬ A w
    | .outOfFuel => True
    | .raised _ => False := by
  obtain ⟨h1, h2, h3, h4⟩ := h
  obtain ⟨ys, st⟩ := r
  unfold firstOf
  cases ys with
  | cons w ys' =>
    refine ⟨h3 w List.mem_cons_self, fun w' hw' ha' => ?_⟩
    rcases h4 w' ⟨hw', ha'⟩ with hm | ⟨_, hlt⟩
    · exact (List.mem_cons.mp hm).imp_right ((List.pairwise_cons.mp h2).1 w')
    · exact Or.inr (hlt w List.mem_cons_self)
  | nil =>
    cases st with
    | finished => exact fun w hw ha => (h4 w ⟨hw, ha⟩).elim (nomatch ·) (fun h => nomatch h.1)
    | outOfFuel => trivial
    | raised e => exact h1.elim (nomatch ·) (nomatch ·)

/-- **successor()**, for every fuel: the call has not raised, and if the loop has reached its first
`yield` or its end within `fuel` iterations, the result is the least accepted word inside the window
that comes after the start string (or equals it when not strict), or `None` when there is no such
word.  The branch `.outOfFuel` (neither reached yet) claims nothing: that some fuel suffices is
`C14_successor_total`. -/
theorem C14_successor (d : AV.DFA σ α) (key : α → Int) (input : Option (List α))
    (h : Dom d key input) (o : SuccOpts) (fuel : Nat) :
    match d.successor key input o fuel with
    | .word w => (w ∈ Window d o ∧ After key o.strict input w) ∧
        ∀ w' ∈ Window d o, After key o.strict input w' → w' = w ∨ lexLt key w w'
    | .none => ∀ w ∈ Window d o, ¬ After key o.strict input w
    | .outOfFuel => True
    | .raised _ => False := by
  exact firstOf_least (C14_run d key input h { o with reverse := false } (nomatch ·) fuel)

/-- **Predecessors refuse infinite languages** with `InfiniteLanguageException`, before
producing anything (whatever the window). -/
theorem C14_predecessors_infinite (d : AV.DFA σ α) (key : α → Int) (input : Option (List α))
    (h : Dom d key input) (o : SuccOpts) (ho : o.reverse = true) (fuel : Nat)
    (hinf : (Lang d).Infinite) :
    d.successors key input o fuel = ([], .raised (.lib .infiniteLanguageException)) := by
  obtain ⟨b, hb, hiff⟩ := C13_isfinite d h.valid h.dict
  have : b = false := by
    cases b with
    | false => rfl
    | true => exact absurd (hiff.mp rfl) hinf
  subst this
  unfold DFA.successors DFA.finiteGuard
  rw [ho]
  simp only [hb, DFA.successorsCore]

/-- **Predecessors of a finite language**: for every number of loop iterations, the words
yielded so far are strictly *decreasing* in the string order, are accepted words inside the
window that come before the start string (or equal it when not strict), and miss nothing:
every such word has been yielded, or — only while the generator is still running — is smaller
than everything yielded so far.  The loop never raises. -/
theorem C14_predecessors (d : AV.DFA σ α) (key : α → Int) (input : Option (List α))
    (h : Dom d key input) (o : SuccOpts) (ho : o.reverse = true) (fuel : Nat)
    (hfinite : (Lang d).Finite) :
    ((d.successors key input o fuel).2 = .finished ∨ (d.successors key input o fuel).2 = .outOfFuel) ∧
    (d.successors key input o fuel).1.Pairwise (fun u v => lexLt key v u) ∧
    (∀ w ∈ (d.successors key input o fuel).1, w ∈ Window d o ∧ Before key o.strict input w) ∧
    (∀ w ∈ Window d o, Before key o.strict input w →
      w ∈ (d.successors key input o fuel).1 ∨
        ((d.successors key input o fuel).2 = .outOfFuel ∧
          ∀ y ∈ (d.successors key input o fuel).1, lexLt key w y)) := by
  have := C14_run d key input h o (fun _ => hfinite) fuel
  rw [ho] at this
  exact ⟨this.alive, this.sorted, this.sound, fun w hw ha => this.complete w ⟨hw, ha⟩⟩

/-- `predecessors(input, …)` is `successors(input, …, reverse=True)` — also for `input = None`
(all words in decreasing order), which the wrapper passes through unchanged. -/
theorem C14_predecessors_wrapper (d : AV.DFA σ α) (key : α → Int) (input : Option (List α))
    (o : SuccOpts) (fuel : Nat) :
    d.predecessors key input o fuel = d.successors key input { o with reverse := true } fuel := rfl

/-- **predecessor()**, for every fuel: for a finite language the call has not raised, and if the
loop has reached its first `yield` or its end within `fuel` iterations, the result is the greatest
accepted word inside the window that comes before the start string (or equals it when not strict),
or `None`; `.outOfFuel` claims nothing (that some fuel suffices is `C14_predecessor_total`).  For an
infinite language it raises `InfiniteLanguageException`.  (`input = None`: the greatest word of the
window set.) -/
theorem C14_predecessor (d : AV.DFA σ α) (key : α → Int) (input : Option (List α))
    (h : Dom d key input) (o : SuccOpts) (fuel : Nat) :
    ((Lang d).Infinite → d.predecessor key input o fuel = .raised (.lib .infiniteLanguageException)) ∧
    ((Lang d).Finite →
      match d.predecessor key input o fuel with
      | .word w => (w ∈ Window d o ∧ Before key o.strict input w) ∧
          ∀ w' ∈ Window d o, Before key o.strict input w' → w' = w ∨ lexLt key w' w
      | .none => ∀ w ∈ Window d o, ¬ Before key o.strict input w
      | .outOfFuel => True
      | .raised _ => False) := by
  constructor
  · intro hinf
    unfold DFA.predecessor DFA.predecessors
    rw [C14_predecessors_infinite d key input h { o with reverse := true } rfl fuel hinf]
    rfl
  · intro hfinite
    exact firstOf_least (C14_run d key input h { o with reverse := true } (fun _ => hfinite) fuel)

/-- **Termination**: when a max length is given, or the language is finite (which the
predecessor direction requires anyway), the generator is exhausted after finitely many loop
iterations.  Together with `C14_successors_exhausted` / `C14_predecessors_exhausted`: its
complete output is the sorted filter of the window set. -/
theorem C14_termination (d : AV.DFA σ α) (key : α → Int) (input : Option (List α))
    (h : Dom d key input) (o : SuccOpts)
    (hbound : o.maxLen.isSome = true ∨ (Lang d).Finite)
    (hrev : o.reverse = true → (Lang d).Finite) :
    ∃ fuel, (d.successors key input o fuel).2 = .finished := by
  obtain ⟨first, last, cok, inv, hrun⟩ := successors_eq_loop h o hrev
  have hSnd : (d.sortedSymbols key o.reverse).Nodup :=
    (sortedSymbols_perm d key o.reverse).nodup_iff.mpr h.symsNodup
  obtain ⟨D, hD⟩ : ∃ D, DepthBound d o (setupCfg d d.digraph key o first last) D := by
    cases hm : o.maxLen with
    | some m => exact ⟨m, depthBound_of_maxLen hm⟩
    | none =>
      have hfin : (Lang d).Finite := hbound.resolve_left fun hb => by rw [hm] at hb; cases hb
      obtain ⟨M, hM⟩ := (lang_finite_iff_bounded d h.valid).mp hfin
      exact ⟨M, depthBound_of_bounded h.dict cok hM⟩
  refine ⟨potential (d.sortedSymbols key o.reverse) D (initState d first input o) + 1, ?_⟩
  rw [hrun]
  exact loop_finishes cok.tbl hSnd hD _ _ inv (Nat.lt_succ_self _)

/-- Inside the domain, with a max length or a finite language, the complete output of the
generator is the sorted filter of the window set, in either direction. -/
theorem C14_run_total (d : AV.DFA σ α) (key : α → Int) (input : Option (List α))
    (h : Dom d key input) (o : SuccOpts) (hbound : o.maxLen.isSome = true ∨ (Lang d).Finite)
    (hrev : o.reverse = true → (Lang d).Finite) :
    ∃ fuel ys, d.successors key input o fuel = (ys, .finished) ∧ ys.Pairwise (dirLt key o.reverse) ∧
      ∀ w, w ∈ ys ↔ (w ∈ Window d o ∧ Side key o.strict input o.reverse w) := by
  obtain ⟨fuel, hfin⟩ := C14_termination d key input h o hbound hrev
  obtain ⟨h1, h2⟩ := C14_run_exhausted d key input h o hrev fuel hfin
  exact ⟨fuel, _, Prod.ext rfl hfin, h1, h2⟩

/-- **C14, complete statement**: inside the domain, with a max length or a finite language,
the complete output of the successor generator is the sorted filter of the window set. -/
theorem C14_successors_total (d : AV.DFA σ α) (key : α → Int) (input : Option (List α))
    (h : Dom d key input) (o : SuccOpts) (ho : o.reverse = false)
    (hbound : o.maxLen.isSome = true ∨ (Lang d).Finite) :
    ∃ fuel ys, d.successors key input o fuel = (ys, .finished) ∧ ys.Pairwise (lexLt key) ∧
      ∀ w, w ∈ ys ↔ (w ∈ Window d o ∧ After key o.strict input w) := by
  have := C14_run_total d key input h o hbound (fun hr => nomatch ho ▸ hr)
  rwa [ho] at this

/-- Inside the domain the complete output of the predecessor generator of a finite language is
the decreasingly sorted filter of the window set. -/
theorem C14_predecessors_total (d : AV.DFA σ α) (key : α → Int) (input : Option (List α))
    (h : Dom d key input) (o : SuccOpts) (ho : o.reverse = true) (hfinite : (Lang d).Finite) :
    ∃ fuel ys, d.successors key input o fuel = (ys, .finished) ∧
      ys.Pairwise (fun u v => lexLt key v u) ∧
      ∀ w, w ∈ ys ↔ (w ∈ Window d o ∧ Before key o.strict input w) := by
  have := C14_run_total d key input h o (Or.inr hfinite) (fun _ => hfinite)
  rwa [ho] at this

omit [DecidableEq α] in
/-- `firstOf_least` for a run that has ended: the answer is a word or `None`. -/
theorem firstOf_least_finished {W : Set (List α)} {A : List α → Prop} {lt : List α → List α → Prop}
    {r : List (List α) × SuccStatus} (h : Enumerates lt (fun w => w ∈ W ∧ A w) r)
    (hfin : r.2 = .finished) :
    match firstOf r with
    | .word w => (w ∈ W ∧ A w) ∧ ∀ w' ∈ W, A w' → w' = w ∨ lt w w'
    | .none => ∀ w ∈ W, ¬ A w
    | _ => False := by
  have h := firstOf_least h
  obtain ⟨ys, st⟩ := r
  cases hfin
  revert h
  unfold firstOf
  cases ys <;> exact id

/-- `successor()` terminates inside the domain (max length given or finite language) and then
returns the least word of the filtered window set, or `None` iff that set is empty. -/
theorem C14_successor_total (d : AV.DFA σ α) (key : α → Int) (input : Option (List α))
    (h : Dom d key input) (o : SuccOpts)
    (hbound : o.maxLen.isSome = true ∨ (Lang d).Finite) :
    ∃ fuel,
      match d.successor key input o fuel with
      | .word w => (w ∈ Window d o ∧ After key o.strict input w) ∧
          ∀ w' ∈ Window d o, After key o.strict input w' → w' = w ∨ lexLt key w w'
      | .none => ∀ w ∈ Window d o, ¬ After key o.strict input w
      | _ => False := by
  obtain ⟨fuel, hfin⟩ := C14_termination d key input h { o with reverse := false } hbound (nomatch ·)
  exact ⟨fuel, firstOf_least_finished (C14_run d key input h { o with reverse := false } (nomatch ·) fuel) hfin⟩

/-- `predecessor()` of a finite language terminates and returns the greatest word of the
filtered window set, or `None` iff that set is empty. -/
theorem C14_predecessor_total (d : AV.DFA σ α) (key : α → Int) (input : Option (List α))
    (h : Dom d key input) (o : SuccOpts) (hfinite : (Lang d).Finite) :
    ∃ fuel,
      match d.predecessor key input o fuel with
      | .word w => (w ∈ Window d o ∧ Before key o.strict input w) ∧
          ∀ w' ∈ Window d o, Before key o.strict input w' → w' = w ∨ lexLt key w' w
      | .none => ∀ w ∈ Window d o, ¬ Before key o.strict input w
      | _ => False := by
  obtain ⟨fuel, hfin⟩ := C14_termination d key input h { o with reverse := true }
    (Or.inr hfinite) (fun _ => hfinite)
  exact ⟨fuel, firstOf_least_finished
    (C14_run d key input h { o with reverse := true } (fun _ => hfinite) fuel) hfin⟩

/-- The output does not depend on the fuel once the generator is exhausted: more iterations
change nothing (so "the" output of the generator is well defined), in both directions.  The
conclusion rests on `h1`, `h2` alone (a run that has ended is stable under more fuel,
`successorsCore_stable`); `h` and `hrev` are not used, they only place the statement beside the
theorems that say what the exhausted output is. -/
theorem C14_output_unique (d : AV.DFA σ α) (key : α → Int) (input : Option (List α))
    (h : Dom d key input) (o : SuccOpts) (hrev : o.reverse = true → (Lang d).Finite) (f1 f2 : Nat)
    (h1 : (d.successors key input o f1).2 = .finished)
    (h2 : (d.successors key input o f2).2 = .finished) :
    (d.successors key input o f1).1 = (d.successors key input o f2).1 := by
  -- a run that has ended is not changed by more fuel: neither the domain nor finiteness is needed
  have _ := h
  have _ := hrev
  exact congrArg Prod.fst (eq_of_decided (r := fun f => d.successors key input o f)
    (fun _ _ => successorsCore_stable d _ _ key input o) (fun e => nomatch h1 ▸ e) (fun e => nomatch h2 ▸ e))

/- The two failure modes inside the literal domain (open findings F13, F14).  The English
statement says start strings "not even readable … are handled like any other" and
quantifies over all valid DFAs.  The code does not live up to that for the two input classes
excluded by `Dom.inputOver` and `Dom.symsNe`; the theorems below prove the failures on the
model (the correspondence run reproduces them on the real code on every run and reports them
under the finding keys `C14:start-string-with-foreign-symbol` and `C14:empty-alphabet`). -/

/-- **F13 (open finding)**: a start string containing a symbol outside the alphabet — a start
string that is "not even readable" — makes `successors` / `predecessors` raise `KeyError`
instead of enumerating the words after (before) it: for every valid DFA over a non-empty
alphabet, every key, window and strictness, in the forward direction and (for a finite
language) in the reverse direction, after finitely many loop iterations the run ends with
`KeyError` and **nothing** has been yielded (however much fuel is given). -/
theorem C14_foreign_start_raises (d : AV.DFA σ α) (key : α → Int) (w0 : List α) (o : SuccOpts)
    (hv : d.validate = .ok ()) (hd : d.IsDict) (hnd : d.syms.Nodup) (hne : d.syms ≠ [])
    (hx : ∃ x ∈ w0, x ∉ d.syms) (hrev : o.reverse = true → (Lang d).Finite) :
    ∃ n, ∀ fuel, d.successors key (some w0) o (fuel + n) = ([], .raised (.py .keyError)) := by
  have wf := (DFA.validate_eq_ok d).mp hv
  obtain ⟨n, hn⟩ := SuccForeign.successorsCore_foreign wf hnd hne key hx o d.digraph
  exact ⟨n, fun fuel => by rw [DFA.successors, finiteGuard_ok hv hd hrev]; exact hn fuel⟩

/-- `successor()` raises `KeyError` on a start string with a symbol outside the alphabet (where
the property asks for the least word after it, or `None`). -/
theorem C14_foreign_start_successor_raises (d : AV.DFA σ α) (key : α → Int) (w0 : List α)
    (o : SuccOpts) (hv : d.validate = .ok ()) (hd : d.IsDict) (hnd : d.syms.Nodup) (hne : d.syms ≠ [])
    (hx : ∃ x ∈ w0, x ∉ d.syms) :
    ∃ n, ∀ fuel, d.successor key (some w0) o (fuel + n) = .raised (.py .keyError) := by
  obtain ⟨n, hn⟩ := C14_foreign_start_raises d key w0 { o with reverse := false } hv hd hnd hne hx
    (fun hr => by cases hr)
  exact ⟨n, fun fuel => by unfold DFA.successor; rw [hn fuel]; rfl⟩

/-- **F14 (open finding)**: on a valid DFA with an empty alphabet (language `{ε}` or `∅`) every
call — any start string incl. `None`, both directions, any window — raises `IndexError`
(`sorted_symbols[-1]`) at the first `next()`, where the property asks for the words of the
window set (at most the empty word). -/
theorem C14_empty_alphabet (d : AV.DFA σ α) (key : α → Int) (input : Option (List α)) (o : SuccOpts)
    (hv : d.validate = .ok ()) (hd : d.IsDict) (hs : d.syms = []) (fuel : Nat) :
    d.successors key input o fuel = ([], .raised (.py .indexError)) := by
  have wf := (DFA.validate_eq_ok d).mp hv
  -- the language is a subset of {ε}, hence finite, hence `isfinite()` lets the call through
  have hfin : (Lang d).Finite := by
    apply Set.Finite.subset (Set.finite_singleton ([] : List α))
    intro w hw
    have hover := accepts_over wf hw
    rw [hs] at hover
    cases w with
    | nil => rfl
    | cons x t => exact absurd (hover x List.mem_cons_self) (by simp)
  rw [DFA.successors, finiteGuard_ok hv hd fun _ => hfin]
  exact SuccForeign.successorsCore_empty_alphabet hs key input o d.digraph fuel

/-- `{ε, 0, 01, 1, 10, 11}` (the finite language of Props/C13 `exF`). -/
def exF : AV.DFA Nat Int := AV.Props.C13.exF

/-- `0*1⁺` (infinite). -/
def exD : AV.DFA Nat Int := AV.Props.C13.exD

example : Dom exF id (some [0, 1]) :=
  ⟨by decide +kernel, ⟨by decide +kernel, by decide +kernel⟩, by decide +kernel, by decide +kernel, by unfold DFA.KeyInj; decide +kernel, by decide +kernel⟩

/-- test: all words of the finite language in increasing order, generator exhausted. -/
example : exF.successors id none {} 100 = ([[], [0], [0, 1], [1], [1, 0], [1, 1]], .finished) := by
  decide +kernel
/-- test: non-strict successors of an accepted start inside a window. -/
example : exF.successors id (some [0, 1]) { strict := false, minLen := 2 } 100 =
    ([[0, 1], [1, 0], [1, 1]], .finished) := by decide +kernel
/-- test: unreadable start string, reversed key order. -/
example : exF.successors (fun a => -a) (some [0, 0, 1]) {} 100 = ([], .finished) := by decide +kernel
example : exF.successors (fun a => -a) (some [1, 1, 1]) {} 100 = ([[1, 0], [0], [0, 1]], .finished) := by
  decide +kernel
/-- test: predecessors in decreasing order, the empty word last (/repo commit 322a5c4). -/
example : exF.predecessors id (some [1, 0]) { strict := true } 100 = ([[1], [0, 1], [0], []], .finished) := by
  decide +kernel
example : exF.predecessor id (some []) { strict := false } 100 = .word [] := by decide +kernel
/-- test: `predecessors(None)` = all words in decreasing order; `predecessor(None)` = the greatest. -/
example : exF.predecessors id none {} 100 = ([[1, 1], [1, 0], [1], [0, 1], [0], []], .finished) := by
  decide +kernel
example : exF.predecessor id none { maxLen := some 1 } 100 = .word [1] := by decide +kernel
/-- test: infinite language — forward with a max length, predecessors refused. -/
example : exD.successors id (some [0, 1]) { maxLen := some 3 } 200 =
    ([[0, 1, 1], [1], [1, 1], [1, 1, 1]], .finished) := by decide +kernel
example : exD.predecessors id (some [1]) {} 10 = ([], .raised (.lib .infiniteLanguageException)) := by decide +kernel
/-- outside the domain of the property (infinite language, no max length): the words after `00`
in `0*1⁺` have no least element, the traversal descends forever — the model says so too. -/
example : exD.successor id (some [0, 0]) {} 60 = .outOfFuel := by decide +kernel

/-- `{ε}` over the empty alphabet. -/
def exE : AV.DFA Nat Int :=
  { states := [0], syms := [], trans := [(0, [])], init := 0, finals := [0], allowPartial := false }

/-- F13 witnesses: the hypotheses of `C14_foreign_start_raises` are met by `exF` with the start
string `0·7` (7 is not a symbol); the model run ends with `KeyError`, nothing yielded — forward,
reverse, and with the foreign symbol in the middle. -/
example : exF.validate = .ok () ∧ exF.syms.Nodup ∧ exF.syms ≠ [] ∧ (∃ x ∈ [0, 7], x ∉ exF.syms) := by
  decide +kernel
example : exF.successors id (some [0, 7]) {} 100 = ([], .raised (.py .keyError)) := by decide +kernel
example : exF.successors id (some [0, 7]) { reverse := true, strict := false } 100 =
    ([], .raised (.py .keyError)) := by decide +kernel
example : exF.successors id (some [7, 1, 0]) { maxLen := some 1 } 100 = ([], .raised (.py .keyError)) := by
  decide +kernel
example : exF.successor id (some [7]) {} 100 = .raised (.py .keyError) := by decide +kernel
/-- F14 witnesses. -/
example : exE.validate = .ok () ∧ exE.syms = [] := by decide +kernel
example : exE.successors id none {} 100 = ([], .raised (.py .indexError)) := by decide +kernel
example : exE.successors id (some []) { reverse := true, strict := false } 100 =
    ([], .raised (.py .indexError)) := by decide +kernel

end AV.Props.C14
