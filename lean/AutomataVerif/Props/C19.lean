/-
Props/C19.lean — C19: validation is sound, results are valid, global options never change
answers.

English statement (properties.jsonl): corrupting a valid definition so that it breaks one of the
well-formedness rules the library documents and tests (unknown end state or transition symbol,
missing transition row or symbol of a complete DFA, initial or final state outside the state
set, initial state without transitions, invalid stack symbol or acceptance mode,
nondeterministic DPDA, bad tape symbol, direction or tape count, final TM state with
transitions, malformed GNFA label) makes the constructor raise the documented exception type,
while every well-formed definition is accepted and can then be run on any string and passed to
any operation without any undocumented error.  Every automaton returned by a library operation
passes validation itself, and turning automatic validation off or mutable automata on never
changes the result of any operation on valid inputs.

Model: `validate` of DFA, NFA (Model/DFA.lean, Model/NFA.lean) and of GNFA, DPDA, NPDA, DTM,
NTM, MNTM (Model/ValidateAll.lean), each performing the checks in the order of the code and
returning the first error.  Its declarative side: a `WF` structure per class, and a rule system
(Proofs/ValidateRules.lean) that gives for each documented rule its exception class `kind`, the
position `stage` of its check, and what it means to violate it.

Reserved names (fixes b159ae7, 07f4843, cb4efab, f47420f).  `validate()` of DFA and NFA first
refuses `None` as a state name or as the key of a transition row, and `""` as an input symbol, `validate()` of the PDA classes first refuses
`""` as a stack symbol.  The state / symbol types of the model are arbitrary types; which of
their elements stand for `None` and `""` is an explicit interpretation (`R : Reserved σ α` for
DFA / NFA, a predicate `isEmptyStr : γ → Bool` for the stack symbols of a PDA), and the theorems
about these four classes hold for every interpretation: `DFA.validateDef R d` is "the
reserved-name check under `R`, then `d.validate`", `DFA.WFDef R d` is "no state and no row key is
`None`, no input symbol is `""`, and `d.WF`".  `C19_reserved_absent`: when no name is reserved (the name
types of the models of C01–C17) these are `validate` and `WF`.

Proved here, for all definitions (no bounds):
  A. per class `validate d = ok ↔ WF d` — every well-formed definition is accepted and nothing
     else is (`C19_*_validate_iff`);
  B. per class the rule system is correct (`C19_*_rules`): `validate d = ok` iff no rule is
     violated, and an error raised by `validate` is the documented class of a violated rule
     such that no rule checked earlier is violated; hence (`C19_corruption_raises`) a
     definition that breaks rule `r` — and otherwise only rules of the same class or rules
     checked after `r` — makes the constructor raise exactly `kind r`; concrete corruption
     operators are instances (`C19_*_corrupt_*`);
  C. the documented classes themselves, the raise sites and the order of the checks are tied
     to the source by regenerated tables (`C19_rule_tables`, `C19_raise_sites`,
     `C19_validate_call_order`, `C19_literals`);
  D. the constructor under the two global options returns an object of the same abstract
     value for all four combinations on valid inputs, and raises the same error whatever
     `allow_mutable_automata` is (`C19_options`, `C19_options_invalid`, `C19_options_kwargs`).
Not proved in this file: that accepted definitions can be run and passed to every operation
without undocumented errors and that every operation's result passes validation — these are the
`Valid` conclusions of the theorems of C01–C17, whose models live in other files
(`C19_results_valid_full` below states the obligation for an abstract family of operations;
Props/C19b.lean states it operation by operation as the structure `ResultsValid` and fills it from
those theorems, Props/C19e.lean does the same for "can be run and passed on"; harness/ops/C19.py
samples both on the real code).
-/
import AutomataVerif.Proofs.CorruptTm
import AutomataVerif.Proofs.KwargsBridge
import AutomataVerif.Generated.Slots

namespace AV.Props.C19
open AV AV.VA

variable {σ α γ : Type} [DecidableEq σ] [DecidableEq α] [DecidableEq γ]

/-- DFA: no state and no row of the table is named `None` and no input symbol is `""` (under the
interpretation `R` of the abstract names); every state has a row; rows use only input symbols (all of them unless
`allow_partial`) and lead to states; initial and final states are states.  (Rows keyed by
names that are not states are allowed, as in the code.) -/
theorem C19_dfa_validate_iff (R : Reserved σ α) (d : DFA σ α) :
    DFA.validateDef R d = .ok () ↔ DFA.WFDef R d := DFA.validateDef_eq_ok R d

/-- NFA: no state and no row of the table is named `None` and no input symbol is `""`; rows use input symbols or `""`
(λ) and lead to states; the initial state is a state and has a row (unless it is the only
state); final states are states. -/
theorem C19_nfa_validate_iff (R : Reserved σ α) (n : NFA σ α) :
    NFA.validateDef R n = .ok () ↔ NFA.WFDef R n := NFA.validateDef_eq_ok R n

/-- GNFA: initial ≠ final, both states; every non-final state has a row; labels are `None` or
valid regular expressions over the input symbols and `* | ( ) ?`; the final state's row is
empty; every other row has an entry for every state except the initial one, only for states,
and no labelled entry into the initial state. -/
theorem C19_gnfa_validate_iff (g : GNFA σ α) : g.validate = .ok () ↔ g.WF := GNFA.validate_eq_ok g

/-- DPDA: `""` is not a stack symbol (`isEmptyStr` says which abstract stack symbols stand for
it); rows use input symbols or `""` and stack symbols; no stack symbol of a row has both
a λ-move and a move on an input symbol; initial state, initial stack symbol, final states and
acceptance mode are legal. -/
theorem C19_dpda_validate_iff (isEmptyStr : γ → Bool) (d : DPDA σ α γ) :
    d.validateDef isEmptyStr = .ok () ↔ d.WFDef isEmptyStr := DPDA.validateDef_eq_ok isEmptyStr d

theorem C19_npda_validate_iff (isEmptyStr : γ → Bool) (d : NPDA σ α γ) :
    d.validateDef isEmptyStr = .ok () ↔ d.WFDef isEmptyStr := NPDA.validateDef_eq_ok isEmptyStr d

/-- Name types that cannot express `None` / `""` (interpretation `Reserved.absent`, resp. the
predicate that is never true) — the situation of the DFA / NFA / PDA models of C01–C17, where
`none : Option σ` is the sink, `none : Option α` is λ, and an empty stack has no top symbol:
the reserved-name checks are vacuous, `validateDef` is the `validate` those properties use and
`WFDef` is their `WF`.  A definition that uses a reserved name is rejected by the constructor
and is outside the domain of those models. -/
theorem C19_reserved_absent :
    (∀ d : DFA σ α, DFA.validateDef Reserved.absent d = d.validate ∧ (DFA.WFDef Reserved.absent d ↔ d.WF)) ∧
    (∀ n : NFA σ α, NFA.validateDef Reserved.absent n = n.validate ∧ (NFA.WFDef Reserved.absent n ↔ n.WF)) ∧
    (∀ d : DPDA σ α γ, d.validateDef (fun _ => false) = d.validate ∧ (d.WFDef (fun _ => false) ↔ d.WF)) ∧
    (∀ d : NPDA σ α γ, d.validateDef (fun _ => false) = d.validate ∧ (d.WFDef (fun _ => false) ↔ d.WF)) :=
  ⟨fun d => ⟨DFA.validateDef_absent d, DFA.wfDef_absent d⟩,
   fun n => ⟨NFA.validateDef_absent n, NFA.wfDef_absent n⟩,
   fun d => ⟨DPDA.validateDef_absent d, DPDA.wfDef_absent d⟩,
   fun d => ⟨NPDA.validateDef_absent d, NPDA.wfDef_absent d⟩⟩

/-- DTM: Σ ⊊ Γ, blank ∈ Γ; rows only for states, reading tape symbols, with results
(state, tape symbol, direction ∈ {L, N, R}); the initial state is a non-final state with a row
(unless it is the only state); final states are states without rows. -/
theorem C19_dtm_validate_iff (d : DTM σ γ) : d.validate = .ok () ↔ d.WF := DTM.validate_eq_ok d

theorem C19_ntm_validate_iff (d : NTM σ γ) : d.validate = .ok () ↔ d.WF := NTM.validate_eq_ok d

/-- MNTM: as NTM for every move of every transition, and every read tuple and every move
tuple has exactly `n_tapes` components. -/
theorem C19_mntm_validate_iff (d : MNTM σ γ) : d.validate = .ok () ↔ d.WF := MNTM.validate_eq_ok d

/-- General form.  `S.Correct validate` (proved per class below) means: `validate d = ok` iff
no rule is violated, and an error raised is the documented class of a violated rule no earlier
rule being violated.  Consequence: if `d'` breaks rule `r`, and every rule `d'` breaks has
`r`'s documented class or is checked after `r`, the constructor raises exactly `kind r`.
A single-rule corruption of a valid definition is the special case where `r` is the only
violated rule. -/
theorem C19_corruption_raises {δ ρ : Type} (S : RuleSys δ ρ) (validate : δ → Res Unit)
    (hc : S.Correct validate) (d' : δ) (r : ρ) (hv : S.Violates d' r)
    (hother : ∀ r', S.Violates d' r' → S.kind r' = S.kind r ∨ S.stage r < S.stage r') :
    validate d' = .error (.lib (S.kind r)) :=
  hc.corrupt_raises d' r hv hother

/-- Single-rule corruption, literally: `d` valid, `d'` breaks `r` and nothing else. -/
theorem C19_single_rule_corruption {δ ρ : Type} (S : RuleSys δ ρ) (validate : δ → Res Unit)
    (hc : S.Correct validate) (d d' : δ) (r : ρ) (_hvalid : validate d = .ok ())
    (hv : S.Violates d' r) (honly : ∀ r', S.Violates d' r' → r' = r) :
    validate d' = .error (.lib (S.kind r)) :=
  hc.corrupt_raises d' r hv (fun r' h' => Or.inl (by rw [honly r' h']))

/-- Whatever is broken (any number of rules): the class raised is the documented class of one
of the broken rules. -/
theorem C19_error_is_documented {δ ρ : Type} (S : RuleSys δ ρ) (validate : δ → Res Unit)
    (hc : S.Correct validate) (d' : δ) (e : Exn) (h : validate d' = .error e) :
    ∃ r, S.Violates d' r ∧ e = .lib (S.kind r) := by
  obtain ⟨r, hv, he, _⟩ := hc.error_kind d' e h
  exact ⟨r, hv, he⟩

theorem C19_dfa_rules (R : Reserved σ α) : (DFA.defRules R).Correct (DFA.validateDef R) :=
  DFA.defRules_correct R
theorem C19_nfa_rules (R : Reserved σ α) : (NFA.defRules R).Correct (NFA.validateDef R) :=
  NFA.defRules_correct R
theorem C19_gnfa_rules : (GNFA.rules : RuleSys (GNFA σ α) _).Correct GNFA.validate := GNFA.rules_correct
theorem C19_dpda_rules (isEmptyStr : γ → Bool) :
    (DPDA.defRules isEmptyStr : RuleSys (DPDA σ α γ) _).Correct (DPDA.validateDef isEmptyStr) :=
  DPDA.defRules_correct isEmptyStr
theorem C19_npda_rules (isEmptyStr : γ → Bool) :
    (NPDA.defRules isEmptyStr : RuleSys (NPDA σ α γ) _).Correct (NPDA.validateDef isEmptyStr) :=
  NPDA.defRules_correct isEmptyStr
theorem C19_dtm_rules : (DTM.rules : RuleSys (DTM σ γ) _).Correct DTM.validate := DTM.rules_correct
theorem C19_ntm_rules : (NTM.rules : RuleSys (NTM σ γ) _).Correct NTM.validate := NTM.rules_correct
theorem C19_mntm_rules : (MNTM.rules : RuleSys (MNTM σ γ) _).Correct MNTM.validate := MNTM.rules_correct

/-- Every documented rule with the exception class the documentation and the tests name for
it (for DFA, NFA and the PDA classes — whose `validate()` starts with the reserved-name checks of
fixes b159ae7, 07f4843, cb4efab — also the position of its check: the reserved names come
first).  (`GNFA.labelLexerError` is the one undocumented path: a `LexerError` escaping from the
regex validator; it needs an input symbol that is itself a reserved regex character.) -/
theorem C19_rule_tables :
    ([DFA.DefRule.reservedStateName, .reservedInputSymbol, .missingRow, .missingSymbol, .unknownSymbol,
        .unknownEndState, .badInitial, .badFinal].map fun r => (r.kind.name, r.stage)) =
      [("InvalidStateError", 0), ("InvalidSymbolError", 1), ("MissingStateError", 2),
       ("MissingSymbolError", 3), ("InvalidSymbolError", 3), ("InvalidStateError", 3),
       ("InvalidStateError", 4), ("InvalidStateError", 5)] ∧
    ([NFA.DefRule.reservedStateName, .reservedInputSymbol, .unknownSymbol, .unknownEndState, .badInitial,
        .initialNoRow, .badFinal].map fun r => (r.kind.name, r.stage)) =
      [("InvalidStateError", 0), ("InvalidSymbolError", 1), ("InvalidSymbolError", 2),
       ("InvalidStateError", 2), ("InvalidStateError", 3), ("MissingStateError", 4),
       ("InvalidStateError", 5)] ∧
    ([GNFA.Rule.badInitial, .badFinal, .initialEqualsFinal, .missingRow, .malformedLabel,
        .labelLexerError, .finalHasTransitions, .missingEntry, .unknownEndState,
        .transitionIntoInitial, .initialNoRow].map fun r => r.kind.name) =
      ["InvalidStateError", "InvalidStateError", "InvalidStateError", "MissingStateError",
       "InvalidRegexError", "LexerError", "InvalidStateError", "MissingStateError",
       "InvalidStateError", "InvalidStateError", "MissingStateError"] ∧
    ([PdaDefRule.reservedStackSymbol, .unknownInputSymbol, .nondeterministic, .unknownStackSymbol,
        .badInitial, .badInitialStackSymbol, .badFinal, .badAcceptanceMode].map
        fun r => (r.kind.name, r.stage)) =
      [("InvalidSymbolError", 0), ("InvalidSymbolError", 1), ("NondeterminismError", 1),
       ("InvalidSymbolError", 1), ("InvalidStateError", 2), ("InvalidSymbolError", 3),
       ("InvalidStateError", 4), ("InvalidAcceptanceModeError", 5)] ∧
    ([TmRule.inputNotProperSubset, .badBlank, .unknownTransitionState, .badReadSymbol,
        .unknownResultState, .badWriteSymbol, .badDirection, .badInitial, .initialNoRow,
        .initialIsFinal, .badFinal, .finalHasTransitions, .badTapeCount].map fun r => r.kind.name) =
      ["MissingSymbolError", "InvalidSymbolError", "InvalidStateError", "InvalidSymbolError",
       "InvalidStateError", "InvalidSymbolError", "InvalidDirectionError", "InvalidStateError",
       "MissingStateError", "InitialStateError", "InvalidStateError", "FinalStateError",
       "InconsistentTapesException"] :=
  ⟨rfl, rfl, rfl, rfl, rfl⟩

/-- In the class hierarchy regenerated from the source every documented class is a library
exception below `AutomatonException`; the PDA-specific ones are below `PDAException`, the
TM-specific ones below `TMException`. -/
theorem C19_documented_classes_hierarchy :
    (∀ r : DFA.DefRule, r.kind.isSubclass .automatonException = true) ∧
    (∀ r : NFA.DefRule, r.kind.isSubclass .automatonException = true) ∧
    (∀ r : GNFA.Rule, r ≠ .labelLexerError → r ≠ .malformedLabel →
        r.kind.isSubclass .automatonException = true) ∧
    (GNFA.Rule.malformedLabel.kind.isSubclass .regexException = true) ∧
    (∀ r : PdaDefRule, r.kind.isSubclass .automatonException = true) ∧
    (PdaDefRule.nondeterministic.kind.isSubclass .pDAException = true) ∧
    (PdaDefRule.badAcceptanceMode.kind.isSubclass .pDAException = true) ∧
    (∀ r : TmRule, r.kind.isSubclass .automatonException = true) ∧
    (TmRule.badDirection.kind.isSubclass .tMException = true) ∧
    (TmRule.badTapeCount.kind.isSubclass .tMException = true) := by
  refine ⟨?_, ?_, ?_, ?_, ?_, ?_, ?_, ?_, ?_, ?_⟩
  · intro r; cases r <;> decide
  · intro r; cases r <;> decide
  · intro r h1 h2; cases r <;> first | decide | exact absurd rfl h1 | exact absurd rfl h2
  · decide
  · intro r; cases r <;> decide
  · decide
  · decide
  · intro r; cases r <;> decide
  · decide
  · decide

/-! ### concrete corruption operators

Each takes a definition and one documented way of breaking it, and states the class the constructor
raises.  Where the broken rule is not checked first the definition is a *valid* one, and the theorem
is an instance of `RuleSys.Correct.raises_of_valid` (per class `WF.raises`, `WFDef.raises`; for the
Turing machines the theorems of Proofs/CorruptTm.lean on the view) — the edit violates the named
rule, and a rule that can pre-empt it reads only fields the edit leaves alone, or is shown not to be
violated — or of `raises_of_frame` with the `*_frame` lemma of the edit operator.  Where it is
checked first (`C19_dfa_corrupt_missing_row`, the reserved names) any definition will do, and the
theorem says so.  For DFA, NFA and the PDA classes the rule system is the complete one (`defRules`:
reserved names first). -/

/-- DFA / initial state outside the state set → `InvalidStateError`. -/
theorem C19_dfa_corrupt_initial (R : Reserved σ α) (d : DFA σ α) (wf : DFA.WFDef R d) (q : σ)
    (hq : q ∉ d.states) :
    DFA.validateDef R { d with init := q } = .error (.lib .invalidStateError) := by
  refine wf.raises .badInitial hq fun r' => ?_
  cases r' <;> rule_unaffected

/-- DFA / a final state outside the state set → `InvalidStateError`. -/
theorem C19_dfa_corrupt_final (R : Reserved σ α) (d : DFA σ α) (wf : DFA.WFDef R d) (q : σ)
    (hq : q ∉ d.states) :
    DFA.validateDef R { d with finals := q :: d.finals } = .error (.lib .invalidStateError) := by
  refine wf.raises .badFinal ⟨q, .head _, hq⟩ fun r' => ?_
  cases r' <;> rule_unaffected

/-- NFA / initial state outside the state set → `InvalidStateError` (although the foreign
name has no row either: that check comes later). -/
theorem C19_nfa_corrupt_initial (R : Reserved σ α) (n : NFA σ α) (wf : NFA.WFDef R n) (q : σ)
    (hq : q ∉ n.states) :
    NFA.validateDef R { n with init := q } = .error (.lib .invalidStateError) := by
  refine wf.raises .badInitial hq fun r' => ?_
  cases r' <;> rule_unaffected

/-- NFA / a final state outside the state set → `InvalidStateError`. -/
theorem C19_nfa_corrupt_final (R : Reserved σ α) (n : NFA σ α) (wf : NFA.WFDef R n) (q : σ)
    (hq : q ∉ n.states) :
    NFA.validateDef R { n with finals := q :: n.finals } = .error (.lib .invalidStateError) := by
  refine wf.raises .badFinal ⟨q, .head _, hq⟩ fun r' => ?_
  cases r' <;> rule_unaffected

/-- DPDA / invalid acceptance mode → `InvalidAcceptanceModeError`. -/
theorem C19_dpda_corrupt_mode (isEmptyStr : γ → Bool) (d : DPDA σ α γ) (wf : d.WFDef isEmptyStr)
    (m : String) (hm : m ∉ Gen.Validate.pdaAcceptanceModes) :
    ({ d with mode := m } : DPDA σ α γ).validateDef isEmptyStr =
      .error (.lib .invalidAcceptanceModeError) := by
  refine wf.raises .badAcceptanceMode hm fun r' => ?_
  cases r' <;> rule_unaffected

/-- DPDA / invalid initial stack symbol → `InvalidSymbolError`. -/
theorem C19_dpda_corrupt_initial_stack_symbol (isEmptyStr : γ → Bool) (d : DPDA σ α γ)
    (wf : d.WFDef isEmptyStr) (g : γ) (hg : g ∉ d.stackSyms) :
    ({ d with initStack := g } : DPDA σ α γ).validateDef isEmptyStr = .error (.lib .invalidSymbolError) := by
  refine wf.raises .badInitialStackSymbol hg fun r' => ?_
  cases r' <;> rule_unaffected

/-- NPDA / invalid acceptance mode → `InvalidAcceptanceModeError`. -/
theorem C19_npda_corrupt_mode (isEmptyStr : γ → Bool) (d : NPDA σ α γ) (wf : d.WFDef isEmptyStr)
    (m : String) (hm : m ∉ Gen.Validate.pdaAcceptanceModes) :
    ({ d with mode := m } : NPDA σ α γ).validateDef isEmptyStr =
      .error (.lib .invalidAcceptanceModeError) := by
  refine wf.raises .badAcceptanceMode hm fun r' => ?_
  cases r' <;> rule_unaffected

/-- DTM / the initial state made final → `InitialStateError` (the `FinalStateError` its row
would cause is checked later). -/
theorem C19_dtm_corrupt_initial_is_final (d : DTM σ γ) (wf : d.WF) :
    ({ d with finals := d.init :: d.finals } : DTM σ γ).validate = .error (.lib .initialStateError) :=
  wf.of_view fun ok => TmView.raises_initial_is_final ok

/-- DTM / blank symbol outside the tape alphabet → `InvalidSymbolError`. -/
theorem C19_dtm_corrupt_blank (d : DTM σ γ) (wf : d.WF) (b : γ) (hb : b ∉ d.tapeSyms) :
    ({ d with blank := b } : DTM σ γ).validate = .error (.lib .invalidSymbolError) :=
  wf.of_view fun ok => TmView.raises_blank ok b hb

/-- MNTM / wrong tape count (with at least one transition read tuple) →
`InconsistentTapesException`. -/
theorem C19_mntm_corrupt_tape_count (d : MNTM σ γ) (wf : d.WF) (n : Int) (hn : n ≠ d.nTapes)
    (hne : ∃ kv ∈ d.trans, kv.2 ≠ []) :
    ({ d with nTapes := n } : MNTM σ γ).validate = .error (.lib .inconsistentTapesException) :=
  let ⟨kv, hkv, hnil⟩ := hne
  let ⟨en, hen⟩ := List.exists_mem_of_ne_nil kv.2 hnil
  wf.of_view fun ok => TmView.raises_tapes ok <| (MNTM.tapesOk_eq_false _).mpr <|
    Or.inl ⟨kv, hkv, en, hen, fun h => hn ((wf.readCount kv hkv en hen).symm.trans h).symm⟩

/-- GNFA / initial state outside the state set → `InvalidStateError` (the first check). -/
theorem C19_gnfa_corrupt_initial (g : GNFA σ α) (wf : g.WF) (q : σ) (hq : q ∉ g.states) :
    ({ g with init := q } : GNFA σ α).validate = .error (.lib .invalidStateError) := by
  refine wf.raises .badInitial hq fun r' => ?_
  cases r' <;> rule_unaffected

/-- GNFA / final state outside the state set → `InvalidStateError`. -/
theorem C19_gnfa_corrupt_final (g : GNFA σ α) (wf : g.WF) (q : σ) (hq : q ∉ g.states) :
    ({ g with final := q } : GNFA σ α).validate = .error (.lib .invalidStateError) := by
  refine wf.raises .badFinal hq fun r' => ?_
  cases r' <;> rule_unaffected

/-- DPDA / initial state outside the state set → `InvalidStateError`. -/
theorem C19_dpda_corrupt_initial (isEmptyStr : γ → Bool) (d : DPDA σ α γ) (wf : d.WFDef isEmptyStr)
    (q : σ) (hq : q ∉ d.states) :
    ({ d with init := q } : DPDA σ α γ).validateDef isEmptyStr = .error (.lib .invalidStateError) := by
  refine wf.raises .badInitial hq fun r' => ?_
  cases r' <;> rule_unaffected

/-- NPDA / initial state outside the state set → `InvalidStateError`. -/
theorem C19_npda_corrupt_initial (isEmptyStr : γ → Bool) (d : NPDA σ α γ) (wf : d.WFDef isEmptyStr)
    (q : σ) (hq : q ∉ d.states) :
    ({ d with init := q } : NPDA σ α γ).validateDef isEmptyStr = .error (.lib .invalidStateError) := by
  refine wf.raises .badInitial hq fun r' => ?_
  cases r' <;> rule_unaffected

/-- DTM / initial state outside the state set → `InvalidStateError`. -/
theorem C19_dtm_corrupt_initial (d : DTM σ γ) (wf : d.WF) (q : σ) (hq : q ∉ d.states) :
    ({ d with init := q } : DTM σ γ).validate = .error (.lib .invalidStateError) :=
  wf.of_view fun ok => TmView.raises_initial ok q hq

/-- NTM / initial state outside the state set → `InvalidStateError`. -/
theorem C19_ntm_corrupt_initial (d : NTM σ γ) (wf : d.WF) (q : σ) (hq : q ∉ d.states) :
    ({ d with init := q } : NTM σ γ).validate = .error (.lib .invalidStateError) :=
  wf.of_view fun ok => TmView.raises_initial ok q hq

/-- MNTM / initial state outside the state set → `InvalidStateError`. -/
theorem C19_mntm_corrupt_initial (d : MNTM σ γ) (wf : d.WF) (q : σ) (hq : q ∉ d.states) :
    ({ d with init := q } : MNTM σ γ).validate = .error (.lib .invalidStateError) :=
  wf.of_view fun ok => TmView.raises_initial ok q hq

/-- NTM / blank symbol outside the tape alphabet → `InvalidSymbolError`. -/
theorem C19_ntm_corrupt_blank (d : NTM σ γ) (wf : d.WF) (b : γ) (hb : b ∉ d.tapeSyms) :
    ({ d with blank := b } : NTM σ γ).validate = .error (.lib .invalidSymbolError) :=
  wf.of_view fun ok => TmView.raises_blank ok b hb

/-- DFA / the row of a state removed → `MissingStateError` (the first check after the reserved
names; holds for every definition that uses no reserved name, valid or not). -/
theorem C19_dfa_corrupt_missing_row (R : Reserved σ α) (d : DFA σ α)
    (hres : faValidateReserved R d.states (akeys d.trans) d.syms = .ok ()) (q : σ) (hq : q ∈ d.states) :
    DFA.validateDef R { d with trans := d.trans.filter (fun kv => decide (kv.1 ≠ q)) } =
      .error (.lib .missingStateError) := by
  obtain ⟨h1, h2, h3⟩ := (faValidateReserved_eq_ok R _ _ _).mp hres
  refine (DFA.defRules_correct R).raises .missingRow ⟨q, hq, not_mem_akeys_filter_ne q d.trans⟩ fun r' => ?_
  cases r'
  case reservedStateName =>
    exact fun _ h => h.elim (fun ⟨x, hx, hn⟩ => Bool.noConfusion ((h1 x hx).symm.trans hn)) fun ⟨x, hx, hn⟩ =>
      Bool.noConfusion ((h2 x (List.map_subset _ List.filter_sublist.subset hx)).symm.trans hn)
  case reservedInputSymbol => exact fun _ ⟨a, ha, hn⟩ => Bool.noConfusion ((h3 a ha).symm.trans hn)
  all_goals exact fun h => absurd h Bool.false_ne_true

/-- DFA / a symbol removed from the row of a state of a valid complete DFA → `MissingSymbolError`. -/
theorem C19_dfa_corrupt_missing_symbol (R : Reserved σ α) (d : DFA σ α) (wf : DFA.WFDef R d)
    (hc : d.allowPartial = false) (q : σ) (hq : q ∈ d.states) (a : α) (ha : a ∈ d.syms) :
    DFA.validateDef R (dropSymbol d q a) = .error (.lib .missingSymbolError) := by
  obtain ⟨kv, hkv, hk⟩ := List.mem_map.mp (wf.rows q hq)
  have hv : (DFA.defRules R).Violates (dropSymbol d q a) .missingSymbol :=
    ⟨hc, _, editRow_mem q _ d.trans kv hkv hk, a, ha, not_mem_akeys_filter_ne a kv.2⟩
  refine wf.raises .missingSymbol hv fun r' => ?_
  cases r'
  case reservedStateName => exact fun _ h => h.imp_right fun h => dropSymbol_keys d q a ▸ h
  case missingRow => exact fun _ ⟨p, hp, hn⟩ => ⟨p, hp, dropSymbol_keys d q a ▸ hn⟩
  case unknownSymbol =>
    rintro _ ⟨kv', hkv', b, hb, hnb⟩
    obtain ⟨kv, hkv, _, hrow⟩ := dropSymbol_rows d q a kv' hkv'
    exact ⟨kv, hkv, b, List.map_subset _ hrow hb, hnb⟩
  case unknownEndState =>
    rintro _ ⟨kv', hkv', p, hp, hnp⟩
    obtain ⟨kv, hkv, _, hrow⟩ := dropSymbol_rows d q a kv' hkv'
    exact ⟨kv, hkv, p, List.map_subset _ hrow hp, hnp⟩
  all_goals rule_unaffected

/-- DFA / `transitions[q][a] = t` with `t` not a state, in a valid DFA → `InvalidStateError`
("unknown end state"). -/
theorem C19_dfa_corrupt_end_state (R : Reserved σ α) (d : DFA σ α) (wf : DFA.WFDef R d) (q : σ)
    (hq : q ∈ d.states) (a : α) (ha : a ∈ d.syms) (t : σ) (ht : t ∉ d.states) :
    DFA.validateDef R (setEntry d q a t) = .error (.lib .invalidStateError) := by
  obtain ⟨kv, hkv, rfl⟩ := List.mem_map.mp (wf.rows q hq)
  obtain ⟨kv', hkv', _, _, hval⟩ := editRow_ainsert_mem a t d.trans kv hkv
  refine (DFA.defRules_correct R).raises_of_frame ((DFA.validateDef_eq_ok R d).mpr wf)
    (setEntry_frame R d kv.1 a t) .unknownEndState ⟨kv', hkv', t, hval, ht⟩ fun r' => ?_
  cases r'
  case unknownSymbol => exact fun h => absurd ha h
  case unknownEndState => exact fun _ => .inl rfl
  all_goals exact False.elim

/-- DFA / `transitions[q][a] = t` with `a` not an input symbol, in a valid DFA →
`InvalidSymbolError` ("unknown transition symbol"). -/
theorem C19_dfa_corrupt_symbol (R : Reserved σ α) (d : DFA σ α) (wf : DFA.WFDef R d) (q : σ)
    (hq : q ∈ d.states) (a : α) (ha : a ∉ d.syms) (t : σ) (ht : t ∈ d.states) :
    DFA.validateDef R (setEntry d q a t) = .error (.lib .invalidSymbolError) := by
  obtain ⟨kv, hkv, rfl⟩ := List.mem_map.mp (wf.rows q hq)
  obtain ⟨kv', hkv', _, hkey, _⟩ := editRow_ainsert_mem a t d.trans kv hkv
  refine (DFA.defRules_correct R).raises_of_frame ((DFA.validateDef_eq_ok R d).mpr wf)
    (setEntry_frame R d kv.1 a t) .unknownSymbol ⟨kv', hkv', a, hkey, ha⟩ fun r' => ?_
  cases r'
  case unknownSymbol => exact fun _ => .inl rfl
  case unknownEndState => exact fun h => absurd ht h
  all_goals exact False.elim

/-- NFA / the row of the initial state removed (more than one state) → `MissingStateError`
("initial state without transitions"). -/
theorem C19_nfa_corrupt_initial_row (R : Reserved σ α) (n : NFA σ α) (wf : NFA.WFDef R n)
    (hlen : 1 < n.states.length) :
    NFA.validateDef R { n with trans := n.trans.filter (fun kv => decide (kv.1 ≠ n.init)) } =
      .error (.lib .missingStateError) := by
  have hsub : ∀ kv ∈ n.trans.filter (fun kv => decide (kv.1 ≠ n.init)), kv ∈ n.trans :=
    fun kv h => (List.mem_filter.mp h).1
  refine wf.raises .initialNoRow ⟨not_mem_akeys_filter_ne n.init n.trans, hlen⟩ fun r' => ?_
  cases r'
  case reservedStateName => exact fun _ h => h.imp_right fun ⟨x, hx, hn⟩ => ⟨x, List.map_subset _ hsub hx, hn⟩
  case unknownSymbol => exact fun _ ⟨kv, hkv, h⟩ => ⟨kv, hsub kv hkv, h⟩
  case unknownEndState => exact fun _ ⟨kv, hkv, h⟩ => ⟨kv, hsub kv hkv, h⟩
  all_goals rule_unaffected

/-- NFA / `transitions[q][a] = ts` with a non-state among `ts`, `a` an input symbol or `""`, in a
valid NFA → `InvalidStateError` ("unknown end state"). -/
theorem C19_nfa_corrupt_end_state (R : Reserved σ α) (n : NFA σ α) (wf : NFA.WFDef R n) (q : σ)
    (hq : q ∈ akeys n.trans) (a : Option α) (ha : ∀ x, a = some x → x ∈ n.syms) (ts : List σ) (t : σ)
    (ht : t ∈ ts) (hnt : t ∉ n.states) :
    NFA.validateDef R (NFA.setEntry n q a ts) = .error (.lib .invalidStateError) := by
  obtain ⟨kv, hkv, rfl⟩ := List.mem_map.mp hq
  obtain ⟨kv', hkv', _, _, hval⟩ := editRow_ainsert_mem a ts n.trans kv hkv
  refine wf.raises .unknownEndState ⟨kv', hkv', ts, hval, t, ht, hnt⟩ fun r' => ?_
  cases r'
  case unknownSymbol =>
    -- same stage, other class: the new entry uses a legal symbol
    rintro _ ⟨kv', hkv', b, hb, hnb⟩
    obtain ⟨kv, hkv, _, hkeys, _⟩ := mem_editRow_ainsert _ a ts n.trans kv' hkv'
    exact absurd ((hkeys _ hb).elim (fun h => ha b h.symm) (wf.symsOk kv hkv b)) hnb
  all_goals rule_unaffected

/-- NFA / `transitions[q][a] = ts` with `a` neither an input symbol nor `""`, `ts` states, in a
valid NFA → `InvalidSymbolError` ("unknown transition symbol"). -/
theorem C19_nfa_corrupt_symbol (R : Reserved σ α) (n : NFA σ α) (wf : NFA.WFDef R n) (q : σ)
    (hq : q ∈ akeys n.trans) (a : α) (ha : a ∉ n.syms) (ts : List σ) (hts : ∀ t ∈ ts, t ∈ n.states) :
    NFA.validateDef R (NFA.setEntry n q (some a) ts) = .error (.lib .invalidSymbolError) := by
  obtain ⟨kv, hkv, rfl⟩ := List.mem_map.mp hq
  obtain ⟨kv', hkv', _, hkey, _⟩ := editRow_ainsert_mem (some a) ts n.trans kv hkv
  refine wf.raises .unknownSymbol ⟨kv', hkv', a, hkey, ha⟩ fun r' => ?_
  cases r'
  case reservedStateName => exact fun _ h => h.imp_right fun h => NFA.setEntry_keys n _ (some a) ts ▸ h
  case unknownEndState =>
    -- same stage, other class: the new entry leads to states
    rintro _ ⟨kv', hkv', us, hus, p, hp, hnp⟩
    obtain ⟨kv, hkv, _, _, hvals, _⟩ := mem_editRow_ainsert _ (some a) ts n.trans kv' hkv'
    exact absurd ((hvals us hus).elim (fun h => hts p (h ▸ hp)) fun h => wf.tgtOk kv hkv us h p hp) hnp
  all_goals rule_unaffected

/-- DFA / `None` added to the state set → `InvalidStateError` — for every definition, valid or
not, and although the new state has no row (`MissingStateError` is checked later). -/
theorem C19_dfa_corrupt_none_state (R : Reserved σ α) (d : DFA σ α) (q : σ) (hq : R.isNone q = true) :
    DFA.validateDef R { d with states := q :: d.states } = .error (.lib .invalidStateError) := by
  refine (DFA.defRules_correct R).raises .reservedStateName (.inl ⟨q, .head _, hq⟩) fun r' => ?_
  cases r' <;> exact fun h => absurd h Bool.false_ne_true

/-- DFA / a row keyed by `None` added to the transition table (fix f47420f) → `InvalidStateError`,
for every definition — rows keyed by other names that are not states are accepted. -/
theorem C19_dfa_corrupt_none_row_key (R : Reserved σ α) (d : DFA σ α) (q : σ) (hq : R.isNone q = true)
    (row : List (α × σ)) :
    DFA.validateDef R { d with trans := d.trans ++ [(q, row)] } = .error (.lib .invalidStateError) := by
  refine (DFA.defRules_correct R).raises .reservedStateName
    (.inr ⟨q, List.mem_map.mpr ⟨(q, row), List.mem_append_right _ (.head _), rfl⟩, hq⟩) fun r' => ?_
  cases r' <;> exact fun h => absurd h Bool.false_ne_true

/-- DFA / `""` added to the input symbols of a definition without a state or row named `None` →
`InvalidSymbolError` (although the rows of a complete DFA now lack a symbol: `MissingSymbolError`
is checked later). -/
theorem C19_dfa_corrupt_empty_symbol (R : Reserved σ α) (d : DFA σ α)
    (hn : ∀ q ∈ d.states, R.isNone q = false) (hk : ∀ q ∈ akeys d.trans, R.isNone q = false) (a : α)
    (ha : R.isEmptyStr a = true) :
    DFA.validateDef R { d with syms := a :: d.syms } = .error (.lib .invalidSymbolError) := by
  refine (DFA.defRules_correct R).raises .reservedInputSymbol ⟨a, .head _, ha⟩ fun r' => ?_
  cases r'
  case reservedStateName =>
    exact fun _ h => h.elim (fun ⟨p, hp, hb⟩ => Bool.noConfusion ((hn p hp).symm.trans hb))
      fun ⟨p, hp, hb⟩ => Bool.noConfusion ((hk p hp).symm.trans hb)
  all_goals exact fun h => absurd h Bool.false_ne_true

/-- NFA / `None` added to the state set → `InvalidStateError`, for every definition. -/
theorem C19_nfa_corrupt_none_state (R : Reserved σ α) (n : NFA σ α) (q : σ) (hq : R.isNone q = true) :
    NFA.validateDef R { n with states := q :: n.states } = .error (.lib .invalidStateError) := by
  refine (NFA.defRules_correct R).raises .reservedStateName (.inl ⟨q, .head _, hq⟩) fun r' => ?_
  cases r' <;> exact fun h => absurd h Bool.false_ne_true

/-- NFA / a row keyed by `None` added to the transition table → `InvalidStateError`, for every
definition. -/
theorem C19_nfa_corrupt_none_row_key (R : Reserved σ α) (n : NFA σ α) (q : σ) (hq : R.isNone q = true)
    (row : List (Option α × List σ)) :
    NFA.validateDef R { n with trans := n.trans ++ [(q, row)] } = .error (.lib .invalidStateError) := by
  refine (NFA.defRules_correct R).raises .reservedStateName
    (.inr ⟨q, List.mem_map.mpr ⟨(q, row), List.mem_append_right _ (.head _), rfl⟩, hq⟩) fun r' => ?_
  cases r' <;> exact fun h => absurd h Bool.false_ne_true

/-- NFA / `""` added to the input symbols of a definition without a state or row named `None` →
`InvalidSymbolError`. -/
theorem C19_nfa_corrupt_empty_symbol (R : Reserved σ α) (n : NFA σ α)
    (hn : ∀ q ∈ n.states, R.isNone q = false) (hk : ∀ q ∈ akeys n.trans, R.isNone q = false) (a : α)
    (ha : R.isEmptyStr a = true) :
    NFA.validateDef R { n with syms := a :: n.syms } = .error (.lib .invalidSymbolError) := by
  refine (NFA.defRules_correct R).raises .reservedInputSymbol ⟨a, .head _, ha⟩ fun r' => ?_
  cases r'
  case reservedStateName =>
    exact fun _ h => h.elim (fun ⟨p, hp, hb⟩ => Bool.noConfusion ((hn p hp).symm.trans hb))
      fun ⟨p, hp, hb⟩ => Bool.noConfusion ((hk p hp).symm.trans hb)
  all_goals exact fun h => absurd h Bool.false_ne_true

/-- DPDA / `""` added to the stack symbols → `InvalidSymbolError`, for every definition (the
first statement of `PDA.validate`). -/
theorem C19_dpda_corrupt_empty_stack_symbol (isEmptyStr : γ → Bool) (d : DPDA σ α γ) (g : γ)
    (hg : isEmptyStr g = true) :
    ({ d with stackSyms := g :: d.stackSyms } : DPDA σ α γ).validateDef isEmptyStr =
      .error (.lib .invalidSymbolError) := by
  refine (DPDA.defRules_correct isEmptyStr).raises .reservedStackSymbol ⟨g, .head _, hg⟩ fun r' => ?_
  cases r' <;> exact fun h => absurd h Bool.false_ne_true

/-- NPDA / `""` added to the stack symbols → `InvalidSymbolError`, for every definition. -/
theorem C19_npda_corrupt_empty_stack_symbol (isEmptyStr : γ → Bool) (d : NPDA σ α γ) (g : γ)
    (hg : isEmptyStr g = true) :
    ({ d with stackSyms := g :: d.stackSyms } : NPDA σ α γ).validateDef isEmptyStr =
      .error (.lib .invalidSymbolError) := by
  refine (NPDA.defRules_correct isEmptyStr).raises .reservedStackSymbol ⟨g, .head _, hg⟩ fun r' => ?_
  cases r' <;> exact fun h => absurd h Bool.false_ne_true

/-- Which exception classes the validation methods of every class can raise (regenerated from
/repo on every run; the error kinds of the model's rule systems mirror exactly this table).
Stated per class and as a set (sorted, no repeats), so that splitting, merging or moving a check
inside a class — a harmless rewrite — does not touch it, while dropping the last raise of a kind or
adding a new kind does. -/
theorem C19_raise_sites :
    Gen.Validate.raiseKinds =
      [("Automaton", ["InvalidStateError", "MissingStateError"]),
       ("FA", ["InvalidStateError", "InvalidSymbolError"]),
       ("DFA", ["InvalidStateError", "InvalidSymbolError", "MissingStateError", "MissingSymbolError"]),
       ("NFA", ["InvalidStateError", "InvalidSymbolError"]),
       ("GNFA", ["InvalidRegexError", "InvalidStateError", "MissingStateError"]),
       ("PDA", ["InvalidAcceptanceModeError", "InvalidSymbolError"]),
       ("DPDA", ["NondeterminismError"]),
       ("TM", ["InitialStateError", "InvalidSymbolError", "MissingSymbolError"]),
       ("DTM", ["FinalStateError", "InvalidDirectionError", "InvalidStateError", "InvalidSymbolError"]),
       ("NTM", ["FinalStateError", "InvalidDirectionError", "InvalidStateError", "InvalidSymbolError"]),
       ("MNTM", ["InconsistentTapesException", "InvalidStateError", "InvalidSymbolError"])] :=
  rfl

/-- The order in which `validate()` of each class calls its checks (regenerated); the stages of
the rule systems follow this order. -/
theorem C19_validate_call_order :
    Gen.Validate.validateCalls.filter (fun t => ["DFA", "NFA", "GNFA", "PDA", "DTM", "NTM", "MNTM",
        "DFA._validate_transitions", "DPDA._validate_transition_invalid_symbols",
        "NPDA._validate_transition_invalid_symbols", "DTM._validate_transitions",
        "NTM._validate_transitions", "GNFA.__post_init__", "Automaton.__post_init__"].contains t.1) =
      [("Automaton.__post_init__", ["validate"]),
       ("DFA._validate_transitions", ["_validate_transition_missing_symbols",
          "_validate_transition_invalid_symbols", "_validate_transition_end_states"]),
       ("DFA", ["_validate_reserved_names", "_validate_transition_start_states", "_validate_transitions",
          "_validate_initial_state", "_validate_final_states"]),
       ("NFA", ["_validate_reserved_names", "_validate_transition_invalid_symbols",
          "_validate_transition_end_states", "_validate_initial_state", "_validate_initial_state_transitions",
          "_validate_final_states"]),
       ("GNFA.__post_init__", ["validate"]),
       ("GNFA", ["_validate_initial_state", "_validate_final_state",
          "_validate_transition_invalid_symbols", "_validate_transition_end_states",
          "_validate_initial_state_transitions"]),
       ("PDA", ["_validate_transition_invalid_symbols", "_validate_initial_state",
          "_validate_initial_stack_symbol", "_validate_final_states", "_validate_acceptance"]),
       ("DPDA._validate_transition_invalid_symbols", ["_validate_transition_invalid_input_symbols",
          "_validate_transition_isolated_lambda_transitions", "_validate_transition_invalid_stack_symbols"]),
       ("NPDA._validate_transition_invalid_symbols", ["_validate_transition_invalid_input_symbols",
          "_validate_transition_invalid_stack_symbols"]),
       ("DTM._validate_transitions", ["_validate_transition_state", "_validate_transition_symbols",
          "_validate_transition_results"]),
       ("DTM", ["_read_input_symbol_subset", "_validate_blank_symbol", "_validate_transitions",
          "_validate_initial_state", "_validate_initial_state_transitions",
          "_validate_nonfinal_initial_state", "_validate_final_states",
          "_validate_final_state_transitions"]),
       ("NTM._validate_transitions", ["_validate_transition_state", "_validate_transition_symbols",
          "_validate_transition_results"]),
       ("NTM", ["_read_input_symbol_subset", "_validate_blank_symbol", "_validate_transitions",
          "_validate_initial_state", "_validate_initial_state_transitions",
          "_validate_nonfinal_initial_state", "_validate_final_states",
          "_validate_final_state_transitions"]),
       ("MNTM", ["super.validate", "_validate_tapes_consistency"])] := by
  decide +kernel

/-- The literals the checks compare against are the documented ones; the reserved names are
`None` (state name or row key) and the empty string (input symbol of a DFA / NFA, stack symbol of a PDA),
tested before anything else by `DFA.validate`, `NFA.validate` and `PDA.validate`. -/
theorem C19_literals :
    Gen.Validate.dtmDirections = ["L", "N", "R"] ∧ Gen.Validate.ntmDirections = ["L", "N", "R"] ∧
    Gen.Validate.pdaAcceptanceModes = ["final_state", "empty_stack", "both"] ∧
    (∀ c ∈ ["*", "|", "(", ")", "?"], c ∈ Gen.Validate.gnfaLabelExtra) ∧
    Gen.Validate.gnfaLabelExtra.length = 5 ∧
    Gen.Slots.configDefaults = [("should_validate_automata", true), ("allow_mutable_automata", false)] ∧
    Gen.Validate.reservedNameChecks =
      [("FA._validate_reserved_names",
          ["if None in self.states or None in self.transitions: raise InvalidStateError",
           "if '' in self.input_symbols: raise InvalidSymbolError"]),
       ("DFA.validate", ["self._validate_reserved_names()", "self._validate_transition_start_states()", "for",
          "self._validate_initial_state()", "self._validate_final_states()"]),
       ("NFA.validate", ["self._validate_reserved_names()", "for", "self._validate_initial_state()",
          "self._validate_initial_state_transitions()", "self._validate_final_states()"]),
       ("PDA.validate", ["if '' in self.stack_symbols: raise InvalidSymbolError", "for",
          "self._validate_initial_state()", "self._validate_initial_stack_symbol()",
          "self._validate_final_states()", "self._validate_acceptance()"])] :=
  ⟨rfl, rfl, rfl, by decide +kernel, rfl, rfl, rfl⟩

/-- On a valid input, all four combinations of `should_validate_automata` /
`allow_mutable_automata` construct an object, and all four objects have the abstract value of
the arguments (so they agree on everything that is a function of the abstract value; that the
library's operations are such functions is not part of the statement).  `abs` / `freeze`
are any representation whose freezing preserves the abstract value (`C18_freeze_value` for
Python values, instance below); `alwaysValidate` is `GNFA.__post_init__`. -/
theorem C19_options {κ δ : Type} (abs : κ → δ) (freeze : κ → κ) (v : δ → Res Unit)
    (alwaysValidate : Bool) (hfz : ∀ c, abs (freeze c) = abs c) (c : κ) (hvalid : v (abs c) = .ok ())
    (shouldValidate allowMutable : Bool) :
    ∃ s, construct abs freeze v alwaysValidate shouldValidate allowMutable c = .ok s ∧ abs s = abs c := by
  rw [construct_eq hfz, hvalid]
  refine ⟨_, ite_self _, ?_⟩
  cases allowMutable
  · exact hfz c
  · rfl

/-- On an invalid input, with validation on, the same error is raised whether or not mutable
automata are allowed; with validation off nothing is raised (except by GNFA, which always
validates). -/
theorem C19_options_invalid {κ δ : Type} (abs : κ → δ) (freeze : κ → κ) (v : δ → Res Unit)
    (hfz : ∀ c, abs (freeze c) = abs c) (c : κ) (e : Exn) (hinvalid : v (abs c) = .error e)
    (allowMutable : Bool) :
    construct abs freeze v false true allowMutable c = .error e ∧
    construct abs freeze v true false allowMutable c = .error e ∧
    ∃ s, construct abs freeze v false false allowMutable c = .ok s := by
  simp only [construct_eq hfz, hinvalid]
  exact ⟨rfl, rfl, _, rfl⟩

/-- Instance for the real representation: constructor arguments as Python values, stored by
`Automaton.__init__` (`storeKwargs`), abstract value = names with `norm`-alised values, any
validator that reads the abstract value (for the DFA validator on decoded keyword arguments this is
`decodeDFA_normKw`, used in `C19_options_kwargs_dfa`, Props/C19c.lean). -/
theorem C19_options_kwargs (v : List (String × PyVal) → Res Unit) (alwaysValidate : Bool)
    (kwargs : List (String × PyVal))
    (hvalid : v (kwargs.map fun kv => (kv.1, kv.2.norm)) = .ok ())
    (shouldValidate allowMutable : Bool) :
    ∃ stored, construct (fun kw : List (String × PyVal) => kw.map fun kv => (kv.1, kv.2.norm))
        (storeKwargs false) v alwaysValidate shouldValidate allowMutable kwargs = .ok stored ∧
      stored.map (fun kv => (kv.1, kv.2.norm)) = kwargs.map (fun kv => (kv.1, kv.2.norm)) :=
  C19_options _ _ v alwaysValidate normKw_storeKwargs kwargs hvalid shouldValidate allowMutable

/-- Instances at the typed validators (DFA; GNFA, which always validates): a valid definition is
accepted and stored as it is under all four combinations. -/
theorem C19_options_dfa (R : Reserved σ α) (d : DFA σ α) (hv : DFA.validateDef R d = .ok ())
    (sv am : Bool) : construct id id (DFA.validateDef R) false sv am d = .ok d := by
  obtain ⟨s, hs, rfl⟩ := C19_options id id (DFA.validateDef R) false (fun _ => rfl) d hv sv am
  exact hs

theorem C19_options_gnfa (g : GNFA σ α) (hv : g.validate = .ok ()) (sv am : Bool) :
    construct id id GNFA.validate true sv am g = .ok g := by
  obtain ⟨s, hs, rfl⟩ := C19_options id id GNFA.validate true (fun _ => rfl) g hv sv am
  exact hs

/-- GNFA ignores `should_validate_automata`: an ill-formed GNFA is rejected even with validation
switched off. -/
theorem C19_gnfa_always_validates (g : GNFA σ α) (e : Exn) (h : g.validate = .error e) (sv am : Bool) :
    construct id id GNFA.validate true sv am g = .error e := by
  rw [construct_eq (abs := id) (freeze := id) (fun _ => rfl), id, h, Bool.or_true]
  rfl

/-! ## results are valid — statement of the obligation (partial)

Every automaton returned by a library operation passes validation.  The operations are
modelled in the files of C04–C17, whose property theorems carry the corresponding `Valid`
conclusions; this file does not import them, so the obligation is stated here over an arbitrary
family of modelled operations and proved only for the operation this file models itself
(`copy`); Props/C19b.lean states it operation by operation, as the fields of its structure
`ResultsValid` (not as an instance of the definition below), and fills every field from those
theorems.  On the real code it is checked by
harness/ops/C19.py: every result of every public operation is re-validated, with automatic
validation switched off during the call. -/

/-- Full statement: `ops` is the family of modelled operations of a class with definitions `δ`
(each takes valid operands and returns a definition or raises). -/
def C19_results_valid_full (δ : Type) (validate : δ → Res Unit) (ops : List (List δ → Res δ)) : Prop :=
  ∀ op ∈ ops, ∀ args : List δ, (∀ a ∈ args, validate a = .ok ()) →
    ∀ r, op args = .ok r → validate r = .ok ()

/-- The obligation for the one-element family "return the operand" (what `copy()` is at the level
of definitions, by `C18_copy_roundtrip`): a valid operand is a valid result. -/
theorem C19_results_valid_partial (δ : Type) (validate : δ → Res Unit) :
    C19_results_valid_full δ validate [fun args => match args with | [a] => .ok a | _ => .error (.py .typeError)] := by
  intro op hop args hargs r hr
  simp only [List.mem_singleton] at hop
  subst hop
  match args, hargs, hr with
  | [a], hargs, hr =>
    simp only [Except.ok.injEq] at hr
    subst hr
    exact hargs a (by simp)

def exDFA : DFA Nat Nat :=
  { states := [0, 1], syms := [0, 1], trans := [(0, [(0, 1), (1, 0)]), (1, [(0, 1), (1, 1)]), (7, [(0, 0), (1, 0)])],
    init := 0, finals := [1], allowPartial := false }

/-- names 99 / 77 stand for `None` / `""` -/
def exR : Reserved Nat Nat := ⟨(· == 99), (· == 77)⟩

example : DFA.validateDef exR exDFA = .ok () := by decide +kernel
example : DFA.validateDef exR { exDFA with init := 5 } = .error (.lib .invalidStateError) := by decide +kernel
example : DFA.validateDef exR { exDFA with trans := exDFA.trans.tail } = .error (.lib .missingStateError) := by
  decide +kernel
example : DFA.validateDef exR { exDFA with trans := [(0, [(0, 1)]), (1, [(0, 1), (1, 1)])] } =
    .error (.lib .missingSymbolError) := by decide +kernel
/-- `None` among the states wins over the missing row / the bad initial state -/
example : DFA.validateDef exR { exDFA with states := [0, 1, 99], trans := exDFA.trans.tail } =
    .error (.lib .invalidStateError) := by decide +kernel
/-- a row keyed by `None` is refused (fix f47420f), a row keyed by another non-state (7) is not -/
example : DFA.validateDef exR { exDFA with trans := exDFA.trans ++ [(99, [(0, 0), (1, 0)])] } =
    .error (.lib .invalidStateError) := by decide +kernel
/-- `""` among the input symbols wins over the rows that now lack a symbol -/
example : DFA.validateDef exR { exDFA with syms := [0, 1, 77] } = .error (.lib .invalidSymbolError) := by decide +kernel
example : ({ exDFA with syms := [0, 1, 77] } : DFA Nat Nat).validate = .error (.lib .missingSymbolError) := by
  decide +kernel

/-! Definitions that use a reserved name (a state `None`, the symbol `""`, the stack symbol `""`),
under the concrete interpretation `Reserved.python` (`none : Option _` is `None`, `""` is the empty
string): every check of `validate` passes, the reserved-name check of `validateDef` (/repo b159ae7,
07f4843, cb4efab, f47420f) rejects them. -/

/-- `DFA(states={0,None}, input_symbols={'a','b'}, transitions={0:{'a':0}, None:{}},
initial_state=0, final_states={None}, allow_partial=True)`: without the reserved-name check (/repo b159ae7) it
would accept `'b'`. -/
def x1DFA : DFA (Option Nat) String :=
  { states := [some 0, none], syms := ["a", "b"], trans := [(some 0, [("a", some 0)]), (none, [])],
    init := some 0, finals := [none], allowPartial := true }

example : x1DFA.validate = .ok () := by decide +kernel
example : DFA.validateDef Reserved.python x1DFA = .error (.lib .invalidStateError) := by decide +kernel

/-- an NFA over `{"", "a"}`: `""` as an input symbol (refused since /repo 07f4843) -/
def emptySymNFA : NFA (Option Nat) String :=
  { states := [some 0], syms := ["", "a"], trans := [(some 0, [(some "a", [some 0])])], init := some 0,
    finals := [some 0] }

/-- `DFA(states={0,1}, input_symbols={'a'}, transitions={0:{'a':1}, 1:{'a':1}, None:{'a':0}},
initial_state=0, final_states={1})`: a row keyed by `None`; `validate` passes, the reserved-name check
(/repo f47420f) refuses it (`isfinite()` / `len()` / `successor()` would raise networkx's
`ValueError: None cannot be a node`). -/
def f33DFA : DFA (Option Nat) String :=
  { states := [some 0, some 1], syms := ["a"],
    trans := [(some 0, [("a", some 1)]), (some 1, [("a", some 1)]), (none, [("a", some 0)])],
    init := some 0, finals := [some 1], allowPartial := false }

example : f33DFA.validate = .ok () := by decide +kernel
example : DFA.validateDef Reserved.python f33DFA = .error (.lib .invalidStateError) := by decide +kernel

example : emptySymNFA.validate = .ok () := by decide +kernel
example : NFA.validateDef Reserved.python emptySymNFA = .error (.lib .invalidSymbolError) := by decide +kernel

def exGNFA : GNFA Nat Nat :=
  { states := [0, 1, 2], syms := [0],
    trans := [(0, [(1, some ⟨[.sym 0], .valid⟩), (2, none)]),
              (1, [(1, some ⟨[.sym 0, .extra "*"], .valid⟩), (2, some ⟨[], .valid⟩)])],
    init := 0, final := 2 }

example : exGNFA.validate = .ok () := by decide +kernel
example : ({ exGNFA with final := 0 } : GNFA Nat Nat).validate = .error (.lib .invalidStateError) := by decide +kernel
example : ({ exGNFA with trans := exGNFA.trans.take 1 } : GNFA Nat Nat).validate =
    .error (.lib .missingStateError) := by decide +kernel
example : ({ exGNFA with trans := [(0, [(1, some ⟨[.sym 9], .valid⟩), (2, none)]), (1, [(1, none), (2, none)])] } :
    GNFA Nat Nat).validate = .error (.lib .invalidRegexError) := by decide +kernel

def exDPDA : DPDA Nat Nat Nat :=
  { states := [0, 1], syms := [0], stackSyms := [0, 1],
    trans := [(0, [(some 0, [(0, (0, [1, 0]))]), (none, [(1, (1, []))])])],
    init := 0, initStack := 0, finals := [1], mode := "final_state" }

example : exDPDA.validateDef (· == 77) = .ok () := by decide +kernel
/-- the λ-entry placed *after* the conflicting symbol entry is still caught -/
example : ({ exDPDA with trans := [(0, [(some 0, [(0, (0, [1, 0]))]), (none, [(0, (1, []))])])] } :
    DPDA Nat Nat Nat).validateDef (· == 77) = .error (.lib .nondeterminismError) := by decide +kernel
example : ({ exDPDA with mode := "final" } : DPDA Nat Nat Nat).validateDef (· == 77) =
    .error (.lib .invalidAcceptanceModeError) := by decide +kernel
/-- `""` among the stack symbols is the first error, whatever else is wrong -/
example : ({ exDPDA with stackSyms := [0, 1, 77], mode := "final" } : DPDA Nat Nat Nat).validateDef (· == 77) =
    .error (.lib .invalidSymbolError) := by decide +kernel

/-- A PDA table keyed by the stack symbol `""` lets an *empty* stack make a move
(`PDAStack.top()` of an empty stack is `""`): `NPDA(states={0,1}, input_symbols={'a'},
stack_symbols={'Z',''}, transitions={0: {'': {'Z': {(0,'')}, '': {(1,'Z')}}}}, initial_state=0,
initial_stack_symbol='Z', final_states={1}, acceptance_mode='final_state')` would accept `''`.
`validate` passes, the reserved-name check (/repo cb4efab) rejects it. -/
def emptyStackSymNPDA : NPDA Nat String String :=
  { states := [0, 1], syms := ["a"], stackSyms := ["Z", ""],
    trans := [(0, [(none, [("Z", [(0, [])]), ("", [(1, ["Z"])])])])],
    init := 0, initStack := "Z", finals := [1], mode := "final_state" }

example : emptyStackSymNPDA.validate = .ok () := by decide +kernel
example : emptyStackSymNPDA.validateDef (· == "") = .error (.lib .invalidSymbolError) := by decide +kernel

def exMNTM : MNTM Nat Nat :=
  { states := [0, 1], syms := [0], tapeSyms := [0, 9], nTapes := 2,
    trans := [(0, [([0, 9], [(1, [(0, "R"), (9, "N")])]), ([9, 9], [])])],
    init := 0, blank := 9, finals := [1] }

example : exMNTM.validate = .ok () := by decide +kernel
example : ({ exMNTM with nTapes := 3 } : MNTM Nat Nat).validate = .error (.lib .inconsistentTapesException) := by
  decide +kernel
example : ({ exMNTM with finals := [0, 1] } : MNTM Nat Nat).validate = .error (.lib .initialStateError) := by decide +kernel
example : ({ exMNTM with trans := [(0, [([0, 9], [(1, [(0, "R"), (9, "X")])])])] } : MNTM Nat Nat).validate =
    .error (.lib .invalidDirectionError) := by decide +kernel
example : ({ exMNTM with syms := [0, 9] } : MNTM Nat Nat).validate = .error (.lib .missingSymbolError) := by decide +kernel

end AV.Props.C19
