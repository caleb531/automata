/-
Props/C20.lean — C20: query answers do not depend on what was asked before (caches stay
coherent).

English statement (properties.jsonl): the answer to any query on an automaton (acceptance,
counts and word lists for any length, cardinality, lengths, emptiness, finiteness, iteration,
successor search, comparisons, equality, determinisation) is the same whether it is the first
call on a fresh object or comes after any sequence of other queries, repeated queries,
partially consumed generators or cache clearing on the same object.  In particular results
for a shorter length asked after a longer one, and vice versa, are identical.

In the terms of Model/DFACache.lean: for every finite history the answers of `step` on one
instance are those of the stateless reference `stepPure`, which keeps nothing but each generator's
own position and computes every answer from the definition alone (`C20_history`, `C20_fresh`); a
live generator of any of the three kinds, advanced one `next()` at a time between arbitrary other
calls, delivers the stream of its atomic run (`C20_generator`).  The same for NFA objects and
`_get_lambda_closures` (Model/NFACache.lean, `C20_nfa_history`).

Lengths are naturals (`k : Nat`): negative lengths index the caches from the end in the real
code and *are* history dependent (finding F18, outside the domain).
`minify()` (partial DFA) and `to_partial()` read `_get_digraph()` through the memo (`Query.minify`,
`Query.toPartial`); the rest of their body is a function `Ext.viaGraph` of the definition and of the
graph object they got.
Queries that never touch the caches (`==`, `<=`, `issubset`, `isdisjoint`, `complement`, …) are the
opaque constructor `Query.other`: for them the statement is about the model's claim that they
do not read or write the caches, which the correspondence run checks on the real object.
-/
import AutomataVerif.Proofs.Cache
import AutomataVerif.Proofs.CacheGen
import AutomataVerif.Proofs.NFACache

namespace AV.Props.C20
open AV AV.DFA AV.DFA.CacheGen

variable {σ α : Type} [DecidableEq σ] [DecidableEq α]

/-- The invariant holds for a freshly constructed object. -/
theorem C20_inv_init (d : DFA σ α) (key : α → Int) : d.CacheInv key (Inst.fresh : Inst σ α) :=
  cacheInv_fresh d key

/-- Every public call keeps the invariant and answers exactly like the stateless reference
(same answer, same generator positions). -/
theorem C20_step (d : DFA σ α) (key : α → Int) (ext : Ext σ) (s : Inst σ α)
    (h : d.CacheInv key s) (q : Query α) :
    d.CacheInv key (d.step key ext s q).1 ∧
      (d.step key ext s q).2 = (d.stepPure key ext s.gens q).2 ∧
      (d.step key ext s q).1.gens = (d.stepPure key ext s.gens q).1 := by
  have := step_sim ext h q
  exact ⟨this.1, by rw [this.2], by rw [this.2]⟩

/-- The invariant survives every finite history. -/
theorem C20_inv_history (d : DFA σ α) (key : α → Int) (ext : Ext σ) (qs : List (Query α)) :
    ∀ (s : Inst σ α), d.CacheInv key s → d.CacheInv key (d.afterHistory key ext s qs) :=
  fun s h => (history_sim d key ext qs s h).1

/-- **Refinement for every finite history**: whatever calls are made on one instance, in
whatever order — repeated queries, shorter lengths after longer ones and vice versa,
generators advanced between other calls or abandoned, `clear_cache` at any point — the list
of answers is the list of answers of the stateless reference, which recomputes everything
from the definition. -/
theorem C20_history (d : DFA σ α) (key : α → Int) (ext : Ext σ) (qs : List (Query α)) :
    d.runHistory key ext Inst.fresh qs = d.runPure key ext [] qs :=
  (history_sim d key ext qs Inst.fresh (cacheInv_fresh d key)).2

/-- Queries whose answer is a plain value (everything except creating or advancing a
generator object, whose "answer" is a position in the instance's generator table). -/
def Plain : Query α → Prop
  | .wordsOpen _ => False
  | .iterOpen => False
  | .next _ _ => False
  | .succOpen _ _ _ => False
  | _ => True

theorem stepPure_plain (d : DFA σ α) (key : α → Int) (ext : Ext σ) (g₁ g₂ : List (Gen σ α))
    (q : Query α) (hq : Plain q) :
    (d.stepPure key ext g₁ q).2 = (d.stepPure key ext g₂ q).2 := by
  cases q with
  | wordsOpen k | iterOpen | next h f | succOpen skey input o => exact hq.elim
  | succs skey input o n fuel => cases n <;> rfl
  | minify tag => simp only [stepPure]; cases d.allowPartial <;> rfl
  | _ => rfl

theorem step_after_history (d : DFA σ α) (key : α → Int) (ext : Ext σ) (hist : List (Query α))
    (q : Query α) :
    (d.step key ext (d.afterHistory key ext Inst.fresh hist) q).2 =
      (d.stepPure key ext (d.afterHistory key ext Inst.fresh hist).gens q).2 :=
  (C20_step d key ext _ (C20_inv_history d key ext hist Inst.fresh (cacheInv_fresh d key)) q).2.1

/-- **Fresh = after any history**: the answer to a plain query after an arbitrary history on
the same instance equals its answer as the first call on a fresh object. -/
theorem C20_fresh (d : DFA σ α) (key : α → Int) (ext : Ext σ) (hist : List (Query α))
    (q : Query α) (hq : Plain q) :
    (d.step key ext (d.afterHistory key ext Inst.fresh hist) q).2 =
      (d.step key ext Inst.fresh q).2 := by
  rw [step_after_history]
  exact (stepPure_plain d key ext _ _ q hq).trans (step_after_history d key ext [] q).symm

/-- Counting after any history returns the count computed from the definition — in particular
a shorter length asked after a longer one, and vice versa. -/
theorem C20_count_any_order (d : DFA σ α) (key : α → Int) (ext : Ext σ) (hist : List (Query α))
    (k : Nat) :
    (d.step key ext (d.afterHistory key ext Inst.fresh hist) (.count k)).2 =
      .nat (d.countWordsOfLength k) :=
  step_after_history d key ext hist (.count k)

/-- The same for every cached method: after any history they return what the definition
dictates (the functions characterised in Props/C13.lean). -/
theorem C20_cached_methods (d : DFA σ α) (key : α → Int) (ext : Ext σ) (hist : List (Query α)) :
    let s := d.afterHistory key ext Inst.fresh hist
    (d.step key ext s .cardinality).2 = ansOfRes .nat d.cardinality ∧
    (d.step key ext s .len).2 = ansOfRes .nat d.len ∧
    (d.step key ext s .minLen).2 = ansOfRes .nat d.minimumWordLength ∧
    (d.step key ext s .maxLen).2 = ansOfRes .optNat d.maximumWordLength ∧
    (d.step key ext s .isEmpty).2 = .bool d.isEmpty ∧
    (d.step key ext s .isFinite).2 = ansOfRes .bool d.isFinite := by
  refine ⟨?_, ?_, ?_, ?_, ?_, ?_⟩ <;> exact step_after_history d key ext hist _

/-- The answers to the `next(g_h)` calls inside a history, in order. -/
def nextAnswers (h : Nat) : List (Query α) → List (Ans α) → List (Ans α)
  | .next h' _ :: qs, a :: as => if h' = h then a :: nextAnswers h qs as else nextAnswers h qs as
  | _ :: qs, _ :: as => nextAnswers h qs as
  | _, _ => []

/-- What a generator walking the list `R` delivers to `n` successive `next` calls. -/
def wordsStream : List (List α) → Nat → List (Ans α)
  | _, 0 => []
  | [], n + 1 => .stop :: wordsStream [] n
  | w :: R, n + 1 => .word w :: wordsStream R n

/-- Number of `next(g_h)` calls in a history (not `DFA.countNext`, the next level of the count
cache, which this name hides inside the namespace). -/
def countNext (h : Nat) : List (Query α) → Nat
  | [] => 0
  | .next h' _ :: qs => if h' = h then countNext h qs + 1 else countNext h qs
  | _ :: qs => countNext h qs

/-- The fuels of the `next(g_h)` calls inside a history, in order. -/
def nextFuels (h : Nat) : List (Query α) → List Nat
  | [] => []
  | .next h' f :: qs => if h' = h then f :: nextFuels h qs else nextFuels h qs
  | _ :: qs => nextFuels h qs

section
omit [DecidableEq α]

theorem nextAnswers_skip {h : Nat} {q : Query α} (hq : ∀ f, q ≠ .next h f) (qs : List (Query α))
    (a : Ans α) (as : List (Ans α)) : nextAnswers h (q :: qs) (a :: as) = nextAnswers h qs as := by
  cases q with
  | next h' f =>
    have : h' ≠ h := fun e => hq f (e ▸ rfl)
    simp only [nextAnswers, this, if_false]
  | _ => rfl

theorem nextFuels_skip {h : Nat} {q : Query α} (hq : ∀ f, q ≠ .next h f) (qs : List (Query α)) :
    nextFuels h (q :: qs) = nextFuels h qs := by
  cases q with
  | next h' f =>
    have : h' ≠ h := fun e => hq f (e ▸ rfl)
    simp only [nextFuels, this, if_false]
  | _ => rfl

theorem length_nextFuels (h : Nat) (qs : List (Query α)) : (nextFuels h qs).length = countNext h qs := by
  induction qs with
  | nil => rfl
  | cons q qs ih =>
    cases q with
    | next h' f =>
      simp only [nextFuels, countNext]
      split
      · rw [List.length_cons, ih]
      · exact ih
    | _ => exact ih

end

/-- **Non-interference** (stateless reference): whatever other queries are interleaved — other
generators of any kind, counts, `clear_cache`, … — the answers to the `next` calls of one
generator are those of the same generator advanced on its own (`soloAnswers`). -/
theorem runPure_gen_solo (d : DFA σ α) (key : α → Int) (ext : Ext σ) (h : Nat) :
    ∀ (qs : List (Query α)) (gens : List (Gen σ α)) (g : Gen σ α), gens[h]? = some g →
      nextAnswers h qs (d.runPure key ext gens qs) = soloAnswers d key g (nextFuels h qs) := by
  intro qs
  induction qs with
  | nil => intro gens g _; rfl
  | cons q qs ih =>
    intro gens g hg
    by_cases hq : ∃ f, q = .next h f
    · obtain ⟨f, rfl⟩ := hq
      simp only [runPure, stepPure, hg, nextAnswers, nextFuels, if_true, soloAnswers]
      congr 1
      exact ih _ _ (by simp [(List.getElem?_eq_some_iff.mp hg).1])
    · have hq' : ∀ f, q ≠ .next h f := fun f e => hq ⟨f, e⟩
      rw [runPure, nextAnswers_skip hq', nextFuels_skip hq']
      exact ih _ g (stepPure_slot d key ext hg hq')

/-- What is left of a `words_of_length` generator. -/
def remaining (d : DFA σ α) (key : α → Int) : Gen σ α → Option (List (List α))
  | .wordsNew k => some (d.wordsOfLength key k)
  | .wordsRun rest => some rest
  | .done => some []
  | _ => none

theorem soloAnswers_words (d : DFA σ α) (key : α → Int) :
    ∀ (fs : List Nat) (g : Gen σ α) (R : List (List α)), remaining d key g = some R →
      soloAnswers d key g fs = wordsStream R fs.length := by
  intro fs
  induction fs with
  | nil => intro g R _; rfl
  | cons f fs ih =>
    intro g R hR
    cases g with
    | wordsNew k =>
      cases hR
      simp only [soloAnswers, pGenNext, List.length_cons]
      cases d.wordsOfLength key k with
      | nil => exact congrArg _ (ih .done [] rfl)
      | cons w rest => exact congrArg _ (ih (.wordsRun rest) rest rfl)
    | wordsRun rest =>
      obtain rfl : rest = R := Option.some.inj hR
      cases rest with
      | nil => exact congrArg _ (ih .done [] rfl)
      | cons w rest => exact congrArg _ (ih (.wordsRun rest) rest rfl)
    | done => cases hR; exact congrArg _ (ih .done [] rfl)
    | _ => cases hR

/-- `C20_generator` with the complete runs beside it: the answers are also the stream of the atomic run
of what was left of `g` at every fuel with which that run ends (`solo_total`).  The hypothesis is what
`opened` delivers for a generator just created. -/
theorem generator_stream (d : DFA σ α) (key : α → Int) (ext : Ext σ) (s : Inst σ α) (h : Nat) (g : Gen σ α)
    (hsg : d.CacheInv key s ∧ s.gens[h]? = some g) (qs : List (Query α)) :
    let answers := nextAnswers h qs (d.runHistory key ext s qs)
    answers = soloAnswers d key g (nextFuels h qs) ∧
    (Ans.outOfFuel ∉ answers →
      (∃ K, ∀ F, answers = stream (resid d key (F + K) g) (countNext h qs)) ∧
      ∀ F0, (resid d key F0 g).2 ≠ .outOfFuel → answers = stream (resid d key F0 g) (countNext h qs)) := by
  intro answers
  have h1 : answers = soloAnswers d key g (nextFuels h qs) := by
    show nextAnswers _ _ _ = _
    rw [(history_sim d key ext qs s hsg.1).2]
    exact runPure_gen_solo d key ext h qs s.gens g hsg.2
  refine ⟨h1, fun hno => ?_⟩
  rw [h1] at hno ⊢
  rw [← length_nextFuels]
  exact ⟨solo_closed_form d key _ g hno, solo_total d key _ g hno⟩

/-- **Any live generator, any interleaving** (cached instance): let the generator `g` sit in
slot `h` of an instance in a coherent state.  Whatever calls follow on the instance, the answers
to the `next(g)` calls among them are the answers of `g` advanced on its own from the definition
— and hence (`solo_closed_form`), when none of them ran out of fuel, the stream of the atomic run
of what was left of `g`, for every sufficiently large fuel `F + K` of that run. -/
theorem C20_generator (d : DFA σ α) (key : α → Int) (ext : Ext σ) (s : Inst σ α)
    (hs : d.CacheInv key s) (h : Nat) (g : Gen σ α) (hg : s.gens[h]? = some g) (qs : List (Query α)) :
    nextAnswers h qs (d.runHistory key ext s qs) = soloAnswers d key g (nextFuels h qs) ∧
    (Ans.outOfFuel ∉ nextAnswers h qs (d.runHistory key ext s qs) →
      ∃ K, ∀ F, nextAnswers h qs (d.runHistory key ext s qs) =
        stream (resid d key (F + K) g) (countNext h qs)) :=
  have G := generator_stream d key ext s h g ⟨hs, hg⟩ qs
  ⟨G.1, fun hno => (G.2 hno).1⟩

/-- **Partially consumed generators**: let `g = words_of_length(k)` be created on an instance in
any coherent state (e.g. after any history).  Whatever other calls are interleaved afterwards
— other generators, counts of other lengths, `clear_cache` — the successive `next(g)` calls
deliver exactly the words of length `k` in order, each once, then `StopIteration`. -/
theorem C20_words_generator (d : DFA σ α) (key : α → Int) (ext : Ext σ) (s : Inst σ α)
    (hs : d.CacheInv key s) (k : Nat) (qs : List (Query α)) :
    let s' := (d.step key ext s (.wordsOpen k)).1
    nextAnswers s.gens.length qs (d.runHistory key ext s' qs) =
      wordsStream (d.wordsOfLength key k) (countNext s.gens.length qs) := by
  intro s'
  rw [(generator_stream d key ext _ _ _ (opened ext hs (q := .wordsOpen k) rfl) qs).1,
    soloAnswers_words d key _ _ _ rfl, length_nextFuels]

/-- **Partially consumed `successors` / `predecessors` generators**: let
`g = successors(input, key=skey, …)` be created on an instance in any coherent state (e.g. after
any history).  Whatever other calls are interleaved afterwards — counts, other generators,
`clear_cache` between two `next(g)`, … — the successive `next(g)` calls (none of which ran out of
fuel) deliver exactly the stream of the atomic run `d.successors skey input o` (the function
characterised by C14): its words in order, each once, then `StopIteration` (or its exception,
once).  The cached calls (`isfinite`, `_get_digraph`) happen at the first `next(g)` only. -/
theorem C20_succ_generator (d : DFA σ α) (key : α → Int) (ext : Ext σ) (s : Inst σ α)
    (hs : d.CacheInv key s) (skey : α → Int) (input : Option (List α)) (o : SuccOpts)
    (qs : List (Query α)) :
    let s' := (d.step key ext s (.succOpen skey input o)).1
    let answers := nextAnswers s.gens.length qs (d.runHistory key ext s' qs)
    Ans.outOfFuel ∉ answers →
      (∃ K, ∀ F, answers = stream (d.successors skey input o (F + K)) (countNext s.gens.length qs)) ∧
      (∀ F0, (d.successors skey input o F0).2 ≠ .outOfFuel →
        answers = stream (d.successors skey input o F0) (countNext s.gens.length qs)) :=
  (generator_stream d key ext _ _ _ (opened ext hs (q := .succOpen skey input o) rfl) qs).2

/-- **Partially consumed `iter(dfa)` generators** (closed form per `next()`): for `g = iter(dfa)`
created in any coherent state and any interleaving of other calls, the successive `next(g)` calls
(none of which ran out of fuel) deliver the stream of the batch run `iterRun` (characterised by
C13: all words by length, then by `key`): after `m` calls the first `m` words of
`(iterRun key n).1` for every sufficiently large `n`, and once that list is used up `StopIteration`
iff the batch run is exhausted. -/
theorem C20_iter_generator (d : DFA σ α) (key : α → Int) (ext : Ext σ) (s : Inst σ α)
    (hs : d.CacheInv key s) (qs : List (Query α)) :
    let s' := (d.step key ext s .iterOpen).1
    let answers := nextAnswers s.gens.length qs (d.runHistory key ext s' qs)
    Ans.outOfFuel ∉ answers →
      (∃ K, ∀ n, answers = stream (ofIter (d.iterRun key (n + K))) (countNext s.gens.length qs)) ∧
      (∀ n0, (ofIter (d.iterRun key n0)).2 ≠ .outOfFuel →
        answers = stream (ofIter (d.iterRun key n0)) (countNext s.gens.length qs)) :=
  (generator_stream d key ext _ _ _ (opened ext hs (q := .iterOpen) rfl) qs).2

section nfa
open AV.NFA.CacheProofs

/-- Every public call on an NFA instance keeps the memo coherent (`NMemoOK`: the closure table,
once cached, is the table computed from the definition) and answers exactly like the stateless
reference, which computes every λ-closure from the definition (Model/NFA.lean). -/
theorem C20_nfa_step (n : NFA σ α) (ext : NFA.NExt σ) (s : NFA.NInst σ) (h : NMemoOK n s)
    (q : NFA.NQuery α) :
    NMemoOK n (n.nstep ext s q).1 ∧ (n.nstep ext s q).2 = n.nstepPure ext q :=
  nstep_sim ext h q

/-- **NFA, every finite history**: whatever calls are made on one NFA object, in whatever order
(acceptance, stepwise reading, `==`, `DFA.from_nfa`, `eliminate_lambda`, …), each answer is the
answer of the stateless reference — it does not depend on what was asked before. -/
theorem C20_nfa_history (n : NFA σ α) (ext : NFA.NExt σ) (qs : List (NFA.NQuery α)) :
    n.nrunHistory ext NFA.NInst.fresh qs = qs.map (n.nstepPure ext) :=
  (nhistory_sim n ext qs _ (nmemoOK_fresh n)).2

/-- **NFA, fresh = after any history**: the answer to a query after an arbitrary history on the
same NFA object equals its answer as the first call on a fresh object. -/
theorem C20_nfa_fresh (n : NFA σ α) (ext : NFA.NExt σ) (hist : List (NFA.NQuery α)) (q : NFA.NQuery α) :
    (n.nstep ext (n.nafterHistory ext NFA.NInst.fresh hist) q).2 = (n.nstep ext NFA.NInst.fresh q).2 := by
  rw [(nstep_sim ext (nhistory_sim n ext hist _ (nmemoOK_fresh n)).1 q).2,
    (nstep_sim ext (nmemoOK_fresh n) q).2]

/-- `0 -λ→ 1 -0→ 1`, `1 -1→ 2`, `1` final; state `2` is not declared and only occurs as a target:
reaching it asks for `lambda_closures[2]`, a `KeyError` (the `.accepts [1]` answer below). -/
def exN : NFA Nat Nat :=
  { states := [0, 1], syms := [0, 1], trans := [(0, [(none, [1])]), (1, [(some 0, [1]), (some 1, [2])])],
    init := 0, finals := [1] }

example :
    exN.nrunHistory { other := id, viaTable := fun t tbl => t + tbl.length } NFA.NInst.fresh
      [.accepts [0, 0], .readStepwise [0], .viaClosures 5, .accepts [1], .readStepwise []] =
      [.bool true, .configs [[0, 1], [1]] none, .opaque 7, .exn (.py .keyError),
       .configs [[0, 1]] none] := by decide +kernel

end nfa

/-- `0*1⁺` over symbols 0,1 with states 0,1,2 (2 is a trap). -/
def exD : DFA Nat Int :=
  { states := [0, 1, 2], syms := [0, 1],
    trans := [(0, [(0, 0), (1, 1)]), (1, [(0, 2), (1, 1)]), (2, [(0, 2), (1, 2)])],
    init := 0, finals := [1], allowPartial := false }

def exHist : List (Query Int) :=
  [.count 3, .wordsOpen 2, .next 0 5, .count 1, .clearCache, .next 0 5, .iterOpen, .next 1 5,
   .count 3, .isFinite, .next 0 5, .next 0 5, .minLen, .randomWord 2 [1, 0]]

def exExt : Ext Nat := { other := id, viaGraph := fun t g => t + g.edges.length }

/-- A `successors(None, max_length=2)` generator advanced across `clear_cache`, another
generator, `to_partial()` and `minify()`. -/
def exHist2 : List (Query Int) :=
  [.succOpen id none { maxLen := some 2 }, .next 0 50, .clearCache, .wordsOpen 1, .next 0 50,
   .toPartial 0, .next 1 5, .next 0 50, .minify 7, .next 0 50, .next 0 50]

example : exD.validate.isOk = true := by decide +kernel

/-- The history is answered as the language dictates: 3 words of length 3 (`001, 011, 111`),
the generator for length 2 delivers `01, 11` across a `clear_cache`, then stops. -/
example :
    exD.runHistory id exExt Inst.fresh exHist =
      [.nat 3, .handle 0, .word [0, 1], .nat 1, .unit, .word [1, 1], .handle 1, .word [1],
       .nat 3, .bool false, .stop, .stop, .nat 1, .word [1, 1]] := by decide +kernel

/-- `successors` of `0*1⁺` up to length 2 = `01, 1, 11`, delivered one `next()` at a time across
the other calls, then `StopIteration`; `exD` is complete, so `minify` does not read the digraph. -/
example :
    exD.runHistory id exExt Inst.fresh exHist2 =
      [.handle 0, .word [0, 1], .unit, .handle 1, .word [1], .opaque 6, .word [1], .word [1, 1],
       .opaque 7, .stop, .stop] := by decide +kernel
example : exD.successors id none { maxLen := some 2 } 100 = ([[0, 1], [1], [1, 1]], .finished) := by
  decide +kernel

end AV.Props.C20
