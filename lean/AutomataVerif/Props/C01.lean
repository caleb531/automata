/-
Props/C01.lean — C01: finite-automaton acceptance follows the formal definition.

English statement (properties.jsonl): for every valid DFA (complete or partial) and NFA
(with or without empty-string transitions) and every input string, the accept/reject
verdict, the membership operator and the returned final configuration equal those of the
textbook run of the automaton's transition table from its initial state; a string that
uses a symbol outside the alphabet or reaches a missing transition is rejected, never a
crash.  Step-by-step reading yields the initial configuration plus exactly one
configuration per consumed symbol, each obtained from the previous one by the transition
relation (closed under empty-string moves for NFAs), and rejection is signalled only by
the library's rejection exception.

"Textbook run" is Mathlib's `DFA.eval`/`DFA.accepts` (for the table completed with a sink)
and Mathlib's `εNFA.eval`/`εNFA.accepts` (whose `mem_accepts_iff_exists_path` is the path
formulation).  "Valid" is `validate = .ok ()`, the model of the constructor's check.
-/
import AutomataVerif.Proofs.Read
import AutomataVerif.Proofs.EpsOpsA

namespace AV.Props.C01
open AV

variable {σ α : Type} [DecidableEq σ] [DecidableEq α]

/-- The textbook automaton of a DFA definition: states `Option σ` (`none` = the implicit
sink of a partial table), transition = table lookup, start = initial state, accepting =
the declared final states. -/
def dfaTextbook (d : AV.DFA σ α) : _root_.DFA α (Option σ) where
  step := fun s a => s.bind fun q => ((alookup q d.trans).bind fun r => alookup a r)
  start := some d.init
  accept := {s | ∃ q, s = some q ∧ q ∈ d.finals}

theorem dfaTextbook_step (d : AV.DFA σ α) (s : Option σ) (a : α) :
    (dfaTextbook d).step s a = d.step? s a := by
  cases s with
  | none => rfl
  | some q =>
    change (alookup q d.trans).bind _ = alookup a ((alookup q d.trans).getD [])
    cases alookup q d.trans <;> rfl

theorem dfaTextbook_evalFrom (d : AV.DFA σ α) (s : Option σ) (w : List α) :
    (dfaTextbook d).evalFrom s w = d.run s w := by
  induction w generalizing s with
  | nil => rfl
  | cons a w ih =>
    rw [_root_.DFA.evalFrom_cons, ih, dfaTextbook_step]; rfl

theorem dfaTextbook_eval (d : AV.DFA σ α) (w : List α) :
    (dfaTextbook d).eval w = d.run (some d.init) w :=
  dfaTextbook_evalFrom d _ w

/-- `read_input_stepwise(w, ignore_rejection)` on a valid DFA, for either value of the flag. -/
theorem dfa_readStepwise_eq (d : AV.DFA σ α) (hv : d.validate = .ok ()) (w : List α) (ign : Bool) :
    d.readStepwise w ign =
      (List.scanl d.step? (some d.init) w, rejectUnless (ign || d.accepts w)) := by
  have wf := (DFA.validate_eq_ok d).mp hv
  simp only [DFA.readStepwise, DFA.readAux_eq wf ign w (some d.init) wf.initOk, cons_tail_scanl,
    DFA.accepts]

/-- Step-by-step reading of a valid DFA yields the initial configuration followed by
exactly one configuration per consumed symbol, each the transition function applied to the
previous one; it ends with `RejectionException` exactly when the word is not accepted and
with no other exception (no `KeyError`). -/
theorem C01_dfa_stepwise (d : AV.DFA σ α) (hv : d.validate = .ok ()) (w : List α) :
    d.readStepwise w =
      (List.scanl d.step? (some d.init) w, rejectUnless (d.accepts w)) :=
  dfa_readStepwise_eq d hv w false

/-- **`read_input_stepwise(w, ignore_rejection=True)`**: the same configurations — the
initial one plus exactly one per symbol, each the transition function applied to the previous
one — and NO exception at the end, whether or not the word is accepted (and no `KeyError`). -/
theorem C01_dfa_stepwise_ignore (d : AV.DFA σ α) (hv : d.validate = .ok ()) (w : List α) :
    d.readStepwise w true = (List.scanl d.step? (some d.init) w, none) :=
  dfa_readStepwise_eq d hv w true

/-- The flag only affects the terminating exception, never the yielded configurations. -/
theorem C01_dfa_stepwise_flag_irrelevant (d : AV.DFA σ α) (hv : d.validate = .ok ()) (w : List α) :
    (d.readStepwise w true).1 = (d.readStepwise w false).1 ∧
    (d.readStepwise w true).1.length = w.length + 1 := by
  rw [dfa_readStepwise_eq d hv w true, dfa_readStepwise_eq d hv w false]
  exact ⟨rfl, List.length_scanl⟩

theorem C01_dfa_stepwise_length (d : AV.DFA σ α) (hv : d.validate = .ok ()) (w : List α) :
    (d.readStepwise w).1.length = w.length + 1 := by
  rw [C01_dfa_stepwise d hv w]; exact List.length_scanl

/-- The model's verdict is Mathlib's `DFA.accepts` of the textbook automaton. -/
theorem C01_dfa_accepts_iff (d : AV.DFA σ α) (w : List α) :
    d.accepts w = true ↔ w ∈ (dfaTextbook d).accepts := by
  rw [_root_.DFA.mem_accepts, dfaTextbook_eval]
  exact (DFA.isFinal_iff d _).trans (exists_congr fun _ => and_comm)

/-- **The `k`-th yielded configuration is the textbook run of the first `k` symbols**
(Mathlib's `DFA.eval` on the prefix), for every `k ≤ |w|`; there is no `k`-th configuration
beyond that. -/
theorem C01_dfa_trace_nth (d : AV.DFA σ α) (hv : d.validate = .ok ()) (w : List α) (k : Nat) :
    (d.readStepwise w).1[k]? =
      if k ≤ w.length then some ((dfaTextbook d).eval (w.take k)) else none := by
  rw [C01_dfa_stepwise d hv w, List.getElem?_scanl, dfaTextbook_eval]
  rfl

/-- `read_input` returns the final configuration of the textbook run when the word is
accepted and raises `RejectionException` (nothing else) otherwise. -/
theorem C01_dfa_read_input (d : AV.DFA σ α) (hv : d.validate = .ok ()) (w : List α) :
    d.readInput w =
      if d.accepts w then .ok ((dfaTextbook d).eval w) else .error (.lib .rejectionException) := by
  unfold DFA.readInput
  simp only [C01_dfa_stepwise d hv w, List.getLast?_scanl, Option.getD_some, dfaTextbook_eval]
  cases d.accepts w <;> rfl

/-- `accepts_input` and the `in` operator return the textbook verdict; a non-`str` item is
never a member; none of them can raise on a valid DFA. -/
theorem C01_dfa_verdicts (d : AV.DFA σ α) (hv : d.validate = .ok ()) (w : List α) :
    d.acceptsInput w = .ok (d.accepts w) ∧ d.contains (some w) = .ok (d.accepts w) ∧
    d.contains none = .ok false := by
  have h : d.acceptsInput w = .ok (d.accepts w) := by
    unfold DFA.acceptsInput
    rw [C01_dfa_read_input d hv w]
    cases d.accepts w <;> rfl
  exact ⟨h, h, rfl⟩

/-- A word that uses a symbol outside the alphabet is rejected (and by the theorems above
this happens through `RejectionException`, never a crash). -/
theorem C01_dfa_foreign_symbol_rejected (d : AV.DFA σ α) (hv : d.validate = .ok ()) (w : List α)
    (hw : ∃ a ∈ w, a ∉ d.syms) : d.accepts w = false := by
  obtain ⟨a, ha, hna⟩ := hw
  exact DFA.accepts_eq_false ((DFA.validate_eq_ok d).mp hv) fun h => hna (h a ha)

/-- A run that reaches a missing transition is rejected. -/
theorem C01_dfa_missing_transition_rejected (d : AV.DFA σ α) (u v : List α) (a : α)
    (h : d.step? (d.run (some d.init) u) a = none) : d.accepts (u ++ a :: v) = false := by
  unfold DFA.accepts
  rw [DFA.run_append, DFA.run_cons, h, DFA.run_none]
  rfl

/-- Rejection is a library exception below `AutomatonException` in the class hierarchy
regenerated from the source on every run. -/
theorem C01_rejection_is_library_exception :
    Gen.Err.isSubclass .rejectionException .automatonException = true := by decide

/-- The textbook ε-NFA of an NFA definition (Mathlib's `εNFA`; `none` is the empty string). -/
def nfaTextbook (n : AV.NFA σ α) : εNFA α σ where
  step := fun q a => {p | p ∈ n.targets q a}
  start := {n.init}
  accept := {q | q ∈ n.finals}

/-- The textbook automaton has the moves of the definition, by unfolding: the theorems below pass
between `Path n.rel` (Proofs/Read) and `Path (EpsOps.rel (nfaTextbook n))` (Proofs/EpsOpsA) without a
rewrite. -/
theorem rel_nfaTextbook (n : AV.NFA σ α) : EpsOps.rel (nfaTextbook n) = n.rel := rfl

/-- The computed λ-closure of a state is Mathlib's `εClosure`: the state itself plus
everything reachable by empty-string moves (ε-cycles included).  (`hq` is not needed:
`NFA.mem_closure_iff`.) -/
theorem C01_nfa_closure (n : AV.NFA σ α) (q p : σ) (hq : q ∈ n.states) :
    p ∈ n.closure q ↔ p ∈ (nfaTextbook n).εClosure {q} := by
  have _ := hq
  rw [NFA.mem_closure_iff_path, ← εNFA.evalFrom_nil]
  exact (EpsOps.mem_evalFrom_iff_path (M := nfaTextbook n)).symm

/-- Step-by-step reading of a valid NFA yields the λ-closure of the initial state followed by one
configuration per consumed symbol (`scanl` of `nextStates`), ending with `RejectionException`
exactly when the word is not accepted; and the configuration reached on any word `u`, as a set,
is Mathlib's `εNFA.eval u` of the textbook ε-NFA (per position: `C01_nfa_trace_nth`). -/
theorem C01_nfa_stepwise (n : AV.NFA σ α) (hv : n.validate = .ok ()) (w : List α) :
    n.readStepwise w =
      (List.scanl n.nextStates (n.closure n.init) w, rejectUnless (n.accepts w)) ∧
    ∀ u, {p | p ∈ n.runFrom (n.closure n.init) u} = (nfaTextbook n).eval u := by
  have wf := (NFA.validate_eq_ok n).mp hv
  constructor
  · simp only [NFA.readStepwise, NFA.closureE_eq wf.initOk, NFA.readAux_eq wf, cons_tail_scanl,
      NFA.accepts]
  · intro u
    ext p
    exact (NFA.mem_run_iff n u p).trans
      (EpsOps.mem_evalFrom_iff_path (M := nfaTextbook n) (i := n.init)).symm

/-- **The `k`-th yielded configuration of the NFA reader, as a set, is Mathlib's `εNFA.eval`
of the first `k` symbols** — the ε-closed set of states reachable on that prefix — for every
`k ≤ |w|`; there is no `k`-th configuration beyond that. -/
theorem C01_nfa_trace_nth (n : AV.NFA σ α) (hv : n.validate = .ok ()) (w : List α) (k : Nat) :
    (k ≤ w.length → ∃ c, (n.readStepwise w).1[k]? = some c ∧
      {p | p ∈ c} = (nfaTextbook n).eval (w.take k)) ∧
    (w.length < k → (n.readStepwise w).1[k]? = none) ∧
    (∀ c, (n.readStepwise w).1[k]? = some c → {p | p ∈ c} = (nfaTextbook n).eval (w.take k)) := by
  have h := C01_nfa_stepwise n hv w
  have hk : (n.readStepwise w).1[k]? =
      if k ≤ w.length then some (n.runFrom (n.closure n.init) (w.take k)) else none := by
    rw [h.1, List.getElem?_scanl]; rfl
  refine ⟨fun hle => ?_, fun hlt => ?_, fun c hc => ?_⟩
  · exact ⟨_, by rw [hk, if_pos hle], h.2 (w.take k)⟩
  · rw [hk, if_neg (by omega)]
  · rw [hk] at hc
    split at hc
    · cases hc; exact h.2 (w.take k)
    · cases hc

theorem C01_nfa_stepwise_length (n : AV.NFA σ α) (hv : n.validate = .ok ()) (w : List α) :
    (n.readStepwise w).1.length = w.length + 1 := by
  rw [(C01_nfa_stepwise n hv w).1]; exact List.length_scanl

/-- The model's verdict is Mathlib's `εNFA.accepts` of the textbook ε-NFA.  (Validity is not
needed: `NFA.accepts_iff_acc` reads any definition.) -/
theorem C01_nfa_accepts_iff (n : AV.NFA σ α) (hv : n.validate = .ok ()) (w : List α) :
    n.accepts w = true ↔ w ∈ (nfaTextbook n).accepts :=
  have _ := hv
  (NFA.accepts_iff_acc n w).trans
    (EpsOps.mem_accepts_iff_acc (M := nfaTextbook n) (i := n.init) rfl).symm

/-- `read_input` returns the last configuration when accepted and raises
`RejectionException` (nothing else — in particular no `KeyError`) otherwise;
`accepts_input` / `in` return the verdict; non-`str` items are not members. -/
theorem C01_nfa_verdicts (n : AV.NFA σ α) (hv : n.validate = .ok ()) (w : List α) :
    n.readInput w = (if n.accepts w then .ok (n.runFrom (n.closure n.init) w)
                     else .error (.lib .rejectionException)) ∧
    n.acceptsInput w = .ok (n.accepts w) ∧ n.contains (some w) = .ok (n.accepts w) ∧
    n.contains none = .ok false := by
  have h1 : n.readInput w = (if n.accepts w then .ok (n.runFrom (n.closure n.init) w)
                     else .error (.lib .rejectionException)) := by
    unfold NFA.readInput
    simp only [(C01_nfa_stepwise n hv w).1, List.getLast?_scanl]
    cases n.accepts w <;> rfl
  have h2 : n.acceptsInput w = .ok (n.accepts w) := by
    unfold NFA.acceptsInput
    rw [h1]
    cases n.accepts w <;> rfl
  exact ⟨h1, h2, h2, rfl⟩

/-- A symbol outside the alphabet empties the configuration: the word is rejected. -/
theorem C01_nfa_foreign_symbol_rejected (n : AV.NFA σ α) (hv : n.validate = .ok ()) (w : List α)
    (hw : ∃ a ∈ w, a ∉ n.syms) : n.accepts w = false :=
  let ⟨a, ha, hna⟩ := hw
  NFA.accepts_eq_false ((NFA.validate_eq_ok n).mp hv) fun h => hna (h a ha)

/-- A partial DFA over {0,1} accepting words that end in 1 (state 1 has no 1-transition). -/
def exDFA : AV.DFA Nat Nat :=
  { states := [0, 1], syms := [0, 1], trans := [(0, [(0, 0), (1, 1)]), (1, [(0, 0)])],
    init := 0, finals := [1], allowPartial := true }

example : exDFA.validate = .ok () := by decide +kernel
example : exDFA.accepts [0, 1] = true ∧ exDFA.accepts [1, 1] = false ∧ exDFA.accepts [7] = false := by
  decide +kernel
-- ignore_rejection=True on a rejected word: all configurations (the sink included), no exception
example : exDFA.readStepwise [1, 1, 0] true = ([some 0, some 1, none, none], none) ∧
    exDFA.readStepwise [1, 1, 0] false = ([some 0, some 1, none, none], some (.lib .rejectionException)) := by
  decide +kernel

/-- An NFA with an ε-cycle 0 ⇄ 1 and a state without a row. -/
def exNFA : AV.NFA Nat Nat :=
  { states := [0, 1, 2], syms := [0],
    trans := [(0, [(none, [1]), (some 0, [2])]), (1, [(none, [0])])],
    init := 0, finals := [2] }

example : exNFA.validate = .ok () := by decide +kernel
example : exNFA.accepts [0] = true ∧ exNFA.accepts [] = false ∧ exNFA.accepts [0, 0] = false := by
  decide +kernel

end AV.Props.C01
