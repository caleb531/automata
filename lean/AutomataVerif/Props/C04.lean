/-
Props/C04.lean — C04: DFA Boolean operations compute exact set operations on languages.

English statement (properties.jsonl): union, intersection, difference, symmetric difference
and complement of DFAs over a common alphabet (methods and the | & - ^ ~ operators) return a
valid DFA whose language is exactly the corresponding set operation on the operands'
languages, for every mix of complete and partial operands, every setting of the minify /
retain-names options, and for operands that are themselves results of earlier operations.
Converting a DFA to partial or to complete form keeps its language (the complete form has
every transition defined), and operands over different alphabets are refused with the
symbol-mismatch error rather than answered.

`DFA.accepts` is the verdict tied to Mathlib's `DFA.accepts` by C01.  The operators
`| & - ^ ~` are the methods with default options (`retain_names=False, minify=True`).
Every operation is stated once, as `Result Sg R L` (Proofs/ExpandValid.lean: valid, duplicate-free,
alphabet `Sg`, verdict `L`); `retain_names=False` is `Result.renumber`, `minify=True` is
`Result.minify` on the `MinSource` the call of `_minify` is (the contract `MinifyCall` /
`MinifyCoreOk` of Proofs/MinifyCorrect.lean is what the `*_min_call` and `*_min_partial` theorems
are stated with), closure under `Sem` is `Result.sem`.
-/
import AutomataVerif.Proofs.Expr
import AutomataVerif.Proofs.MinGlue
import AutomataVerif.Model.DFAOperators

namespace AV.Props.C04
open AV AV.DFA AV.C04

variable {σ α : Type} [DecidableEq σ] [DecidableEq α]

/-- The BFS of `_expand_dfa` over the lazy product is exhaustive. -/
theorem product_expandHyp (A B : AV.DFA σ α) (l r : Bool) (hA : A.validate = .ok ())
    (hB : B.validate = .ok ()) (pA : A.PyShape) :
    ExpandHyp (A.crossSucc B l r) (A.prodUniv B) (A.prodFuel B) (some A.init, some B.init) :=
  C04.cross_expandHyp A B l r ((DFA.validate_eq_ok A).mp hA) ((DFA.validate_eq_ok B).mp hB) pA

/-- **Boolean operations, `retain_names=True, minify=False`.**  For valid operands over a
common alphabet the operation succeeds and the result accepts exactly the words on which
the set operation of the two verdicts holds — for every mix of partial and complete operands.
Only `A` has to be duplicate-free: a row of the product lists `A`'s keys and then those of `B`'s
that are new (`sunion`), so duplicates among `B`'s keys do not survive. -/
theorem C04_binop_lang (op : BinOp) (A B : AV.DFA σ α) (hA : A.validate = .ok ())
    (hB : B.validate = .ok ()) (pA : A.PyShape) (hs : A.symsEq B = true) :
    ∃ R, A.binopPlain op B = .ok R ∧ ∀ w, R.accepts w = op.fin (A.accepts w) (B.accepts w) :=
  let ⟨R, hR, r, _⟩ := binopPlain_spec op hA hB pA hs
  ⟨R, hR, r.lang⟩

/-- The four operations are the four set operations on verdicts. -/
theorem C04_binop_table :
    (∀ a b, BinOp.union.fin a b = (a || b)) ∧ (∀ a b, BinOp.inter.fin a b = (a && b)) ∧
    (∀ a b, BinOp.diff.fin a b = (a && !b)) ∧ (∀ a b, BinOp.symm.fin a b = xor a b) :=
  ⟨fun _ _ => rfl, fun _ _ => rfl, fun _ _ => rfl, fun _ _ => rfl⟩

/-- **Alphabet mismatch is refused**, with the library's `SymbolMismatchError`, with and without
`minify` (the check happens in `_cross_product`, before anything else). -/
theorem C04_mismatch (op : BinOp) (A B : AV.DFA σ α) (hs : A.symsEq B = false) (pick : List Nat → Nat) :
    A.binopPlain op B = .error (.lib .symbolMismatchError) ∧
    A.binopMin op B pick = .error (.lib .symbolMismatchError) := by
  unfold binopMin binopPlain
  simp [hs]

theorem C04_mismatch_is_library_exception :
    Gen.Err.isSubclass .symbolMismatchError .automatonException = true := by decide

def exA : AV.DFA Nat Nat :=
  { states := [0, 1], syms := [0, 1], trans := [(0, [(0, 0), (1, 1)]), (1, [(0, 0)])],
    init := 0, finals := [1], allowPartial := true }
def exB : AV.DFA Nat Nat :=
  { states := [0, 1], syms := [0, 1], trans := [(0, [(0, 1), (1, 0)]), (1, [(0, 0), (1, 1)])],
    init := 0, finals := [0], allowPartial := false }

example : exA.validate = .ok () := eq_ok_of_isOk (by decide +kernel)
example : exB.validate = .ok () := eq_ok_of_isOk (by decide +kernel)
example : exA.symsEq exB = true := by decide +kernel
example : (match exA.binopPlain .diff exB with
           | .ok R => (R.accepts [1], R.accepts [0, 1], R.states.length)
           | .error _ => (false, false, 0)) = (false, true, 4) := by decide +kernel

/-- **Boolean operations return valid DFAs** (`retain_names=True, minify=False`).  For valid
operands over a common alphabet the result passes `validate` — including the completeness
check when `_expand_dfa` infers `allow_partial=False` —, is duplicate-free (a genuine
Python value), is over the operands' alphabet, and its transition keys are exactly its
states. -/
theorem C04_binop_valid (op : BinOp) (A B : AV.DFA σ α) (hA : A.validate = .ok ())
    (hB : B.validate = .ok ()) (pA : A.PyShape) (hs : A.symsEq B = true) :
    ∃ R, A.binopPlain op B = .ok R ∧ R.validate = .ok () ∧ R.PyShape ∧ R.syms = A.syms ∧
      akeys R.trans = R.states :=
  let ⟨R, hR, r, t⟩ := binopPlain_spec op hA hB pA hs
  ⟨R, hR, r.valid, r.pyShape, r.syms, t.keys⟩

example : (match exA.binopPlain .symm exB with
           | .ok R => R.validate
           | .error e => .error e) = .ok () := eq_ok_of_isOk (by decide +kernel)
example : (match exA.binopPlain .inter exB with
           | .ok R => (R.allowPartial, R.states.length, R.trans.length)
           | .error _ => (false, 0, 0)) = (true, 4, 4) := by decide +kernel

/-- **Renaming is harmless.**  For a valid duplicate-free DFA whose transition keys are
states, the renumbered DFA (`get_renaming_function(count(0))` applied in discovery order)
is valid, duplicate-free, over the same alphabet, and gives the same verdict on every word
(`Result.renumber` is the form for results whose keys are exactly their states). -/
theorem C04_renumber (d : AV.DFA σ α) (hd : d.validate = .ok ()) (pd : d.PyShape)
    (hk : ∀ k ∈ akeys d.trans, k ∈ d.states) :
    d.renumber.validate = .ok () ∧ d.renumber.PyShape ∧ d.renumber.syms = d.syms ∧
      d.renumber.allowPartial = d.allowPartial ∧
      ∀ w, d.renumber.accepts w = d.accepts w := by
  have wf := (DFA.validate_eq_ok d).mp hd
  have hinj := renumber_injOn d hk
  rw [renumber_eq_rename]
  exact ⟨rename_valid _ hd, rename_pyShape _ wf pd hinj, rfl, rfl, rename_accepts _ wf hinj.sep⟩

/-- **Boolean operations, `retain_names=False, minify=False`.**  The renumbered product is a
valid DFA over the operands' alphabet with exactly the set-operation language. -/
theorem C04_binop_renumbered (op : BinOp) (A B : AV.DFA σ α) (hA : A.validate = .ok ())
    (hB : B.validate = .ok ()) (pA : A.PyShape) (hs : A.symsEq B = true) :
    ∃ R, A.binopPlain op B = .ok R ∧ R.renumber.validate = .ok () ∧ R.renumber.PyShape ∧
      R.renumber.syms = A.syms ∧
      ∀ w, R.renumber.accepts w = op.fin (A.accepts w) (B.accepts w) :=
  let ⟨R, hR, r, t⟩ := binopPlain_spec op hA hB pA hs
  ⟨R, hR, r.renumber t.keys⟩

example : (match exA.binopPlain .union exB with
           | .ok R => R.renumber.states
           | .error _ => []) = [0, 1, 2, 3, 4, 5] := by decide +kernel
example : (match exA.binopPlain .union exB with
           | .ok R => R.renumber.validate
           | .error e => .error e) = .ok () := eq_ok_of_isOk (by decide +kernel)

/-- **`to_complete` keeps the language and defines every transition.**  For a valid
duplicate-free `d` and a trap name outside `d.states` (what `_get_trap_state_id` returns, or
an admissible custom name) the call succeeds; the result is valid, duplicate-free, over the
same alphabet, every row has every alphabet symbol (so every (state, symbol) has a
transition to a state), and it gives the verdict of `d` on every word.  The result is `d`
itself when no row looks partial, and has `allow_partial=False` otherwise.

Note: `validate` does not force transition keys to be states.  `_get_trap_state_id` avoids
`states` and the transition keys, but a custom name need only avoid `states`; if it is a stray
transition key, `_to_complete` overwrites that row.  This is harmless (no hypothesis
`trap ∉ akeys d.trans` is needed): targets are states, so a key that is not a state is
unreachable. -/
theorem C04_to_complete (d : AV.DFA σ α) (hd : d.validate = .ok ()) (pd : d.PyShape) (trap : σ)
    (custom : Bool) (ht : trap ∉ d.states) :
    ∃ C, d.toComplete trap custom = .ok C ∧ C.validate = .ok () ∧ C.PyShape ∧ C.syms = d.syms ∧
      C.IsComplete ∧
      (∀ q ∈ C.states, ∀ a ∈ C.syms, ∃ q', C.step? (some q) a = some q' ∧ q' ∈ C.states) ∧
      C.allowPartial = (d.allowPartial && !d.looksPartial) ∧
      ∀ w, C.accepts w = d.accepts w := by
  have wf := (DFA.validate_eq_ok d).mp hd
  cases hp : d.looksPartial with
  | false =>
    have hc := isComplete_of_not_looksPartial wf pd hp
    refine ⟨d, toComplete_of_not_partial d trap custom hp, hd, pd, rfl, hc, ?_, by simp, fun _ => rfl⟩
    intro q hq a ha
    exact step?_of_isComplete wf hc hq ha
  | true =>
    have wf' : (d.toCompleteCore trap).WF := toCompleteCore_wf wf
    have hc : (d.toCompleteCore trap).IsComplete := wf'.complete rfl
    refine ⟨d.toCompleteCore trap, toComplete_of_partial d trap custom hp (Or.inr ht),
      (DFA.validate_eq_ok _).mpr wf', toCompleteCore_pyShape wf pd, rfl, hc, ?_, by simp [toCompleteCore],
      toCompleteCore_accepts wf ht⟩
    intro q hq a ha
    exact step?_of_isComplete wf' hc hq ha

/-- A custom trap name that is already a state is refused with `InvalidStateError` (when a
trap is needed at all). -/
theorem C04_to_complete_custom_taken (d : AV.DFA σ α) (trap : σ) (hp : d.looksPartial = true)
    (ht : trap ∈ d.states) : d.toComplete trap true = .error (.lib .invalidStateError) :=
  toComplete_custom_taken d trap hp ht

/-- A DFA none of whose rows looks partial is returned unchanged (`self.copy()`), whatever
the trap argument. -/
theorem C04_to_complete_unchanged (d : AV.DFA σ α) (trap : σ) (custom : Bool)
    (hp : d.looksPartial = false) : d.toComplete trap custom = .ok d :=
  toComplete_of_not_partial d trap custom hp

/-- A valid DFA with a stray transition key `-1` that is not a state: `-1` is an admissible trap
name (`to_complete(-1)`; `_get_trap_state_id` itself skips transition keys and returns `-2`), and
`_to_complete` overwrites that row. -/
def exStray : AV.DFA Int Nat :=
  { states := [0], syms := [0, 1], trans := [(0, [(0, 0)]), (-1, [(0, 0), (1, 0)])],
    init := 0, finals := [0], allowPartial := true }

example : exStray.validate = .ok () := eq_ok_of_isOk (by decide +kernel)
example : (-1 : Int) ∉ exStray.states := by decide +kernel
example : (match exStray.toComplete (-1) false with
           | .ok C => (C.states, C.trans, C.accepts [0, 0], C.accepts [0, 1, 0])
           | .error _ => ([], [], false, false)) =
    ([0, -1], [(0, [(0, 0), (1, -1)]), (-1, [(0, -1), (1, -1)])], true, false) := by decide +kernel
example : (match exStray.toComplete (-1) false with
           | .ok C => C.validate
           | .error e => .error e) = .ok () := eq_ok_of_isOk (by decide +kernel)
example : exA.toComplete 0 true = .error (.lib .invalidStateError) := by rfl
example : (match exA.toComplete 7 true with
           | .ok C => (C.states, C.allowPartial, C.accepts [1], exA.accepts [1], C.accepts [1, 1])
           | .error _ => ([], true, false, false, true)) = ([0, 1, 7], false, true, true, false) := by decide +kernel

/-- **Complement of a complete DFA** (`minify=False`): valid, duplicate-free, same alphabet,
complete, and relative to the alphabet (`complementPlain_result`). -/
theorem C04_complement_complete (c : AV.DFA σ α) (hv : c.validate = .ok ()) (pc : c.PyShape)
    (hc : c.IsComplete) :
    c.complementPlain.validate = .ok () ∧ c.complementPlain.PyShape ∧
      c.complementPlain.syms = c.syms ∧ c.complementPlain.IsComplete ∧
      c.complementPlain.allowPartial = false ∧
      ∀ w, c.complementPlain.accepts w = ((w.all fun a => decide (a ∈ c.syms)) && !c.accepts w) :=
  let r := complementPlain_result ((DFA.validate_eq_ok c).mp hv) pc hc
  ⟨r.valid, r.pyShape, r.syms, hc, rfl, r.lang⟩

/-- **Complement of any valid DFA** (`minify=False`; the code completes the operand first
iff `allow_partial`): the call succeeds and the result is a valid complete DFA over the
same alphabet whose language is the complement relative to the alphabet. -/
theorem C04_complement (d : AV.DFA σ α) (hd : d.validate = .ok ()) (pd : d.PyShape) (trap : σ)
    (ht : trap ∉ d.states) :
    ∃ R, d.complementFull trap = .ok R ∧ R.validate = .ok () ∧ R.PyShape ∧ R.syms = d.syms ∧
      R.IsComplete ∧ R.allowPartial = false ∧
      ∀ w, R.accepts w = ((w.all fun a => decide (a ∈ d.syms)) && !d.accepts w) := by
  obtain ⟨C, hC, _, _, hc, r⟩ := complement_operand d hd pd trap ht
  exact ⟨C.complementPlain, by rw [complementFull, hC], r.valid, r.pyShape, r.syms, hc, rfl, r.lang⟩

example : (match exA.complementFull 2 with
           | .ok R => (R.states, R.finals, R.accepts [1], R.accepts [1, 1], R.accepts [5])
           | .error _ => ([], [], false, false, false)) = ([0, 1, 2], [0, 2], false, true, false) := by
  decide +kernel
example : (match exA.complementFull 2 with
           | .ok R => R.validate
           | .error e => .error e) = .ok () := eq_ok_of_isOk (by decide +kernel)

/-- **`to_partial(minify=False)` keeps the language.**  For a valid duplicate-free `d` the
result (dead and trap states removed, except the initial state, with all edges into them)
is a valid partial DFA, duplicate-free, over the same alphabet, with the verdict of `d` on
every word. -/
theorem C04_to_partial (d : AV.DFA σ α) (hd : d.validate = .ok ()) (pd : d.PyShape) :
    d.toPartialPlain.validate = .ok () ∧ d.toPartialPlain.PyShape ∧
      d.toPartialPlain.syms = d.syms ∧ d.toPartialPlain.allowPartial = true ∧
      ∀ w, d.toPartialPlain.accepts w = d.accepts w :=
  let r := toPartialPlain_result ((DFA.validate_eq_ok d).mp hd) pd
  ⟨r.valid, r.pyShape, r.syms, toPartialPlain_allowPartial d, r.lang⟩

/-- Every state kept by `to_partial` other than the initial one is reachable and can reach
a final state (nothing dead is left). -/
theorem C04_to_partial_trim (d : AV.DFA σ α) (hd : d.validate = .ok ()) :
    ∀ q ∈ d.toPartialPlain.states, q = d.init ∨
      (Reach d.succStates d.init q ∧ ∃ f ∈ d.finals, Reach d.predStates f q) := by
  have wf := (DFA.validate_eq_ok d).mp hd
  intro q hq
  rw [toPartialPlain_states] at hq
  rcases mem_partialStates.mp hq with h | ⟨h1, h2⟩
  · exact Or.inl h
  · exact Or.inr ⟨(DFA.mem_accessible_iff wf).mp h1, (DFA.mem_coaccessible_iff wf).mp h2⟩

/-- A complete DFA with a trap state `2` and an unreachable state `3`. -/
def exC : AV.DFA Nat Nat :=
  { states := [0, 1, 2, 3], syms := [0, 1],
    trans := [(0, [(0, 1), (1, 2)]), (1, [(0, 0), (1, 2)]), (2, [(0, 2), (1, 2)]), (3, [(0, 0), (1, 3)])],
    init := 0, finals := [1], allowPartial := false }

example : exC.validate = .ok () := eq_ok_of_isOk (by decide +kernel)
example : (exC.toPartialPlain.states, exC.toPartialPlain.trans, exC.toPartialPlain.accepts [0, 0, 0],
    exC.accepts [0, 0, 0], exC.toPartialPlain.accepts [0, 1]) =
    ([0, 1], [(0, [(0, 1)]), (1, [(0, 0)])], true, true, false) := by decide +kernel
example : exC.toPartialPlain.validate = .ok () := eq_ok_of_isOk (by decide +kernel)

/-- **Boolean operations, `retain_names=True, minify=True`.**  For valid operands over a
common alphabet (every mix of partial and complete), every pop order `pick` of the
refinement loop: the call succeeds and the result is a valid duplicate-free DFA over the
operands' alphabet that accepts exactly the words on which the set operation of the two
verdicts holds.  (`_minify` is called on the product, all of whose states are reachable.) -/
theorem C04_binop_min (op : BinOp) (A B : AV.DFA σ α) (pick : List Nat → Nat)
    (hA : A.validate = .ok ()) (hB : B.validate = .ok ()) (pA : A.PyShape) (hs : A.symsEq B = true) :
    ∃ M, A.binopMin op B pick = .ok M ∧ M.validate = .ok () ∧ M.PyShape ∧ M.syms = A.syms ∧
      ∀ w, M.accepts w = op.fin (A.accepts w) (B.accepts w) :=
  let ⟨P, hP, r, t⟩ := binopPlain_spec op hA hB pA hs
  ⟨_, by rw [binopMin, hP], r.minify_allReached t pick⟩

/-- **Complement, `minify=True`**, of any valid DFA (partial or complete; the operand is
completed first iff `allow_partial`), any trap name outside the states, every pop order: the
call succeeds with a valid duplicate-free DFA over the same alphabet that accepts exactly the
words over the alphabet that the operand rejects.  (`_minify` is called with kept = the states
found by `_bfs_states`, final = the kept non-final states: what `minify` hands it for the plain
complement.) -/
theorem C04_complement_min (d : AV.DFA σ α) (trap : σ) (pick : List Nat → Nat)
    (hd : d.validate = .ok ()) (pd : d.PyShape) (ht : trap ∉ d.states) :
    ∃ M, d.complementMinFull trap pick = .ok M ∧ M.validate = .ok () ∧ M.PyShape ∧
      M.syms = d.syms ∧
      ∀ w, M.accepts w = ((w.all fun a => decide (a ∈ d.syms)) && !d.accepts w) := by
  obtain ⟨C, hC, wfC, pC, hc, r⟩ := complement_operand d hd pd trap ht
  exact ⟨C.complementMin pick, by rw [complementMinFull, hC],
    r.minify (complementMin_minSource wfC pC hc) pick⟩

/-- **`to_partial(minify=True)`** of any valid DFA, every pop order: a valid duplicate-free
DFA over the same alphabet with the same verdict on every word.  (`_minify` is called with
kept = live ∩ non-trap ∪ {initial}: what `minify` hands it for the same table flagged partial.) -/
theorem C04_to_partial_min (d : AV.DFA σ α) (pick : List Nat → Nat)
    (hd : d.validate = .ok ()) (pd : d.PyShape) :
    (d.toPartialMin pick).validate = .ok () ∧ (d.toPartialMin pick).PyShape ∧
      (d.toPartialMin pick).syms = d.syms ∧ ∀ w, (d.toPartialMin pick).accepts w = d.accepts w :=
  Result.minify ⟨hd, pd, rfl, fun _ => rfl⟩ (toPartialMin_minSource ((DFA.validate_eq_ok d).mp hd) pd) pick

/-- The full statement for `minify=True` Boolean operations (it holds:
`C04_binop_min_full_holds`). -/
def C04_binop_min_full : Prop :=
  ∀ (σ α : Type) [DecidableEq σ] [DecidableEq α] (op : BinOp) (A B : AV.DFA σ α)
    (pick : List Nat → Nat), A.validate = .ok () → B.validate = .ok () → A.PyShape →
    A.symsEq B = true →
    ∃ M, A.binopMin op B pick = .ok M ∧ M.validate = .ok () ∧ M.PyShape ∧ M.syms = A.syms ∧
      ∀ w, M.accepts w = op.fin (A.accepts w) (B.accepts w)

/-- The full statement for `complement(minify=True)` (it holds:
`C04_complement_min_full_holds`). -/
def C04_complement_min_full : Prop :=
  ∀ (σ α : Type) [DecidableEq σ] [DecidableEq α] (d : AV.DFA σ α) (trap : σ)
    (pick : List Nat → Nat), d.validate = .ok () → d.PyShape → trap ∉ d.states →
    ∃ M, d.complementMinFull trap pick = .ok M ∧ M.validate = .ok () ∧ M.PyShape ∧
      M.syms = d.syms ∧
      ∀ w, M.accepts w = ((w.all fun a => decide (a ∈ d.syms)) && !d.accepts w)

/-- The full statement for `to_partial(minify=True)` (it holds:
`C04_to_partial_min_full_holds`). -/
def C04_to_partial_min_full : Prop :=
  ∀ (σ α : Type) [DecidableEq σ] [DecidableEq α] (d : AV.DFA σ α) (pick : List Nat → Nat),
    d.validate = .ok () → d.PyShape →
    (d.toPartialMin pick).validate = .ok () ∧ (d.toPartialMin pick).PyShape ∧
      (d.toPartialMin pick).syms = d.syms ∧ ∀ w, (d.toPartialMin pick).accepts w = d.accepts w

theorem C04_binop_min_full_holds : C04_binop_min_full :=
  fun _ _ _ _ op A B pick hA hB pA hs => C04_binop_min op A B pick hA hB pA hs
theorem C04_complement_min_full_holds : C04_complement_min_full :=
  fun _ _ _ _ d trap pick hd pd ht => C04_complement_min d trap pick hd pd ht
theorem C04_to_partial_min_full_holds : C04_to_partial_min_full :=
  fun _ _ _ _ d pick hd pd => C04_to_partial_min d pick hd pd

/-- Every admissible call of `_minify` returns a valid, duplicate-free DFA accepting the
language of the refinement system (C05, for every pop order). -/
theorem C04_minifyGuarantee : MinifyGuarantee := minifyGuarantee

/-- `A.op(B, minify=True)`: the call of `_minify` is admissible and its refinement system
accepts exactly the set operation of the operands' verdicts. -/
theorem C04_binop_min_call (op : BinOp) (A B : AV.DFA σ α) (hA : A.validate = .ok ())
    (hB : B.validate = .ok ()) (pA : A.PyShape) (hs : A.symsEq B = true) :
    ∃ P, A.binopPlain op B = .ok P ∧ P.syms = A.syms ∧
      MinifyCall P.states P.syms P.trans P.init P.finals ∧
      ∀ w, mfin P.finals (mrun P.states P.trans (some P.init) w) =
        op.fin (A.accepts w) (B.accepts w) :=
  let ⟨P, hP, r, t⟩ := binopPlain_spec op hA hB pA hs
  have S := r.minSource t
  ⟨P, hP, r.syms, minifyCall_of_source S, fun w => (S.sys_accepts w).trans (r.lang w)⟩

/-- `complement(minify=True)` of a complete DFA: the call of `_minify` (kept = states found
by `_bfs_states`, final = kept non-final states) is admissible and its refinement system
accepts the complement relative to the alphabet. -/
theorem C04_complement_min_call (c : AV.DFA σ α) (hv : c.validate = .ok ()) (pc : c.PyShape)
    (hc : c.IsComplete) :
    MinifyCall c.reachStates c.syms c.trans c.init (c.reachStates.filter fun q => decide (q ∉ c.finals)) ∧
    ∀ w, mfin (c.reachStates.filter fun q => decide (q ∉ c.finals))
        (mrun c.reachStates c.trans (some c.init) w) =
      ((w.all fun a => decide (a ∈ c.syms)) && !c.accepts w) :=
  have wf := (DFA.validate_eq_ok c).mp hv
  have S := complementMin_minSource wf pc hc
  ⟨minifyCall_of_source (d := c.complementPlain) S,
    fun w => (S.sys_accepts w).trans (complementPlain_accepts wf hc w)⟩

/-- `to_partial(minify=True)`: the call of `_minify` (kept = live ∩ non-trap ∪ {initial}) is
admissible and its refinement system accepts the language of `d`. -/
theorem C04_to_partial_min_call (d : AV.DFA σ α) (hd : d.validate = .ok ()) (pd : d.PyShape) :
    MinifyCall d.partialStates d.syms d.trans d.init
      (d.finals.filter fun q => decide (q ∈ d.partialStates)) ∧
    ∀ w, mfin (d.finals.filter fun q => decide (q ∈ d.partialStates))
        (mrun d.partialStates d.trans (some d.init) w) = d.accepts w :=
  have S := toPartialMin_minSource ((DFA.validate_eq_ok d).mp hd) pd
  ⟨minifyCall_of_source S, S.sys_accepts⟩

/-! The `*_min_call` theorems above say that the call of `_minify` each operation makes is
admissible (`MinifyCall`, Proofs/MinifyCorrect.lean).  The theorems of this file with a hypothesis
`hmin` or `hC05` take what `_minify` gives back (`MinifyCoreOk`) as that hypothesis;
`minifyGuarantee` proves it, so each follows from its unconditional form and leaves it unused. -/

theorem C04_binop_min_partial (op : BinOp) (A B : AV.DFA σ α) (pick : List Nat → Nat)
    (hA : A.validate = .ok ()) (hB : B.validate = .ok ()) (pA : A.PyShape) (hs : A.symsEq B = true)
    (hmin : ∀ P, A.binopPlain op B = .ok P →
      MinifyCoreOk P.states P.syms P.trans P.init P.finals pick) :
    ∃ M, A.binopMin op B pick = .ok M ∧ M.validate = .ok () ∧ M.PyShape ∧ M.syms = A.syms ∧
      ∀ w, M.accepts w = op.fin (A.accepts w) (B.accepts w) :=
  have _ := hmin
  C04_binop_min op A B pick hA hB pA hs

theorem C04_complement_min_partial (d : AV.DFA σ α) (trap : σ) (pick : List Nat → Nat)
    (hd : d.validate = .ok ()) (pd : d.PyShape) (ht : trap ∉ d.states)
    (hmin : ∀ C, (if d.allowPartial then d.toComplete trap false else .ok d) = .ok C →
      MinifyCoreOk C.reachStates C.syms C.trans C.init
        (C.reachStates.filter fun q => decide (q ∉ C.finals)) pick) :
    ∃ M, d.complementMinFull trap pick = .ok M ∧ M.validate = .ok () ∧ M.PyShape ∧
      M.syms = d.syms ∧
      ∀ w, M.accepts w = ((w.all fun a => decide (a ∈ d.syms)) && !d.accepts w) :=
  have _ := hmin
  C04_complement_min d trap pick hd pd ht

theorem C04_to_partial_min_partial (d : AV.DFA σ α) (pick : List Nat → Nat)
    (hd : d.validate = .ok ()) (pd : d.PyShape)
    (hmin : MinifyCoreOk d.partialStates d.syms d.trans d.init
      (d.finals.filter fun q => decide (q ∈ d.partialStates)) pick) :
    (d.toPartialMin pick).validate = .ok () ∧ (d.toPartialMin pick).PyShape ∧
      (d.toPartialMin pick).syms = d.syms ∧ ∀ w, (d.toPartialMin pick).accepts w = d.accepts w :=
  have _ := hmin
  C04_to_partial_min d pick hd pd

theorem C04_min_of_C05
    (hC05 : MinifyGuarantee) :
    C04_binop_min_full ∧ C04_complement_min_full ∧ C04_to_partial_min_full :=
  have _ := hC05
  ⟨C04_binop_min_full_holds, C04_complement_min_full_holds, C04_to_partial_min_full_holds⟩

example : (match exA.binopMin .diff exB with
           | .ok M => (M.accepts [1], M.accepts [0, 1], M.states.length)
           | .error _ => (false, false, 0)) = (false, true, 4) := by decide +kernel
example : (match exA.complementMinFull 2 (fun _ => 0) with
           | .ok M => (M.accepts [1], M.accepts [1, 1], M.accepts [5], M.states.length)
           | .error _ => (false, false, false, 0)) = (false, true, false, 3) := by decide +kernel
example : ((exC.toPartialMin).accepts [0, 0, 0], (exC.toPartialMin).accepts [0, 1],
    (exC.toPartialMin).states.length) = (true, false, 2) := by decide +kernel

/-! Compositions: every operation preserves "valid DFA over Σ with language L".

`Sem d Sg L` (Proofs/Expr.lean): `d.validate = ok`, `d.PyShape`, `d.syms = Sg` as sets, and
`∀ w, d.accepts w = L w`.  The hypotheses of each theorem above are exactly this invariant
for the operands, and the conclusion is this invariant for the result, so every finite
composition is covered — for `retain_names=True` by chaining the `C04_closed_*` theorems (the
state type changes at every product), and for `retain_names=False` by the induction
`C04_expr_all` over an explicit datatype of expression trees. -/

/-- Closure: `A.op(B, retain_names=True, minify=False)`. -/
theorem C04_closed_binop (op : BinOp) {A B : AV.DFA σ α} {Sg : List α} {LA LB : List α → Bool}
    (hA : Sem A Sg LA) (hB : Sem B Sg LB) :
    ∃ R, A.binopPlain op B = .ok R ∧ Sem R Sg (fun w => op.fin (LA w) (LB w)) :=
  let ⟨R, hR, r, _⟩ := binopPlain_spec op hA.valid hB.valid hA.pyShape (hA.symsEq hB)
  ⟨R, hR, r.sem hA.syms fun w => by rw [hA.lang w, hB.lang w]⟩

/-- Closure: `A.op(B, retain_names=False, minify=False)`. -/
theorem C04_closed_binop_renumbered (op : BinOp) {A B : AV.DFA σ α} {Sg : List α}
    {LA LB : List α → Bool} (hA : Sem A Sg LA) (hB : Sem B Sg LB) :
    ∃ R, A.binopPlain op B = .ok R ∧ Sem R.renumber Sg (fun w => op.fin (LA w) (LB w)) :=
  let ⟨R, hR, r, t⟩ := binopPlain_spec op hA.valid hB.valid hA.pyShape (hA.symsEq hB)
  ⟨R, hR, (r.renumber t.keys).sem hA.syms fun w => by rw [hA.lang w, hB.lang w]⟩

/-- Closure: `complement(minify=False)` (complement relative to `Sg*`). -/
theorem C04_closed_complement {d : AV.DFA σ α} {Sg : List α} {L : List α → Bool} (h : Sem d Sg L)
    (trap : σ) (ht : trap ∉ d.states) :
    ∃ R, d.complementFull trap = .ok R ∧
      Sem R Sg (fun w => (w.all fun a => decide (a ∈ Sg)) && !L w) :=
  let ⟨C, hC, _, _, _, r⟩ := complement_operand d h.valid h.pyShape trap ht
  ⟨C.complementPlain, by rw [complementFull, hC],
    r.sem h.syms fun w => by rw [h.lang w, all_mem_congr h.syms w]⟩

/-- Closure: `to_complete` (language unchanged, result complete). -/
theorem C04_closed_to_complete {d : AV.DFA σ α} {Sg : List α} {L : List α → Bool} (h : Sem d Sg L)
    (trap : σ) (custom : Bool) (ht : trap ∉ d.states) :
    ∃ C, d.toComplete trap custom = .ok C ∧ Sem C Sg L ∧ C.IsComplete :=
  let ⟨C, hC, hv, hp, hsy, hc, _, _, hl⟩ := C04_to_complete d h.valid h.pyShape trap custom ht
  ⟨C, hC, Result.sem ⟨hv, hp, hsy, hl⟩ h.syms h.lang, hc⟩

/-- Closure: `to_partial(minify=False)` (language unchanged). -/
theorem C04_closed_to_partial {d : AV.DFA σ α} {Sg : List α} {L : List α → Bool} (h : Sem d Sg L) :
    Sem d.toPartialPlain Sg L :=
  (toPartialPlain_result h.wf h.pyShape).sem h.syms h.lang

/-- Closure: renaming by discovery index (for results whose transition keys are their states). -/
theorem C04_closed_renumber {d : AV.DFA σ α} {Sg : List α} {L : List α → Bool} (h : Sem d Sg L)
    (hk : akeys d.trans = d.states) : Sem d.renumber Sg L :=
  (h.result.renumber hk).sem h.syms fun _ => rfl

/-- **Closure of the `minify=True` operations**: operands that are valid DFAs over `Sg` with
languages `LA`, `LB` give valid DFAs over `Sg` with the set-operation language / the
complement relative to `Sg*` / the same language — so `minify=True` results can be operands
of further operations. -/
theorem C04_closed_min {A B : AV.DFA σ α} {Sg : List α} {LA LB : List α → Bool}
    (hA : Sem A Sg LA) (hB : Sem B Sg LB) (pick : List Nat → Nat) :
    (∀ op, ∃ M, A.binopMin op B pick = .ok M ∧ Sem M Sg (fun w => op.fin (LA w) (LB w))) ∧
    (∀ trap, trap ∉ A.states → ∃ M, A.complementMinFull trap pick = .ok M ∧
      Sem M Sg (fun w => (w.all fun a => decide (a ∈ Sg)) && !LA w)) ∧
    Sem (A.toPartialMin pick) Sg LA :=
  ⟨fun op =>
    let ⟨M, hM, r⟩ := C04_binop_min op A B pick hA.valid hB.valid hA.pyShape (hA.symsEq hB)
    ⟨M, hM, Result.sem r hA.syms fun w => by rw [hA.lang w, hB.lang w]⟩,
   fun trap ht =>
    let ⟨M, hM, r⟩ := C04_complement_min A trap pick hA.valid hA.pyShape ht
    ⟨M, hM, Result.sem r hA.syms fun w => by rw [hA.lang w, all_mem_congr hA.syms w]⟩,
   Result.sem (C04_to_partial_min A pick hA.valid hA.pyShape) hA.syms hA.lang⟩

theorem C04_closed_min_partial
    (hC05 : MinifyGuarantee)
    {A B : AV.DFA σ α} {Sg : List α} {LA LB : List α → Bool} (hA : Sem A Sg LA) (hB : Sem B Sg LB)
    (pick : List Nat → Nat) :
    (∀ op, ∃ M, A.binopMin op B pick = .ok M ∧ Sem M Sg (fun w => op.fin (LA w) (LB w))) ∧
    (∀ trap, trap ∉ A.states → ∃ M, A.complementMinFull trap pick = .ok M ∧
      Sem M Sg (fun w => (w.all fun a => decide (a ∈ Sg)) && !LA w)) ∧
    Sem (A.toPartialMin pick) Sg LA :=
  have _ := hC05
  C04_closed_min hA hB pick

/-- **Expression trees, any `minify` flags.**  For every finite tree over {leaf, ∪, ∩, −, △,
complement, to_partial, to_complete} whose operation nodes carry an arbitrary `minify` flag
and whose leaves are valid duplicate-free DFAs over one alphabet `Sg`, evaluation with the
model of the code (`retain_names=False`; `trapOf` returns a name outside the given states,
`pick` is any pop order of the refinement loop) succeeds, and the result is a valid DFA over
`Sg` whose verdict on every word is the denoted set expression (complement relative to
`Sg*`). -/
theorem C04_expr_all (trapOf : List Nat → Nat) (hfresh : ∀ l, trapOf l ∉ l) (pick : List Nat → Nat)
    (Sg : List α) (e : DFAExpr α) (hl : e.LeavesOk Sg) :
    ∃ R, e.eval trapOf pick = .ok R ∧ Sem R Sg (e.denote Sg) := by
  induction e with
  | leaf d => exact ⟨d, rfl, hl.1, hl.2.1, hl.2.2, fun _ => rfl⟩
  | binop op m l r ihl ihr =>
    obtain ⟨A, hA, sA⟩ := ihl hl.1
    obtain ⟨B, hB, sB⟩ := ihr hl.2
    cases m with
    | false =>
      obtain ⟨R, hR, sR⟩ := C04_closed_binop_renumbered op sA sB
      exact ⟨R.renumber, by simp only [DFAExpr.eval, hA, hB, hR, DFAExpr.renumberRes], sR⟩
    | true =>
      obtain ⟨M, hM, sM⟩ := (C04_closed_min sA sB pick).1 op
      exact ⟨M.renumber, by simp only [DFAExpr.eval, hA, hB, hM, DFAExpr.renumberRes],
        C04_closed_renumber sM (binopMin_keys hM)⟩
  | compl m e ih =>
    obtain ⟨A, hA, sA⟩ := ih hl
    cases m with
    | false =>
      obtain ⟨R, hR, sR⟩ := C04_closed_complement sA (trapOf A.states) (hfresh _)
      exact ⟨R, by simp only [DFAExpr.eval, hA, hR], sR⟩
    | true =>
      obtain ⟨M, hM, sM⟩ := (C04_closed_min sA sA pick).2.1 (trapOf A.states) (hfresh _)
      exact ⟨M.renumber, by simp only [DFAExpr.eval, hA, hM, DFAExpr.renumberRes],
        C04_closed_renumber sM (complementMinFull_keys hM)⟩
  | toPartial m e ih =>
    obtain ⟨A, hA, sA⟩ := ih hl
    cases m with
    | false => exact ⟨A.toPartialPlain, by simp only [DFAExpr.eval, hA], C04_closed_to_partial sA⟩
    | true =>
      exact ⟨(A.toPartialMin pick).renumber, by simp only [DFAExpr.eval, hA],
        C04_closed_renumber (C04_closed_min sA sA pick).2.2 (toPartialMin_keys A pick)⟩
  | toComplete e ih =>
    obtain ⟨A, hA, sA⟩ := ih hl
    obtain ⟨C, hC, sC, _⟩ := C04_closed_to_complete sA (trapOf A.states) false (hfresh _)
    exact ⟨C, by simp only [DFAExpr.eval, hA, hC], sC⟩

/-- The full statement for expression trees: all trees, all `minify` flags (it holds:
`C04_expr_full_holds`). -/
def C04_expr_full : Prop :=
  ∀ (α : Type) [DecidableEq α] (trapOf : List Nat → Nat), (∀ l, trapOf l ∉ l) →
    ∀ (pick : List Nat → Nat) (Sg : List α) (e : DFAExpr α), e.LeavesOk Sg →
      ∃ R, e.eval trapOf pick = .ok R ∧ Sem R Sg (e.denote Sg)

theorem C04_expr_full_holds : C04_expr_full :=
  fun _ _ trapOf hfresh pick Sg e hl => C04_expr_all trapOf hfresh pick Sg e hl

/-- **Expression trees (`minify=False` everywhere)**: the case of `C04_expr_all` in which no
node calls `_minify`. -/
theorem C04_expr (trapOf : List Nat → Nat) (hfresh : ∀ l, trapOf l ∉ l) (pick : List Nat → Nat)
    (Sg : List α) (e : DFAExpr α) (hl : e.LeavesOk Sg) (hm : e.usesMinify = false) :
    ∃ R, e.eval trapOf pick = .ok R ∧ Sem R Sg (e.denote Sg) :=
  have _ := hm
  C04_expr_all trapOf hfresh pick Sg e hl

theorem C04_expr_gen (trapOf : List Nat → Nat) (hfresh : ∀ l, trapOf l ∉ l) (pick : List Nat → Nat)
    (Sg : List α) (e : DFAExpr α) (hl : e.LeavesOk Sg)
    (hC05 : e.usesMinify = true → MinifyGuarantee) :
    ∃ R, e.eval trapOf pick = .ok R ∧ Sem R Sg (e.denote Sg) :=
  have _ := hC05
  C04_expr_all trapOf hfresh pick Sg e hl

theorem C04_expr_min_partial (hC05 : MinifyGuarantee) : C04_expr_full :=
  have _ := hC05
  C04_expr_full_holds

/-- `freshNat` is an admissible trap-name oracle. -/
theorem C04_expr_fresh (l : List Nat) : freshNat l ∉ l := freshNat_not_mem l

/-- `(A − B) ∪ ~(to_partial(A) ∩ to_complete(B))`: six operation nodes. -/
def exE : DFAExpr Nat :=
  .union (.diff (.leaf exA) (.leaf exB))
    (.compl false (.inter (.toPartial false (.leaf exA)) (.toComplete (.leaf exB))))

/-- The same tree with `minify=True` at three nodes. -/
def exEm : DFAExpr Nat :=
  .union (.diff (.leaf exA) (.leaf exB) true)
    (.compl true (.inter (.toPartial true (.leaf exA)) (.toComplete (.leaf exB)))) false

theorem exA_leafOk : (DFAExpr.leaf exA).LeavesOk [0, 1] :=
  ⟨by rfl, ⟨by decide, by decide, by decide, by decide, by decide⟩, fun _ => Iff.rfl⟩
theorem exB_leafOk : (DFAExpr.leaf exB).LeavesOk [0, 1] :=
  ⟨by rfl, ⟨by decide, by decide, by decide, by decide, by decide⟩, fun _ => Iff.rfl⟩

example : exE.LeavesOk [0, 1] := ⟨⟨exA_leafOk, exB_leafOk⟩, ⟨exA_leafOk, exB_leafOk⟩⟩
example : exE.size = 6 ∧ exE.usesMinify = false ∧ exEm.usesMinify = true := by decide +kernel
example : (match exEm.eval freshNat (fun _ => 0) with
           | .ok R => (R.accepts [1], R.accepts [0, 0], R.accepts [1, 0, 1], R.accepts [1, 7])
           | .error _ => (true, false, false, true)) = (false, true, true, false) := by decide +kernel
example : (match exE.eval freshNat (fun _ => 0) with
           | .ok R => (R.states.length, R.accepts [1], R.accepts [0, 0], R.accepts [1, 0, 1], R.accepts [1, 7])
           | .error _ => (0, true, false, false, true)) = (5, false, true, true, false) := by decide +kernel
example : (exE.denote [0, 1] [1], exE.denote [0, 1] [0, 0], exE.denote [0, 1] [1, 0, 1],
    exE.denote [0, 1] [1, 7]) = (false, true, true, false) := by decide +kernel
example : (match exE.eval freshNat (fun _ => 0) with
           | .ok R => R.validate
           | .error e => .error e) = .ok () := eq_ok_of_isOk (by decide +kernel)

/-- **Boolean operations, `retain_names=False, minify=True` — the DEFAULT options.**  The
minimised product renamed by counter values is a valid duplicate-free DFA over the operands'
alphabet with exactly the set-operation language.  (Order of the two steps: the code renames
the product states while it expands them, minimises, and names the classes by `enumerate`;
the model minimises the product and renumbers the classes.  Both name the same classes by
`0, 1, …` in an order that depends on set iteration, so the two results are isomorphic —
the correspondence compares them up to isomorphism — and validity, alphabet and language,
which is all this theorem states, are invariant under it.) -/
theorem C04_binop_min_renumbered (op : BinOp) (A B : AV.DFA σ α) (pick : List Nat → Nat)
    (hA : A.validate = .ok ()) (hB : B.validate = .ok ()) (pA : A.PyShape) (hs : A.symsEq B = true) :
    ∃ M, A.binopMin op B pick = .ok M ∧ M.renumber.validate = .ok () ∧ M.renumber.PyShape ∧
      M.renumber.syms = A.syms ∧
      ∀ w, M.renumber.accepts w = op.fin (A.accepts w) (B.accepts w) :=
  let ⟨M, hM, r⟩ := C04_binop_min op A B pick hA hB pA hs
  ⟨M, hM, Result.renumber r (binopMin_keys hM)⟩

/-- **Complement with the default options** (`retain_names=False, minify=True`). -/
theorem C04_complement_min_renumbered (d : AV.DFA σ α) (trap : σ) (pick : List Nat → Nat)
    (hd : d.validate = .ok ()) (pd : d.PyShape) (ht : trap ∉ d.states) :
    ∃ M, d.complementMinFull trap pick = .ok M ∧ M.renumber.validate = .ok () ∧
      M.renumber.PyShape ∧ M.renumber.syms = d.syms ∧
      ∀ w, M.renumber.accepts w = ((w.all fun a => decide (a ∈ d.syms)) && !d.accepts w) :=
  let ⟨M, hM, r⟩ := C04_complement_min d trap pick hd pd ht
  ⟨M, hM, Result.renumber r (complementMinFull_keys hM)⟩

/-- **All four option combinations of a Boolean operation at once** (`binopOpts`,
Model/DFAOperators.lean): the call succeeds and, whatever the state type of the result, it is
a valid duplicate-free DFA over the operands' alphabet with the set-operation language. -/
theorem C04_binop_all_options (op : BinOp) (A B : AV.DFA σ α) (retain minify : Bool)
    (pick : List Nat → Nat)
    (hA : A.validate = .ok ()) (hB : B.validate = .ok ()) (pA : A.PyShape) (hs : A.symsEq B = true) :
    (∃ R, binopOpts op A B retain minify pick = .ok (.named R) ∧ R.validate = .ok () ∧ R.PyShape ∧
      R.syms = A.syms ∧ ∀ w, R.accepts w = op.fin (A.accepts w) (B.accepts w)) ∨
    (∃ R, binopOpts op A B retain minify pick = .ok (.blocks R) ∧ R.validate = .ok () ∧ R.PyShape ∧
      R.syms = A.syms ∧ ∀ w, R.accepts w = op.fin (A.accepts w) (B.accepts w)) ∨
    (∃ R, binopOpts op A B retain minify pick = .ok (.numbered R) ∧ R.validate = .ok () ∧ R.PyShape ∧
      R.syms = A.syms ∧ ∀ w, R.accepts w = op.fin (A.accepts w) (B.accepts w)) := by
  cases minify <;> cases retain
  · obtain ⟨R, hR, h⟩ := C04_binop_renumbered op A B hA hB pA hs
    exact Or.inr (Or.inr ⟨R.renumber, by simp only [binopOpts, hR, Except.map], h⟩)
  · obtain ⟨R, hR, r, _⟩ := binopPlain_spec op hA hB pA hs
    exact Or.inl ⟨R, by simp only [binopOpts, hR, Except.map], r⟩
  · obtain ⟨M, hM, h⟩ := C04_binop_min_renumbered op A B pick hA hB pA hs
    exact Or.inr (Or.inr ⟨M.renumber, by simp only [binopOpts, hM, Except.map], h⟩)
  · obtain ⟨M, hM, h⟩ := C04_binop_min op A B pick hA hB pA hs
    exact Or.inr (Or.inl ⟨M, by simp only [binopOpts, hM, Except.map], h⟩)

/-- What the regenerated dispatch and default tables make of an operator: the method with
`retain_names=False, minify=True`, for any operands. -/
theorem operator_eq_binopOpts (op : BinOp) (A B : AV.DFA σ α) (pick : List Nat → Nat) :
    operator op A B pick = binopOpts op A B false true pick := by
  cases op <;> rfl

/-- **The operators `| & - ^`.**  `DFA.operator op` (Model/DFAOperators.lean) is what the
source makes of the operator: the `return self.<method>(other, …)` of `__or__` / `__and__` /
`__sub__` / `__xor__` with the keyword defaults of that method, both read from the tables
regenerated from automata/fa/dfa.py.  With the source as it is, that is the method with
`retain_names=False, minify=True`, and the result is a valid duplicate-free DFA over the
operands' alphabet with exactly the set-operation language.  If a default or the called
method changes in the source, the regenerated tables change and this proof breaks. -/
theorem C04_operators (op : BinOp) (A B : AV.DFA σ α) (pick : List Nat → Nat)
    (hA : A.validate = .ok ()) (hB : B.validate = .ok ()) (pA : A.PyShape) (hs : A.symsEq B = true) :
    operator op A B pick = binopOpts op A B false true pick ∧
    ∃ R, operator op A B pick = .ok (.numbered R) ∧ R.validate = .ok () ∧ R.PyShape ∧
      R.syms = A.syms ∧ ∀ w, R.accepts w = op.fin (A.accepts w) (B.accepts w) := by
  have h0 := operator_eq_binopOpts op A B pick
  refine ⟨h0, ?_⟩
  obtain ⟨M, hM, h⟩ := C04_binop_min_renumbered op A B pick hA hB pA hs
  exact ⟨M.renumber, by rw [h0]; simp only [binopOpts, hM, Except.map], h⟩

/-- The four operators by name. -/
theorem C04_or_and_sub_xor (A B : AV.DFA σ α) (pick : List Nat → Nat)
    (hA : A.validate = .ok ()) (hB : B.validate = .ok ()) (pA : A.PyShape) (hs : A.symsEq B = true) :
    (∃ R, A.or B pick = .ok (.numbered R) ∧ R.validate = .ok () ∧
      ∀ w, R.accepts w = (A.accepts w || B.accepts w)) ∧
    (∃ R, A.and B pick = .ok (.numbered R) ∧ R.validate = .ok () ∧
      ∀ w, R.accepts w = (A.accepts w && B.accepts w)) ∧
    (∃ R, A.sub B pick = .ok (.numbered R) ∧ R.validate = .ok () ∧
      ∀ w, R.accepts w = (A.accepts w && !B.accepts w)) ∧
    (∃ R, A.xor B pick = .ok (.numbered R) ∧ R.validate = .ok () ∧
      ∀ w, R.accepts w = (Bool.xor (A.accepts w) (B.accepts w))) := by
  have h (op : BinOp) : ∃ R, operator op A B pick = .ok (.numbered R) ∧ R.validate = .ok () ∧
      ∀ w, R.accepts w = op.fin (A.accepts w) (B.accepts w) := by
    obtain ⟨R, h1, h2, _, _, h5⟩ := (C04_operators op A B pick hA hB pA hs).2
    exact ⟨R, h1, h2, h5⟩
  exact ⟨h .union, h .inter, h .diff, h .symm⟩

/-- **The operator `~`**: `complement()` with the source's defaults (`retain_names=False,
minify=True`), complement relative to `Σ*`. -/
theorem C04_invert (d : AV.DFA σ α) (trap : σ) (pick : List Nat → Nat)
    (hd : d.validate = .ok ()) (pd : d.PyShape) (ht : trap ∉ d.states) :
    invert d trap pick = complementOpts d trap false true pick ∧
    ∃ R, invert d trap pick = .ok (.numbered R) ∧ R.validate = .ok () ∧ R.PyShape ∧
      R.syms = d.syms ∧
      ∀ w, R.accepts w = ((w.all fun a => decide (a ∈ d.syms)) && !d.accepts w) := by
  have h0 : invert d trap pick = complementOpts d trap false true pick := rfl
  refine ⟨h0, ?_⟩
  obtain ⟨M, hM, h⟩ := C04_complement_min_renumbered d trap pick hd pd ht
  exact ⟨M.renumber, by rw [h0]; simp only [complementOpts, hM, Except.map], h⟩

/-- The regenerated source facts the operator model reads: every operator returns exactly one
call `self.<method>(other)` without keyword arguments, and the keyword defaults of all
option-taking DFA methods are `retain_names=False`, `minify=True`. -/
theorem C04_operator_table :
    Gen.DfaDefaults.operators =
      [("__or__", "union", [], 1, []), ("__and__", "intersection", [], 1, []),
       ("__sub__", "difference", [], 1, []), ("__xor__", "symmetric_difference", [], 1, []),
       ("__invert__", "complement", [], 0, [])] ∧
    Gen.DfaDefaults.defaults =
      [("union", "retain_names", false), ("union", "minify", true),
       ("intersection", "retain_names", false), ("intersection", "minify", true),
       ("difference", "retain_names", false), ("difference", "minify", true),
       ("symmetric_difference", "retain_names", false), ("symmetric_difference", "minify", true),
       ("complement", "retain_names", false), ("complement", "minify", true),
       ("to_partial", "retain_names", false), ("to_partial", "minify", true),
       ("from_nfa", "retain_names", false), ("from_nfa", "minify", true),
       ("minify", "retain_names", false)] :=
  ⟨rfl, rfl⟩

example : ∃ M, exA.binopMin .symm exB (fun _ => 0) = .ok M ∧ M.validate = .ok () ∧ M.PyShape ∧
    M.syms = exA.syms ∧ ∀ w, M.accepts w = BinOp.symm.fin (exA.accepts w) (exB.accepts w) :=
  C04_binop_min .symm exA exB _ (by rfl) (by rfl)
    ⟨by decide, by decide, by decide, by decide, by decide⟩ (by decide)
example : (2 : Nat) ∉ exA.states := by decide +kernel
example : ∃ M, exA.complementMinFull 2 (fun _ => 0) = .ok M ∧ M.validate = .ok () ∧ M.PyShape ∧
    M.syms = exA.syms ∧
    ∀ w, M.accepts w = ((w.all fun a => decide (a ∈ exA.syms)) && !exA.accepts w) :=
  C04_complement_min exA 2 _ (by rfl) ⟨by decide, by decide, by decide, by decide, by decide⟩
    (by decide)
example : ∀ w, (exC.toPartialMin).accepts w = exC.accepts w :=
  (C04_to_partial_min exC _ (by rfl) ⟨by decide, by decide, by decide, by decide, by decide⟩).2.2.2
example : exEm.LeavesOk [0, 1] := ⟨⟨exA_leafOk, exB_leafOk⟩, ⟨exA_leafOk, exB_leafOk⟩⟩
example : ∃ R, exEm.eval freshNat (fun _ => 0) = .ok R ∧ Sem R [0, 1] (exEm.denote [0, 1]) :=
  C04_expr_all freshNat freshNat_not_mem _ [0, 1] exEm
    ⟨⟨exA_leafOk, exB_leafOk⟩, ⟨exA_leafOk, exB_leafOk⟩⟩
example : (exEm.denote [0, 1] [1], exEm.denote [0, 1] [0, 0], exEm.denote [0, 1] [1, 0, 1],
    exEm.denote [0, 1] [1, 7]) = (false, true, true, false) := by decide +kernel

-- the operators on the running examples: default options, counter names
example : (match exA.or exB (fun _ => 0) with
    | .ok (.numbered R) => (R.states.length, R.accepts [1], R.accepts [0, 0])
    | _ => (0, false, false)) =
    (match exA.binopMin .union exB (fun _ => 0) with
    | .ok M => (M.states.length, M.accepts [1], M.accepts [0, 0])
    | .error _ => (1, false, false)) := by decide +kernel
example : (match invert exA 2 (fun _ => 0) with
    | .ok (.numbered R) => (R.accepts [1], R.accepts [0], R.accepts [7])
    | _ => (true, false, true)) = (!exA.accepts [1], !exA.accepts [0], false) := by decide +kernel

end AV.Props.C04
