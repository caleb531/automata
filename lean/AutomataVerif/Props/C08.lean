/-
Props/C08.lean — NFA regular operations are total and compute the textbook language
operations.

English statement (properties.jsonl C08): "For any valid NFAs, union, concatenation, Kleene
star, option, reversal, intersection, shuffle product, and left and right quotient (and the
+ | & operators) always return a valid NFA, never an error, whose language is exactly the
corresponding operation on the operand languages.  This holds for operands with empty-string
transitions, with empty or universal languages, with overlapping state names, and for
results fed into further operations."

Model: Model/NFAOps.lean mirrors the code function by function (state maps, fresh state,
table loading, work-list product, constructor validation), with every Python failure mode
as an `Except` branch.  Each theorem below says, for ALL valid operands (any state-name
types, any alphabets, ε-moves, junk rows, any order of the lists that stand for sets):

  * totality — the operation returns `.ok R` (no `KeyError`, no library exception);
  * validity — `R` passes `validate` and is again `Valid` (so results can be fed back);
  * language — `Lang R` is Mathlib's language operation applied to the operand languages,
    where `Lang n` is `εNFA.accepts` of the textbook ε-NFA of the definition
    (`Props/C01.lean` proves that this is what `accepts_input` computes).

`Valid n` is: `n.validate = .ok ()` (exactly what `NFA.validate` checks) and the transition
table is a dict of dicts (keys unique at both levels — a representation invariant of Python
dicts, not a restriction on automata).

`kleene_star`, `option` and `reverse` add the state `_add_new_state` picks (the first natural
number that is not a state); `nat : ℕ → σ` is the embedding of Python's ints into the
state-name type and is assumed injective (distinct ints are distinct names) — for integer
names it is the identity.  The two operands of a binary operation may have different
state-name types; overlapping names are the special case `σ₁ = σ₂`.
-/
import AutomataVerif.Proofs.EpsOpsA
import AutomataVerif.Proofs.EpsOpsB
import AutomataVerif.Proofs.NFAOpsUnary
import AutomataVerif.Proofs.NFAOpsReverse
import AutomataVerif.Proofs.NFAOpsBinary
import AutomataVerif.Proofs.NFAOpsInter
import AutomataVerif.Proofs.EpsOpsC
import AutomataVerif.Proofs.NFAElimSpec
import AutomataVerif.Proofs.NFAOpsRQ
import AutomataVerif.Proofs.NFAOpsLQ
import AutomataVerif.Proofs.NFAOpsShuffle
import AutomataVerif.Proofs.NFAMapStates
import AutomataVerif.Props.C01

namespace AV.Props.C08
open AV AV.NFA AV.Props.C01 AV.EpsOps

variable {σ σ₁ σ₂ α : Type} [DecidableEq σ] [DecidableEq σ₁] [DecidableEq σ₂] [DecidableEq α]

/-- The language of an NFA definition: Mathlib's `εNFA.accepts` of its textbook ε-NFA. -/
def Lang (n : AV.NFA σ α) : Language α := (nfaTextbook n).accepts

/-- `Lang` is what the model's reader (and, by C01's correspondence, `accepts_input`) decides. -/
theorem mem_Lang (n : AV.NFA σ α) (hv : n.validate = .ok ()) (w : List α) :
    w ∈ Lang n ↔ n.accepts w = true := (C01_nfa_accepts_iff n hv w).symm

theorem valid_iff (n : AV.NFA σ α) : n.Valid ↔ n.validate = .ok () ∧ Tbl.Dict n.trans :=
  ⟨fun h => ⟨h.validate, h.dict⟩, fun h => ⟨(NFA.validate_eq_ok n).mp h.1, h.2⟩⟩

/-- **C08 (option).**  `A.option()` never fails, returns a valid NFA, and its language is
`{ε} ∪ L(A)`. -/
theorem C08_option (nat : Nat → σ) (hnat : Function.Injective nat) (A : AV.NFA σ α) (hA : A.Valid) :
    ∃ R, NFA.option nat A = .ok R ∧ R.Valid ∧ Lang R = 1 + Lang A := by
  have hold : ∀ q ∈ A.states, q ≠ addNewState nat A.states := fun q hq =>
    ne_of_mem_of_not_mem hq (addNewState_fresh nat hnat A.states)
  have hval := optionRaw_valid nat A hA
  refine ⟨optionRaw nat A, (option_eq nat A).trans (create_eq_ok _ hval.wf), hval, ?_⟩
  exact accepts_option (nfaTextbook (optionRaw nat A)) (addNewState nat A.states) (on_states hA.wf) rfl
    (optionRaw_targets_new nat A) (fun q hq => optionRaw_targets_old nat A (hold q hq))
    (fun q hq => mem_sinsert.trans (or_iff_right (hold q hq))) (mem_sinsert.mpr (Or.inl rfl))

/-- **C08 (kleene_star).**  `A.kleene_star()` never fails, returns a valid NFA, and its
language is `L(A)∗`. -/
theorem C08_kleene_star (nat : Nat → σ) (hnat : Function.Injective nat) (A : AV.NFA σ α)
    (hA : A.Valid) :
    ∃ R, NFA.kleeneStar nat A = .ok R ∧ R.Valid ∧ Lang R = KStar.kstar (Lang A) := by
  have hold : ∀ q ∈ A.states, q ≠ addNewState nat A.states := fun q hq =>
    ne_of_mem_of_not_mem hq (addNewState_fresh nat hnat A.states)
  have hval := starRaw_valid nat A hA
  refine ⟨starRaw nat A, (kleeneStar_eq nat A).trans (create_eq_ok _ hval.wf), hval, ?_⟩
  exact accepts_star (nfaTextbook (starRaw nat A)) (addNewState nat A.states) (on_states hA.wf) rfl
    (starRaw_targets_new nat A fun h => hold _ (hA.wf.finalsOk _ h) rfl)
    (fun q hq => starRaw_targets_old nat A (hold q hq))
    (fun q hq => mem_sinsert.trans (or_iff_right (hold q hq))) (mem_sinsert.mpr (Or.inl rfl))

/-- **C08 (union, `|`).**  `A.union(B)` never fails, returns a valid NFA, and its language is
`L(A) ∪ L(B)` — for operands with different state-name types, overlapping names, different
alphabets, ε-moves, junk rows. -/
theorem C08_union (A : AV.NFA σ₁ α) (B : AV.NFA σ₂ α) (hA : A.Valid) (hB : B.Valid) :
    ∃ R, NFA.union A B = .ok R ∧ R.Valid ∧ Lang R = Lang A + Lang B := by
  have hval := unionRaw_valid A B hA hB
  refine ⟨unionRaw A B, (union_eq A B hA.wf hB.wf).trans (create_eq_ok _ hval.wf), hval, ?_⟩
  exact accepts_union (nfaTextbook (unionRaw A B)) (φa A 1) (φb A B 1) 0
    (on_states hA.wf) (on_states hB.wf) rfl
    (unionRaw_mem_targets_zero A B) (fun q hq => unionRaw_targets_a A B hA hq)
    (fun q hq => unionRaw_targets_b A B hB hq)
    (fun q hq => unionRaw_final_a A B hA.wf hq) (fun _ _ => unionRaw_final_b A B hA.wf hB.wf)
    (zero_not_mem_unionRaw_finals A B)

/-- The operator `A | B` is `union`. -/
theorem C08_or (A : AV.NFA σ₁ α) (B : AV.NFA σ₂ α) (hA : A.Valid) (hB : B.Valid) :
    ∃ R, NFA.orOp A B = .ok R ∧ R.Valid ∧ Lang R = Lang A + Lang B := C08_union A B hA hB

/-- **C08 (concatenate, `+`).**  `A.concatenate(B)` never fails, returns a valid NFA, and its
language is `L(A) · L(B)`. -/
theorem C08_concatenate (A : AV.NFA σ₁ α) (B : AV.NFA σ₂ α) (hA : A.Valid) (hB : B.Valid) :
    ∃ R, NFA.concatenate A B = .ok R ∧ R.Valid ∧ Lang R = Lang A * Lang B := by
  have hval := concatRaw_valid A B hA hB
  refine ⟨concatRaw A B, (concatenate_eq A B hA.wf hB.wf).trans (create_eq_ok _ hval.wf), hval, ?_⟩
  exact accepts_concat (nfaTextbook (concatRaw A B)) (φa A 0) (φb A B 0)
    (on_states hA.wf) (on_states hB.wf) rfl
    (fun q hq => concatRaw_targets_a A B hA hq) (fun q hq => concatRaw_targets_b A B hA.wf hB hq)
    (fun q hq => concatRaw_final_a A B hq) (fun _ _ => concatRaw_final_b A B hB.wf)

/-- The operator `A + B` is `concatenate`. -/
theorem C08_add (A : AV.NFA σ₁ α) (B : AV.NFA σ₂ α) (hA : A.Valid) (hB : B.Valid) :
    ∃ R, NFA.addOp A B = .ok R ∧ R.Valid ∧ Lang R = Lang A * Lang B := C08_concatenate A B hA hB

/-- The product table is built from scratch and then validated: all that is used of the
operands is that the symbol moves of `A` are on symbols of `A`.  `B` is arbitrary: both tables are
read with `.get` only (`NFA.row`), so no row of `B` can raise, and a joint move is a move of `A`,
hence on a symbol of the loop's alphabet `A.syms ∪ B.syms` (`B.WF` in place of `A.WF` would do too). -/
theorem C08_intersection_of_wf (A : AV.NFA σ₁ α) (B : AV.NFA σ₂ α) (hA : A.WF) :
    ∃ R, NFA.intersection A B = .ok R ∧ R.Valid ∧ Lang R = Lang A ⊓ Lang B := by
  obtain ⟨R, hR, hval, hinit, hi, hcl, hstep, hfin⟩ := intersection_spec A B hA
  exact ⟨R, hR, hval, accepts_inter (nfaTextbook R) (nfaTextbook A) (nfaTextbook B)
    {s | s ∈ R.states} A.init B.init rfl rfl (hinit ▸ rfl) hi hcl hstep hfin⟩

/-- **C08 (intersection, `&`).**  `A.intersection(B)` never fails (the work-list search stops
within its fuel), returns a valid NFA, and its language is `L(A) ∩ L(B)`. -/
theorem C08_intersection (A : AV.NFA σ₁ α) (B : AV.NFA σ₂ α) (hA : A.Valid) (_ : B.Valid) :
    ∃ R, NFA.intersection A B = .ok R ∧ R.Valid ∧ Lang R = Lang A ⊓ Lang B :=
  C08_intersection_of_wf A B hA.wf

/-- The operator `A & B` is `intersection`. -/
theorem C08_and (A : AV.NFA σ₁ α) (B : AV.NFA σ₂ α) (hA : A.Valid) (hB : B.Valid) :
    ∃ R, NFA.andOp A B = .ok R ∧ R.Valid ∧ Lang R = Lang A ⊓ Lang B := C08_intersection A B hA hB

/-- The ε-free automaton described by the triple `_eliminate_lambda` returns. -/
def elimTextbook (i : σ) (ta : Tbl σ α) (fa : List σ) : εNFA α σ where
  step := fun q a => {p | p ∈ Tbl.tgt ta q a}
  start := {i}
  accept := {q | q ∈ fa}

theorem mem_Lang_acc (n : AV.NFA σ α) (w : List α) :
    w ∈ Lang n ↔ Rx.Acc n.rel (· ∈ n.finals) n.init w := mem_accepts_iff_acc rfl

/-- `_eliminate_lambda` preserves the language (and yields an ε-free automaton on the
reachable states). -/
theorem elim_language (A : AV.NFA σ α) (ra : List σ) (ta : Tbl σ α) (fa : List σ)
    (sa : NFAElim.ElimSpec A ra ta fa) : (elimTextbook A.init ta fa).accepts = Lang A := by
  ext w
  rw [mem_accepts_iff_acc (i := A.init) rfl, mem_Lang_acc]
  exact sa.acc_iff

/-- **C08 (right_quotient).**  `A.right_quotient(B)` never fails, returns a valid NFA, and
its language is `L(A) / L(B) = {w | ∃ x ∈ L(B), w·x ∈ L(A)}`. -/
theorem C08_right_quotient (A : AV.NFA σ₁ α) (B : AV.NFA σ₂ α) (hA : A.Valid) (hB : B.Valid) :
    ∃ R, NFA.rightQuotient A B = .ok R ∧ R.Valid ∧ Lang R = rightQuotientLang (Lang A) (Lang B) := by
  obtain ⟨ra, ta, fa, hca, sa⟩ := NFAElim.core_spec A hA
  obtain ⟨rb, tb, fb, hcb, sb⟩ := NFAElim.core_spec B hB
  obtain ⟨R, hR, hval, hinit, hA', hB', hfin⟩ :=
    rightQuotient_spec A B ra ta fa rb tb fb hca hcb sa sb
  refine ⟨R, hR, hval, ?_⟩
  ext w
  rw [mem_Lang_acc, hinit]
  exact (Rx.Acc.right_quotient sa.closed sb.closed sa.not_tgt_none sb.not_tgt_none sa.init_mem
    sb.init_mem hfin hA' hB').trans (exists_congr fun x => and_congr
      (sb.acc_iff.trans (mem_Lang_acc B x).symm) (sa.acc_iff.trans (mem_Lang_acc A _).symm))

/-- **C08 (left_quotient).**  `A.left_quotient(B)` never fails (in particular no
`MissingStateError`; /repo commit fb93c3d), returns a valid NFA, and its language
is `L(B) \ L(A) = {w | ∃ x ∈ L(B), x·w ∈ L(A)}`. -/
theorem C08_left_quotient (A : AV.NFA σ₁ α) (B : AV.NFA σ₂ α) (hA : A.Valid) (hB : B.Valid) :
    ∃ R, NFA.leftQuotient A B = .ok R ∧ R.Valid ∧ Lang R = leftQuotientLang (Lang A) (Lang B) := by
  obtain ⟨ra, ta, fa, hca, sa⟩ := NFAElim.core_spec A hA
  obtain ⟨rb, tb, fb, hcb, sb⟩ := NFAElim.core_spec B hB
  obtain ⟨R, hR, hval, hinit, hA', hB', hfin⟩ :=
    leftQuotient_spec A B ra ta fa rb tb fb hca hcb sa sb
  refine ⟨R, hR, hval, ?_⟩
  ext w
  rw [mem_Lang_acc, hinit]
  exact (Rx.Acc.left_quotient sa.closed sb.closed sa.not_tgt_none sb.not_tgt_none sa.init_mem
    sb.init_mem hfin hA' hB').trans (exists_congr fun x => and_congr
      (sb.acc_iff.trans (mem_Lang_acc B x).symm) (sa.acc_iff.trans (mem_Lang_acc A _).symm))

/-- **C08 (reverse).**  `A.reverse()` never fails, returns a valid NFA, and its language is
the set of reversed words of `L(A)`. -/
theorem C08_reverse (nat : Nat → σ) (hnat : Function.Injective nat) (A : AV.NFA σ α) (hA : A.Valid) :
    ∃ R, NFA.reverse nat A = .ok R ∧ R.Valid ∧ Lang R = (Lang A).reverse := by
  obtain ⟨R, hR, hval, hinit, hn_none, hn_some, hstep, hfin⟩ := reverse_spec nat hnat A hA
  exact ⟨R, hR, hval, accepts_reverse (nfaTextbook R) (addNewState nat A.states) (on_states hA.wf)
    (addNewState_fresh nat hnat A.states) hA.wf.finalsOk (hinit ▸ rfl)
    hn_none hn_some hstep hfin⟩

/-- **C08 (shuffle_product).**  `A.shuffle_product(B)` never fails, returns a valid NFA, and
its language is the shuffle (all interleavings of a word of `L(A)` with a word of `L(B)`). -/
theorem C08_shuffle_product (A : AV.NFA σ₁ α) (B : AV.NFA σ₂ α) (hA : A.Valid) (hB : B.Valid) :
    ∃ R, NFA.shuffleProduct A B = .ok R ∧ R.Valid ∧ Lang R = shuffleLang (Lang A) (Lang B) := by
  obtain ⟨R, hR, hval, hinit, hstep, hfin⟩ := shuffleProduct_spec A B hA hB
  exact ⟨R, hR, hval, accepts_shuffle (nfaTextbook R) (on_states hA.wf) (on_states hB.wf)
    (hinit ▸ rfl) hstep fun p _ q _ => hfin p q⟩

/-- `r` is a successful computation of a valid NFA whose language is `L`. -/
def Computes (r : Res (AV.NFA σ α)) (L : Language α) : Prop :=
  ∃ n, r = .ok n ∧ n.Valid ∧ Lang n = L

theorem Computes.leaf {A : AV.NFA σ α} (hA : A.Valid) : Computes (.ok A) (Lang A) := ⟨A, rfl, hA, rfl⟩

section compose
variable {τ₁ τ₂ τ₃ : Type} [DecidableEq τ₁] [DecidableEq τ₂] [DecidableEq τ₃]
variable {x : Res (AV.NFA τ₁ α)} {y : Res (AV.NFA τ₂ α)} {L₁ L₂ : Language α}

theorem Computes.bind2 {op : AV.NFA τ₁ α → AV.NFA τ₂ α → Res (AV.NFA τ₃ α)}
    (F : Language α → Language α → Language α) (hx : Computes x L₁) (hy : Computes y L₂)
    (hop : ∀ a b, a.Valid → b.Valid → Computes (op a b) (F (Lang a) (Lang b))) :
    Computes (do let a ← x; let b ← y; op a b) (F L₁ L₂) := by
  obtain ⟨a, rfl, ha, rfl⟩ := hx
  obtain ⟨b, rfl, hb, rfl⟩ := hy
  exact hop a b ha hb

theorem Computes.bind1 {op : AV.NFA τ₁ α → Res (AV.NFA τ₃ α)} (F : Language α → Language α)
    (hx : Computes x L₁) (hop : ∀ a, a.Valid → Computes (op a) (F (Lang a))) :
    Computes (do let a ← x; op a) (F L₁) := by
  obtain ⟨a, rfl, ha, rfl⟩ := hx
  exact hop a ha

/- C08 (compositions).  Every typed operation maps successful computations of valid NFAs to a
successful computation of a valid NFA with the textbook language, one lemma per operation, so
that results of any name type can be fed on (`C08_expr_example`).  Expression trees over the one
name type `PyName` are `C08_expr` below, which rests on the `C08_py_*` theorems. -/

theorem Computes.union (hx : Computes x L₁) (hy : Computes y L₂) :
    Computes (do let a ← x; let b ← y; NFA.union a b) (L₁ + L₂) :=
  Computes.bind2 (· + ·) hx hy C08_union

theorem Computes.concatenate (hx : Computes x L₁) (hy : Computes y L₂) :
    Computes (do let a ← x; let b ← y; NFA.concatenate a b) (L₁ * L₂) :=
  Computes.bind2 (· * ·) hx hy C08_concatenate

theorem Computes.intersection (hx : Computes x L₁) (hy : Computes y L₂) :
    Computes (do let a ← x; let b ← y; NFA.intersection a b) (L₁ ⊓ L₂) :=
  Computes.bind2 (· ⊓ ·) hx hy C08_intersection

theorem Computes.shuffleProduct (hx : Computes x L₁) (hy : Computes y L₂) :
    Computes (do let a ← x; let b ← y; NFA.shuffleProduct a b) (shuffleLang L₁ L₂) :=
  Computes.bind2 shuffleLang hx hy C08_shuffle_product

theorem Computes.rightQuotient (hx : Computes x L₁) (hy : Computes y L₂) :
    Computes (do let a ← x; let b ← y; NFA.rightQuotient a b) (rightQuotientLang L₁ L₂) :=
  Computes.bind2 rightQuotientLang hx hy C08_right_quotient

theorem Computes.leftQuotient (hx : Computes x L₁) (hy : Computes y L₂) :
    Computes (do let a ← x; let b ← y; NFA.leftQuotient a b) (leftQuotientLang L₁ L₂) :=
  Computes.bind2 leftQuotientLang hx hy C08_left_quotient

theorem Computes.kleeneStar (nat : Nat → τ₁) (hnat : Function.Injective nat) (hx : Computes x L₁) :
    Computes (do let a ← x; NFA.kleeneStar nat a) (KStar.kstar L₁) :=
  Computes.bind1 KStar.kstar hx (C08_kleene_star nat hnat)

theorem Computes.option (nat : Nat → τ₁) (hnat : Function.Injective nat) (hx : Computes x L₁) :
    Computes (do let a ← x; NFA.option nat a) (1 + L₁) :=
  Computes.bind1 (1 + ·) hx (C08_option nat hnat)

theorem Computes.reverse (nat : Nat → τ₁) (hnat : Function.Injective nat) (hx : Computes x L₁) :
    Computes (do let a ← x; NFA.reverse nat a) L₁.reverse :=
  Computes.bind1 Language.reverse hx (C08_reverse nat hnat)

end compose

/-- A depth-3 instance: `((A | B) + C)∗ & D.reverse()` for any valid operands (of any four
state-name types) evaluates without error to a valid NFA for `((L_A + L_B)·L_C)∗ ⊓ L_Dʳ`. -/
theorem C08_expr_example {τ₁ τ₂ τ₃ τ₄ : Type} [DecidableEq τ₁] [DecidableEq τ₂] [DecidableEq τ₃]
    [DecidableEq τ₄] (A : AV.NFA τ₁ α) (B : AV.NFA τ₂ α) (C : AV.NFA τ₃ α) (D : AV.NFA τ₄ α)
    (nat : Nat → τ₄) (hnat : Function.Injective nat)
    (hA : A.Valid) (hB : B.Valid) (hC : C.Valid) (hD : D.Valid) :
    Computes (do
        let s ← (do
          let c ← (do let u ← (do let a ← (.ok A : Res _); let b ← (.ok B : Res _); NFA.union a b)
                       let c ← (.ok C : Res _); NFA.concatenate u c)
          NFA.kleeneStar (fun k => k) c)
        let r ← (do let d ← (.ok D : Res _); NFA.reverse nat d)
        NFA.intersection s r)
      (KStar.kstar ((Lang A + Lang B) * Lang C) ⊓ (Lang D).reverse) :=
  Computes.intersection
    (Computes.kleeneStar (fun k => k) (fun _ _ h => h)
      (Computes.concatenate (Computes.union (Computes.leaf hA) (Computes.leaf hB)) (Computes.leaf hC)))
    (Computes.reverse nat hnat (Computes.leaf hD))

/- Results fed into further operations, with Python's single universe of names.
`Computes.kleeneStar/option/reverse` above take an arbitrary injective `nat : ℕ → τ`.  For a
result of `intersection`, `shuffle_product` or a quotient the name type `τ` is a tuple type,
and what Python does next is to add the INT `0` (or `1`, …) next to the tuples: mixed names.
Here every operation is stated over the universal name type `PyName` (Model/NFAOpsPy.lean:
`int | pair | triple | other`), results being re-embedded by the canonical injections
(`Nat ↦ int`, pairs ↦ `pair`, triples ↦ `triple`), and the fresh state of the unary
operations is `PyName.nat k = int k` — faithful to Python's mixed names. -/

/-- **State renaming.**  Renaming the states of a valid NFA through an injective function
gives a valid NFA with the same language. -/
theorem mapStates_valid_lang {τ : Type} [DecidableEq τ] (f : σ → τ) (hf : Function.Injective f)
    (n : AV.NFA σ α) (h : n.Valid) : (n.mapStates f).Valid ∧ Lang (n.mapStates f) = Lang n :=
  ⟨MapStates.mapStates_valid f n hf h, MapStates.mapStates_lang f n hf h.wf⟩

theorem Computes.mapRes {τ₁ τ₂ : Type} [DecidableEq τ₁] [DecidableEq τ₂] {x : Res (AV.NFA τ₁ α)}
    {L : Language α} (f : τ₁ → τ₂) (hf : Function.Injective f) (hx : Computes x L) :
    Computes (NFA.mapRes f x) L := by
  obtain ⟨a, rfl, ha, rfl⟩ := hx
  obtain ⟨hv, hl⟩ := mapStates_valid_lang f hf a ha
  exact ⟨a.mapStates f, rfl, hv, hl⟩

section pyname
variable {A B : AV.NFA PyName α}

/- The nine operations over `PyName`: total, valid, textbook language — so results can be
fed into ANY further operation, whatever the shapes of their names. -/

theorem C08_py_union (hA : A.Valid) (hB : B.Valid) :
    Computes (Py.union A B) (Lang A + Lang B) :=
  Computes.mapRes _ MapStates.nat_injective (C08_union A B hA hB)

theorem C08_py_concatenate (hA : A.Valid) (hB : B.Valid) :
    Computes (Py.concatenate A B) (Lang A * Lang B) :=
  Computes.mapRes _ MapStates.nat_injective (C08_concatenate A B hA hB)

theorem C08_py_intersection (hA : A.Valid) (hB : B.Valid) :
    Computes (Py.intersection A B) (Lang A ⊓ Lang B) :=
  Computes.mapRes _ MapStates.ofPair_injective (C08_intersection A B hA hB)

theorem C08_py_shuffle_product (hA : A.Valid) (hB : B.Valid) :
    Computes (Py.shuffleProduct A B) (shuffleLang (Lang A) (Lang B)) :=
  Computes.mapRes _ MapStates.ofPair_injective (C08_shuffle_product A B hA hB)

theorem C08_py_right_quotient (hA : A.Valid) (hB : B.Valid) :
    Computes (Py.rightQuotient A B) (rightQuotientLang (Lang A) (Lang B)) :=
  Computes.mapRes _ MapStates.ofTriple_injective (C08_right_quotient A B hA hB)

theorem C08_py_left_quotient (hA : A.Valid) (hB : B.Valid) :
    Computes (Py.leftQuotient A B) (leftQuotientLang (Lang A) (Lang B)) :=
  Computes.mapRes _ MapStates.ofTriple_injective (C08_left_quotient A B hA hB)

/-- `kleene_star` / `option` / `reverse` of an NFA with names of ANY shape (ints, tuples,
mixed): the fresh state is the first int `0, 1, 2, …` that is not a state. -/
theorem C08_py_kleene_star (hA : A.Valid) : Computes (Py.kleeneStar A) (KStar.kstar (Lang A)) :=
  C08_kleene_star PyName.nat MapStates.nat_injective A hA

theorem C08_py_option (hA : A.Valid) : Computes (Py.option A) (1 + Lang A) :=
  C08_option PyName.nat MapStates.nat_injective A hA

theorem C08_py_reverse (hA : A.Valid) : Computes (Py.reverse A) (Lang A).reverse :=
  C08_reverse PyName.nat MapStates.nat_injective A hA

end pyname

theorem Computes.kleeneStarPy {x : Res (AV.NFA PyName α)} {L : Language α} (hx : Computes x L) :
    Computes (do let a ← x; Py.kleeneStar a) (KStar.kstar L) :=
  Computes.kleeneStar PyName.nat MapStates.nat_injective hx

theorem Computes.optionPy {x : Res (AV.NFA PyName α)} {L : Language α} (hx : Computes x L) :
    Computes (do let a ← x; Py.option a) (1 + L) :=
  Computes.option PyName.nat MapStates.nat_injective hx

theorem Computes.reversePy {x : Res (AV.NFA PyName α)} {L : Language α} (hx : Computes x L) :
    Computes (do let a ← x; Py.reverse a) L.reverse :=
  Computes.reverse PyName.nat MapStates.nat_injective hx

/-- **Instance: `kleene_star(intersection(A, B))`** — pair names plus the int `0`. -/
theorem C08_star_of_intersection (A B : AV.NFA PyName α) (hA : A.Valid) (hB : B.Valid) :
    Computes (do let c ← Py.intersection A B; Py.kleeneStar c) (KStar.kstar (Lang A ⊓ Lang B)) :=
  Computes.kleeneStarPy (C08_py_intersection hA hB)

/-- … and the same for operands of any two name types `σ₁`, `σ₂` embedded by injections
(`e₁`, `e₂`): the typed intersection, its pair names embedded into `PyName`, then
`kleene_star` adding an int. -/
theorem C08_star_of_intersection_typed (e₁ : σ₁ → PyName) (e₂ : σ₂ → PyName)
    (h₁ : Function.Injective e₁) (h₂ : Function.Injective e₂)
    (A : AV.NFA σ₁ α) (B : AV.NFA σ₂ α) (hA : A.Valid) (hB : B.Valid) :
    Computes (do let c ← NFA.mapRes (fun p => PyName.pair (e₁ p.1) (e₂ p.2)) (NFA.intersection A B)
                 Py.kleeneStar c)
      (KStar.kstar (Lang A ⊓ Lang B)) := by
  refine Computes.kleeneStarPy (Computes.mapRes _ ?_ (C08_intersection A B hA hB))
  rintro ⟨a, b⟩ ⟨c, d⟩ h
  simp only [PyName.pair.injEq] at h
  rw [h₁ h.1, h₂ h.2]

/-- The textbook denotation of an expression tree. -/
def denote : OpExpr α → Language α
  | .leaf n => Lang n
  | .union l r => denote l + denote r
  | .concatenate l r => denote l * denote r
  | .intersection l r => denote l ⊓ denote r
  | .shuffleProduct l r => shuffleLang (denote l) (denote r)
  | .rightQuotient l r => rightQuotientLang (denote l) (denote r)
  | .leftQuotient l r => leftQuotientLang (denote l) (denote r)
  | .kleeneStar e => KStar.kstar (denote e)
  | .option e => 1 + denote e
  | .reverse e => (denote e).reverse

/-- Every leaf of the tree is a valid NFA. -/
def LeavesValid : OpExpr α → Prop
  | .leaf n => n.Valid
  | .union l r | .concatenate l r | .intersection l r | .shuffleProduct l r
  | .rightQuotient l r | .leftQuotient l r => LeavesValid l ∧ LeavesValid r
  | .kleeneStar e | .option e | .reverse e => LeavesValid e

/-- **C08 (results fed into further operations), every finite expression tree.**  Whatever
the tree built from the nine operations over valid leaves — unary operations on top of
products and quotients included, names mixing ints and tuples as in Python — its evaluation
raises no error and yields a valid NFA whose language is the textbook denotation. -/
theorem C08_expr (e : OpExpr α) (h : LeavesValid e) : Computes e.eval (denote e) := by
  induction e with
  | leaf n => exact Computes.leaf h
  | union l r ihl ihr =>
    exact Computes.bind2 (· + ·) (ihl h.1) (ihr h.2) fun _ _ ha hb => C08_py_union ha hb
  | concatenate l r ihl ihr =>
    exact Computes.bind2 (· * ·) (ihl h.1) (ihr h.2) fun _ _ ha hb => C08_py_concatenate ha hb
  | intersection l r ihl ihr =>
    exact Computes.bind2 (· ⊓ ·) (ihl h.1) (ihr h.2) fun _ _ ha hb => C08_py_intersection ha hb
  | shuffleProduct l r ihl ihr =>
    exact Computes.bind2 shuffleLang (ihl h.1) (ihr h.2) fun _ _ ha hb =>
      C08_py_shuffle_product ha hb
  | rightQuotient l r ihl ihr =>
    exact Computes.bind2 rightQuotientLang (ihl h.1) (ihr h.2) fun _ _ ha hb =>
      C08_py_right_quotient ha hb
  | leftQuotient l r ihl ihr =>
    exact Computes.bind2 leftQuotientLang (ihl h.1) (ihr h.2) fun _ _ ha hb =>
      C08_py_left_quotient ha hb
  | kleeneStar e ih => exact Computes.bind1 KStar.kstar (ih h) fun _ ha => C08_py_kleene_star ha
  | option e ih => exact Computes.bind1 (1 + ·) (ih h) fun _ ha => C08_py_option ha
  | reverse e ih => exact Computes.bind1 Language.reverse (ih h) fun _ ha => C08_py_reverse ha

/-- `a*` with an ε-cycle, a state without a row and a junk row keyed by the non-state `1`
(the name `_add_new_state` will pick). -/
def exA : AV.NFA Nat Nat :=
  { states := [0, 2], syms := [0], init := 0, finals := [2],
    trans := [(0, [(none, [2]), (some 0, [0])]), (1, [(some 0, [0]), (none, [2])])] }

/-- `b` over the alphabet `{b}` (`b = 1`), with state names overlapping those of `exA`. -/
def exB : AV.NFA Nat Nat :=
  { states := [0, 2], syms := [1], init := 2, finals := [0], trans := [(2, [(some 1, [0])])] }

/-- The empty language with a single non-final state and no row at all. -/
def exEmpty : AV.NFA Nat Nat := { states := [5], syms := [0], init := 5, finals := [], trans := [] }

theorem exA_valid : exA.Valid :=
  (valid_iff _).mpr ⟨by decide +kernel, by decide +kernel, by decide +kernel⟩
theorem exB_valid : exB.Valid :=
  (valid_iff _).mpr ⟨by decide +kernel, by decide +kernel, by decide +kernel⟩
theorem exEmpty_valid : exEmpty.Valid :=
  (valid_iff _).mpr ⟨by decide +kernel, by decide +kernel, by decide +kernel⟩

/-- The model really computes: the union accepts `aa` and `b`, not `ab`; the concatenation
accepts `aab`; the left quotient by the empty-language operand is a
valid NFA for the empty language. -/
example : (match NFA.union exA exB with
    | .ok R => R.accepts [0, 0] && R.accepts [1] && !R.accepts [0, 1]
    | .error _ => false) = true := by decide +kernel
example : (match NFA.concatenate exA exB with
    | .ok R => R.accepts [0, 0, 1] && R.accepts [1] && !R.accepts [0]
    | .error _ => false) = true := by decide +kernel
example : (match NFA.reverse (fun k => k) exA with
    | .ok R => R.accepts [0, 0] && R.accepts [] && decide (R.init = 1)
    | .error _ => false) = true := by decide +kernel
example : (match NFA.leftQuotient exA exEmpty with
    | .ok R => !R.accepts [] && !R.accepts [0]
    | .error _ => false) = true := by decide +kernel
example : (match NFA.rightQuotient exA exA with
    | .ok R => R.accepts [] && R.accepts [0, 0]
    | .error _ => false) = true := by decide +kernel

/-- `exA` and `exB` with their int names in the universal name type. -/
def pyA : AV.NFA PyName Nat := exA.mapStates PyName.nat
def pyB : AV.NFA PyName Nat := exB.mapStates PyName.nat

theorem pyA_valid : pyA.Valid := (mapStates_valid_lang _ MapStates.nat_injective exA exA_valid).1
theorem pyB_valid : pyB.Valid := (mapStates_valid_lang _ MapStates.nat_injective exB exB_valid).1

/-- `kleene_star(intersection(A, A))` in the model: the states are the pairs `(0,0), (2,2), …`
PLUS the int `0` chosen by `_add_new_state` (mixed names, as in Python); the result accepts
`ε` and `aa`. -/
example : (match (OpExpr.kleeneStar (.intersection (.leaf pyA) (.leaf pyA))).eval with
    | .ok R => decide (R.init = PyName.int 0) && decide (PyName.pair (.int 0) (.int 0) ∈ R.states) &&
        R.accepts [] && R.accepts [0, 0] && !R.accepts [1]
    | .error _ => false) = true := by decide +kernel

/-- `reverse(right_quotient(A, A)) | B`: triples, then an int next to them, then a union. -/
example : (match (OpExpr.union (.reverse (.rightQuotient (.leaf pyA) (.leaf pyA))) (.leaf pyB)).eval with
    | .ok R => R.accepts [0, 0] && R.accepts [1] && !R.accepts [1, 0]
    | .error _ => false) = true := by decide +kernel

example : Computes (OpExpr.kleeneStar (.intersection (.leaf pyA) (.leaf pyA))).eval
    (KStar.kstar (Lang pyA ⊓ Lang pyA)) :=
  C08_expr _ ⟨pyA_valid, pyA_valid⟩

end AV.Props.C08
