/-
Props/C02.lean — C02: pushdown acceptance: NPDA explores all runs; DPDA is deterministic
and agrees.

English statement (properties.jsonl): an NPDA accepts a string exactly when some sequence
of its moves consumes the whole string and ends in a configuration that is accepting under
the chosen acceptance mode (final state, empty stack, or either), the start configuration
included; its step-by-step reader yields, level by level, exactly the configurations
reachable in that many moves.  A DPDA definition is accepted by the constructor exactly
when no configuration can have two applicable moves, and on every string a DPDA gives the
same verdict as the NPDA with the same transition table.  Quantifier: all valid PDA
transition tables whose epsilon-moves cannot run forever, all three acceptance modes, all
strings; determinism validation for all tables, valid or not.

Reference semantics: `Spec/PDA.lean` — `Step Δ c c'` (one move of the table's move relation
`Δ`), `StepN Δ k c c'` (exactly `k` moves), `Accepting mode F c`.  The model of the code is
`Model/PDA.lean`.  Both readers may run forever on λ-cycles; the model takes `fuel` (loop
iterations) and answers `Outcome.outOfFuel` when it runs out.  "The reader accepts" is
`∃ fuel, outcome = returned`, "rejects" is `∃ fuel, outcome = raised RejectionException`;
decided runs do not depend on the fuel (`C02_npda_fuel_monotone`, `C02_dpda_fuel_monotone`).
-/
import AutomataVerif.Proofs.PdaNpda
import AutomataVerif.Proofs.PdaDpda
import AutomataVerif.Proofs.PdaValidate
import AutomataVerif.Proofs.PdaEps

namespace AV.Props.C02
open AV AV.PDA

variable {σ α γ τ : Type} [DecidableEq σ] [DecidableEq α] [DecidableEq γ]

set_option linter.unusedSectionVars false in
/-- `_has_accepted` is the specification's `Accepting` for each of the three acceptance-mode
literals.  The literals and the tests attached to them are read from the source on every
run (`Generated/Pda.lean`), so an edit of `_has_accepted` breaks this theorem. -/
theorem C02_has_accepted_iff (M : Table σ α γ τ) (m : AccMode) (hm : M.mode = m.literal)
    (c : Config σ α γ) : M.hasAccepted c = true ↔ Accepting m M.finals c :=
  hasAccepted_iff M m hm c

/-- The extractor recognised every statement of `_has_accepted` (no extra `if`, no unknown test,
no `else`, final `return False`) and neither npda.py nor dpda.py overrides a helper the model
takes from pda.py (`Generated/Pda.lean`, rewritten from the source on every run).  Without this
obligation an unrecognised statement would become a rule that never fires and every other
theorem would still check. -/
theorem C02_has_accepted_shape : Gen.Pda.hasAcceptedShapeOk = true := by decide

/-- The acceptance modes that validate are exactly the three literals. -/
theorem C02_valid_modes (s : String) : s ∈ Gen.Pda.validModes ↔ ∃ m : AccMode, s = m.literal :=
  Table.mode_valid_iff s

set_option linter.unusedSectionVars false in
/-- `_replace_stack_top` on a stack with top `X`: the top is replaced by the pushed string and
the FIRST pushed symbol becomes the new top (an empty push pops). -/
theorem C02_replace_stack_top (β push : List γ) (X : γ) :
    replaceStackTop (β ++ [X]) push = β ++ push.reverse ∧
    (∀ Y rest, push = Y :: rest → Stack.top (replaceStackTop (β ++ [X]) push) = some Y) ∧
    (push = [] → replaceStackTop (β ++ [X]) push = β) := by
  refine ⟨replaceStackTop_concat β push X, ?_, ?_⟩
  · rintro Y rest rfl
    rw [replaceStackTop_concat, List.reverse_cons, ← List.append_assoc, Stack.top_concat]
  · rintro rfl; simp

/-- `_get_next_configurations(c)` is exactly the set of configurations one move away from `c`
(an empty stack has no move). -/
theorem C02_npda_next_iff (M : NPDA σ α γ) (c c' : Config σ α γ) :
    c' ∈ M.nextConfigs c ↔ Step M.moves c c' :=
  M.mem_nextConfigs c c'

/-- The step-by-step reader of an NPDA, for every table, mode, word and fuel.
With `ys` the yielded sets, `Lv k` the configurations reachable from the start configuration
in exactly `k` moves and `Acc` the accepting configurations:
(a) the `k`-th yielded set is exactly `Lv k`;
(b) the start level is always yielded, and at most `fuel` further levels;
(c) the reader goes past a level only if that level is non-empty and contains no accepting
    configuration — so it stops at the FIRST level that contains an accepting configuration;
(d) it returns (accepts) iff it has yielded at most `fuel` levels and the last of them contains an
    accepting configuration;
(e) it raises `RejectionException` iff it has yielded at most `fuel` levels and the last is empty;
(f) it runs out of fuel iff it has yielded `fuel + 1` levels;
(g) it raises nothing but `RejectionException`. -/
theorem C02_npda_stepwise (M : NPDA σ α γ) (m : AccMode) (hm : M.mode = m.literal)
    (fuel : Nat) (w : List α) :
    let ys := (M.readStepwise fuel w).1
    let out := (M.readStepwise fuel w).2
    let Lv := fun (k : Nat) (c : Config σ α γ) => StepN M.moves k (M.start w) c
    let Acc := Accepting m M.finals
    (∀ k L, ys[k]? = some L → ∀ c, c ∈ L ↔ Lv k c) ∧
    (1 ≤ ys.length ∧ ys.length ≤ fuel + 1) ∧
    (∀ k, k + 1 < ys.length → (∃ c, Lv k c) ∧ ∀ c, Lv k c → ¬ Acc c) ∧
    (out = .returned ↔ ys.length ≤ fuel ∧ ∃ c, Lv (ys.length - 1) c ∧ Acc c) ∧
    (out = .raised (.lib .rejectionException) ↔ ys.length ≤ fuel ∧ ¬ ∃ c, Lv (ys.length - 1) c) ∧
    (out = .outOfFuel ↔ ys.length = fuel + 1) ∧
    (∀ e, out = .raised e → e = .lib .rejectionException) := by
  have S := M.run_spec_start fuel w
  have hacc : ∀ c, M.hasAccepted c = true ↔ Accepting m M.finals c := fun c => hasAccepted_iff M m hm c
  refine ⟨?_, ⟨Nat.succ_pos _, Nat.succ_le_succ S.len⟩, ?_, ?_, ?_, ?_, S.onlyRej⟩
  · rintro (_ | k) L hL c
    · cases hL; exact List.mem_singleton.trans stepN_zero_iff.symm
    · rw [S.level k L hL c, Nat.zero_add, Nat.add_comm]
  · intro k hk
    have := S.before k (Nat.lt_of_succ_lt_succ hk)
    rw [Nat.zero_add] at this
    exact ⟨this.1, fun c hc hA => by have h := this.2 c hc; rw [(hacc c).mpr hA] at h; cases h⟩
  · refine S.returned.trans ?_
    simp only [Nat.zero_add, hacc]; rfl
  · refine S.rejected.trans ?_
    simp only [Nat.zero_add]; rfl
  · exact S.fuelOut.trans ⟨fun h => congrArg (· + 1) h, fun h => Nat.succ.inj h⟩

/-- **An NPDA accepts a string exactly when some sequence of its moves consumes the whole
string and ends in an accepting configuration, the start configuration included** (`k = 0`).
"Accepts" = the reader returns for some fuel; by `C02_npda_fuel_monotone` it then returns for
every larger fuel. -/
theorem C02_npda_accept_iff (M : NPDA σ α γ) (m : AccMode) (hm : M.mode = m.literal) (w : List α) :
    (∃ fuel, (M.readStepwise fuel w).2 = .returned) ↔
      ∃ k c, StepN M.moves k (M.start w) c ∧ Accepting m M.finals c := by
  constructor
  · rintro ⟨fuel, h⟩
    obtain ⟨_, _, _, hd, _⟩ := C02_npda_stepwise M m hm fuel w
    obtain ⟨_, c, hc, ha⟩ := hd.mp h
    exact ⟨_, c, hc, ha⟩
  · rintro ⟨k, c, hc, ha⟩
    refine ⟨k + 1, ?_⟩
    obtain ⟨_, hb, hcc, hd, he, hf, hg⟩ := C02_npda_stepwise M m hm (k + 1) w
    cases hout : (M.readStepwise (k + 1) w).2 with
    | returned => rfl
    | outOfFuel =>
      have hl := hf.mp hout
      exact absurd ha ((hcc k (by omega)).2 c hc)
    | raised e =>
      obtain rfl := hg e hout
      obtain ⟨hl, hne⟩ := he.mp hout
      exact absurd (stepN_prefix hc _ (by omega)) hne

/-- An NPDA rejects (the reader raises `RejectionException` for some fuel) exactly when all
runs die out — some level is empty — and no reachable configuration is accepting. -/
theorem C02_npda_reject_iff (M : NPDA σ α γ) (m : AccMode) (hm : M.mode = m.literal) (w : List α) :
    (∃ fuel, (M.readStepwise fuel w).2 = .raised (.lib .rejectionException)) ↔
      (∃ k, ∀ c, ¬ StepN M.moves k (M.start w) c) ∧
      ¬ ∃ k c, StepN M.moves k (M.start w) c ∧ Accepting m M.finals c := by
  constructor
  · rintro ⟨fuel, h⟩
    obtain ⟨_, hb, hcc, _, he, _⟩ := C02_npda_stepwise M m hm fuel w
    obtain ⟨hl, hne⟩ := he.mp h
    refine ⟨⟨_, fun c hc => hne ⟨c, hc⟩⟩, ?_⟩
    rintro ⟨k, c, hc, ha⟩
    rcases Nat.lt_or_ge (k + 1) (M.readStepwise fuel w).1.length with hlt | hge
    · exact (hcc k hlt).2 c hc ha
    · exact hne (stepN_prefix hc _ (by omega))
  · rintro ⟨⟨k, hk⟩, hna⟩
    refine ⟨k + 1, ?_⟩
    obtain ⟨_, hb, hcc, hd, he, hf, hg⟩ := C02_npda_stepwise M m hm (k + 1) w
    cases hout : (M.readStepwise (k + 1) w).2 with
    | returned =>
      obtain ⟨_, c, hc, ha⟩ := hd.mp hout
      exact absurd ⟨_, c, hc, ha⟩ hna
    | outOfFuel =>
      have hl := hf.mp hout
      obtain ⟨c, hc⟩ := (hcc k (by omega)).1
      exact absurd hc (hk c)
    | raised e => rw [hg e hout]

/-- Fuel only matters for undecided runs: once the reader has returned or raised, more
fuel gives the same yields and the same outcome. -/
theorem C02_npda_fuel_monotone (M : NPDA σ α γ) (fuel fuel' : Nat) (w : List α)
    (h : (M.readStepwise fuel w).2 ≠ .outOfFuel) (hle : fuel ≤ fuel') :
    M.readStepwise fuel' w = M.readStepwise fuel w :=
  M.readStepwise_mono fuel fuel' w h hle

/-- `accepts_input` / `read_input` of an NPDA: True with the last yielded set when the reader
returns, False / `RejectionException` when it raises, and never another exception. -/
theorem C02_npda_accepts_input (M : NPDA σ α γ) (fuel : Nat) (w : List α) :
    (acceptsInput (M.readStepwise fuel w) = some (.ok true) ↔ (M.readStepwise fuel w).2 = .returned) ∧
    (acceptsInput (M.readStepwise fuel w) = some (.ok false) ↔
      (M.readStepwise fuel w).2 = .raised (.lib .rejectionException)) ∧
    (acceptsInput (M.readStepwise fuel w) = none ↔ (M.readStepwise fuel w).2 = .outOfFuel) ∧
    (∀ e, acceptsInput (M.readStepwise fuel w) ≠ some (.error e)) ∧
    ((M.readStepwise fuel w).2 = .returned →
      readInput (M.readStepwise fuel w) = (M.readStepwise fuel w).1.getLast?.map .ok) :=
  acceptsInput_spec _ (List.cons_ne_nil _ _) (M.run_spec_start fuel w).onlyRej

/-- The property's quantifier "tables whose epsilon-moves cannot run forever": if all runs on
`w` die out (some level is empty), the reader decides `w`, and its verdict is `accept` iff an
accepting configuration is reachable. -/
theorem C02_npda_decides (M : NPDA σ α γ) (m : AccMode) (hm : M.mode = m.literal) (w : List α)
    (hfin : ∃ k, ∀ c, ¬ StepN M.moves k (M.start w) c) :
    ∃ fuel b, acceptsInput (M.readStepwise fuel w) = some (.ok b) ∧
      (b = true ↔ ∃ k c, StepN M.moves k (M.start w) c ∧ Accepting m M.finals c) := by
  by_cases hA : ∃ k c, StepN M.moves k (M.start w) c ∧ Accepting m M.finals c
  · obtain ⟨fuel, h⟩ := (C02_npda_accept_iff M m hm w).mpr hA
    exact ⟨fuel, true, (C02_npda_accepts_input M fuel w).1.mpr h, by simp [hA]⟩
  · obtain ⟨fuel, h⟩ := (C02_npda_reject_iff M m hm w).mpr ⟨hfin, hA⟩
    exact ⟨fuel, false, (C02_npda_accepts_input M fuel w).2.1.mpr h, by simp [hA]⟩

/- The property speaks of "tables whose epsilon-moves cannot run forever".
`EpsTerminates Δ` (Spec/PDA.lean): the converse of the λ-move relation of the table is well
founded — no configuration whatever starts an infinite sequence of λ-moves.  It is a condition on
the table; the per-word hypothesis `hfin` of `C02_npda_decides` / the first conjunct of
`C02_npda_reject_iff` follow from it for every word. -/

/-- **If the ε-moves of the table cannot run forever, then on every word all runs die out**: some
level of the run tree is empty.  (Finite branching: `_get_next_configurations` returns a finite
set; a move that is not a λ-move consumes an input symbol.) -/
theorem C02_no_eps_run_dies_out (M : NPDA σ α γ) (h : EpsTerminates M.moves) (w : List α) :
    ∃ k, ∀ c, ¬ StepN M.moves k (M.start w) c :=
  M.dies_out h (M.start w)

/-- The same for a DPDA table. -/
theorem C02_dpda_no_eps_run_dies_out (M : DPDA σ α γ) (h : EpsTerminates M.moves) (w : List α) :
    ∃ k, ∀ c, ¬ StepN M.moves k (M.start w) c :=
  M.dies_out h (M.start w)

/-- The per-word hypothesis `hfin` of `C02_npda_decides` / first conjunct of `C02_npda_reject_iff` is
*exactly* "ε-moves cannot run forever" on the run tree of that word: all runs on `w` die out iff no
configuration reachable from the start configuration starts an infinite sequence of λ-moves
(NPDA and DPDA tables).  `C02_no_eps_run_dies_out` is the special case where the condition
holds for all configurations, i.e. for the table. -/
theorem C02_dies_out_iff_eps_terminates_on_run :
    (∀ (M : NPDA σ α γ) (w : List α), (∃ k, ∀ c, ¬ StepN M.moves k (M.start w) c) ↔
      ∀ k c, StepN M.moves k (M.start w) c → Acc (fun c' c => EpsStep M.moves c c') c) ∧
    (∀ (M : DPDA σ α γ) (w : List α), (∃ k, ∀ c, ¬ StepN M.moves k (M.start w) c) ↔
      ∀ k c, StepN M.moves k (M.start w) c → Acc (fun c' c => EpsStep M.moves c c') c) :=
  ⟨fun M w => M.dies_out_iff (M.start w), fun M w => M.dies_out_iff (M.start w)⟩

/-- `C02_npda_decides` with the quantifier's own condition: on a table whose ε-moves cannot run
forever the reader decides every word, and says `True` iff an accepting configuration is
reachable. -/
theorem C02_npda_decides_eps (M : NPDA σ α γ) (m : AccMode) (hm : M.mode = m.literal)
    (h : EpsTerminates M.moves) (w : List α) :
    ∃ fuel b, acceptsInput (M.readStepwise fuel w) = some (.ok b) ∧
      (b = true ↔ ∃ k c, StepN M.moves k (M.start w) c ∧ Accepting m M.finals c) :=
  C02_npda_decides M m hm w (C02_no_eps_run_dies_out M h w)

/-- `C02_npda_reject_iff` with the quantifier's own condition: the reader rejects exactly when no
accepting configuration is reachable. -/
theorem C02_npda_reject_iff_eps (M : NPDA σ α γ) (m : AccMode) (hm : M.mode = m.literal)
    (h : EpsTerminates M.moves) (w : List α) :
    (∃ fuel, (M.readStepwise fuel w).2 = .raised (.lib .rejectionException)) ↔
      ¬ ∃ k c, StepN M.moves k (M.start w) c ∧ Accepting m M.finals c := by
  rw [C02_npda_reject_iff M m hm w]
  exact ⟨fun h' => h'.2, fun h' => ⟨C02_no_eps_run_dies_out M h w, h'⟩⟩

/- Validation.  `Table.WellFormed` (Spec/PDA.lean) lists the other rules of `PDA.validate`.
`Table.KeysUnique` says that the association lists standing for Python dicts have unique
keys (true of every dict). -/

/-- `NPDA.validate` (the NPDA constructor) accepts exactly the well-formed definitions. -/
theorem C02_npda_validate_iff (M : NPDA σ α γ) : M.validate = .ok () ↔ M.WellFormed :=
  M.validate_eq_ok

/-- `DPDA.validate` (the DPDA constructor) accepts a definition exactly when it is well formed
and no state and stack top have both a symbol move and a λ-move. -/
theorem C02_dpda_validate_iff (M : DPDA σ α γ) (hk : M.KeysUnique) :
    M.validate = .ok () ↔ M.WellFormed ∧ ¬ M.TwoMoves :=
  M.validate_eq_ok hk

/-- The table-level condition is the property's wording: some configuration has two
applicable moves, i.e. two different successor configurations. -/
theorem C02_dpda_two_moves_iff (M : DPDA σ α γ) :
    M.TwoMoves ↔ ∃ c c₁ c₂ : Config σ α γ, Step M.moves c c₁ ∧ Step M.moves c c₂ ∧ c₁ ≠ c₂ :=
  M.twoMoves_iff

/-- **A DPDA definition that obeys the rules for every PDA (`WellFormed`) is accepted by the
constructor exactly when no configuration can have two applicable moves.** -/
theorem C02_dpda_constructor_iff (M : DPDA σ α γ) (hk : M.KeysUnique) (wf : M.WellFormed) :
    M.validate = .ok () ↔
      ¬ ∃ c c₁ c₂ : Config σ α γ, Step M.moves c c₁ ∧ Step M.moves c c₂ ∧ c₁ ≠ c₂ := by
  rw [C02_dpda_validate_iff M hk, ← C02_dpda_two_moves_iff]
  exact ⟨fun h => h.2, fun h => ⟨wf, h⟩⟩

/-- On a well-formed definition the error is `NondeterminismError` exactly when some
configuration has two applicable moves. -/
theorem C02_dpda_nondeterminism_error_iff (M : DPDA σ α γ) (hk : M.KeysUnique) (wf : M.WellFormed) :
    M.validate = .error (.lib .nondeterminismError) ↔ M.TwoMoves :=
  ⟨M.validate_nondeterminism_twoMoves hk, M.validate_of_wf_twoMoves hk wf⟩

/-- For every table, well formed or not, `NondeterminismError` is never raised without a
configuration that has two applicable moves (a malformed nondeterministic table may raise the
error of an earlier check). -/
theorem C02_dpda_nondeterminism_error_sound (M : DPDA σ α γ) (hk : M.KeysUnique)
    (h : M.validate = .error (.lib .nondeterminismError)) :
    ∃ c c₁ c₂ : Config σ α γ, Step M.moves c c₁ ∧ Step M.moves c c₂ ∧ c₁ ≠ c₂ :=
  (C02_dpda_two_moves_iff M).mp (M.validate_nondeterminism_twoMoves hk h)

/-- A table that offers two moves to some configuration is refused by the DPDA constructor
(whatever else is wrong with it). -/
theorem C02_dpda_two_moves_rejected (M : DPDA σ α γ) (hk : M.KeysUnique) (h : M.TwoMoves) :
    M.validate ≠ .ok () :=
  fun hv => ((C02_dpda_validate_iff M hk).mp hv).2 h

/-- The move relations and `TwoMoves` of `Spec/PDA.lean` are written through the table lookup
`Table.entry?`; stated by membership only (`movesMem`, `TwoMovesMem`: an item of `transitions`, an
item of the row, an item of the innermost dict) they are the same relations as soon as dict keys
are unique — which they are in every Python dict. -/
theorem C02_moves_by_membership :
    (∀ (M : NPDA σ α γ), M.KeysUniqueAll → ∀ q a X p push, M.moves q a X p push ↔ M.movesMem q a X p push) ∧
    (∀ (M : DPDA σ α γ), M.KeysUniqueAll → ∀ q a X p push, M.moves q a X p push ↔ M.movesMem q a X p push) ∧
    (∀ (M : DPDA σ α γ), M.KeysUnique → (M.TwoMoves ↔ M.TwoMovesMem)) :=
  ⟨fun M hk => M.moves_iff_movesMem hk, fun M hk => M.moves_iff_movesMem hk, fun M hk => M.twoMoves_iff_mem hk⟩

/-- The step-by-step reader of a DPDA, for every table (deterministic or not: `pick` is the
order in which `set.pop()` returns a symbol move and a λ-move), mode, word and fuel.
With `ys` the yielded configurations:
(a) the first is the start configuration and each next one is one move after the previous
    one — so the `k`-th is reachable in exactly `k` moves;
(b) at least one and at most `fuel + 1` configurations are yielded;
(c) every yielded configuration but the last is not accepting: the reader stops at the first
    accepting configuration, **the start configuration included** (the test before the loop, /repo commit 5e96321);
(d) it returns iff the last yielded configuration is accepting;
(e) it raises `RejectionException` iff it yielded at most `fuel` configurations and the last one is
    not accepting and has no move;
(f) it runs out of fuel iff it yielded `fuel + 1` configurations, the last not accepting;
(g) it raises nothing else (the `IndexError` of `_get_next_configuration` is unreachable). -/
theorem C02_dpda_stepwise (M : DPDA σ α γ) (m : AccMode) (hm : M.mode = m.literal)
    (pick : Config σ α γ → Bool) (fuel : Nat) (w : List α) :
    let ys := (M.readStepwise pick fuel w).1
    let out := (M.readStepwise pick fuel w).2
    let Acc := Accepting m M.finals
    (ys[0]? = some (M.start w) ∧
      (∀ k c c', ys[k]? = some c → ys[k + 1]? = some c' → Step M.moves c c') ∧
      (∀ k c, ys[k]? = some c → StepN M.moves k (M.start w) c)) ∧
    (1 ≤ ys.length ∧ ys.length ≤ fuel + 1) ∧
    (∀ k c, ys[k]? = some c → k + 1 < ys.length → ¬ Acc c) ∧
    (out = .returned ↔ ∃ c, ys.getLast? = some c ∧ Acc c) ∧
    (out = .raised (.lib .rejectionException) ↔
      ys.length ≤ fuel ∧ ∃ c, ys.getLast? = some c ∧ ¬ Acc c ∧ ¬ ∃ c', Step M.moves c c') ∧
    (out = .outOfFuel ↔ ys.length = fuel + 1 ∧ ∃ c, ys.getLast? = some c ∧ ¬ Acc c) ∧
    (∀ e, out = .raised e → e = .lib .rejectionException) := by
  have S := M.readStepwise_spec pick fuel w
  have hacc : ∀ c, M.hasAccepted c = true ↔ Accepting m M.finals c := fun c => hasAccepted_iff M m hm c
  have hnacc : ∀ c, M.hasAccepted c = false ↔ ¬ Accepting m M.finals c := fun c => by
    rw [← hacc c, Bool.not_eq_true]
  exact ⟨⟨S.head, S.chain, S.level⟩, ⟨S.lenPos, S.len⟩, fun k c hc hk => (hnacc c).mp (S.before k c hc hk),
    S.returned.trans (by simp only [hacc]), S.rejected.trans (by simp only [hnacc]),
    S.fuelOut.trans (by simp only [hnacc]), S.onlyRej⟩

/-- A deterministic DPDA accepts exactly when an accepting configuration is reachable (the
start configuration included). -/
theorem C02_dpda_accept_iff (M : DPDA σ α γ) (hdet : ¬ M.TwoMoves) (m : AccMode) (hm : M.mode = m.literal)
    (pick : Config σ α γ → Bool) (w : List α) :
    (∃ fuel, (M.readStepwise pick fuel w).2 = .returned) ↔
      ∃ k c, StepN M.moves k (M.start w) c ∧ Accepting m M.finals c := by
  rw [M.exists_outcome_lift hdet pick w (by nofun), C02_npda_accept_iff M.lift m hm w, M.lift_moves_eq]; rfl

/-- A deterministic DPDA rejects exactly when its run dies out and no reachable configuration is
accepting. -/
theorem C02_dpda_reject_iff (M : DPDA σ α γ) (hdet : ¬ M.TwoMoves) (m : AccMode) (hm : M.mode = m.literal)
    (pick : Config σ α γ → Bool) (w : List α) :
    (∃ fuel, (M.readStepwise pick fuel w).2 = .raised (.lib .rejectionException)) ↔
      (∃ k, ∀ c, ¬ StepN M.moves k (M.start w) c) ∧
      ¬ ∃ k c, StepN M.moves k (M.start w) c ∧ Accepting m M.finals c := by
  rw [M.exists_outcome_lift hdet pick w (by nofun), C02_npda_reject_iff M.lift m hm w, M.lift_moves_eq]; rfl

/-- Fuel only matters for undecided runs. -/
theorem C02_dpda_fuel_monotone (M : DPDA σ α γ) (pick : Config σ α γ → Bool) (fuel fuel' : Nat)
    (w : List α) (h : (M.readStepwise pick fuel w).2 ≠ .outOfFuel) (hle : fuel ≤ fuel') :
    M.readStepwise pick fuel' w = M.readStepwise pick fuel w :=
  M.readStepwise_mono pick fuel fuel' w h hle

/-- On a deterministic table the order in which the set of candidate transitions is popped
is irrelevant: the reader is a function of the definition and the word. -/
theorem C02_dpda_pick_irrelevant (M : DPDA σ α γ) (hdet : ¬ M.TwoMoves)
    (pick pick' : Config σ α γ → Bool) (fuel : Nat) (w : List α) :
    M.readStepwise pick fuel w = M.readStepwise pick' fuel w := by
  unfold DPDA.readStepwise
  simp only [M.loop_pick hdet pick pick']

/-- `accepts_input` / `read_input` of a DPDA: True with the last yielded configuration when
the reader returns, False / `RejectionException` when it raises, never another exception. -/
theorem C02_dpda_accepts_input (M : DPDA σ α γ) (pick : Config σ α γ → Bool) (fuel : Nat) (w : List α) :
    (acceptsInput (M.readStepwise pick fuel w) = some (.ok true) ↔
      (M.readStepwise pick fuel w).2 = .returned) ∧
    (acceptsInput (M.readStepwise pick fuel w) = some (.ok false) ↔
      (M.readStepwise pick fuel w).2 = .raised (.lib .rejectionException)) ∧
    (acceptsInput (M.readStepwise pick fuel w) = none ↔ (M.readStepwise pick fuel w).2 = .outOfFuel) ∧
    (∀ e, acceptsInput (M.readStepwise pick fuel w) ≠ some (.error e)) ∧
    ((M.readStepwise pick fuel w).2 = .returned →
      readInput (M.readStepwise pick fuel w) = (M.readStepwise pick fuel w).1.getLast?.map .ok) :=
  acceptsInput_spec _ (List.ne_nil_of_length_pos (M.readStepwise_spec pick fuel w).lenPos)
    (M.readStepwise_spec pick fuel w).onlyRej

/-- `DPDA.lift` is "the NPDA with the same transition table": same move relation (each
entry `(p, push)` becomes the set `{(p, push)}`), same start, finals and mode. -/
theorem C02_lift_same_table (M : DPDA σ α γ) :
    (∀ q a X p push, M.lift.moves q a X p push ↔ M.moves q a X p push) ∧
    (∀ w, M.lift.start w = M.start w) ∧ M.lift.finals = M.finals ∧ M.lift.mode = M.mode ∧
    (∀ q a X, M.lift.entry? q a X = (M.entry? q a X).map fun e => [e]) :=
  ⟨M.lift_moves, fun _ => rfl, rfl, rfl, M.lift_entry?⟩

/-- **On every string a (deterministic) DPDA gives the same verdict as the NPDA with the same
transition table**: one accepts iff the other does, one rejects iff the other does.
It rests on the DPDA reader testing the start configuration before it takes an available λ-move
(/repo commit 5e96321); `exF7` below is the table on which that test decides. -/
theorem C02_dpda_eq_npda (M : DPDA σ α γ) (hdet : ¬ M.TwoMoves) (m : AccMode) (hm : M.mode = m.literal)
    (pick : Config σ α γ → Bool) (w : List α) :
    ((∃ fuel, (M.readStepwise pick fuel w).2 = .returned) ↔
      (∃ fuel, (M.lift.readStepwise fuel w).2 = .returned)) ∧
    ((∃ fuel, (M.readStepwise pick fuel w).2 = .raised (.lib .rejectionException)) ↔
      (∃ fuel, (M.lift.readStepwise fuel w).2 = .raised (.lib .rejectionException))) :=
  ⟨M.exists_outcome_lift hdet pick w (by nofun), M.exists_outcome_lift hdet pick w (by nofun)⟩

/-- The same in terms of `accepts_input` at arbitrary fuels: whenever both runs are decided,
the two Booleans are equal, and neither call raises. -/
theorem C02_dpda_eq_npda_decided (M : DPDA σ α γ) (hdet : ¬ M.TwoMoves) (m : AccMode)
    (hm : M.mode = m.literal) (pick : Config σ α γ → Bool) (w : List α) (f f' : Nat)
    (hd : (M.readStepwise pick f w).2 ≠ .outOfFuel) (hn : (M.lift.readStepwise f' w).2 ≠ .outOfFuel) :
    ∃ b, acceptsInput (M.readStepwise pick f w) = some (.ok b) ∧
      acceptsInput (M.lift.readStepwise f' w) = some (.ok b) := by
  -- the NPDA run decided at `f'` is the one at `f + 1`, which ends like the DPDA run at `f`
  have ho : (M.lift.readStepwise f' w).2 = (M.readStepwise pick f w).2 := by
    rw [M.lift.readStepwise_eq_of_decided hn (f' := f + 1) (by rwa [M.lift_outcome hdet pick]),
      M.lift_outcome hdet pick]
  have SD := C02_dpda_accepts_input M pick f w
  have SN := C02_npda_accepts_input M.lift f' w
  cases hD : (M.readStepwise pick f w).2 with
  | outOfFuel => exact absurd hD hd
  | returned => exact ⟨true, SD.1.mpr hD, SN.1.mpr (ho.trans hD)⟩
  | raised e =>
    obtain rfl := (M.readStepwise_spec pick f w).onlyRej e hD
    exact ⟨false, SD.2.1.mpr hD, SN.2.1.mpr (ho.trans hD)⟩

/-- The NPDA built from a well-formed DPDA table is well formed (accepted by the NPDA
constructor). -/
theorem C02_lift_valid (M : DPDA σ α γ) (wf : M.WellFormed) : M.lift.validate = .ok () := by
  rw [C02_npda_validate_iff]
  refine ⟨?_, ?_, wf.initOk, wf.initStackOk, wf.finalsOk, wf.modeOk⟩
  · intro kv hkv e he a ha
    obtain ⟨kv', hkv', rfl⟩ := List.mem_map.mp hkv
    obtain ⟨e', he', rfl⟩ := List.mem_map.mp he
    exact wf.inputOk kv' hkv' e' he' a ha
  · intro kv hkv e he X hX
    obtain ⟨kv', hkv', rfl⟩ := List.mem_map.mp hkv
    obtain ⟨e', he', rfl⟩ := List.mem_map.mp he
    obtain ⟨x, hx, rfl⟩ := List.mem_map.mp hX
    obtain ⟨x', hx', rfl⟩ := List.mem_map.mp hx
    exact wf.stackOk kv' hkv' e' he' _ (List.mem_map.mpr ⟨x', hx', rfl⟩)

/-- For every NPDA definition the constructor accepts: the mode is one of the three, and
for all words acceptance is reachability of an accepting configuration. -/
theorem C02_npda_valid (M : NPDA σ α γ) (hv : M.validate = .ok ()) :
    ∃ m : AccMode, M.mode = m.literal ∧ ∀ w : List α,
      ((∃ fuel, acceptsInput (M.readStepwise fuel w) = some (.ok true)) ↔
        ∃ k c, StepN M.moves k (M.start w) c ∧ Accepting m M.finals c) := by
  obtain ⟨m, hm⟩ := ((C02_npda_validate_iff M).mp hv).modeOk
  refine ⟨m, hm, fun w => ?_⟩
  rw [← C02_npda_accept_iff M m hm w]
  constructor
  · rintro ⟨f, h⟩; exact ⟨f, (C02_npda_accepts_input M f w).1.mp h⟩
  · rintro ⟨f, h⟩; exact ⟨f, (C02_npda_accepts_input M f w).1.mpr h⟩

/-- For every DPDA definition the constructor accepts: the NPDA with the same table is
accepted by its constructor too, and on every word the two machines give the same verdict
(both accept, both reject, or neither run ends). -/
theorem C02_dpda_valid_eq_npda (M : DPDA σ α γ) (hk : M.KeysUnique) (hv : M.validate = .ok ())
    (pick : Config σ α γ → Bool) (w : List α) :
    M.lift.validate = .ok () ∧
    ((∃ fuel, (M.readStepwise pick fuel w).2 = .returned) ↔
      (∃ fuel, (M.lift.readStepwise fuel w).2 = .returned)) ∧
    ((∃ fuel, (M.readStepwise pick fuel w).2 = .raised (.lib .rejectionException)) ↔
      (∃ fuel, (M.lift.readStepwise fuel w).2 = .raised (.lib .rejectionException))) := by
  obtain ⟨wf, hdet⟩ := (C02_dpda_validate_iff M hk).mp hv
  obtain ⟨m, hm⟩ := wf.modeOk
  exact ⟨C02_lift_valid M wf, C02_dpda_eq_npda M hdet m hm pick w⟩

/-- A deterministic DPDA whose ε-moves cannot run forever decides every word, and says `True` iff
an accepting configuration is reachable. -/
theorem C02_dpda_decides_eps (M : DPDA σ α γ) (hdet : ¬ M.TwoMoves) (m : AccMode) (hm : M.mode = m.literal)
    (h : EpsTerminates M.moves) (pick : Config σ α γ → Bool) (w : List α) :
    ∃ fuel b, acceptsInput (M.readStepwise pick fuel w) = some (.ok b) ∧
      (b = true ↔ ∃ k c, StepN M.moves k (M.start w) c ∧ Accepting m M.finals c) := by
  by_cases hA : ∃ k c, StepN M.moves k (M.start w) c ∧ Accepting m M.finals c
  · obtain ⟨fuel, hf⟩ := (C02_dpda_accept_iff M hdet m hm pick w).mpr hA
    exact ⟨fuel, true, (C02_dpda_accepts_input M pick fuel w).1.mpr hf, by simp [hA]⟩
  · obtain ⟨fuel, hf⟩ := (C02_dpda_reject_iff M hdet m hm pick w).mpr
      ⟨C02_dpda_no_eps_run_dies_out M h w, hA⟩
    exact ⟨fuel, false, (C02_dpda_accepts_input M pick fuel w).2.1.mpr hf, by simp [hA]⟩

/-- **C02 for the tables of its quantifier** — a DPDA definition the constructor accepts, whose
ε-moves cannot run forever: the NPDA with the same table is accepted by its constructor, and on
every word both `accepts_input` calls come back (some budget suffices for both), with the same
Boolean, which is `True` exactly when some sequence of moves consumes the word and ends in an
accepting configuration (the start configuration included). -/
theorem C02_valid_eps_terminating (M : DPDA σ α γ) (hk : M.KeysUnique) (hv : M.validate = .ok ())
    (h : EpsTerminates M.moves) (pick : Config σ α γ → Bool) (w : List α) :
    M.lift.validate = .ok () ∧ ∃ m : AccMode, M.mode = m.literal ∧ ∃ fuel b,
      acceptsInput (M.readStepwise pick fuel w) = some (.ok b) ∧
      acceptsInput (M.lift.readStepwise fuel w) = some (.ok b) ∧
      (b = true ↔ ∃ k c, StepN M.moves k (M.start w) c ∧ Accepting m M.finals c) := by
  obtain ⟨wf, hdet⟩ := (C02_dpda_validate_iff M hk).mp hv
  obtain ⟨m, hm⟩ := wf.modeOk
  refine ⟨C02_lift_valid M wf, m, hm, ?_⟩
  obtain ⟨f, b, h1, hb⟩ := C02_dpda_decides_eps M hdet m hm h pick w
  have hd : (M.readStepwise pick f w).2 ≠ .outOfFuel := fun hh => by
    rw [(C02_dpda_accepts_input M pick f w).2.2.1.mpr hh] at h1; cases h1
  -- the NPDA ends the same way one iteration later; a decided DPDA run is the same at that fuel
  obtain ⟨b', e1, e2⟩ := C02_dpda_eq_npda_decided M hdet m hm pick w f (f + 1) hd
    (by rwa [M.lift_outcome hdet pick])
  obtain rfl : b' = b := by rw [h1] at e1; cases e1; rfl
  exact ⟨f + 1, b', by rw [C02_dpda_fuel_monotone M pick f _ w hd (Nat.le_succ f)]; exact h1, e2, hb⟩

section Examples

/-- `q0 —a,Z→ {(q0, AZ), (q1, Z)}`, `q0 —λ,A→ (q1, λ)`, `q1 —λ,Z→ (q1, λ)`, accepting by empty
stack (`Z = 0`, `A = 1`). -/
def exN : NPDA Nat Nat Nat :=
  { states := [0, 1], inputSyms := [0], stackSyms := [0, 1],
    trans := [(0, [(some 0, [(0, [(0, [1, 0]), (1, [0])])]), (none, [(1, [(1, [])])])]),
              (1, [(none, [(0, [(1, [])])])])],
    init := 0, initStack := 0, finals := [], mode := "empty_stack" }

example : exN.validate = .ok () := by rfl
example : exN.mode = AccMode.emptyStack.literal := by decide +kernel
/-- accepted at level 2 (two configurations per level: genuinely nondeterministic) -/
example : exN.readStepwise 5 [0] =
    ([[⟨0, [0], [0]⟩], [⟨0, [], [0, 1]⟩, ⟨1, [], [0]⟩], [⟨1, [], [0]⟩, ⟨1, [], []⟩]], .returned) := by decide +kernel
/-- rejected: level 4 is empty -/
example : (exN.readStepwise 9 [0, 0]).2 = .raised (.lib .rejectionException) ∧
    (exN.readStepwise 9 [0, 0]).1.length = 5 := by decide +kernel
/-- `exN`'s λ-moves all pop: they cannot run forever, so `C02_npda_decides_eps` applies to it
(and `exLoop` below is a table outside the quantifier). -/
theorem exN_eps : EpsTerminates exN.moves :=
  exN.epsTerminates_of_lambda_pops (by decide +kernel)

/-- the hypothesis of `C02_npda_decides` is met (all runs on `aa` die out) -/
example : ∃ k, ∀ c, ¬ StepN exN.moves k (exN.start [0, 0]) c :=
  C02_no_eps_run_dies_out exN exN_eps [0, 0]

example (w : List Nat) : ∃ fuel b, acceptsInput (exN.readStepwise fuel w) = some (.ok b) ∧
    (b = true ↔ ∃ k c, StepN exN.moves k (exN.start w) c ∧ Accepting .emptyStack exN.finals c) :=
  C02_npda_decides_eps exN .emptyStack (by decide +kernel) exN_eps w

/-- a λ-cycle `q0 —λ,Z→ (q0, ZZ)`: the reader never decides; the model says so -/
def exLoop : NPDA Nat Nat Nat :=
  { states := [0], inputSyms := [0], stackSyms := [0],
    trans := [(0, [(none, [(0, [(0, [0, 0])])])])],
    init := 0, initStack := 0, finals := [], mode := "final_state" }

example : exLoop.validate = .ok () ∧ (exLoop.readStepwise 20 []).2 = .outOfFuel := ⟨by rfl, by decide +kernel⟩

/-- The docstring DPDA for aⁿbⁿ (`a = 0`, `b = 1`; stack `'0' = 0`, `'1' = 1`). -/
def exD : DPDA Nat Nat Nat :=
  { states := [0, 1, 2, 3], inputSyms := [0, 1], stackSyms := [0, 1],
    trans := [(0, [(some 0, [(0, (1, [1, 0]))])]),
              (1, [(some 0, [(1, (1, [1, 1]))]), (some 1, [(1, (2, []))])]),
              (2, [(some 1, [(1, (2, []))]), (none, [(0, (3, [0]))])])],
    init := 0, initStack := 0, finals := [3], mode := "final_state" }

theorem exD_keys : exD.KeysUnique := by unfold Table.KeysUnique; decide +kernel
theorem exD_valid : exD.validate = .ok () := by rfl
example : exD.validate = .ok () := exD_valid
example : ¬ exD.TwoMoves := ((C02_dpda_validate_iff exD exD_keys).mp exD_valid).2
example : (exD.readStepwise (fun _ => true) 10 [0, 0, 1, 1]).2 = .returned ∧
    (exD.lift.readStepwise 10 [0, 0, 1, 1]).2 = .returned ∧
    (exD.readStepwise (fun _ => true) 10 [0, 1, 1]).2 = .raised (.lib .rejectionException) ∧
    (exD.lift.readStepwise 10 [0, 1, 1]).2 = .raised (.lib .rejectionException) := by decide +kernel

/-- `exD`'s only λ-move goes from `q2` to `q3`, which has no row: ε-moves cannot run forever. -/
theorem exD_eps : EpsTerminates exD.moves := by
  apply epsTerminates_of_measure (fun c => if c.state = 3 then 0 else 1)
  intro c c' hs
  cases hs with
  | mk hm =>
    obtain ⟨row, sp, h1, h2, h3⟩ := exD.entry?_some_mem hm
    simp only [exD, List.mem_cons, Prod.mk.injEq, List.not_mem_nil, or_false] at h1
    rcases h1 with ⟨rfl, rfl⟩ | ⟨rfl, rfl⟩ | ⟨rfl, rfl⟩
    · simp at h2
    · simp at h2
    · simp only [List.mem_cons, Prod.mk.injEq, List.not_mem_nil, or_false, reduceCtorEq, false_and,
        false_or, true_and] at h2
      subst h2
      simp only [List.mem_cons, Prod.mk.injEq, List.not_mem_nil, or_false] at h3
      obtain ⟨_, rfl, _⟩ := h3
      simp

/-- the property for the docstring DPDA, all words -/
example (w : List Nat) := C02_valid_eps_terminating exD exD_keys exD_valid exD_eps (fun _ => true) w
theorem exD_keys_all : exD.KeysUniqueAll := ⟨exD_keys, by decide +kernel⟩
example : exD.moves 2 none 0 3 [0] ∧ exD.movesMem 2 none 0 3 [0] := by
  have h : exD.moves 2 none 0 3 [0] := by show exD.entry? 2 none 0 = some (3, [0]); decide
  exact ⟨h, ((C02_moves_by_membership (σ := Nat) (α := Nat) (γ := Nat)).2.1 exD exD_keys_all ..).mp h⟩

/-- `q0` final, only row `q0 —λ,Z→ (q1, Z)`.  The start configuration accepts `""`: the DPDA
reader returns immediately, like the NPDA, although a λ-move to the non-final `q1` is available. -/
def exF7 : DPDA Nat Nat Nat :=
  { states := [0, 1], inputSyms := [0], stackSyms := [0],
    trans := [(0, [(none, [(0, (1, [0]))])])],
    init := 0, initStack := 0, finals := [0], mode := "final_state" }

example : exF7.validate = .ok () ∧
    exF7.readStepwise (fun _ => true) 5 [] = ([⟨0, [], [0]⟩], .returned) ∧
    exF7.lift.readStepwise 5 [] = ([[⟨0, [], [0]⟩]], .returned) := ⟨by rfl, by decide +kernel, by decide +kernel⟩

/-- A symbol move next to a λ-move on the same state and stack top: refused with
`NondeterminismError`. -/
def exTwo : DPDA Nat Nat Nat :=
  { states := [0, 1], inputSyms := [0], stackSyms := [0],
    trans := [(0, [(some 0, [(0, (1, [0]))]), (none, [(0, (0, [0]))])])],
    init := 0, initStack := 0, finals := [1], mode := "final_state" }

example : exTwo.validate = .error (.lib .nondeterminismError) ∧ exTwo.KeysUnique :=
  ⟨by rfl, by unfold Table.KeysUnique; decide +kernel⟩
example : exTwo.TwoMoves := ⟨0, 0, 0, by decide +kernel, by decide +kernel⟩
example : exTwo.validate ≠ .ok () :=
  C02_dpda_two_moves_rejected exTwo (by unfold Table.KeysUnique; decide +kernel) ⟨0, 0, 0, by decide +kernel, by decide +kernel⟩
/-- there the popped transition matters: the two set orders give different runs -/
example : exTwo.readStepwise (fun _ => true) 3 [0] ≠ exTwo.readStepwise (fun _ => false) 3 [0] := by decide +kernel

/-- Mode "both": an empty stack in a non-final state is accepting. -/
example : Table.hasAccepted ({ exN with mode := "both" } : NPDA Nat Nat Nat) ⟨1, [], []⟩ = true := by decide +kernel

end Examples

end AV.Props.C02
