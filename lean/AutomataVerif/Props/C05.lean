/-
Props/C05.lean — C05: minimisation preserves the language and reaches the minimum state count.

English statement (properties.jsonl): minimising any DFA, directly or through the minify
option of another operation, returns a valid DFA that accepts exactly the same language and
has the fewest states any DFA of the result's own kind can have for that language: the
Myhill–Nerode index when the result is complete, and the number of non-dead residual classes
(at least one) when the result is partial, so equivalent states are always merged and a
partial result never keeps a dead state.  Minimising an already minimal DFA does not change
its size, and with retained names every result state is named by the set of original states
it merges.

Reading.  `d.minify pick` is the model of `DFA.minify(retain_names=True)` (Model/DFAOps.lean:
pre-pass `minifyKept`, Hopcroft refinement `hopcroft` with the implicit trap `none`, quotient
`minifyCore`); `pick` is the arbitrary `set.pop()` of the work-list, and every theorem holds
for every `pick`.  "Valid" is `validate = .ok ()`.  `d.PyShape` says that the value came from
Python sets and dicts (no duplicate elements / keys); without it the statements are false
for the list model (a row with a duplicate key shadows an entry for `.get` but not for the
row comprehension of `_minify`).  `accepts` is the verdict tied to Mathlib's `DFA.accepts` by
C01.  "Fewest states of its kind" is stated against every competitor `B` (any state type):
complete results against every valid complete DFA over an alphabet containing `d`'s, partial
results against the number of live states of every valid DFA (`B.liveStates`, the declared
states from which some word is accepted; `DFA.mem_coaccessible_iff_live` is the computable
reading).  The correctness of the refinement loop (`hopcroft_nerode`, Proofs/Hopcroft.lean)
and of the quotient (Proofs/MinQuotient.lean) are combined in Proofs/MinifyCorrect.lean.
-/
import AutomataVerif.Proofs.MinCompose
import AutomataVerif.Model.Convert
import AutomataVerif.Proofs.MinGlueSubset
import AutomataVerif.Proofs.MinRep

namespace AV.Props.C05
open AV AV.DFA

variable {σ τ α : Type} [DecidableEq σ] [DecidableEq τ] [DecidableEq α]

/-- The arguments `minify` hands `_minify` describe `d` (Proofs/MinifyCorrect.lean). -/
theorem source {d : AV.DFA σ α} (hv : d.validate = .ok ()) (ps : d.PyShape) :
    MinSource d d.minifyKept d.minifyFinals :=
  minify_source ((validate_eq_ok d).mp hv) ps

/-- **Language.**  Minimising a valid DFA (complete or partial, with unreachable states,
dead states entered by explicit transitions, a dead or non-final initial state, the empty or
the universal language) does not change the verdict on any word. -/
theorem C05_lang (d : AV.DFA σ α) (hv : d.validate = .ok ()) (ps : d.PyShape)
    (pick : List Nat → Nat) (w : List α) :
    (d.minify pick).accepts w = d.accepts w :=
  (source hv ps).accepts pick w

/-- **Validity.**  The result passes the constructor's validation (every state has a row,
rows only use alphabet symbols and declared target states, the initial and final states are
declared, and the inferred `allow_partial` flag is consistent with the rows), over the same
alphabet, and is again of Python shape. -/
theorem C05_valid (d : AV.DFA σ α) (hv : d.validate = .ok ()) (ps : d.PyShape)
    (pick : List Nat → Nat) :
    (d.minify pick).validate = .ok () ∧ (d.minify pick).syms = d.syms ∧ (d.minify pick).PyShape :=
  ⟨(source hv ps).valid pick, minifyCore_syms _ _ _ _ _ _,
    (source hv ps).pyShape pick⟩

/-- Whatever the kind of the result, no valid complete DFA `B` over an alphabet containing `d`'s
that accepts the same language has fewer (distinct) states. -/
theorem C05_le_complete (d : AV.DFA σ α) (hv : d.validate = .ok ()) (ps : d.PyShape)
    (pick : List Nat → Nat) (B : AV.DFA τ α) (hB : B.validate = .ok ()) (hBc : B.allowPartial = false)
    (hsyms : ∀ a ∈ d.syms, a ∈ B.syms) (hlang : ∀ w, B.accepts w = d.accepts w) :
    (d.minify pick).states.length ≤ (dedup B.states).length ∧
    (d.minify pick).states.length ≤ B.states.length :=
  ⟨(source hv ps).minimal_complete pick B
      ((validate_eq_ok B).mp hB) hBc hsyms hlang (dedup B.states) fun _ h => mem_dedup.mpr h,
   (source hv ps).minimal_complete pick B
      ((validate_eq_ok B).mp hB) hBc hsyms hlang B.states fun _ h => h⟩

/-- **Minimality, complete result** (Myhill–Nerode index).  When the result is complete, no
valid complete DFA `B` over an alphabet containing `d`'s that accepts the same language has
fewer (distinct) states. -/
theorem C05_minimal_complete (d : AV.DFA σ α) (hv : d.validate = .ok ()) (ps : d.PyShape)
    (pick : List Nat → Nat) (hp : (d.minify pick).allowPartial = false)
    (B : AV.DFA τ α) (hB : B.validate = .ok ()) (hBc : B.allowPartial = false)
    (hsyms : ∀ a ∈ d.syms, a ∈ B.syms) (hlang : ∀ w, B.accepts w = d.accepts w) :
    (d.minify pick).states.length ≤ (dedup B.states).length ∧
    (d.minify pick).states.length ≤ B.states.length :=
  -- `hp` only says which kind of minimality this is; the bound is `C05_le_complete`
  have _ := hp
  C05_le_complete d hv ps pick B hB hBc hsyms hlang

/-- **Minimality, partial result** (number of non-dead residual classes).  When the result
is partial, every valid DFA `B` (partial or complete, any alphabet) with the same language
has at least as many live states as the result has states — so the result has at most
`max 1 (#live states of B)` states, and a fortiori at most `|B|`. -/
theorem C05_minimal_partial (d : AV.DFA σ α) (hv : d.validate = .ok ()) (ps : d.PyShape)
    (pick : List Nat → Nat) (hp : (d.minify pick).allowPartial = true)
    (B : AV.DFA τ α) (hB : B.validate = .ok ()) (hlang : ∀ w, B.accepts w = d.accepts w) :
    (d.minify pick).states.length ≤ B.liveStates.length ∧
    (d.minify pick).states.length ≤ max 1 B.liveStates.length ∧
    (d.minify pick).states.length ≤ B.states.length := by
  have h : (d.minify pick).states.length ≤ B.liveStates.length :=
    (source hv ps).minimal_partial pick hp B
      ((validate_eq_ok B).mp hB) hlang
  have h2 := liveStates_length_le B
  exact ⟨h, by omega, by omega⟩

/-- **A partial result never keeps a dead state**: from every state of a partial result some
word is accepted (in particular the initial state is live and the language is non-empty). -/
theorem C05_partial_no_dead (d : AV.DFA σ α) (hv : d.validate = .ok ()) (ps : d.PyShape)
    (pick : List Nat → Nat) (hp : (d.minify pick).allowPartial = true) :
    ∀ n ∈ (d.minify pick).states, ∃ w, (d.minify pick).isFinal ((d.minify pick).run (some n) w) = true :=
  (source hv ps).live pick hp

/-- **No unreachable and no mergeable states, whatever the kind**: the states of the result
are duplicate-free, each is reached from the initial state by some word, and two different
states are told apart by some word. -/
theorem C05_reachable_distinguishable (d : AV.DFA σ α) (hv : d.validate = .ok ()) (ps : d.PyShape)
    (pick : List Nat → Nat) :
    (d.minify pick).states.Nodup ∧
    (∀ n ∈ (d.minify pick).states,
      ∃ w, (d.minify pick).run (some (d.minify pick).init) w = some n) ∧
    (∀ n ∈ (d.minify pick).states, ∀ n' ∈ (d.minify pick).states, n ≠ n' →
      ∃ w, (d.minify pick).isFinal ((d.minify pick).run (some n) w) ≠
        (d.minify pick).isFinal ((d.minify pick).run (some n') w)) :=
  ⟨((source hv ps).pyShape pick).states_nodup,
   (source hv ps).reachable pick,
   (source hv ps).distinguishable pick⟩

/-- A complete input gives a complete result; the result never has more states than the input. -/
theorem C05_complete_stays_complete (d : AV.DFA σ α) (hv : d.validate = .ok ()) (ps : d.PyShape)
    (pick : List Nat → Nat) :
    (d.allowPartial = false → (d.minify pick).allowPartial = false) ∧
    (d.minify pick).states.length ≤ d.states.length :=
  ⟨fun hc => (source hv ps).complete_of_noTrap pick
      (minify_noTrap_of_complete ((validate_eq_ok d).mp hv) hc),
   minify_size_le ((validate_eq_ok d).mp hv) ps pick⟩

/-- **Minimising an already minimal DFA does not change its size** — the literal clause, for
ANY minimal `d` (hand-built ones included), not only for outputs of `minify`: if the states
of `d` are reachable and pairwise distinguishable and — when `d` is declared partial — all
live (no dead state), then `minify` returns a DFA with exactly as many states, of the same
kind when `d` is complete.  (A `d` with these properties has the fewest states of its
kind: `minimal_of_reachable_distinguishable_complete` / `_partial`.) -/
theorem C05_minimal_input_size (d : AV.DFA σ α) (hv : d.validate = .ok ()) (ps : d.PyShape)
    (pick : List Nat → Nat)
    (hreach : ∀ q ∈ d.states, ∃ w, d.run (some d.init) w = some q)
    (hdist : ∀ p ∈ d.states, ∀ q ∈ d.states, p ≠ q →
      ∃ w, d.isFinal (d.run (some p) w) ≠ d.isFinal (d.run (some q) w))
    (hlive : d.allowPartial = true → ∀ q ∈ d.states, ∃ w, d.isFinal (d.run (some q) w) = true) :
    (d.minify pick).states.length = d.states.length ∧
    (d.allowPartial = false → (d.minify pick).allowPartial = false) := by
  have S := source hv ps
  obtain ⟨hcomp, hle⟩ := C05_complete_stays_complete d hv ps pick
  refine ⟨Nat.le_antisymm hle ?_, hcomp⟩
  cases hp : d.allowPartial with
  | true =>
    have h := minimal_of_reachable_distinguishable_partial d (d.minify pick) ps.states_nodup
      hreach hdist (hlive hp) (S.wf pick) (S.accepts pick)
    exact Nat.le_trans h.1 h.2
  | false =>
    exact minimal_of_reachable_distinguishable_complete d (d.minify pick)
      ((validate_eq_ok d).mp hv) ps.states_nodup hreach hdist (S.wf pick) (hcomp hp)
      (fun a ha => (C05_valid d hv ps pick).2.1 ▸ ha) (S.accepts pick)

/-- **Idempotence of the size.**  Minimising an already minimised DFA (with any pop orders)
does not change the number of states. -/
theorem C05_idempotent_size (d : AV.DFA σ α) (hv : d.validate = .ok ()) (ps : d.PyShape)
    (pick pick' : List Nat → Nat) :
    ((d.minify pick).minify pick').states.length = (d.minify pick).states.length := by
  have S := source hv ps
  exact (C05_minimal_input_size (d.minify pick) (S.valid pick) (S.pyShape pick) pick'
    (S.reachable pick) (S.distinguishable pick) (S.live pick)).1

/-- **No `KeyError` inside `_minify`.**  `minifyCore` is a total function: it reads
`back_map[initial_state]`, `back_map[acc]`, `next(iter(eq))` and `transitions[eq_class_rep]`
through `getD` / `filterMap` / `head?`.  On the arguments `minify` passes, none of these
defaults is ever taken: whenever some class avoids the trap (otherwise `empty_language` is
returned before the look-ups), the initial state and every kept final state have a name,
every such class has a first element, and every member of it has a row.  The same holds for
every other caller of `_minify` (`AV.DFA.MinSource.no_keyerror` is stated for any
`MinSource`: `to_partial`, `complement`, the Boolean operations, `from_nfa`). -/
theorem C05_minify_no_keyerror (d : AV.DFA σ α) (hv : d.validate = .ok ()) (ps : d.PyShape)
    (pick : List Nat → Nat)
    (hne : (goodBlocks (hopcroft d.minifyKept d.syms d.trans d.minifyFinals pick)).isEmpty = false) :
    (nameOfIn (goodBlocks (hopcroft d.minifyKept d.syms d.trans d.minifyFinals pick)) d.init).isSome
      = true ∧
    (∀ f ∈ d.minifyFinals,
      (nameOfIn (goodBlocks (hopcroft d.minifyKept d.syms d.trans d.minifyFinals pick)) f).isSome
        = true) ∧
    (∀ b ∈ goodBlocks (hopcroft d.minifyKept d.syms d.trans d.minifyFinals pick),
      ∃ r row, (blockStates b.2).head? = some r ∧ alookup r d.trans = some row) ∧
    (∀ b ∈ goodBlocks (hopcroft d.minifyKept d.syms d.trans d.minifyFinals pick),
      ∀ r ∈ blockStates b.2, ∃ row, alookup r d.trans = some row) :=
  (source hv ps).no_keyerror pick hne

/-- `minify` with the choice of class representatives as a parameter: `repPick l` is the
position, in the list `l` of members of a class, of the state whose row is copied
(Python: `next(iter(eq))`, i.e. hash order).  `minify` itself uses the head. -/
def minifyRep (d : AV.DFA σ α) (repPick : List σ → Nat) (pick : List Nat → Nat) :
    AV.DFA (MinName σ) α :=
  minifyCoreRep repPick d.minifyKept d.syms d.trans d.init d.minifyFinals pick

/-- **The result does not depend on which member of a class represents it.**  For every
`repPick` (and every pop order `pick`) the result has the same states, initial state, final
states, `allow_partial` flag and transition function as `d.minify pick`, every row has the same
set of `(symbol, target name)` entries as the row with the same key of `d.minify pick`, and
it is valid with the language of `d`.  Hence every theorem of this file about sizes,
languages, kinds and names transfers to every choice of representatives. -/
theorem C05_rep_independent (d : AV.DFA σ α) (hv : d.validate = .ok ()) (ps : d.PyShape)
    (repPick : List σ → Nat) (pick : List Nat → Nat) :
    (minifyRep d repPick pick).states = (d.minify pick).states ∧
    (minifyRep d repPick pick).syms = d.syms ∧
    (minifyRep d repPick pick).init = (d.minify pick).init ∧
    (minifyRep d repPick pick).finals = (d.minify pick).finals ∧
    (minifyRep d repPick pick).allowPartial = (d.minify pick).allowPartial ∧
    (∀ s a, (minifyRep d repPick pick).step? s a = (d.minify pick).step? s a) ∧
    (∀ kv ∈ (minifyRep d repPick pick).trans, ∃ kv' ∈ (d.minify pick).trans, kv'.1 = kv.1 ∧
      ∀ a n, (a, n) ∈ kv.2 ↔ (a, n) ∈ kv'.2) ∧
    (∀ w, (minifyRep d repPick pick).accepts w = d.accepts w) ∧
    (minifyRep d repPick pick).validate = .ok () :=
  (source hv ps).rep_independent pick repPick

/-- **Equivalent states are always merged.**  Two source states with the same right language
never end up in two different states of the result. -/
theorem C05_equivalent_merged (d : AV.DFA σ α) (hv : d.validate = .ok ()) (ps : d.PyShape)
    (pick : List Nat → Nat) {p q : σ} {l l' : List σ}
    (hl : MinName.blk l ∈ (d.minify pick).states) (hl' : MinName.blk l' ∈ (d.minify pick).states)
    (hp : p ∈ l) (hq : q ∈ l')
    (heq : ∀ w, d.isFinal (d.run (some p) w) = d.isFinal (d.run (some q) w)) : l = l' := by
  have S := source hv ps
  rcases S.names pick _ hl with ⟨h, _⟩ | ⟨l0, h0, _, hk, hiff⟩
  · cases h
  · rcases S.names pick _ hl' with ⟨h, _⟩ | ⟨l1, h1, _, hk', _⟩
    · cases h
    · cases h0; cases h1
      have hql : q ∈ l := (hiff p hp q (hk' q hq)).mpr heq
      exact S.disjoint pick hl hl' hql hq

/-- The full naming claim of the English statement: every state of the result is named by a
set of original states.  It is FALSE for the code as it stands when the language is empty:
`_minify` then returns `empty_language`, whose only state is `0` (DESIGN.md §8 F16, naming
only); see `C05_retain_names_full_fails` and the proved `C05_retain_names_partial`. -/
def C05_retain_names_full (σ α : Type) [DecidableEq σ] [DecidableEq α] : Prop :=
  ∀ (d : AV.DFA σ α), d.validate = .ok () → d.PyShape → ∀ pick : List Nat → Nat,
    ∀ n ∈ (d.minify pick).states, ∃ l, n = MinName.blk l

/-- **Retained names.**  Every state of the result is named `blk l` where `l` is a non-empty
list of kept source states (reachable, and live or the initial state when `d` is partial)
that consists of exactly the kept states having the right language of any of its members;
different states have disjoint names; every live kept state occurs in a name.  The only
exception: when the language is empty the result may be the one-state `empty_language`
DFA whose state is named `zero` (F16). -/
theorem C05_retain_names_partial (d : AV.DFA σ α) (hv : d.validate = .ok ()) (ps : d.PyShape)
    (pick : List Nat → Nat) :
    (∀ n ∈ (d.minify pick).states,
      (n = MinName.zero ∧ (d.minify pick).states = [MinName.zero] ∧ ∀ w, d.accepts w = false) ∨
      ∃ l, n = MinName.blk l ∧ l ≠ [] ∧ (∀ q ∈ l, q ∈ d.minifyKept ∧ q ∈ d.states) ∧
        ∀ q ∈ l, ∀ q' ∈ d.minifyKept,
          (q' ∈ l ↔ ∀ w, d.isFinal (d.run (some q) w) = d.isFinal (d.run (some q') w))) ∧
    (∀ l l', MinName.blk l ∈ (d.minify pick).states → MinName.blk l' ∈ (d.minify pick).states →
      ∀ q, q ∈ l → q ∈ l' → l = l') ∧
    (∀ q ∈ d.minifyKept, (∃ w, d.isFinal (d.run (some q) w) = true) →
      ∃ l, MinName.blk l ∈ (d.minify pick).states ∧ q ∈ l) := by
  have wf := (validate_eq_ok d).mp hv
  have S := minify_source wf ps
  refine ⟨fun n hn => ?_, fun l l' hl hl' q hq hq' => S.disjoint pick hl hl' hq hq',
    fun q hq hlive => S.cover pick hq hlive⟩
  rcases S.names pick n hn with h | ⟨l, h1, h2, h3, h4⟩
  · exact Or.inl h
  · exact Or.inr ⟨l, h1, h2, fun q hq => ⟨h3 q hq, (kept_minifyKept wf).sub q (h3 q hq)⟩, h4⟩

/-- The kept states, declaratively: the initial state, plus every state reachable from it
that (when `d` is partial) can reach a final state. -/
theorem C05_kept_states (d : AV.DFA σ α) (hv : d.validate = .ok ()) (q : σ) :
    q ∈ d.minifyKept ↔
      q = d.init ∨ (Reach d.succStates d.init q ∧ (d.allowPartial = false ∨ q ∈ d.coaccessible)) :=
  mem_minifyKept_iff ((validate_eq_ok d).mp hv)

/-! `minify=True` of other operations: every other caller hands `_minify` either the pre-pass
of a table (`to_partial`, `complement`) or all states of a DFA freshly built by `_expand_dfa`
(`union`, …, `from_nfa`), all of whose states are reachable. -/

/-- `R` is a valid DFA for the language `L`, with the fewest states a DFA of its own kind
can have: if `R` is partial, every state of `R` is live and every valid DFA for `L` has at
least `|R|` live states; if `R` is complete, every valid complete DFA for `L` over an
alphabet containing `syms` has at least `|R|` states. -/
def MinimalFor {ρ : Type} [DecidableEq ρ] (R : AV.DFA ρ α) (L : List α → Bool) (syms : List α) :
    Prop :=
  R.validate = .ok () ∧ (∀ w, R.accepts w = L w) ∧
  (R.allowPartial = true →
    (∀ n ∈ R.states, ∃ w, R.isFinal (R.run (some n) w) = true) ∧
    ∀ (τ : Type) [DecidableEq τ] (B : AV.DFA τ α), B.validate = .ok () →
      (∀ w, B.accepts w = L w) → R.states.length ≤ B.liveStates.length) ∧
  (R.allowPartial = false →
    ∀ (τ : Type) [DecidableEq τ] (B : AV.DFA τ α), B.validate = .ok () → B.allowPartial = false →
      (∀ a ∈ syms, a ∈ B.syms) → (∀ w, B.accepts w = L w) → R.states.length ≤ B.states.length)

/-- `_minify` applied to any source that describes a DFA `d` (Proofs/MinifyCorrect.lean)
returns a minimal DFA of its kind for `d`'s language. -/
theorem minimalFor_of_source {d : AV.DFA σ α} {kept finals : List σ}
    (S : MinSource d kept finals) (pick : List Nat → Nat) :
    MinimalFor (minifyCore kept d.syms d.trans d.init finals pick) d.accepts d.syms :=
  ⟨S.valid pick, fun w => S.accepts pick w,
   fun hp => ⟨S.live pick hp, fun _ _ B hB hl =>
     S.minimal_partial pick hp B ((validate_eq_ok B).mp hB) hl⟩,
   fun _ _ _ B hB hBc hs hl =>
     S.minimal_complete pick B ((validate_eq_ok B).mp hB) hBc hs hl B.states fun _ h => h⟩

/-- Summary for `minify` itself in the same vocabulary. -/
theorem C05_minify_minimalFor (d : AV.DFA σ α) (hv : d.validate = .ok ()) (ps : d.PyShape)
    (pick : List Nat → Nat) : MinimalFor (d.minify pick) d.accepts d.syms :=
  minimalFor_of_source (source hv ps) pick

/-- **`to_partial(minify=True)`** of a valid DFA (partial or complete) is a valid DFA with the
same language and the fewest states of its kind. -/
theorem C05_toPartialMin (d : AV.DFA σ α) (hv : d.validate = .ok ()) (ps : d.PyShape)
    (pick : List Nat → Nat) : MinimalFor (d.toPartialMin pick) d.accepts d.syms :=
  minimalFor_of_source (AV.C04.toPartialMin_minSource ((validate_eq_ok d).mp hv) ps) pick

/-- **`complement(minify=True)`** of a valid complete DFA: a valid complete DFA that accepts
exactly what the plain complement accepts (C04 says that is the complement language), with
the fewest states of any complete DFA for it. -/
theorem C05_complementMin (c : AV.DFA σ α) (hv : c.validate = .ok ()) (hc : c.allowPartial = false)
    (ps : c.PyShape) (pick : List Nat → Nat) :
    MinimalFor (c.complementMin pick) c.complementPlain.accepts c.syms ∧
    (c.complementMin pick).allowPartial = false := by
  have wf := (validate_eq_ok c).mp hv
  have S := AV.C04.complementMin_minSource wf ps (wf.complete hc)
  exact ⟨minimalFor_of_source S pick,
    S.complete_of_noTrap pick (AV.C04.complementMin_noTrap wf (wf.complete hc))⟩

/-- **`_minify` on a trim DFA**: if `P` is valid, of Python shape and all its states are
reachable, `_minify` applied to all of `P` is minimal of its kind for `P`'s language. -/
theorem C05_minify_of_trim (P : AV.DFA σ α) (hv : P.validate = .ok ()) (ps : P.PyShape)
    (hreach : ∀ q ∈ P.states, ∃ w, P.run (some P.init) w = some q) (pick : List Nat → Nat) :
    MinimalFor (minifyCore P.states P.syms P.trans P.init P.finals pick) P.accepts P.syms :=
  minimalFor_of_source (minSource_of_trim ((validate_eq_ok P).mp hv) ps hreach) pick

/-- **`_expand_dfa(..., minify=True)`**: whenever the BFS of `_expand_dfa` is exhaustive
(`ExpandHyp`: a finite closed universe, duplicate-free rows, enough fuel) and the expansion
function only uses alphabet symbols, the minified result is minimal of its kind for the
language of the un-minified result `P`. -/
theorem C05_expandMin {S : Type} [DecidableEq S] (succ : S → List (α × S)) (isFin : S → Bool)
    (syms : List α) (fuel : Nat) (init : S) (univ : List S)
    (h : ExpandHyp succ univ fuel init) (hsyms : syms.Nodup)
    (hkeys : ∀ u ∈ univ, ∀ a ∈ akeys (succ u), a ∈ syms) (pick : List Nat → Nat) :
    MinimalFor
      (minifyCore (expand succ isFin syms fuel init).states syms
        (expand succ isFin syms fuel init).trans init (expand succ isFin syms fuel init).finals pick)
      (expand succ isFin syms fuel init).accepts syms :=
  minimalFor_of_source (expand_minSource isFin syms h hsyms hkeys) pick

/-- **`A.op(B, minify=True)`** for `op` ∈ {union, intersection, difference, symmetric
difference}, valid operands over a common alphabet, every mix of partial and complete
operands: the call succeeds and returns a valid DFA that accepts exactly what
`A.op(B, minify=False)` accepts (C04 says that is the set operation on the languages), with
the fewest states of its kind. -/
theorem C05_binopMin (op : BinOp) (A B : AV.DFA σ α) (hA : A.validate = .ok ())
    (hB : B.validate = .ok ()) (pA : A.PyShape) (hs : A.symsEq B = true) (pick : List Nat → Nat) :
    ∃ P R, binopPlain op A B = .ok P ∧ binopMin op A B pick = .ok R ∧
      MinimalFor R P.accepts A.syms := by
  obtain ⟨P, hP, r, t⟩ := AV.C04.binopPlain_spec op hA hB pA hs
  refine ⟨P, minifyCore P.states P.syms P.trans P.init P.finals pick, hP,
    by simp only [binopMin, hP], ?_⟩
  rw [← r.syms]; exact minimalFor_of_source (r.minSource t) pick

/-- The full claim for `DFA.from_nfa(n, minify=True)`: for every valid NFA of Python shape the
result is minimal of its kind for the language of `DFA.from_nfa(n, minify=False)` (it holds:
`C05_toDFAMin_full_holds`). -/
def C05_toDFAMin_full (σ α : Type) [DecidableEq σ] [DecidableEq α] : Prop :=
  ∀ (n : AV.NFA σ α), n.validate = .ok () → n.PyShape → ∀ pick : List Nat → Nat,
    MinimalFor (n.toDFAMin pick) n.toDFA.accepts n.syms

/-- **`DFA.from_nfa(n, minify=True)`**: whenever the subset construction's BFS is exhaustive
(`ExpandHyp`, for any universe; C07's `subset_expandHyp` is the one behind `C05_toDFAMin`), the
result is minimal of its kind for the language of `DFA.from_nfa(n, minify=False)`. -/
theorem C05_toDFAMin_partial (n : AV.NFA σ α) (univ : List (List σ))
    (h : ExpandHyp n.subsetSucc univ (2 ^ n.states.length + 1) (n.canon (n.closure n.init)))
    (hsyms : n.syms.Nodup) (hkeys : ∀ u ∈ univ, ∀ a ∈ akeys (n.subsetSucc u), a ∈ n.syms)
    (pick : List Nat → Nat) :
    MinimalFor (n.toDFAMin pick) n.toDFA.accepts n.syms :=
  minimalFor_of_source (expand_minSource n.subsetFinal n.syms h hsyms hkeys) pick

/-- **`DFA.from_nfa(n, minify=True)`, unconditionally.**  For every valid NFA of Python shape
and every pop order, the result is a valid DFA, minimal of its kind for the language of
`DFA.from_nfa(n, minify=False)`.  The exhaustiveness of the subset construction's BFS is
C07's `subset_expandHyp` (universe: all sublists of `n.states`, `2 ^ |states|` of them), inside
`toDFA_minSource`. -/
theorem C05_toDFAMin (n : AV.NFA σ α) (hv : n.validate = .ok ()) (ps : n.PyShape)
    (pick : List Nat → Nat) : MinimalFor (n.toDFAMin pick) n.toDFA.accepts n.syms :=
  minimalFor_of_source (AV.C07.toDFA_minSource ((NFA.validate_eq_ok n).mp hv) ps) pick

theorem C05_toDFAMin_full_holds (σ α : Type) [DecidableEq σ] [DecidableEq α] :
    C05_toDFAMin_full σ α :=
  fun n hv ps pick => C05_toDFAMin n hv ps pick

/-- The same with the language named directly: `DFA.from_nfa(n, minify=True)` is minimal of
its kind for the language of the NFA `n` (C07: the subset DFA has the language of `n`). -/
theorem C05_toDFAMin_nfa (n : AV.NFA σ α) (hv : n.validate = .ok ()) (ps : n.PyShape)
    (pick : List Nat → Nat) : MinimalFor (n.toDFAMin pick) n.accepts n.syms := by
  have h : n.toDFA.accepts = n.accepts :=
    funext fun w => AV.C07.toDFA_accepts ((NFA.validate_eq_ok n).mp hv) ps w
  rw [← h]; exact C05_toDFAMin n hv ps pick

/-- The 4-state partial DFA of finding F1: state `1` is dead (a non-final `a`-loop) and is
entered by the explicit transition `3 -a-> 1`; symbols `a = 0`, `b = 1`. -/
def exF1 : AV.DFA Nat Nat :=
  { states := [0, 1, 2, 3], syms := [0, 1],
    trans := [(0, [(0, 3), (1, 2)]), (1, [(0, 1)]), (2, [(0, 3), (1, 0)]), (3, [(0, 1), (1, 2)])],
    init := 0, finals := [2], allowPartial := true }

example : exF1.validate = .ok () := eq_ok_of_isOk (by decide +kernel)
example : exF1.PyShape := ⟨by decide, by decide, by decide, by decide, by decide⟩
/-- the explicit transition into a dead state, which the pre-pass prunes -/
example : exF1.step? (some 3) 0 = some 1 ∧ 1 ∉ exF1.coaccessible ∧ exF1.minifyKept = [0, 3, 2] := by
  decide +kernel
/-- the result is partial, has three states named by blocks, and rejects `aab` (the word the
unrepaired code accepted) -/
example : exF1.minify.allowPartial = true ∧
    exF1.minify.states = [MinName.blk [2], MinName.blk [0], MinName.blk [3]] ∧
    exF1.minify.accepts [0, 0, 1] = false ∧ exF1.accepts [0, 0, 1] = false ∧
    exF1.minify.accepts [1, 1, 0, 1] = true := by
  decide +kernel

/-- A complete DFA with two equivalent states (`1`, `2`) and an unreachable one (`3`). -/
def exComplete : AV.DFA Nat Nat :=
  { states := [0, 1, 2, 3], syms := [0],
    trans := [(0, [(0, 1)]), (1, [(0, 2)]), (2, [(0, 1)]), (3, [(0, 0)])],
    init := 0, finals := [1, 2], allowPartial := false }

example : exComplete.validate = .ok () := eq_ok_of_isOk (by decide +kernel)
example : exComplete.PyShape := ⟨by decide, by decide, by decide, by decide, by decide⟩
example : exComplete.minify.allowPartial = false ∧
    exComplete.minify.states = [MinName.blk [0], MinName.blk [1, 2]] := by
  decide +kernel

/-- `exComplete.minify` by hand: two states, minimal — `C05_minimal_input_size` applies to it
(reachable: `[]`, `[0]`; distinguishable by `[]`), and to the partial `exMinPartial`. -/
def exMinComplete : AV.DFA Nat Nat :=
  { states := [0, 1], syms := [0], trans := [(0, [(0, 1)]), (1, [(0, 1)])],
    init := 0, finals := [1], allowPartial := false }

/-- Language {[0]} as a partial DFA without dead state. -/
def exMinPartial : AV.DFA Nat Nat :=
  { states := [0, 1], syms := [0], trans := [(0, [(0, 1)]), (1, [])],
    init := 0, finals := [1], allowPartial := true }

example : (exMinComplete.minify).states.length = 2 ∧ (exMinPartial.minify).states.length = 2 := by decide +kernel

example : (exMinComplete.minify).states.length = exMinComplete.states.length :=
  (C05_minimal_input_size exMinComplete rfl ⟨by decide, by decide, by decide, by decide, by decide⟩ _
    (by intro q hq
        rcases hq with _ | ⟨_, _ | ⟨_, ⟨⟩⟩⟩
        · exact ⟨[], rfl⟩
        · exact ⟨[0], rfl⟩)
    (by intro p hp q hq hpq
        rcases hp with _ | ⟨_, _ | ⟨_, ⟨⟩⟩⟩ <;> rcases hq with _ | ⟨_, _ | ⟨_, ⟨⟩⟩⟩
        · exact absurd rfl hpq
        · exact ⟨[], by decide⟩
        · exact ⟨[], by decide⟩
        · exact absurd rfl hpq)
    (by intro h; cases h)).1

example : (exMinPartial.minify).states.length = exMinPartial.states.length :=
  (C05_minimal_input_size exMinPartial rfl ⟨by decide, by decide, by decide, by decide, by decide⟩ _
    (by intro q hq
        rcases hq with _ | ⟨_, _ | ⟨_, ⟨⟩⟩⟩
        · exact ⟨[], rfl⟩
        · exact ⟨[0], rfl⟩)
    (by intro p hp q hq hpq
        rcases hp with _ | ⟨_, _ | ⟨_, ⟨⟩⟩⟩ <;> rcases hq with _ | ⟨_, _ | ⟨_, ⟨⟩⟩⟩
        · exact absurd rfl hpq
        · exact ⟨[], by decide⟩
        · exact ⟨[], by decide⟩
        · exact absurd rfl hpq)
    (by intro _ q hq
        rcases hq with _ | ⟨_, _ | ⟨_, ⟨⟩⟩⟩
        · exact ⟨[0], by decide⟩
        · exact ⟨[], by decide⟩)).1

/-- representative independence on the example with the two-element class `{1, 2}`: copying
the row of `2` instead of `1` gives the same automaton here; the hypothesis of
`C05_minify_no_keyerror` (some class avoids the trap) holds -/
example : (minifyRep exComplete (fun _ => 1) (fun _ => 0)).trans = exComplete.minify.trans ∧
    (minifyRep exComplete (fun _ => 1) (fun _ => 0)).states = exComplete.minify.states ∧
    (goodBlocks (hopcroft exComplete.minifyKept exComplete.syms exComplete.trans
      exComplete.minifyFinals (fun _ => 0))).isEmpty = false := by decide +kernel

/-- An all-dead partial DFA: the result is `empty_language` with the state `zero` (F16). -/
def exDead : AV.DFA Nat Nat :=
  { states := [0, 1], syms := [0], trans := [(0, [(0, 1)]), (1, [])],
    init := 0, finals := [], allowPartial := true }

example : exDead.validate = .ok () := eq_ok_of_isOk (by decide +kernel)
example : exDead.minify.states = [MinName.zero] ∧ exDead.minify.allowPartial = false := by decide +kernel

/-- `minify=True` paths on the same inputs: the union of `exF1` with itself again has the
three classes; `to_partial(minify=True)` of the complete example drops nothing (no dead state)
and stays complete; the complement of the complete example has two states. -/
example : (match binopMin .union exF1 exF1 with
    | .ok R => (R.states.length, R.allowPartial)
    | .error _ => (0, false)) = (3, true) := by decide +kernel
example : exF1.symsEq exF1 = true := by decide +kernel
example : (exComplete.toPartialMin).states.length = 2 ∧ (exComplete.complementMin).states.length = 2 := by
  decide +kernel

/-- `from_nfa(minify=True)` on an NFA with an ε-move whose subset construction has two
equivalent accepting subsets. -/
def exNFA : AV.NFA Nat Nat :=
  { states := [0, 1, 2], syms := [0],
    trans := [(0, [(none, [1]), (some 0, [2])]), (1, [(some 0, [1])]), (2, [(some 0, [2])])],
    init := 0, finals := [1, 2] }

example : exNFA.validate = .ok () := eq_ok_of_isOk (by decide +kernel)
example : exNFA.toDFA.states.length = 2 ∧ (exNFA.toDFAMin).states.length = 1 := by decide +kernel
example : MinimalFor (exNFA.toDFAMin) exNFA.accepts exNFA.syms :=
  C05_toDFAMin_nfa exNFA rfl ⟨by decide, by decide, by decide, by decide, by decide, by decide⟩ _

/-- `PyShape` cannot be dropped in the list model: a row with a duplicate key (impossible for
a Python dict) is read by `.get` at its first entry but copied entry by entry by `_minify`. -/
def exDupKey : AV.DFA Nat Nat :=
  { states := [0, 1], syms := [0], trans := [(0, [(0, 1), (0, 0)]), (1, [])],
    init := 0, finals := [0], allowPartial := true }

example : exDupKey.validate = .ok () := eq_ok_of_isOk (by decide +kernel)
example : exDupKey.accepts [0] = false ∧ exDupKey.minify.accepts [0] = true := by decide +kernel

/-- The unrestricted naming claim fails (F16): the exception in `C05_retain_names_partial`
is necessary. -/
theorem C05_retain_names_full_fails : ¬ C05_retain_names_full Nat Nat := by
  intro h
  obtain ⟨l, hl⟩ := h exDead rfl ⟨by decide, by decide, by decide, by decide, by decide⟩
    (fun _ => 0) MinName.zero (by decide)
  cases hl

end AV.Props.C05
