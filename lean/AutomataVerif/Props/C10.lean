/-
Props/C10.lean — C10: regular expressions compile to an NFA with exactly the denoted language.

English statement (properties.jsonl): for every regular expression in the documented syntax
(literals, concatenation, | union, & intersection, ^ shuffle, postfix * + ? and {m,n} {m,} {,n}
repetition, . wildcard over the given alphabet, () empty string, grouping, ignored blanks), the
NFA built from it accepts exactly the language the expression denotes, with postfix operators
binding tighter than concatenation and concatenation tighter than the binary operators.
Redundant parentheses and blanks never change the language.

How it is stated here.
* Abstract syntax `Rx α` (Model/RxAst.lean) and its denotation `den Σ : Rx α → Language α`
  (Proofs/RxDen.lean; Mathlib's `Language`: `*`, `+`, `⊓`, `∗`, `^`, and `shuffleLang`).
* Concrete syntax: `Renders ts s` — the string `s` spells the token list `ts` with blanks anywhere
  (Proofs/RxLex.lean) — and `G .E e ts` — `ts` is an expression of the token grammar with tree
  `e`: postfix operators bind tighter than juxtaposition, juxtaposition tighter than `| & ^`,
  which share one left-associative level; `A → ( E )` makes redundant parentheses derivable
  (Proofs/RxGrammar.lean).
* The model of the code: `lex`, `validateTokens`, `addConcat`, `tokensToPostfix`, `evalPostfix`,
  `Builder.*`, `parseRegex`, `fromRegex` (Model/Rx*.lean).  Acceptance of the resulting NFA is
  `NFA.accepts` of Model/NFA.lean, which C01 proves equal to Mathlib's `εNFA.accepts`.
-/
import AutomataVerif.Proofs.RxBuild
import AutomataVerif.Proofs.RxPipeline

namespace AV.Props.C10
open AV AV.Rx

/-- Precedences as the source has them now (`AV.Gen.Regex.tokenClasses`, regenerated from
parser.py on every run): postfix operators 3 > concatenation 2 > union = intersection = shuffle 1.
The parser theorem below is proved against these values, so a change of any of them in the source
breaks the build of this file. -/
theorem C10_generated_precedence :
    (Tok.star (α := Char)).prec = some 3 ∧ (Tok.plus (α := Char)).prec = some 3 ∧
    (Tok.opt (α := Char)).prec = some 3 ∧ (∀ lo hi, (Tok.quant (α := Char) lo hi).prec = some 3) ∧
    (Tok.concat (α := Char)).prec = some 2 ∧
    (Tok.union (α := Char)).prec = some 1 ∧ (Tok.inter (α := Char)).prec = some 1 ∧
    (Tok.shuffle (α := Char)).prec = some 1 := by
  exact ⟨prec_star, prec_plus, prec_opt, prec_quant, prec_concat, prec_union, prec_inter,
    prec_shuffle⟩

section builder
variable {α : Type} [DecidableEq α]

/-- **Builder theorem.**  For every expression tree `e`, alphabet `Σ` and counter value `c`, the
sequence of `NFARegexBuilder` calls the pipeline performs for `e` (literals / wildcard, `union`,
`intersection`, `concatenate`, `shuffle_product`, `repeat` for `* + ? {lo,hi}`)
* never fails (no `KeyError`), uses only state names in `[c, c')` and returns the counter `c'`;
* re-establishes the builder invariant (keys = states, distinct, all targets / initial / final
  states are keys, **no transition enters the initial state**);
* yields a valid NFA definition over any alphabet containing the literals of `e`;
* and the NFA accepts exactly `den Σ e` — for all repetition bounds, including upper bound 0 and
  `lo > hi` (empty language), and for ∩ / shuffle under star. -/
theorem C10_builder (syms : List α) (e : Rx α) (c : Nat) :
    ∃ b c', e.build syms c = .ok (b, c') ∧ c < c' ∧ b.Inv c c' ∧
      ((∀ a ∈ e.lits, a ∈ syms) → (b.toNFA syms).validate = .ok ()) ∧
      ∀ A, (b.toNFA A).validate = .ok () →
        ∀ w, (b.toNFA A).accepts w = true ↔ w ∈ den syms e := by
  obtain ⟨b, c', hb, g⟩ :=
    build_spec syms e (S := fun x => x ∈ syms ∨ x ∈ e.lits) (fun _ => Or.inl) (fun _ => Or.inr) c
  exact ⟨b, c', hb, g.inv.lo_lt_hi, g.inv, fun hlits => g.toNFA_valid fun x hx => hx.elim id (hlits x),
    fun A _ => g.accepts_iff A⟩

/-- `parse_postfix_tokens` on the postfix linearisation of a tree performs exactly the builder
run of the tree (same counter threading, same failures). -/
theorem C10_postfix_eval (syms : List α) (e : Rx α) (c : Nat) :
    evalPostfix syms e.toPostfix [] c = e.build syms c :=
  evalPostfix_tree syms e c

end builder

/-- **Parser theorem.**  For a token list of the grammar with tree `e`,
`add_concat_and_empty_string_tokens` followed by `tokens_to_postfix` (shunting-yard, precedences
and pair table regenerated from the source) yields the postfix linearisation of `e`:
postfix operators bind tighter than concatenation, concatenation tighter than `| & ^`, which are
left-associative on one level; parentheses only group. -/
theorem C10_parse {α : Type} {e : Rx α} {ts : List (Tok α)} (h : G .E e ts) :
    tokensToPostfix (addConcat ts) = .ok e.toPostfix :=
  parse_postfix h

/-- **Lexer theorem.**  A string that spells a token list — symbols are single non-reserved
characters other than white space (`SymChar`), bounds are ASCII digit strings or omitted, blanks
(space, tab) anywhere between tokens and, inside braces, around a bound (`PadDigits`) — lexes to
exactly that list. -/
theorem C10_lex {ts : List (Tok Char)} {s : List Char} (h : Renders ts s) : lex s = .ok ts :=
  lex_renders h

section tokens
variable {α : Type} [DecidableEq α]

/-- **The token-level compile specification.**  On a token list of the grammar with tree `e` whose
literals are in `Σ`, the token pipeline followed by the NFA constructor IS the builder run of `e`
from counter 0 handed to `toNFA`; `Built` says what that builder is (invariant, dict-shaped rows,
symbols in `Σ`, language `den Σ e`) and is read through `Built.toNFA_valid`, `Built.accepts_iff`. -/
theorem compileTokens_spec (syms : List α) {e : Rx α} {ts : List (Tok α)} (hg : G .E e ts)
    (hlits : ∀ a ∈ e.lits, a ∈ syms) :
    ∃ b c', e.build syms 0 = .ok (b, c') ∧ Built (· ∈ syms) (· ∈ den syms e) 0 b c' ∧
      construct syms (parseTokens syms ts) = .ok (b.toNFA syms) := by
  obtain ⟨b, c', hb, g⟩ := build_spec syms e (S := (· ∈ syms)) (fun _ h => h) hlits 0
  refine ⟨b, c', hb, g, ?_⟩
  rw [parseTokens_of_grammar syms hg, hb]
  exact construct_ok (g.toNFA_valid fun _ h => h)

end tokens

/-- The same at string level: on a string that lexes to such a token list, once the alphabet
argument `o` is resolved to `Σ` (`ho`, see `construct`), `NFA.from_regex` returns that NFA. -/
theorem compile_spec {s : List Char} {ts : List (Tok Char)} {e : Rx Char} (hlex : lex s = .ok ts)
    (hg : G .E e ts) {o : Option (List Char)} {syms : List Char}
    (ho : fromRegex s o = construct syms (parseRegex s syms)) (hlits : ∀ a ∈ e.lits, a ∈ syms) :
    ∃ b c', Built (· ∈ syms) (· ∈ den syms e) 0 b c' ∧ fromRegex s o = .ok (b.toNFA syms) := by
  obtain ⟨b, c', -, g, hc⟩ := compileTokens_spec syms hg hlits
  exact ⟨b, c', g, (fromRegex_of_lex hlex ho).trans hc⟩

/-- **Compilation theorem, explicit alphabet.**  If `s` spells (with any blanks) a token list of
the grammar with tree `e` (any redundant parentheses), the alphabet has no reserved character and
contains the symbols of `e`, then `NFA.from_regex(s, input_symbols=Σ)` returns an NFA that passes
the constructor's validation and accepts exactly the language `e` denotes over `Σ`. -/
theorem C10_compile {s : List Char} {ts : List (Tok Char)} {e : Rx Char} (hr : Renders ts s)
    (hg : G .E e ts) (syms : List Char) (hres : ∀ c ∈ syms, isReserved c = false)
    (hlits : ∀ a ∈ e.lits, a ∈ syms) :
    ∃ N, fromRegex s (some syms) = .ok N ∧ N.validate = .ok () ∧
      ∀ w, N.accepts w = true ↔ w ∈ den syms e := by
  obtain ⟨b, _, g, hf⟩ := compile_spec (lex_renders hr) hg (fromRegex_some_eq s hres) hlits
  exact ⟨_, hf, g.toNFA_valid fun _ h => h, g.accepts_iff syms⟩

/-- **Compilation theorem, default alphabet** (`input_symbols=None`: the non-reserved characters
of the string). -/
theorem C10_compile_default {s : List Char} {ts : List (Tok Char)} {e : Rx Char}
    (hr : Renders ts s) (hg : G .E e ts) :
    ∃ N, fromRegex s none = .ok N ∧ N.validate = .ok () ∧
      ∀ w, N.accepts w = true ↔ w ∈ den (defaultSyms s) e := by
  obtain ⟨b, _, g, hf⟩ :=
    compile_spec (lex_renders hr) hg (fromRegex_none_eq s) fun a ha =>
      renders_str_mem hr a (lits_mem_tokens hg a ha)
  exact ⟨_, hf, g.toNFA_valid fun _ h => h, g.accepts_iff _⟩

/-- **Equal denotations, equal languages.**  Two strings whose trees have the same denotation
over `Σ` — e.g. trees that differ by associativity-redundant parentheses, `a(bc)` vs `abc`,
`a|(b|c)` vs `a|b|c`, which the grammar parses to *different* trees — compile to NFAs with the
same verdict on every word.  (`C10_parens_blanks` below is the special case of equal trees.) -/
theorem C10_same_den {s1 s2 : List Char} {ts1 ts2 : List (Tok Char)} {e1 e2 : Rx Char}
    (hr1 : Renders ts1 s1) (hg1 : G .E e1 ts1) (hr2 : Renders ts2 s2) (hg2 : G .E e2 ts2)
    (syms : List Char) (hres : ∀ c ∈ syms, isReserved c = false)
    (hl1 : ∀ a ∈ e1.lits, a ∈ syms) (hl2 : ∀ a ∈ e2.lits, a ∈ syms)
    (hden : den syms e1 = den syms e2) :
    ∃ N1 N2, fromRegex s1 (some syms) = .ok N1 ∧ fromRegex s2 (some syms) = .ok N2 ∧
      ∀ w, N1.accepts w = N2.accepts w := by
  obtain ⟨N1, h1, _, a1⟩ := C10_compile hr1 hg1 syms hres hl1
  obtain ⟨N2, h2, _, a2⟩ := C10_compile hr2 hg2 syms hres hl2
  exact ⟨N1, N2, h1, h2, fun w => Bool.eq_iff_iff.mpr (by rw [a1, a2, hden])⟩

/-- **Redundant parentheses and blanks never change the language**: two strings that spell (with
different blanks, different redundant parentheses) token lists of the same tree compile to NFAs
with the same language. -/
theorem C10_parens_blanks {s1 s2 : List Char} {ts1 ts2 : List (Tok Char)} {e : Rx Char}
    (hr1 : Renders ts1 s1) (hg1 : G .E e ts1) (hr2 : Renders ts2 s2) (hg2 : G .E e ts2)
    (syms : List Char) (hres : ∀ c ∈ syms, isReserved c = false)
    (hlits : ∀ a ∈ e.lits, a ∈ syms) :
    ∃ N1 N2, fromRegex s1 (some syms) = .ok N1 ∧ fromRegex s2 (some syms) = .ok N2 ∧
      ∀ w, N1.accepts w = N2.accepts w :=
  C10_same_den hr1 hg1 hr2 hg2 syms hres hlits hlits rfl

/-- Concatenation, union and intersection are associative on denotations (shuffle is not covered
here), so for them the associativity reading of "redundant parentheses" is an instance of
`C10_same_den`. -/
theorem C10_assoc_den (syms : List Char) (e f g : Rx Char) :
    den syms (.cat e (.cat f g)) = den syms (.cat (.cat e f) g) ∧
    den syms (.union e (.union f g)) = den syms (.union (.union e f) g) ∧
    den syms (.inter e (.inter f g)) = den syms (.inter (.inter e f) g) := by
  refine ⟨?_, ?_, ?_⟩
  · show den syms e * (den syms f * den syms g) = den syms e * den syms f * den syms g
    exact (mul_assoc _ _ _).symm
  · show den syms e + (den syms f + den syms g) = den syms e + den syms f + den syms g
    exact (add_assoc _ _ _).symm
  · show den syms e ⊓ (den syms f ⊓ den syms g) = den syms e ⊓ den syms f ⊓ den syms g
    exact (inf_assoc _ _ _).symm

/-- **The empty string and every string of blanks compile to the `{ε}` NFA** (`parse_regex` as of /repo
commit 9e58d22), over every explicit alphabet without reserved
characters and over the default alphabet (`input_symbols=None`, which is then empty): the NFA
passes the constructor's validation and accepts exactly the empty word. -/
theorem C10_blank_only (s : List Char) (h : ∀ c ∈ s, isBlank c = true) :
    (∀ syms : List Char, (∀ c ∈ syms, isReserved c = false) →
      ∃ N, fromRegex s (some syms) = .ok N ∧ N.validate = .ok () ∧
        ∀ w, N.accepts w = true ↔ w = []) ∧
    (∃ N, fromRegex s none = .ok N ∧ N.validate = .ok () ∧ N.syms = [] ∧
      ∀ w, N.accepts w = true ↔ w = []) := by
  have hl := (Built.eps (fun _ : Char => False) 0).accepts_iff
  constructor
  · intro syms hres
    refine ⟨_, fromRegex_blanks h (fromRegex_some_eq s hres), epsNFA_valid syms, fun w => ?_⟩
    exact hl _ w
  · refine ⟨_, fromRegex_blanks h (fromRegex_none_eq s), epsNFA_valid _, ?_, fun w => ?_⟩
    · show defaultSyms s = []
      unfold defaultSyms
      have : s.filter (fun c => !isReserved c) = [] := by
        rw [List.filter_eq_nil_iff]
        intro c hc
        rcases isBlank_iff.mp (h c hc) with rfl | rfl <;> decide
      rw [this]
      rfl
    · exact hl _ w

/-- `(a|b)*a{0,0}` as a tree. -/
def exTree : Rx Char :=
  .cat (.star (.union (.lit 'a') (.lit 'b'))) (.rep (.lit 'a') 0 (some 0))

/-- `((a|b))*a{0,0}`, the same with redundant parentheses, as tokens. -/
def exToks : List (Tok Char) :=
  [.lparen, .lparen, .str ['a'], .union, .str ['b'], .rparen, .rparen, .star, .str ['a'],
   .quant 0 (some 0)]

theorem exToks_grammar : G .E exTree exToks := by
  have hab : G .E (.union (.lit 'a') (.lit 'b')) [.str ['a'], .union, .str ['b']] :=
    .union (.term (.factor (.atom (.lit 'a')))) (.factor (.atom (.lit 'b')))
  have hp : G .A (.union (.lit 'a') (.lit 'b'))
      [.lparen, .lparen, .str ['a'], .union, .str ['b'], .rparen, .rparen] :=
    .paren (.term (.factor (.atom (.paren hab))))
  exact .term (.cat (.factor (.star (.atom hp))) (.quant 0 (some 0) (.atom (.lit 'a'))))

theorem exToks_lex : lex "((a|b)) * a{0,0}".toList = .ok exToks := by decide +kernel

example : G .E exTree exToks := exToks_grammar

/-- The model lexes, parses and compiles the string; `a{0,0}` contributes nothing. -/
example : lex "((a|b)) * a{0,0}".toList = .ok exToks := exToks_lex
example : tokensToPostfix (addConcat exToks) = .ok exTree.toPostfix := C10_parse exToks_grammar
example : (fromRegex "((a|b)) * a{0,0}".toList (some ['a', 'b'])).toOption.map
    (fun N => (N.accepts "ab".toList, N.accepts "aba".toList, N.accepts [], N.accepts "c".toList)) =
    some (true, true, true, false) := by
  -- after lexing and parsing, what is left to run is the builder on `exTree`
  rw [fromRegex_of_lex exToks_lex (fromRegex_some_eq _ (by decide)),
    parseTokens_of_grammar _ exToks_grammar]
  decide +kernel

/-- Blank-only strings: the hypothesis of `C10_blank_only` is met, the model compiles them to a
one-state NFA accepting exactly ε. -/
example : ∀ c ∈ " \t ".toList, isBlank c = true := by decide
example : ((fromRegex " \t ".toList (some ['a', 'b'])).toOption.map
    (fun N => (N.states.length, N.accepts [], N.accepts "a".toList)),
    (fromRegex [] none).toOption.map (fun N => (N.states.length, N.accepts [], N.accepts "a".toList))) =
    (some (1, true, false), some (1, true, false)) := by decide +kernel

/-- `C10_same_den` is not vacuous: `a(bc)` and `abc` spell different trees with the same
denotation (`C10_assoc_den`). -/
example : G .E (.cat (.lit 'a') (.cat (.lit 'b') (.lit 'c')) : Rx Char)
    [.str ['a'], .lparen, .str ['b'], .str ['c'], .rparen] :=
  .term (.cat (.factor (.atom (.lit 'a')))
    (.atom (.paren (.term (.cat (.factor (.atom (.lit 'b'))) (.atom (.lit 'c')))))))
example : G .E (.cat (.cat (.lit 'a') (.lit 'b')) (.lit 'c') : Rx Char)
    [.str ['a'], .str ['b'], .str ['c']] :=
  .term (.cat (.cat (.factor (.atom (.lit 'a'))) (.atom (.lit 'b'))) (.atom (.lit 'c')))
example : lex "a(bc)".toList = .ok [.str ['a'], .lparen, .str ['b'], .str ['c'], .rparen] := by
  decide +kernel

theorem exPadded : Renders [.str ['a'], .quant 1 (some 2)] "a{ 1 ,\t2 }".toList :=
  .tok (.sym 'a' ⟨by decide, by decide⟩)
    (.tok (.quant [' ', '1', ' '] ['\t', '2', ' '] 1 (some 2)
      (Or.inr ⟨['1'], ⟨[' '], [' '], rfl, by decide, by decide, by simp, by decide⟩, by decide⟩)
      (Or.inr ⟨['2'], ⟨['\t'], [' '], rfl, by decide, by decide, by simp, by decide⟩, by decide,
        by decide⟩)) .nil)

/-- A spelling with blanks INSIDE the braces (`a{ 1 , 2 }`, accepted by the code through
`int()`'s strip) is a `Renders` instance, so all theorems above cover it. -/
example : Renders [.str ['a'], .quant 1 (some 2)] "a{ 1 ,\t2 }".toList := exPadded
example : lex "a{ 1 ,\t2 }".toList = .ok [.str ['a'], .quant 1 (some 2)] := C10_lex exPadded

end AV.Props.C10
