/-
Props/C19all.lean — aggregator: the module the C19 check builds and audits. It only imports the
files that hold C19's property theorems (C19 and C19b–C19h; C19 through C19b, C19c through C19d);
it states nothing.
-/
import AutomataVerif.Props.C19b
import AutomataVerif.Props.C19d
import AutomataVerif.Props.C19e
import AutomataVerif.Props.C19f
import AutomataVerif.Props.C19g
import AutomataVerif.Props.C19h
