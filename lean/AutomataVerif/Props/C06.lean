/-
Props/C06.lean — C06: DFA language comparisons, emptiness and finiteness decisions are exact.

English statement (properties.jsonl): for any two DFAs over the same alphabet, ==, !=, <=,
<, >=, >, issubset, issuperset and isdisjoint return precisely whether the two languages
are equal, included, strictly included or disjoint; isempty and isfinite return precisely
whether the language is empty or finite.  The answers do not depend on state names, on
unreachable or dead states, or on whether either operand is partial.

`Lang d = {w | d.accepts w = true}` where `DFA.accepts` is the verdict tied to Mathlib's
`DFA.accepts` by C01.  "Valid" is `validate = .ok ()`; `PyShape` says the value came from
Python sets and dicts (no duplicate set elements / dict keys).  There is no bound on sizes.

Model functions (Model/DFACompare.lean): `eqv` (`__eq__`, Hopcroft–Karp with union–find,
`none` = `NotImplemented`), `issubset`, `isdisjoint` (`_find_state` over the lazy product;
`issuperset(A, B)` is literally `B.issubset(A)` in the code), `isempty`, `isfinite` (via
`maximum_word_length` on the trimmed digraph), `compareAll` (the nine answers; `!=` is
Python's default negation of `==`, `<` is `<= and !=`, `>` is `>= and !=`).

Independence from names, unreachable / dead states and partiality: every theorem below
characterises the answer purely through `accepts` (through `Lang`), and its hypotheses
(validity, same alphabet, `PyShape`) do not mention completeness, reachability or the state
type.  `C06_answers_depend_on_languages_only` states this explicitly: operands with the same
languages — over possibly different state types — get the same nine answers.
-/
import AutomataVerif.Proofs.CompareEq
import AutomataVerif.Proofs.CompareEqPick
import AutomataVerif.Proofs.CompareFinite
import AutomataVerif.Proofs.FiniteWords

namespace AV.Props.C06
open AV AV.DFA

variable {σ σ' α : Type} [DecidableEq σ] [DecidableEq σ'] [DecidableEq α]

def Lang (d : AV.DFA σ α) : Set (List α) := {w | d.accepts w = true}

theorem mem_Lang (d : AV.DFA σ α) (w : List α) : w ∈ Lang d ↔ d.accepts w = true := Iff.rfl

theorem Lang_eq_iff (A : AV.DFA σ α) (B : AV.DFA σ' α) :
    Lang A = Lang B ↔ ∀ w, A.accepts w = B.accepts w :=
  Set.ext_iff.trans (forall_congr' fun _ => Bool.eq_iff_iff.symm)

/-- **`isempty` is exact**: on a valid DFA it answers `True` iff no word is accepted. -/
theorem C06_isempty_iff (d : AV.DFA σ α) (hv : d.validate = .ok ()) (pd : d.PyShape) :
    d.isempty = true ↔ ∀ w, d.accepts w = false :=
  isempty_iff d hv pd

theorem C06_isempty_lang (d : AV.DFA σ α) (hv : d.validate = .ok ()) (pd : d.PyShape) :
    d.isempty = true ↔ Lang d = ∅ :=
  (C06_isempty_iff d hv pd).trans setOf_true_eq_empty.symm

/-- **`issubset` (and `<=`) is exact**: whatever `A.issubset(B)` returns is `True` iff
every word accepted by `A` is accepted by `B` — in particular when `B` runs into its
implicit trap while `A` continues, and vice versa. -/
theorem C06_issubset_iff (A B : AV.DFA σ α) (hA : A.validate = .ok ()) (hB : B.validate = .ok ())
    (pA : A.PyShape) (hs : A.symsEq B = true) {b : Bool} (h : A.issubset B = .ok b) :
    b = true ↔ ∀ w, A.accepts w = true → B.accepts w = true := by
  exact answer_iff Except.ok.inj (issubset_spec A B hA hB pA hs) h

/-- **`issuperset` (and `>=`) is exact**: `A.issuperset(B)` is `B.issubset(A)` in the code. -/
theorem C06_issuperset_iff (A B : AV.DFA σ α) (hA : A.validate = .ok ()) (hB : B.validate = .ok ())
    (pB : B.PyShape) (hs : A.symsEq B = true) {b : Bool} (h : B.issubset A = .ok b) :
    b = true ↔ ∀ w, B.accepts w = true → A.accepts w = true :=
  C06_issubset_iff B A hB hA pB (symsEq_symm hs) h

/-- **`isdisjoint` is exact**: the answer is `True` iff no word is accepted by both. -/
theorem C06_isdisjoint_iff (A B : AV.DFA σ α) (hA : A.validate = .ok ()) (hB : B.validate = .ok ())
    (pA : A.PyShape) (hs : A.symsEq B = true) {b : Bool} (h : A.isdisjoint B = .ok b) :
    b = true ↔ ∀ w, ¬ (A.accepts w = true ∧ B.accepts w = true) := by
  exact answer_iff Except.ok.inj (isdisjoint_spec A B hA hB pA hs) h

/-- **`==` is exact**: whatever Boolean `A == B` returns is `True` iff both DFAs give the
same verdict on every word.  `DFA.eqv` is the loop with ONE fixed linking direction of the
union–find (`DFA.eqv_eq_firstWins`); networkx links by weight, so the statement about the
code's loop is `C06_eq_iff_pick` below (every representative choice), and
`C06_eq_pick_independent` says that `eqv` is the common value. -/
theorem C06_eq_iff (A B : AV.DFA σ α) (hA : A.validate = .ok ()) (hB : B.validate = .ok ())
    (hs : A.symsEq B = true) {b : Bool} (h : A.eqv B = some b) :
    b = true ↔ ∀ w, A.accepts w = B.accepts w := by
  exact answer_iff Option.some.inj (eqv_spec A B hA hB hs) h

/-- **`==` is exact for every union–find policy.**  `eqvPick pick` is `__eq__` run through
the generic loop `HKG.run` whose `union` lets `pick` decide which of the two roots survives
(networkx: the heavier class, ties by set-iteration order — `HKG.nxPick tie` for any `tie`).
For every `pick`, valid operands over one alphabet get a Boolean (neither `NotImplemented`
nor out of fuel) and it is `True` iff both DFAs give the same verdict on every word. -/
theorem C06_eq_iff_pick
    (pick : HKG.UF (EqState σ) → EqState σ → EqState σ → Bool)
    (A B : AV.DFA σ α) (hA : A.validate = .ok ()) (hB : B.validate = .ok ())
    (hs : A.symsEq B = true) :
    ∃ b, A.eqvPick pick B = .val b ∧ (b = true ↔ ∀ w, A.accepts w = B.accepts w) :=
  EqPick.eqvPick_spec pick A B hA hB hs

/-- The networkx policy is an instance (any tie-break). -/
theorem C06_eq_iff_nx (tie : EqState σ → EqState σ → Bool)
    (A B : AV.DFA σ α) (hA : A.validate = .ok ()) (hB : B.validate = .ok ())
    (hs : A.symsEq B = true) :
    ∃ b, A.eqvNx tie B = .val b ∧ (b = true ↔ Lang A = Lang B) := by
  obtain ⟨b, hb, hiff⟩ := C06_eq_iff_pick (HKG.nxPick tie) A B hA hB hs
  exact ⟨b, hb, by rw [hiff, Lang_eq_iff]⟩

/-- **The answer of `==` does not depend on the union–find's choices**, and the
fixed-direction loop `eqv` used by `compareAll` (and by the driver) is that common value:
on valid operands over one alphabet `eqvPick pick A B = val b ↔ eqv A B = some b`. -/
theorem C06_eq_pick_independent
    (pick : HKG.UF (EqState σ) → EqState σ → EqState σ → Bool)
    (A B : AV.DFA σ α) (hA : A.validate = .ok ()) (hB : B.validate = .ok ())
    (hs : A.symsEq B = true) :
    ∃ b, A.eqvPick pick B = .val b ∧ A.eqv B = some b := by
  obtain ⟨b, hb, _⟩ := C06_eq_iff_pick pick A B hA hB hs
  refine ⟨b, hb, ?_⟩
  rw [eqv_eq_firstWins, EqPick.eqvPick_pick_irrelevant _ pick A B hA hB hs, hb]

/-- For every `pick`, `NotImplemented` exactly when the alphabets differ. -/
theorem C06_eq_pick_notimplemented_iff
    (pick : HKG.UF (EqState σ) → EqState σ → EqState σ → Bool) (A B : AV.DFA σ α) :
    A.eqvPick pick B = .notImplemented ↔ A.symsEq B = false :=
  EqPick.eqvPick_notImplemented_iff pick A B

/-- `==` returns `NotImplemented` exactly when the alphabets differ. -/
theorem C06_eq_notimplemented_iff (A B : AV.DFA σ α) : A.eqv B = none ↔ A.symsEq B = false :=
  eqv_none_iff A B

/-- On valid operands over one alphabet all four primitive comparisons return a Boolean
(no exception, no `NotImplemented`). -/
theorem C06_defined (A B : AV.DFA σ α) (hA : A.validate = .ok ()) (hB : B.validate = .ok ())
    (pA : A.PyShape) (pB : B.PyShape) (hs : A.symsEq B = true) :
    (∃ b, A.eqv B = some b) ∧ (∃ b, A.issubset B = .ok b) ∧ (∃ b, B.issubset A = .ok b) ∧
    (∃ b, A.isdisjoint B = .ok b) :=
  have _ := hA; have _ := hB; have _ := pA; have _ := pB
  let ⟨he, hle, hd⟩ := compare_defined_any A B hs
  ⟨he, hle, (compare_defined_any B A (symsEq_symm hs)).2.1, hd⟩

/-- Operands over different alphabets are outside the property: `==` gives
`NotImplemented`, the product-based comparisons raise `SymbolMismatchError`. -/
theorem C06_mismatch (A B : AV.DFA σ α) (hs : A.symsEq B = false) :
    A.eqv B = none ∧ A.issubset B = .error (.lib .symbolMismatchError) ∧
    A.isdisjoint B = .error (.lib .symbolMismatchError) :=
  ⟨(eqv_none_iff A B).mpr hs, (issubset_mismatch A B hs).1, (issubset_mismatch A B hs).2⟩

/-- **All nine comparison answers are exact.**  For valid DFAs over one alphabet
`== != <= < >= > issubset issuperset isdisjoint` all return, and they return exactly:
language equality, its negation, inclusion, strict inclusion, reverse inclusion, strict
reverse inclusion, inclusion, reverse inclusion, disjointness. -/
theorem C06_compare_all (A B : AV.DFA σ α) (hA : A.validate = .ok ()) (hB : B.validate = .ok ())
    (pA : A.PyShape) (pB : B.PyShape) (hs : A.symsEq B = true) :
    ∃ c, A.compareAll B = .ok c ∧
      (c.eq = true ↔ Lang A = Lang B) ∧
      (c.ne = true ↔ Lang A ≠ Lang B) ∧
      (c.le = true ↔ Lang A ⊆ Lang B) ∧
      (c.lt = true ↔ Lang A ⊂ Lang B) ∧
      (c.ge = true ↔ Lang B ⊆ Lang A) ∧
      (c.gt = true ↔ Lang B ⊂ Lang A) ∧
      (c.sub = true ↔ Lang A ⊆ Lang B) ∧
      (c.sup = true ↔ Lang B ⊆ Lang A) ∧
      (c.disj = true ↔ Lang A ∩ Lang B = ∅) := by
  obtain ⟨e, he, hE⟩ := eqv_spec A B hA hB hs
  obtain ⟨le, hle, hLE⟩ := issubset_spec A B hA hB pA hs
  obtain ⟨ge, hge, hGE⟩ := issubset_spec B A hB hA pB (symsEq_symm hs)
  obtain ⟨dj, hdj, hDJ⟩ := isdisjoint_spec A B hA hB pA hs
  have hE' : e = true ↔ Lang A = Lang B := by rw [hE, Lang_eq_iff]
  have hNE : (!e) = true ↔ ¬ Lang A = Lang B := by rw [Bool.not_eq_true', ← Bool.not_eq_true, hE']
  have hLE' : le = true ↔ Lang A ⊆ Lang B := hLE
  have hGE' : ge = true ↔ Lang B ⊆ Lang A := hGE
  have hDJ' : dj = true ↔ Lang A ∩ Lang B = ∅ := by
    rw [hDJ, Set.eq_empty_iff_forall_notMem]; exact Iff.rfl
  refine ⟨_, by unfold compareAll; rw [he, hle, hge, hdj], hE', hNE, hLE', ?_, hGE', ?_, hLE', hGE', hDJ'⟩
  · show (le && !e) = true ↔ _
    rw [Bool.and_eq_true, hLE', hNE, Set.ssubset_iff_subset_ne]
  · show (ge && !e) = true ↔ _
    rw [Bool.and_eq_true, hGE', hNE, Set.ssubset_iff_subset_ne, ne_comm]

/-- **Independence from names, unreachable / dead states and partiality**: operands with
the same languages (possibly over different state types) get the same nine answers. -/
theorem C06_answers_depend_on_languages_only (A B : AV.DFA σ α) (A' B' : AV.DFA σ' α)
    (hA : A.validate = .ok ()) (hB : B.validate = .ok ()) (pA : A.PyShape) (pB : B.PyShape)
    (hs : A.symsEq B = true)
    (hA' : A'.validate = .ok ()) (hB' : B'.validate = .ok ()) (pA' : A'.PyShape) (pB' : B'.PyShape)
    (hs' : A'.symsEq B' = true)
    (hLA : Lang A = Lang A') (hLB : Lang B = Lang B') :
    A.compareAll B = A'.compareAll B' := by
  have hwA := (Lang_eq_iff A A').mp hLA
  have hwB := (Lang_eq_iff B B').mp hLB
  have e1 : A.eqv B = A'.eqv B' := same_answer (eqv_spec A B hA hB hs)
    (by simpa only [← hwA, ← hwB] using eqv_spec A' B' hA' hB' hs')
  have e2 : A.issubset B = A'.issubset B' := same_answer (issubset_spec A B hA hB pA hs)
    (by simpa only [← hwA, ← hwB] using issubset_spec A' B' hA' hB' pA' hs')
  have e3 : B.issubset A = B'.issubset A' :=
    same_answer (issubset_spec B A hB hA pB (symsEq_symm hs))
      (by simpa only [← hwA, ← hwB] using issubset_spec B' A' hB' hA' pB' (symsEq_symm hs'))
  have e4 : A.isdisjoint B = A'.isdisjoint B' := same_answer (isdisjoint_spec A B hA hB pA hs)
    (by simpa only [← hwA, ← hwB] using isdisjoint_spec A' B' hA' hB' pA' hs')
  unfold compareAll
  rw [e1, e2, e3, e4]

/-- **`isfinite` is exact**: on a valid DFA it answers `True` iff the language is a finite
set (the empty language included: `isfinite` catches `EmptyLanguageException`). -/
theorem C06_isfinite_iff (d : AV.DFA σ α) (hv : d.validate = .ok ()) (pd : d.PyShape) :
    d.isfinite = true ↔ (Lang d).Finite := by
  rw [isfinite_iff_not_unbounded d hv pd, ← Set.not_infinite]
  exact not_congr (infinite_iff_unbounded (L := Lang d) fun w hw =>
    accepts_over ((DFA.validate_eq_ok d).mp hv) hw).symm

/-- `isempty` and `isfinite` depend on the language only. -/
theorem C06_unary_depend_on_language_only (d : AV.DFA σ α) (d' : AV.DFA σ' α)
    (hv : d.validate = .ok ()) (pd : d.PyShape) (hv' : d'.validate = .ok ()) (pd' : d'.PyShape)
    (hL : Lang d = Lang d') : d.isempty = d'.isempty ∧ d.isfinite = d'.isfinite := by
  constructor
  · rw [Bool.eq_iff_iff, C06_isempty_lang d hv pd, C06_isempty_lang d' hv' pd', hL]
  · rw [Bool.eq_iff_iff, C06_isfinite_iff d hv pd, C06_isfinite_iff d' hv' pd', hL]

/-- Sanity corollary: over the empty alphabet every language is finite. -/
theorem C06_isfinite_empty_alphabet (d : AV.DFA σ α) (hv : d.validate = .ok ()) (pd : d.PyShape)
    (h0 : d.syms = []) : d.isfinite = true := by
  have wf := (DFA.validate_eq_ok d).mp hv
  rw [C06_isfinite_iff d hv pd]
  refine (Set.finite_singleton ([] : List α)).subset ?_
  intro w hw
  have := accepts_over wf hw
  rw [h0] at this
  cases w with
  | nil => rfl
  | cons a w => exact absurd (this a (by simp)) (by simp)

/-- Partial: words over {0,1} ending the run in state 1 (`1` is missing from state 1). -/
def exA : AV.DFA Nat Nat :=
  { states := [0, 1], syms := [0, 1], trans := [(0, [(0, 0), (1, 1)]), (1, [(0, 0)])],
    init := 0, finals := [1], allowPartial := true }
/-- Complete: an even number of 0s. -/
def exB : AV.DFA Nat Nat :=
  { states := [0, 1], syms := [0, 1], trans := [(0, [(0, 1), (1, 0)]), (1, [(0, 0), (1, 1)])],
    init := 0, finals := [0], allowPartial := false }
/-- `exA` completed by hand, renamed, with an unreachable state 9 and the dead state 7. -/
def exA' : AV.DFA Nat Nat :=
  { states := [5, 6, 7, 9], syms := [1, 0],
    trans := [(5, [(0, 5), (1, 6)]), (6, [(0, 5), (1, 7)]), (7, [(0, 7), (1, 7)]), (9, [(0, 5), (1, 9)])],
    init := 5, finals := [6], allowPartial := false }
/-- Finite language {[], [0], [0,1]} with a dead state. -/
def exF : AV.DFA Nat Nat :=
  { states := [0, 1, 2, 3], syms := [0, 1],
    trans := [(0, [(0, 1)]), (1, [(1, 2), (0, 3)]), (2, []), (3, [(0, 3)])],
    init := 0, finals := [0, 1, 2], allowPartial := true }

/-- Language {[1]}. -/
def exOne : AV.DFA Nat Nat :=
  { states := [0, 1], syms := [0, 1], trans := [(0, [(1, 1)]), (1, [])],
    init := 0, finals := [1], allowPartial := true }
/-- Language {[]}. -/
def exEps : AV.DFA Nat Nat :=
  { states := [0], syms := [0, 1], trans := [(0, [])], init := 0, finals := [0], allowPartial := true }

theorem exA_shape : exA.PyShape := ⟨by decide +kernel, by decide +kernel, by decide +kernel, by decide +kernel, by decide +kernel⟩
theorem exB_shape : exB.PyShape := ⟨by decide +kernel, by decide +kernel, by decide +kernel, by decide +kernel, by decide +kernel⟩
theorem exA'_shape : exA'.PyShape := ⟨by decide +kernel, by decide +kernel, by decide +kernel, by decide +kernel, by decide +kernel⟩
theorem exF_shape : exF.PyShape := ⟨by decide +kernel, by decide +kernel, by decide +kernel, by decide +kernel, by decide +kernel⟩
theorem exOne_shape : exOne.PyShape := ⟨by decide +kernel, by decide +kernel, by decide +kernel, by decide +kernel, by decide +kernel⟩
theorem exEps_shape : exEps.PyShape := ⟨by decide +kernel, by decide +kernel, by decide +kernel, by decide +kernel, by decide +kernel⟩

example : exA.validate = .ok () ∧ exB.validate = .ok () ∧ exA'.validate = .ok () ∧
    exF.validate = .ok () ∧ exOne.validate = .ok () ∧ exEps.validate = .ok () := by decide +kernel
example : exA.symsEq exB = true ∧ exA.symsEq exA' = true := by decide +kernel
-- different languages, neither included in the other, not disjoint
example : exA.compareAll exB = .ok
    { eq := false, ne := true, le := false, lt := false, ge := false, gt := false, sub := false, sup := false,
      disj := false } := by decide +kernel
-- same language, different shape (partial vs complete, names, unreachable and dead states)
example : exA.compareAll exA' = .ok
    { eq := true, ne := false, le := true, lt := false, ge := true, gt := false, sub := true, sup := true,
      disj := false } := by decide +kernel
-- exF's language {[], [0], [0,1]} is not below exA's ([] is missing there), but [0,1] is common
example : exF.compareAll exA = .ok
    { eq := false, ne := true, le := false, lt := false, ge := false, gt := false, sub := false, sup := false,
      disj := false } := by decide +kernel
-- strict inclusion {[1]} ⊂ Lang exA, and disjointness {[]} ∩ Lang exA = ∅
example : exOne.compareAll exA = .ok
    { eq := false, ne := true, le := true, lt := true, ge := false, gt := false, sub := true, sup := false,
      disj := false } := by decide +kernel
example : exEps.compareAll exA = .ok
    { eq := false, ne := true, le := false, lt := false, ge := false, gt := false, sub := false, sup := false,
      disj := true } := by decide +kernel
-- the pick-parametric loop under networkx's policy with either tie-break, and under the two
-- constant policies: same answers as `eqv` (equal languages / different languages)
example : exA.eqvNx (fun _ _ => true) exA' = .val true ∧ exA.eqvNx (fun _ _ => false) exA' = .val true ∧
    exA.eqvPick (fun _ _ _ => true) exA' = .val true ∧ exA.eqvPick (fun _ _ _ => false) exA' = .val true ∧
    exA.eqvNx (fun _ _ => true) exB = .val false ∧ exA.eqvPick (fun _ _ _ => false) exB = .val false ∧
    exOne.eqvNx (fun _ _ => false) exA = .val false := by decide +kernel
example : exA.isempty = false ∧ exA.isfinite = false ∧ exF.isempty = false ∧ exF.isfinite = true ∧
    exF.maxWordLength = .ok (some 2) := by decide +kernel
example : ({ exF with finals := [3] } : AV.DFA Nat Nat).isempty = false ∧
    ({ exF with finals := [] } : AV.DFA Nat Nat).isempty = true ∧
    ({ exF with finals := [] } : AV.DFA Nat Nat).isfinite = true := by decide +kernel

end AV.Props.C06
