/-
Props/C18.lean — C18: automata are immutable values: no call changes an operand; copies
round-trip.

English statement (properties.jsonl): once constructed, an automaton's definition cannot be
altered: setting or deleting an attribute raises, and in the default configuration all nested
sets, maps and lists are stored in immutable form, so later mutation of the objects passed to
the constructor does not affect it.  No library operation, query or conversion changes the
definition or the language of any automaton passed to it (even when the mutable-automata
option is switched on), and copy() and a pickle round trip give an automaton of the same class
with an identical definition.

What is proved here (about the model, for all inputs):
  * `freeze_value` (automata/base/utils.py) on a model of Python values `PyVal`: for every value
    Python can build (`supported`) the result contains no mutable container and no live view of
    one (`C18_freeze_immutable`; the function without the `isinstance` tests of /repo 0014d04,
    ab97679, `freezeOld`, violates this: `C18_freeze_lookalike_regression`), has the same abstract
    value, and freezing is idempotent — hence what `Automaton.__init__` stores in the default
    configuration is immutable and equal in value to the arguments;
  * `__setattr__` / `__delattr__` always raise `AttributeError`;
  * for each of the eight classes the public `__slots__` are exactly the `__init__` parameters
    and all of them are handed to `Automaton.__init__` (evaluated on the tables regenerated
    from the source at every build), and therefore `copy()` and the pickle round trip
    (`__getstate__` / `__setstate__`) return an object of the same class with identical
    `input_parameters`, under both settings of `allow_mutable_automata` (and with the same
    abstract value when the setting changes in between).

What is NOT provable in a pure model and is MONITORED instead (level "other", harness/ops/C18.py
part B): object identity and aliasing — "no call changes an operand" is trivially true of pure
functions.  The harness passes containers that log every write under
`allow_mutable_automata=True`, runs histories of all public operations on all eight classes and
compares deep snapshots before / after every call.
-/
import AutomataVerif.Proofs.Instance

namespace AV.Props.C18
open AV AV.VA AV.VA.PyVal AV.VA.Obj

/-- After freezing no `dict`, `set` or `list` object — and no set-like / mapping-like object that
is not a builtin container (`setlike`: dict views, user `collections.abc.Set` classes; `maplike`:
mappingproxy, UserDict, ChainMap, user `Mapping` classes; `seqlike`: UserList, deque) — is left anywhere inside the value (keys,
tuple members and frozenset members included).  `supported` is no restriction on real inputs:
it says that every dictionary key and every set / frozenset element is hashable (on the model:
`isFrozen` — an unhashable `dict` / `set` / `list` nowhere inside it), which Python enforces when
the dict / set / frozenset is *built* (`{[1]: 2}`, `{[1]}`, `frozenset([[1]])`, `{(1, [2]): 3}`
raise `TypeError: unhashable type`).  Lists, tuples, dict / frozendict values may hold anything
and nest arbitrarily — in particular a list inside a tuple (the MNTM result
`('q1', [['1', 'R']])`, the DPDA result `('q1', ['1', '0'])`) is covered since fix 3900daf.
What the model does not see: a user-defined hashable object with mutable content that is neither
a `collections.abc.Set`, a `collections.abc.Mapping` nor a `collections.abc.Sequence` (`other` stands
for immutable atoms only). -/
theorem C18_freeze_immutable (v : PyVal) (h : v.supported = true) : (freeze v).isFrozen = true :=
  isFrozen_freeze v h

/-- Freezing does not change what the value says: the abstract value (`norm`: every container
kind replaced by its immutable counterpart, everywhere) is the same before and after. -/
theorem C18_freeze_value (v : PyVal) : (freeze v).norm = v.norm := norm_freeze v

/-- Freezing twice is freezing once (what `copy()` relies on in the default configuration). -/
theorem C18_freeze_idem (v : PyVal) : freeze (freeze v) = freeze v := freeze_idem v

/-- An already immutable value is returned unchanged. -/
theorem C18_freeze_fixes_immutable (v : PyVal) (h : v.isFrozen = true) : freeze v = v :=
  freeze_of_isFrozen v h

/-- Tuples are entered (fix 3900daf): `freeze (x₁, …, xₙ) = (freeze x₁, …, freeze xₙ)` — the
same as for a list. -/
theorem C18_freeze_enters_tuples (xs : List PyVal) :
    freeze (.tuple xs) = .tuple (xs.map freeze) ∧ freeze (.tuple xs) = freeze (.list xs) := by
  simp only [freeze, freezeList_eq_map, and_self]

/-- … so a list placed inside a tuple is frozen: `freeze_value((1, [2]))` is `(1, (2,))`, and
the MNTM result `('q1', [['1', 'R']])` becomes `('q1', (('1', 'R'),))`. -/
theorem C18_freeze_tuple_holding_list :
    freeze (.tuple [.int 1, .list [.int 2]]) = .tuple [.int 1, .tuple [.int 2]] ∧
    freeze (.tuple [.str "q1", .list [.list [.str "1", .str "R"]]]) =
      .tuple [.str "q1", .tuple [.tuple [.str "1", .str "R"]]] ∧
    (freeze (.tuple [.str "q1", .list [.list [.str "1", .str "R"]]])).isFrozen = true :=
  ⟨rfl, rfl, rfl⟩

/-- Frozensets are returned without looking inside, and dictionary keys are never touched.
That is harmless exactly because of hashability: a frozenset whose elements are hashable
(`isFrozenList`) is already immutable, and the same holds for keys. -/
theorem C18_freeze_frozenset (xs : List PyVal) :
    freeze (.frozenset xs) = .frozenset xs ∧
    (isFrozenList xs = true → (freeze (.frozenset xs)).isFrozen = true) :=
  ⟨rfl, fun h => by simp only [freeze, isFrozen, h]⟩

/-- `supported` holds of every immutable (= hashable) value, and it is exactly "keys and set /
frozenset elements hashable": the only way to fail it is an unhashable key or element. -/
theorem C18_supported_of_immutable (v : PyVal) (h : v.isFrozen = true) : v.supported = true :=
  supported_of_isFrozen v h

/-- The excluded values are the ones Python refuses to build: a list as a set element / as a
dictionary key, a tuple holding a list as a key. -/
example : (PyVal.set [.list [.int 1]]).supported = false ∧
    (PyVal.dict [(.list [.int 1], .int 2)]).supported = false ∧
    (PyVal.frozenset [.list [.int 1]]).supported = false ∧
    (PyVal.dict [(.tuple [.int 1, .list [.int 2]], .int 3)]).supported = false := ⟨rfl, rfl, rfl, rfl⟩

/-- The regenerated shape of `freeze_value`: which `isinstance` branches exist, in which order,
and that the dict / set / list-or-tuple / Mapping / non-frozenset Set / non-bytes Sequence branches recurse (the model
`PyVal.freeze` mirrors exactly this; the abstract base classes are named by what the module
imports them from, not by their local alias). -/
theorem C18_freeze_source_shape :
    Gen.Validate.freezeBranches =
      [("str,int", "same"), ("dict", "frozendict+rec"), ("set", "frozenset+rec"),
       ("list,tuple", "tuple+rec"), ("collections.abc.Mapping", "frozendict+rec"),
       ("collections.abc.Set&!frozenset", "frozenset+rec"),
       ("collections.abc.Sequence&!bytes", "tuple+rec")] :=
  rfl

/-- Non-vacuity: an MNTM-style transition table written with nested lists
(`{("1",): [["q0", [["1", "R"]]]]}`) is supported and freezes to nested tuples inside a
frozendict. -/
example :
    let v : PyVal := .dict [(.tuple [.str "1"], .list [.list [.str "q0", .list [.list [.str "1", .str "R"]]]])]
    v.supported = true ∧
    freeze v = .frozendict [(.tuple [.str "1"],
      .tuple [.tuple [.str "q0", .tuple [.tuple [.str "1", .str "R"]]]])] ∧
    (freeze v).isFrozen = true := ⟨rfl, rfl, rfl⟩

/-- Non-vacuity: the MNTM table `{'q0': {('1',): [('q1', [['1', 'R']])]}}` — a tuple
holding a list — is supported and freezes to an immutable value. -/
example :
    let v : PyVal := .dict [(.str "q0", .dict [(.tuple [.str "1"],
      .list [.tuple [.str "q1", .list [.list [.str "1", .str "R"]]]])])]
    v.supported = true ∧
    freeze v = .frozendict [(.str "q0", .frozendict [(.tuple [.str "1"],
      .tuple [.tuple [.str "q1", .tuple [.tuple [.str "1", .str "R"]]]])])] ∧
    (freeze v).isFrozen = true := ⟨rfl, rfl, rfl⟩

/-- Non-vacuity: an NFA transition table `{"q": {"": {"p"}, "a": set()}}`. -/
example :
    freeze (.dict [(.str "q", .dict [(.str "", .set [.str "p"]), (.str "a", .set [])])]) =
      .frozendict [(.str "q", .frozendict [(.str "", .frozenset [.str "p"]), (.str "a", .frozenset [])])] :=
  rfl

/-! Look-alike containers (/repo 0014d04, ab97679).  `freezeOld` is `freeze_value` without its last
three `isinstance` tests (`Set`, `Mapping`, `Sequence`): a set-like / mapping-like / sequence-like
object that is not a builtin container falls through to `return value` — stored BY REFERENCE — at
the top level and at every nesting level the recursion reaches.  It is the counter-model of
`C18_freeze_lookalike_regression`: what `C18_freeze_immutable` says fails for it. -/

mutual
/-- `freeze_value` without the `Set` / `Mapping` / `Sequence` tests of /repo 0014d04, ab97679. -/
def freezeOld : PyVal → PyVal
  | .str s => .str s
  | .int i => .int i
  | .dict kvs => .frozendict (freezeOldKVs kvs)
  | .frozendict kvs => .frozendict (freezeOldKVs kvs)
  | .set xs => .frozenset (freezeOldList xs)
  | .list xs => .tuple (freezeOldList xs)
  | .tuple xs => .tuple (freezeOldList xs)
  | .frozenset xs => .frozenset xs
  | .other t => .other t
  | .setlike xs => .setlike xs                          -- `return value`
  | .maplike kvs => .maplike kvs                        -- `return value`
  | .seqlike xs => .seqlike xs                          -- `return value` (until fix ab97679)
def freezeOldList : List PyVal → List PyVal
  | [] => []
  | x :: xs => freezeOld x :: freezeOldList xs
def freezeOldKVs : List (PyVal × PyVal) → List (PyVal × PyVal)
  | [] => []
  | (k, v) :: t => (k, freezeOld v) :: freezeOldKVs t
end

/-- `fin.keys()` for `fin = {1: None}` (the `final_states` argument of finding F37) and the
transition table of the same DFA wrapped in `types.MappingProxyType`, rows included. -/
def exKeysView : PyVal := .setlike [.int 1]
def exProxyTable : PyVal :=
  .maplike [(.int 0, .maplike [(.str "a", .int 1)]), (.int 1, .maplike [(.str "a", .int 1)])]

/-- The regression, stated explicitly.  For the OLD function there is a value Python can build
(`supported`) whose image is not immutable — the keys view of a dictionary is returned as it is, a
live window onto the caller's dict, at the top level and equally inside a builtin container the
function does enter (`{0: proxy}`, `[view]`) — whereas for the function as it is now no such value
exists.  (The old function differs from the new one ONLY on values holding such a look-alike:
`C18_freezeOld_eq_freeze`.) -/
theorem C18_freeze_lookalike_regression :
    (∃ v : PyVal, v.supported = true ∧ (freezeOld v).isFrozen = false) ∧
    (¬ ∃ v : PyVal, v.supported = true ∧ (freeze v).isFrozen = false) := by
  refine ⟨⟨exKeysView, by decide, by decide⟩, ?_⟩
  rintro ⟨v, hs, hf⟩
  rw [isFrozen_freeze v hs] at hf
  exact Bool.noConfusion hf

mutual
/-- No look-alike container at any position `freeze_value` reaches (the values of dicts, the
members of sets, lists and tuples; frozensets and keys are not entered). -/
def reachesNoLookalike : PyVal → Bool
  | .str _ => true
  | .int _ => true
  | .other _ => true
  | .frozenset _ => true
  | .dict kvs => reachesNoLookalikeKVs kvs
  | .frozendict kvs => reachesNoLookalikeKVs kvs
  | .set xs => reachesNoLookalikeList xs
  | .list xs => reachesNoLookalikeList xs
  | .tuple xs => reachesNoLookalikeList xs
  | .setlike _ => false
  | .maplike _ => false
  | .seqlike _ => false
def reachesNoLookalikeList : List PyVal → Bool
  | [] => true
  | x :: xs => reachesNoLookalike x && reachesNoLookalikeList xs
def reachesNoLookalikeKVs : List (PyVal × PyVal) → Bool
  | [] => true
  | (_, v) :: t => reachesNoLookalike v && reachesNoLookalikeKVs t
end

mutual
/-- The repair changed nothing else: on every value in which the function meets no look-alike
container, the old and the new `freeze_value` return the same. -/
theorem C18_freezeOld_eq_freeze : ∀ v : PyVal, reachesNoLookalike v = true → freezeOld v = freeze v
  | .str _, _ | .int _, _ | .other _, _ | .frozenset _, _ => rfl
  | .dict kvs, h | .frozendict kvs, h => congrArg frozendict (freezeOldKVs_eq kvs h)
  | .set xs, h => congrArg frozenset (freezeOldList_eq xs h)
  | .list xs, h | .tuple xs, h => congrArg tuple (freezeOldList_eq xs h)
  | .setlike _, h | .maplike _, h | .seqlike _, h => Bool.noConfusion h
theorem freezeOldList_eq : ∀ xs : List PyVal, reachesNoLookalikeList xs = true →
    freezeOldList xs = freezeList xs
  | [], _ => rfl
  | x :: xs, h => by
      simp only [reachesNoLookalikeList, Bool.and_eq_true] at h
      simp only [freezeOldList, freezeList, C18_freezeOld_eq_freeze x h.1, freezeOldList_eq xs h.2]
theorem freezeOldKVs_eq : ∀ kvs : List (PyVal × PyVal), reachesNoLookalikeKVs kvs = true →
    freezeOldKVs kvs = freezeKVs kvs
  | [], _ => rfl
  | (k, v) :: t, h => by
      simp only [reachesNoLookalikeKVs, Bool.and_eq_true] at h
      simp only [freezeOldKVs, freezeKVs, C18_freezeOld_eq_freeze v h.1, freezeOldKVs_eq t h.2]
end

/-- The witnesses of the finding and what the two functions make of them: the keys view and the
proxied table are kept by the old function and converted by the new one; a view placed inside a
dict / list the old function does enter is kept as well. -/
example :
    exKeysView.supported = true ∧ freezeOld exKeysView = exKeysView ∧
      (freezeOld exKeysView).isFrozen = false ∧
      freeze exKeysView = .frozenset [.int 1] ∧ (freeze exKeysView).isFrozen = true ∧
    exProxyTable.supported = true ∧ freezeOld exProxyTable = exProxyTable ∧
      (freezeOld exProxyTable).isFrozen = false ∧
      freeze exProxyTable =
        .frozendict [(.int 0, .frozendict [(.str "a", .int 1)]), (.int 1, .frozendict [(.str "a", .int 1)])] ∧
      (freeze exProxyTable).isFrozen = true ∧
    (freezeOld (.dict [(.int 0, exKeysView)])).isFrozen = false ∧
      (freeze (.dict [(.int 0, exKeysView)])).isFrozen = true ∧
    (freezeOld (.list [exProxyTable])).isFrozen = false ∧
      (freeze (.list [exProxyTable])).isFrozen = true ∧
    -- a `collections.UserList` of MNTM results (fix ab97679): kept by the old function, a tuple now
    (freezeOld (.dict [(.tuple [.str "1"], .seqlike [.tuple [.str "q1", .list [.list [.str "1", .str "R"]]]])])).isFrozen = false ∧
      freeze (.dict [(.tuple [.str "1"], .seqlike [.tuple [.str "q1", .list [.list [.str "1", .str "R"]]]])]) =
        .frozendict [(.tuple [.str "1"], .tuple [.tuple [.str "q1", .tuple [.tuple [.str "1", .str "R"]]]])] ∧
    -- an items view whose members are unhashable tuples: `{1: [2]}.items()`
    (PyVal.setlike [.tuple [.int 1, .list [.int 2]]]).supported = true ∧
      freeze (.setlike [.tuple [.int 1, .list [.int 2]]]) = .frozenset [.tuple [.int 1, .tuple [.int 2]]] :=
  ⟨rfl, rfl, rfl, rfl, rfl, rfl, rfl, rfl, rfl, rfl, rfl, rfl, rfl, rfl, rfl, rfl, rfl, rfl⟩

/-- What the constructor stored before the repair: in the default configuration the attribute
`final_states` of finding F37 was the caller's view itself. -/
example :
    (List.map (fun kv : String × PyVal => (kv.1, freezeOld kv.2)) [("final_states", exKeysView)]) =
      [("final_states", exKeysView)] ∧
    (∀ kv ∈ storeKwargs false [("final_states", exKeysView)], kv.2.isFrozen = true) :=
  ⟨rfl, by decide +kernel⟩

/-- In the default configuration every stored attribute is immutable (for every argument
Python can build: keys and set elements hashable, see `C18_freeze_immutable`): no nested set,
map or list can be written to afterwards, and — the stored value being a function of the
argument's value at construction time — later mutation of the argument objects cannot reach
it. -/
theorem C18_stored_immutable (kwargs : List (String × PyVal))
    (h : ∀ kv ∈ kwargs, kv.2.supported = true) :
    ∀ kv ∈ storeKwargs false kwargs, kv.2.isFrozen = true := by
  intro kv hkv
  simp only [storeKwargs, List.mem_map] at hkv
  obtain ⟨kv0, h0, rfl⟩ := hkv
  exact isFrozen_freeze kv0.2 (h kv0 h0)

/-- Under either setting of `allow_mutable_automata` the stored attributes have the names and
the abstract values of the arguments. -/
theorem C18_stored_value (allowMutable : Bool) (kwargs : List (String × PyVal)) :
    (storeKwargs allowMutable kwargs).map (fun kv => (kv.1, kv.2.norm)) =
      kwargs.map (fun kv => (kv.1, kv.2.norm)) :=
  absKw_storeKwargs allowMutable kwargs

/-- The attribute hooks as the source has them (regenerated from the AST of every class of the
package that derives from `Automaton`): `__setattr__` and `__delattr__` are defined by
`Automaton` only — no subclass overrides them — and the body of each (docstring aside) is the
single statement `raise AttributeError(...)`: an unconditional raise.  A raise placed under an
`if`, an added statement or an override changes the regenerated table and breaks this theorem
(and `C18_setattr_delattr`, whose model reads the same table). -/
theorem C18_attr_hooks_unconditional :
    Gen.Object.attrHooks =
      [("Automaton", "__setattr__", "raise AttributeError"),
       ("Automaton", "__delattr__", "raise AttributeError")] ∧
    hookShape "__setattr__" = .raisesAttributeError ∧ hookShape "__delattr__" = .raisesAttributeError ∧
    (∀ cls ∈ classes, cls ∈ Gen.Object.automatonClasses) := by
  decide +kernel

/-- Setting or deleting any attribute of any automaton raises `AttributeError`.  (Not true by
definition: `Inst.setattr` / `Inst.delattr` raise only if the regenerated body shape of the hook
is an unconditional `raise AttributeError`; otherwise they rebind / delete the attribute.) -/
theorem C18_setattr_delattr (o : Inst) (name : String) (v : PyVal) :
    o.setattr name v = .error (.py .attributeError) ∧ o.delattr name = .error (.py .attributeError) := by
  obtain ⟨_, h1, h2, _⟩ := C18_attr_hooks_unconditional
  simp only [Inst.setattr, Inst.delattr, h1, h2, and_self]

/-- Where the library itself goes around the hooks (`object.__setattr__(self, …)` /
`object.__delattr__(self, …)`, regenerated from every class deriving from `Automaton`): outside
the constructors only *literal private* names are bound (at present: `DFA.clear_cache` resets
the two cache slots `_word_cache` / `_count_cache`, which are not part of the definition), and
the only constructor doing it is `Automaton.__init__` (the storing loop).  So after
construction no method of the library rebinds or deletes a definition attribute.  (A new site
with a public or computed name breaks this theorem.) -/
theorem C18_hook_bypass_sites :
    (∀ t ∈ Gen.Object.objectSetattrSites,
      (t.1 = "Automaton" ∧ t.2.1 = "__init__" ∧ t.2.2.1 = "__setattr__") ∨
      (t.2.1 ≠ "__init__" ∧ ∀ n ∈ t.2.2.2, isPublic n = false)) ∧
    (∃ t ∈ Gen.Object.objectSetattrSites, t.1 = "Automaton" ∧ t.2.1 = "__init__") := by
  decide +kernel

/-- Tie to the source (raise sites): `__setattr__` and `__delattr__` are defined by `Automaton`
only (no subclass overrides them) and each raises `AttributeError` (regenerated raise sites;
`C18_attr_hooks_unconditional` adds that the raise is the whole body). -/
theorem C18_attr_hooks_source :
    Gen.Validate.raiseSites.filter (fun t => t.2.1 == "__setattr__" || t.2.1 == "__delattr__") =
      [("Automaton", "__setattr__", ["AttributeError"]), ("Automaton", "__delattr__", ["AttributeError"])] := by
  decide +kernel

/-- For every class the public `__slots__` are exactly the `__init__` parameters (as sets), all
of them are passed on to `Automaton.__init__`, and nothing else is (except GNFA's derived
`final_states`).  Evaluated on the tables regenerated from /repo at every build: a slot renamed
to start with `_`, a dropped slot, or a new `__init__` parameter without a slot breaks this
theorem. -/
theorem C18_slots_are_init_params : ∀ cls ∈ classes, TablesOk cls := tablesOk_all

theorem C18_classes : classes = ["DFA", "NFA", "GNFA", "DPDA", "NPDA", "DTM", "NTM", "MNTM"] :=
  rfl

/-- The shape of automata/base/automaton.py that the object model mirrors (regenerated):
`input_parameters` iterates `__slots__` skipping names that start with `_`, `copy()` is
`self.__class__(**self.input_parameters)`, `__getstate__` returns `input_parameters`,
`__setstate__` calls `__init__`, `__init__` freezes unless the option allows mutable automata;
the attribute hooks raise unconditionally; the constructors take keyword arguments only. -/
theorem C18_automaton_source_shape :
    Gen.Validate.automatonFacts.all (fun f => f.2) = true ∧
    -- the bodies of `__setattr__` / `__delattr__` are a single unconditional `raise AttributeError(...)`
    (Gen.Object.attrHooks.filter (fun t => t.1 == "Automaton")).map (fun t => (t.2.1, t.2.2)) =
      [("__setattr__", "raise AttributeError"), ("__delattr__", "raise AttributeError")] ∧
    -- every concrete `__init__` is `(self, *, …)`: arguments are bound by keyword only
    Gen.Object.initKeywordOnly.all (fun f => f.2) = true ∧
    Gen.Object.initKeywordOnly.map Prod.fst = classes :=
  ⟨rfl, rfl, rfl, rfl⟩

/-- `copy()` of a constructed automaton succeeds and returns an object of the same class with
identical `input_parameters`, under either setting of `allow_mutable_automata`. -/
theorem C18_copy_roundtrip (allowMutable : Bool) (cls : String) (hcls : cls ∈ classes)
    (kwargs : List (String × PyVal)) (a : Inst) (h : classInit allowMutable cls kwargs = .ok a) :
    ∃ b, copy allowMutable a = .ok b ∧ b.cls = a.cls ∧ inputParameters b = inputParameters a := by
  have ht := tablesOk_all cls hcls
  obtain rfl := classInit_ok_inv ht h
  refine ⟨_, copy_built ht allowMutable allowMutable _, rfl, ?_⟩
  simp only [inputParameters_built ht, fz_fz_same]

/-- A pickle round trip (`__getstate__` then `__setstate__` on a blank object of the class)
gives the same: same class, identical `input_parameters`. -/
theorem C18_pickle_roundtrip (allowMutable : Bool) (cls : String) (hcls : cls ∈ classes)
    (kwargs : List (String × PyVal)) (a : Inst) (h : classInit allowMutable cls kwargs = .ok a) :
    ∃ b, pickleRoundTrip allowMutable a = .ok b ∧ b.cls = a.cls ∧
      inputParameters b = inputParameters a :=
  C18_copy_roundtrip allowMutable cls hcls kwargs a h

/-- When the option changes between construction and copying / unpickling, the result still has
the same class and the same parameters up to the kind of container (same abstract value). -/
theorem C18_copy_roundtrip_across_options (am0 am1 : Bool) (cls : String) (hcls : cls ∈ classes)
    (kwargs : List (String × PyVal)) (a : Inst) (h : classInit am0 cls kwargs = .ok a) :
    ∃ b pa pb, copy am1 a = .ok b ∧ b.cls = a.cls ∧ inputParameters a = .ok pa ∧
      inputParameters b = .ok pb ∧
      pb.map (fun kv => (kv.1, kv.2.norm)) = pa.map (fun kv => (kv.1, kv.2.norm)) := by
  have ht := tablesOk_all cls hcls
  obtain rfl := classInit_ok_inv ht h
  refine ⟨_, _, _, copy_built ht am0 am1 _, rfl, inputParameters_built ht ..,
    inputParameters_built ht .., ?_⟩
  simp only [List.map_map, Function.comp_def, norm_fz]

/-! ### copy() of a valid automaton passes the validation of its constructor

`classInitV` / `copyV` are `classInit` / `copy` with `Automaton.__post_init__`: the stored
definition is validated when `should_validate_automata` is on (GNFA: always).  They are built on
`construct` (Model/Freeze.lean), the constructor of C19's option theorems (`C19_options*`), here
applied to the keyword list of a concrete class.  `v cls` is the class's validator as a function
of the abstract value of the definition — an arbitrary function: the theorems hold for every
validator that reads the definition up to the kind of container (the typed validators of C19 do:
they test membership and equality of names only). -/

/-- If `cls(**kwargs)` returns with validation due, the validator accepted the definition of
the new object. -/
theorem C18_constructed_valid (v : String → List (String × PyVal) → Res Unit) (sv am : Bool)
    (cls : String) (hcls : cls ∈ classes) (kwargs : List (String × PyVal)) (a : Inst)
    (h : classInitV v sv am cls kwargs = .ok a) (hdue : (sv || alwaysValidates cls) = true) :
    v cls (definitionOf a) = .ok () :=
  (classInitV_ok_inv (tablesOk_all cls hcls) h).2 hdue

/-- `copy()` re-validates successfully: for an automaton `a = cls(**kwargs)` (built under any
options) whose definition satisfies the validator, `a.copy()` — under any options, validation
included — is constructed, has the same class and the same definition (abstract value of every
attribute `validate()` reads, GNFA's derived `final_states` included), hence satisfies the
validator again, and reports parameters equal in abstract value.  So no `copy()` of a valid
automaton can raise a validation error, and none can smuggle an invalid definition past
validation. -/
theorem C18_copy_valid (v : String → List (String × PyVal) → Res Unit) (sv0 am0 sv1 am1 : Bool)
    (cls : String) (hcls : cls ∈ classes) (kwargs : List (String × PyVal)) (a : Inst)
    (h : classInitV v sv0 am0 cls kwargs = .ok a) (hvalid : v cls (definitionOf a) = .ok ()) :
    ∃ b, copyV v sv1 am1 a = .ok b ∧ b.cls = a.cls ∧ definitionOf b = definitionOf a ∧
      v cls (definitionOf b) = .ok () ∧
      ∃ pa pb, inputParameters a = .ok pa ∧ inputParameters b = .ok pb ∧ absKw pb = absKw pa := by
  have ht := tablesOk_all cls hcls
  obtain rfl := classInit_ok_inv ht (classInitV_ok_inv ht h).1
  have hdef := definitionOf_built_fz am0 am1 cls (boundVal cls kwargs)
  refine ⟨_, copyV_built v ht am0 sv1 am1 _ hvalid, rfl, hdef, hdef ▸ hvalid, _, _,
    inputParameters_built ht .., inputParameters_built ht .., ?_⟩
  simp only [absKw, List.map_map, Function.comp_def, norm_fz]

/-- In particular with validation on at both ends no hypothesis on the definition is needed:
whatever the constructor accepted, `copy()` (and a pickle round trip, which is the same call of
`__init__`) accepts. -/
theorem C18_copy_valid_validated (v : String → List (String × PyVal) → Res Unit) (am0 sv1 am1 : Bool)
    (cls : String) (hcls : cls ∈ classes) (kwargs : List (String × PyVal)) (a : Inst)
    (h : classInitV v true am0 cls kwargs = .ok a) :
    ∃ b, copyV v sv1 am1 a = .ok b ∧ b.cls = a.cls ∧ definitionOf b = definitionOf a :=
  let ⟨b, h1, h2, h3, _⟩ := C18_copy_valid v true am0 sv1 am1 cls hcls kwargs a h
    (C18_constructed_valid v true am0 cls hcls kwargs a h rfl)
  ⟨b, h1, h2, h3⟩

/-- The reported parameters are exactly the constructor's: `input_parameters` of `cls(**kwargs)`
lists the public slots, each with the stored form of the argument bound to it. -/
theorem C18_input_parameters (allowMutable : Bool) (cls : String) (hcls : cls ∈ classes)
    (kwargs : List (String × PyVal)) (a : Inst) (h : classInit allowMutable cls kwargs = .ok a) :
    inputParameters a =
      .ok ((publicSlots cls).map fun s => (s, fz allowMutable (boundVal cls kwargs s))) :=
  have ht := tablesOk_all cls hcls
  classInit_ok_inv ht h ▸ inputParameters_built ht ..

/-- The default values the model binds are the ones of the `__init__` signatures: `defaultOf`
reads the table regenerated from the AST (at present `DFA(allow_partial=False)`,
`DPDA / NPDA(acceptance_mode="both")`), nothing is written by hand, so a new or changed default
changes the model at the next build and the correspondence check (family `default_param`) compares
it with the real constructor.  What the theorems need from the table: it covers the eight
classes; every default is a literal the model represents exactly (bool / int / str / None —
not an opaque expression); every parameter with a default is a parameter and a public slot of
its class, so `copy()` / unpickling always pass it explicitly and a default is never applied a
second time. -/
theorem C18_init_defaults :
    Gen.Object.initDefaults.map Prod.fst = classes ∧
    (∀ cd ∈ Gen.Object.initDefaults, ∀ pd ∈ cd.2,
      (match pd.2 with | .other _ => false | _ => true) = true ∧
      pd.1 ∈ publicSlots cd.1 ∧ pd.1 ∈ initParamsOf cd.1) := by
  have hc : Gen.Object.initDefaults.map Prod.fst = classes := rfl
  have hp : ∀ cd ∈ Gen.Object.initDefaults, ∀ pd ∈ cd.2,
      (match pd.2 with | .other _ => false | _ => true) = true ∧ pd.1 ∈ initParamsOf cd.1 := by
    decide +kernel
  refine ⟨hc, fun cd hcd pd hpd => ?_⟩
  obtain ⟨hlit, hpar⟩ := hp cd hcd pd hpd
  exact ⟨hlit, (tablesOk_all cd.1 (hc ▸ List.mem_map_of_mem hcd)).params_sub_pub _ hpar, hpar⟩

/-- The attributes a constructor binds besides the ones handed to `Automaton.__init__` (regenerated:
`object.__setattr__(self, "<name>", …)` in `__init__` or in a method it calls on `self`; at present
only `DFA.clear_cache`: `_word_cache = []`, `_count_cache = []`) are private slots of the class:
none of them is reported by `input_parameters`, none is part of the definition. -/
theorem C18_post_init_attrs :
    Gen.Object.postInitAttrs.map Prod.fst = classes ∧
    (∀ cls ∈ classes, ∀ kv ∈ extraAttrs cls, isPublic kv.1 = false ∧ kv.1 ∈ slotsOf cls) :=
  ⟨rfl, by decide +kernel⟩

/-- A partial DFA: construction succeeds, the parameters come back (frozen), `copy()` returns a
DFA with the same parameters — `allow_partial` included. -/
def exDFA : List (String × PyVal) :=
  [("states", .set [.int 0, .int 1]), ("input_symbols", .set [.str "a"]),
   ("transitions", .dict [(.int 0, .dict [(.str "a", .int 1)]), (.int 1, .dict [])]),
   ("initial_state", .int 0), ("final_states", .set [.int 1]), ("allow_partial", .int 1)]

example :
    (match classInit false "DFA" exDFA with
     | .ok a => a.cls == "DFA" && (a.attrs.map Prod.fst ==
          ["states", "input_symbols", "transitions", "initial_state", "final_states", "allow_partial",
           "_word_cache", "_count_cache"])
     | .error _ => false) = true := by decide +kernel

example :
    (match classInit false "DFA" exDFA with
     | .ok a => (match copy false a, inputParameters a with
        | .ok b, .ok pa => b.cls == "DFA" && (pa.map Prod.fst ==
            ["states", "input_symbols", "transitions", "initial_state", "final_states", "allow_partial"])
        | _, _ => false)
     | .error _ => false) = true := by decide +kernel

/-- A missing parameter without default is a `TypeError`; GNFA receives its derived
`final_states` attribute. -/
example : (match classInit false "DFA" (exDFA.take 3) with | .error (.py .typeError) => true | _ => false) = true := by
  decide +kernel

example :
    (match classInit false "GNFA" [("states", .set [.int 0, .int 1]), ("input_symbols", .set []),
        ("transitions", .dict [(.int 0, .dict [(.int 1, .other 0)])]), ("initial_state", .int 0),
        ("final_state", .int 1)] with
     | .ok a => a.attrs.map Prod.fst ==
         ["states", "input_symbols", "transitions", "initial_state", "final_state", "final_states"]
     | .error _ => false) = true := by decide +kernel

/-- Non-vacuity / sanity of `classInitV`: a validator that rejects makes the constructor raise
when validation is on and is not consulted when it is off — except for GNFA, which always
validates; a validator that accepts lets construction and `copyV` through. -/
def rejectAll : String → List (String × PyVal) → Res Unit := fun _ _ => .error (.lib .invalidStateError)
def acceptAll : String → List (String × PyVal) → Res Unit := fun _ _ => .ok ()
def exGNFA : List (String × PyVal) :=
  [("states", .set [.int 0, .int 1]), ("input_symbols", .set []),
   ("transitions", .dict [(.int 0, .dict [(.int 1, .other 0)])]), ("initial_state", .int 0),
   ("final_state", .int 1)]

example :
    (match classInitV rejectAll true false "DFA" exDFA with
      | .error (.lib .invalidStateError) => true | _ => false) = true ∧
    (match classInitV rejectAll false false "DFA" exDFA with | .ok _ => true | _ => false) = true ∧
    (match classInitV rejectAll false false "GNFA" exGNFA with
      | .error (.lib .invalidStateError) => true | _ => false) = true ∧
    alwaysValidates "GNFA" = true ∧ alwaysValidates "DFA" = false ∧
    (match classInitV acceptAll true false "GNFA" exGNFA with
      | .ok a => (match copyV acceptAll true true a with
          | .ok b => b.cls == "GNFA" && (definitionOf b).map Prod.fst ==
              ["states", "input_symbols", "transitions", "initial_state", "final_state", "final_states"]
          | _ => false)
      | _ => false) = true := by
  decide +kernel

end AV.Props.C18
