/-
Props/C19b.lean — C19, the clause "every automaton returned by a library operation passes
validation itself", assembled from the property files in which the operations are modelled.

Each of C04, C05, C07, C08, C10, C12, C15, C16 proves — next to its language statement — that
the result of the operations it models passes `validate`.  `ResultsValid` has one field per public
automaton-valued operation (and option combination) of the library; `C19_results_valid` fills every
field by citing the theorem of the property that owns the operation.  Nothing is re-proved here
(`GNFA.from_dfa/from_nfa` return only what the GNFA constructor's validation accepted:
`Alphabet.fromDFA_ok`; where a field states a `retain_names=False` result as `R.renumber` and the
owning property speaks of `R`, it is a renaming of a valid DFA: `renumber_valid`).

Which `validate`.  DFA and NFA results are checked with `AV.DFA.validate` / `AV.NFA.validate`
(Model/DFA.lean, Model/NFA.lean) — the ones tied to the code by the correspondence of C01 / C04 /
C08, and the DFA / NFA validate models of C19 for name types that cannot express the two
reserved names: `C19_dfa_validate_iff` / `C19_nfa_validate_iff` are about `validateDef R` =
"`_validate_reserved_names()` (no state named `None`, `""` not an input symbol — fixes b159ae7,
07f4843) under the interpretation `R` of the names, then `validate`", and `C19_reserved_absent`
says `validateDef Reserved.absent = validate`.  The operation models below work on such name
types (`none : Option σ` is the sink of a DFA run, `none : Option α` is λ; neither can be a
name), so a result that passes `validate` passes the complete check; on the real code the
reserved-name check of every result is part of the sampled re-validation (harness/ops/C19.py).  GNFA results are checked with
`AV.GNFA.validateStr simpleRxValid` (Model/GNFAValidate.lean, the model used by C12 and run by
its driver: string labels, `re._validate` modelled at character level for labels without `{`),
NOT with `AV.VA.GNFA.validate` of Model/ValidateAll.lean, which represents a label abstractly
(characters + an oracle verdict); that the two agree on every GNFA is Props/C19f.lean
(`C19_gnfa_validate_bridge`).

Hypotheses.  Every field carries exactly the hypotheses of the cited theorem: operands pass
`validate`; where the cited theorem needs it, the representation invariant "came from Python
sets / dicts" (`DFA.PyShape`, `NFA.PyShape`, `NFA.Valid` = validate ok + dict-shaped tables:
no duplicate keys / elements — not a restriction on automata); and the argument conditions
under which the code does not raise (common alphabet, trap state not a state, `k ≥ 0`, symbol
in the alphabet, …).  Fields are stated in the total form "the call returns `R` and `R` passes
validate"; `dfa_binop_any_alphabets` shows for the Boolean operations how the side condition
disappears in the form "whatever is returned passes validate" (the other case raises).

Operations with `retain_names=False` are modelled by `DFA.renumber` (BFS discovery index).
For results of `_minify` the code numbers the blocks by `enumerate` instead: the same DFA up to
an injective renaming of states (see Proofs/Expr.lean, `DFAExpr.eval`).

Public operations NOT covered by a field (no Lean statement here):
  * `copy()` of every class — the result is built from the reported constructor parameters and
    is the same definition (C18: `C18_copy_roundtrip`; abstractly `C19_results_valid_partial`);
  * DPDA, NPDA, DTM, NTM, MNTM have no automaton-valued operation besides `copy`;
  * `GNFA.to_regex` returns a string (C12); `DFA.successor(s)`, `predecessor(s)`, `random_word`,
    `words_of_length`, … return words; `show_diagram` returns a graph;
  * `NFA.from_regex` on strings outside the documented token language, and operations called
    with arguments for which the cited theorem has no success case (they raise — no result);
  * DFA operands that violate `PyShape` cannot arise from Python values (sets / dicts).
All of these, and every field below again, are additionally SAMPLED on the real code by
harness/ops/C19.py (every result of every public operation re-validated).
-/
import AutomataVerif.Props.C19
import AutomataVerif.Props.C04
import AutomataVerif.Props.C05
import AutomataVerif.Props.C07
import AutomataVerif.Props.C08
import AutomataVerif.Props.C10
import AutomataVerif.Props.C12
import AutomataVerif.Props.C15
import AutomataVerif.Props.C16

namespace AV.Props.C19
open AV AV.Ctor AV.GNFA AV.GnfaSpec

/-- `renumber` is a renaming of the states (`C04.renumber_eq_rename`, by definition), and renaming
keeps a valid DFA valid whatever the function. -/
theorem renumber_valid {σ α : Type} [DecidableEq σ] [DecidableEq α] {d : DFA σ α}
    (hv : d.validate = .ok ()) : d.renumber.validate = .ok () :=
  C04.rename_valid _ hv

/-- **Every automaton returned by a library operation passes `validate`.**  One field per
automaton-valued public operation (model function named in the field). -/
structure ResultsValid : Prop where
  /-- `A.union/intersection/difference/symmetric_difference(B, retain_names=True, minify=False)`. -/
  dfa_binop : ∀ {σ α : Type} [DecidableEq σ] [DecidableEq α] (op : DFA.BinOp) (A B : DFA σ α),
    A.validate = .ok () → B.validate = .ok () → A.PyShape → A.symsEq B = true →
    ∃ R, A.binopPlain op B = .ok R ∧ R.validate = .ok ()
  /-- The same without the common-alphabet condition: whatever is returned is valid. -/
  dfa_binop_any_alphabets : ∀ {σ α : Type} [DecidableEq σ] [DecidableEq α] (op : DFA.BinOp)
    (A B : DFA σ α), A.validate = .ok () → B.validate = .ok () → A.PyShape →
    ∀ R, A.binopPlain op B = .ok R → R.validate = .ok ()
  /-- `…(B, retain_names=False, minify=False)`. -/
  dfa_binop_renumbered : ∀ {σ α : Type} [DecidableEq σ] [DecidableEq α] (op : DFA.BinOp)
    (A B : DFA σ α), A.validate = .ok () → B.validate = .ok () → A.PyShape → A.symsEq B = true →
    ∃ R, A.binopPlain op B = .ok R ∧ R.renumber.validate = .ok ()
  /-- `…(B, retain_names=True, minify=True)`, every pop order of the refinement loop. -/
  dfa_binop_min : ∀ {σ α : Type} [DecidableEq σ] [DecidableEq α] (op : DFA.BinOp)
    (A B : DFA σ α) (pick : List Nat → Nat),
    A.validate = .ok () → B.validate = .ok () → A.PyShape → A.symsEq B = true →
    ∃ M, A.binopMin op B pick = .ok M ∧ M.validate = .ok ()
  /-- `…(B)` with the defaults `retain_names=False, minify=True` (also `| & - ^`). -/
  dfa_binop_min_renumbered : ∀ {σ α : Type} [DecidableEq σ] [DecidableEq α] (op : DFA.BinOp)
    (A B : DFA σ α) (pick : List Nat → Nat),
    A.validate = .ok () → B.validate = .ok () → A.PyShape → A.symsEq B = true →
    ∃ M, A.binopMin op B pick = .ok M ∧ M.renumber.validate = .ok ()
  /-- `d.to_complete(trap_state)` (`custom = false`: the library picks the trap name). -/
  dfa_to_complete : ∀ {σ α : Type} [DecidableEq σ] [DecidableEq α] (d : DFA σ α) (trap : σ)
    (custom : Bool), d.validate = .ok () → d.PyShape → trap ∉ d.states →
    ∃ C, d.toComplete trap custom = .ok C ∧ C.validate = .ok ()
  /-- `d.complement(retain_names=True, minify=False)` (completes first iff `allow_partial`). -/
  dfa_complement : ∀ {σ α : Type} [DecidableEq σ] [DecidableEq α] (d : DFA σ α) (trap : σ),
    d.validate = .ok () → d.PyShape → trap ∉ d.states →
    ∃ R, d.complementFull trap = .ok R ∧ R.validate = .ok ()
  /-- `d.complement(retain_names=True, minify=True)`. -/
  dfa_complement_min : ∀ {σ α : Type} [DecidableEq σ] [DecidableEq α] (d : DFA σ α) (trap : σ)
    (pick : List Nat → Nat), d.validate = .ok () → d.PyShape → trap ∉ d.states →
    ∃ M, d.complementMinFull trap pick = .ok M ∧ M.validate = .ok ()
  /-- `d.complement()` with the defaults `retain_names=False, minify=True` (also `~d`). -/
  dfa_complement_min_renumbered : ∀ {σ α : Type} [DecidableEq σ] [DecidableEq α] (d : DFA σ α)
    (trap : σ) (pick : List Nat → Nat), d.validate = .ok () → d.PyShape → trap ∉ d.states →
    ∃ M, d.complementMinFull trap pick = .ok M ∧ M.renumber.validate = .ok ()
  /-- `d.to_partial(retain_names=True, minify=False)`. -/
  dfa_to_partial : ∀ {σ α : Type} [DecidableEq σ] [DecidableEq α] (d : DFA σ α),
    d.validate = .ok () → d.PyShape → d.toPartialPlain.validate = .ok ()
  /-- `d.to_partial(retain_names=True, minify=True)`. -/
  dfa_to_partial_min : ∀ {σ α : Type} [DecidableEq σ] [DecidableEq α] (d : DFA σ α)
    (pick : List Nat → Nat), d.validate = .ok () → d.PyShape →
    (d.toPartialMin pick).validate = .ok ()
  /-- `d.to_partial()` with the defaults `retain_names=False, minify=True`. -/
  dfa_to_partial_min_renumbered : ∀ {σ α : Type} [DecidableEq σ] [DecidableEq α] (d : DFA σ α)
    (pick : List Nat → Nat), d.validate = .ok () → d.PyShape →
    (d.toPartialMin pick).renumber.validate = .ok ()
  /-- `d.minify(retain_names=True)`. -/
  dfa_minify : ∀ {σ α : Type} [DecidableEq σ] [DecidableEq α] (d : DFA σ α)
    (pick : List Nat → Nat), d.validate = .ok () → d.PyShape → (d.minify pick).validate = .ok ()
  /-- `d.minify()` with the default `retain_names=False`. -/
  dfa_minify_renumbered : ∀ {σ α : Type} [DecidableEq σ] [DecidableEq α] (d : DFA σ α)
    (pick : List Nat → Nat), d.validate = .ok () → d.PyShape →
    (d.minify pick).renumber.validate = .ok ()
  /-- Results fed into further operations: every finite expression tree over
  {∪, ∩, −, △, complement, to_partial, to_complete} with any `minify` flags
  (`retain_names=False`), whose leaves are valid DFAs over one alphabet. -/
  dfa_expr : ∀ {α : Type} [DecidableEq α] (trapOf : List Nat → Nat), (∀ l, trapOf l ∉ l) →
    ∀ (pick : List Nat → Nat) (Sg : List α) (e : C04.DFAExpr α), e.LeavesOk Sg →
    ∃ R, e.eval trapOf pick = .ok R ∧ R.validate = .ok ()
  /-- `DFA.from_nfa(n, retain_names=True, minify=False)`. -/
  dfa_from_nfa : ∀ {σ α : Type} [DecidableEq σ] [DecidableEq α] (n : NFA σ α),
    n.validate = .ok () → n.toDFA.validate = .ok ()
  /-- `DFA.from_nfa(n, retain_names=False, minify=False)`. -/
  dfa_from_nfa_renumbered : ∀ {σ α : Type} [DecidableEq σ] [DecidableEq α] (n : NFA σ α),
    n.validate = .ok () → n.PyShape → n.toDFA.renumber.validate = .ok ()
  /-- `DFA.from_nfa(n, retain_names=True, minify=True)`. -/
  dfa_from_nfa_min : ∀ {σ α : Type} [DecidableEq σ] [DecidableEq α] (n : NFA σ α)
    (pick : List Nat → Nat), n.validate = .ok () → n.PyShape →
    (n.toDFAMin pick).validate = .ok ()
  /-- `DFA.from_nfa(n)` with the defaults `retain_names=False, minify=True`. -/
  dfa_from_nfa_min_renumbered : ∀ {σ α : Type} [DecidableEq σ] [DecidableEq α] (n : NFA σ α)
    (pick : List Nat → Nat), n.validate = .ok () → n.PyShape →
    (n.toDFAMin pick).renumber.validate = .ok ()
  /-- `NFA.from_dfa(d)`. -/
  nfa_from_dfa : ∀ {σ α : Type} [DecidableEq σ] [DecidableEq α] (d : DFA σ α),
    d.validate = .ok () → (NFA.ofDFA d).validate = .ok ()
  /-- `n.eliminate_lambda()`. -/
  nfa_eliminate_lambda : ∀ {σ α : Type} [DecidableEq σ] [DecidableEq α] (n : NFA σ α),
    n.validate = .ok () → n.PyShape → n.eliminateLambda.validate = .ok ()
  -- C08's operations conclude `R.Valid` (validate ok + dict-shaped) too, so that results can be
  -- fed back
  nfa_union : ∀ {σ₁ σ₂ α : Type} [DecidableEq σ₁] [DecidableEq σ₂] [DecidableEq α]
    (A : NFA σ₁ α) (B : NFA σ₂ α), A.Valid → B.Valid →
    ∃ R, NFA.union A B = .ok R ∧ R.validate = .ok () ∧ R.Valid
  nfa_or : ∀ {σ₁ σ₂ α : Type} [DecidableEq σ₁] [DecidableEq σ₂] [DecidableEq α]
    (A : NFA σ₁ α) (B : NFA σ₂ α), A.Valid → B.Valid →
    ∃ R, NFA.orOp A B = .ok R ∧ R.validate = .ok () ∧ R.Valid
  nfa_concatenate : ∀ {σ₁ σ₂ α : Type} [DecidableEq σ₁] [DecidableEq σ₂] [DecidableEq α]
    (A : NFA σ₁ α) (B : NFA σ₂ α), A.Valid → B.Valid →
    ∃ R, NFA.concatenate A B = .ok R ∧ R.validate = .ok () ∧ R.Valid
  nfa_add : ∀ {σ₁ σ₂ α : Type} [DecidableEq σ₁] [DecidableEq σ₂] [DecidableEq α]
    (A : NFA σ₁ α) (B : NFA σ₂ α), A.Valid → B.Valid →
    ∃ R, NFA.addOp A B = .ok R ∧ R.validate = .ok () ∧ R.Valid
  nfa_intersection : ∀ {σ₁ σ₂ α : Type} [DecidableEq σ₁] [DecidableEq σ₂] [DecidableEq α]
    (A : NFA σ₁ α) (B : NFA σ₂ α), A.Valid → B.Valid →
    ∃ R, NFA.intersection A B = .ok R ∧ R.validate = .ok () ∧ R.Valid
  nfa_and : ∀ {σ₁ σ₂ α : Type} [DecidableEq σ₁] [DecidableEq σ₂] [DecidableEq α]
    (A : NFA σ₁ α) (B : NFA σ₂ α), A.Valid → B.Valid →
    ∃ R, NFA.andOp A B = .ok R ∧ R.validate = .ok () ∧ R.Valid
  nfa_shuffle_product : ∀ {σ₁ σ₂ α : Type} [DecidableEq σ₁] [DecidableEq σ₂] [DecidableEq α]
    (A : NFA σ₁ α) (B : NFA σ₂ α), A.Valid → B.Valid →
    ∃ R, NFA.shuffleProduct A B = .ok R ∧ R.validate = .ok () ∧ R.Valid
  nfa_right_quotient : ∀ {σ₁ σ₂ α : Type} [DecidableEq σ₁] [DecidableEq σ₂] [DecidableEq α]
    (A : NFA σ₁ α) (B : NFA σ₂ α), A.Valid → B.Valid →
    ∃ R, NFA.rightQuotient A B = .ok R ∧ R.validate = .ok () ∧ R.Valid
  nfa_left_quotient : ∀ {σ₁ σ₂ α : Type} [DecidableEq σ₁] [DecidableEq σ₂] [DecidableEq α]
    (A : NFA σ₁ α) (B : NFA σ₂ α), A.Valid → B.Valid →
    ∃ R, NFA.leftQuotient A B = .ok R ∧ R.validate = .ok () ∧ R.Valid
  /-- `nat` = the embedding of Python's ints into the state names (`_add_new_state`). -/
  nfa_kleene_star : ∀ {σ α : Type} [DecidableEq σ] [DecidableEq α] (nat : Nat → σ),
    Function.Injective nat → ∀ A : NFA σ α, A.Valid →
    ∃ R, NFA.kleeneStar nat A = .ok R ∧ R.validate = .ok () ∧ R.Valid
  nfa_option : ∀ {σ α : Type} [DecidableEq σ] [DecidableEq α] (nat : Nat → σ),
    Function.Injective nat → ∀ A : NFA σ α, A.Valid →
    ∃ R, NFA.option nat A = .ok R ∧ R.validate = .ok () ∧ R.Valid
  nfa_reverse : ∀ {σ α : Type} [DecidableEq σ] [DecidableEq α] (nat : Nat → σ),
    Function.Injective nat → ∀ A : NFA σ α, A.Valid →
    ∃ R, NFA.reverse nat A = .ok R ∧ R.validate = .ok () ∧ R.Valid
  /-- `NFA.from_regex(s, input_symbols=Σ)` for `s` spelling an expression of the grammar. -/
  nfa_from_regex : ∀ {s : List Char} {ts : List (Rx.Tok Char)} {e : Rx.Rx Char},
    Rx.Renders ts s → Rx.G .E e ts → ∀ syms : List Char, (∀ c ∈ syms, Rx.isReserved c = false) →
    (∀ a ∈ e.lits, a ∈ syms) →
    ∃ N, Rx.fromRegex s (some syms) = .ok N ∧ N.validate = .ok ()
  /-- `NFA.from_regex(s)` (default alphabet). -/
  nfa_from_regex_default : ∀ {s : List Char} {ts : List (Rx.Tok Char)} {e : Rx.Rx Char},
    Rx.Renders ts s → Rx.G .E e ts →
    ∃ N, Rx.fromRegex s none = .ok N ∧ N.validate = .ok ()
  /-- `NFA.edit_distance(Σ, ref, k, insertion, deletion, substitution)`. -/
  nfa_edit_distance : ∀ {α : Type} [DecidableEq α] (syms ref : List α) (k : Int)
    (ins del sub : Bool), 0 ≤ k → (ins || del || sub) = true → (∀ c ∈ ref, c ∈ syms) →
    ∃ R, NFA.editDistance syms ref k ins del sub = .ok R ∧ R.validate = .ok ()
  /-- `GNFA.from_dfa(d)`, alphabet of literal characters. -/
  gnfa_from_dfa : ∀ {σ : Type} [DecidableEq σ] (natName : Nat → σ), Function.Injective natName →
    ∀ d : DFA σ Char, d.validate = .ok () → (∀ a ∈ d.syms, IsLit a) →
    ∃ g, fromDFA simpleRxValid natName d = .ok g ∧ g.validateStr simpleRxValid = .ok ()
  /-- `GNFA.from_nfa(n)`. -/
  gnfa_from_nfa : ∀ {σ : Type} [DecidableEq σ] (natName : Nat → σ), Function.Injective natName →
    ∀ n : NFA σ Char, n.validate = .ok () → (∀ kv ∈ n.trans, (akeys kv.2).Nodup) →
    (∀ kv ∈ n.trans, ∀ e ∈ kv.2, e.2.Nodup) → (∀ a ∈ n.syms, IsLit a) →
    ∃ g, fromNFA simpleRxValid natName n = .ok g ∧ g.validateStr simpleRxValid = .ok ()
  dfa_universal_language : ∀ {α : Type} [DecidableEq α] (syms : List α),
    ∃ d, universalLanguage syms = .ok d ∧ d.validate = .ok ()
  dfa_empty_language : ∀ {α : Type} [DecidableEq α] (syms : List α),
    ∃ d, emptyLanguage syms = .ok d ∧ d.validate = .ok ()
  dfa_count_mod : ∀ {α : Type} [DecidableEq α] (syms : List α) (k : Int), 0 < k →
    ∀ (remainders : Option (List Int)) (count : Option (List α)),
    (∀ r ∈ remainders.getD [0], 0 ≤ r ∧ r < k) →
    ∃ d, countMod syms k remainders count = .ok d ∧ d.validate = .ok ()
  dfa_of_length : ∀ {α : Type} [DecidableEq α] (syms : List α) (minLen : Int), 0 ≤ minLen →
    ∀ (maxLen : Option Int) (count : Option (List α)),
    ∃ d, ofLength syms minLen maxLen count = .ok d ∧ d.validate = .ok ()
  dfa_nth_from_start : ∀ {α : Type} [DecidableEq α] (syms : List α) (s : α) (n : Int),
    1 ≤ n → s ∈ syms → ∃ d, nthFromStart syms s n = .ok d ∧ d.validate = .ok ()
  dfa_nth_from_end : ∀ {α : Type} [DecidableEq α] (syms : List α) (s : α) (n : Int),
    1 ≤ n → s ∈ syms → ∃ d, nthFromEnd syms s n = .ok d ∧ d.validate = .ok ()
  dfa_from_subsequence : ∀ {α : Type} [DecidableEq α] (syms p : List α), (∀ c ∈ p, c ∈ syms) →
    ∀ contains : Bool, ∃ d, fromSubsequence syms p contains = .ok d ∧ d.validate = .ok ()
  dfa_from_prefix : ∀ {α : Type} [DecidableEq α] (syms p : List α), (∀ c ∈ p, c ∈ syms) →
    ∀ contains asPartial : Bool,
    ∃ d, fromPrefix syms p contains asPartial = .ok d ∧ d.validate = .ok ()
  dfa_from_substring : ∀ {α : Type} [DecidableEq α] (syms p : List α) (contains sf : Bool),
    ∃ d, fromSubstring syms p contains sf = .ok d ∧ d.validate = .ok ()
  dfa_from_suffix : ∀ {α : Type} [DecidableEq α] (syms p : List α) (contains : Bool),
    ∃ d, fromSuffix syms p contains = .ok d ∧ d.validate = .ok ()
  dfa_from_substrings : ∀ {α : Type} [DecidableEq α] (syms : List α), syms.Nodup →
    ∀ (pats : List (List α)) (contains sf : Bool), (∀ p ∈ pats, ∀ c ∈ p, c ∈ syms) →
    ∃ d, fromSubstrings syms pats contains sf = .ok d ∧ d.validate = .ok ()
  dfa_from_finite_language : ∀ {α : Type} [DecidableEq α] (lt : α → α → Bool),
    FL.StrictTotal lt → ∀ syms : List α, syms.Nodup → ∀ lang : List (List α), lang.Nodup →
    ∀ asPartial : Bool, (∀ w ∈ lang, ∀ c ∈ w, c ∈ syms) →
    ∃ d, fromFiniteLanguage lt syms lang asPartial = .ok d ∧ d.validate = .ok ()

private theorem firstTwo {β : Type} {p q r : β → Prop} (h : ∃ x, p x ∧ q x ∧ r x) :
    ∃ x, p x ∧ q x :=
  h.imp fun _ h => ⟨h.1, h.2.1⟩

private theorem ofBuilds {σ α : Type} [DecidableEq σ] [DecidableEq α] {r : Res (DFA σ α)}
    {syms : List α} {L : List α → Prop} (h : C15.Builds r syms L) :
    ∃ d, r = .ok d ∧ d.validate = .ok () :=
  firstTwo h

private theorem ofC08 {σ α : Type} [DecidableEq σ] [DecidableEq α] {r : Res (NFA σ α)}
    {L : Language α} (h : ∃ R, r = .ok R ∧ R.Valid ∧ C08.Lang R = L) :
    ∃ R, r = .ok R ∧ R.validate = .ok () ∧ R.Valid :=
  h.imp fun _ h => ⟨h.1, h.2.1.validate, h.2.1⟩

/-- **C19 (results are valid).**  Every automaton-valued operation of the library that has a
model returns — for all valid operands, under the hypotheses of the theorem that owns it — an
automaton that passes the `validate` of its class. -/
theorem C19_results_valid : ResultsValid where
  dfa_binop := fun op A B hA hB pA hs => firstTwo (C04.C04_binop_valid op A B hA hB pA hs)
  dfa_binop_any_alphabets := fun op A B hA hB pA R hR => by
    cases hs : A.symsEq B with
    | true =>
      obtain ⟨R', h, v, _⟩ := C04.C04_binop_valid op A B hA hB pA hs
      rw [h] at hR
      cases hR
      exact v
    | false =>
      rw [(C04.C04_mismatch op A B hs (fun _ => 0)).1] at hR
      cases hR
  dfa_binop_renumbered := fun op A B hA hB pA hs =>
    firstTwo (C04.C04_binop_renumbered op A B hA hB pA hs)
  dfa_binop_min := fun op A B pick hA hB pA hs => firstTwo (C04.C04_binop_min op A B pick hA hB pA hs)
  dfa_binop_min_renumbered := fun op A B pick hA hB pA hs =>
    firstTwo (C04.C04_binop_min_renumbered op A B pick hA hB pA hs)
  dfa_to_complete := fun d trap custom hd pd ht => firstTwo (C04.C04_to_complete d hd pd trap custom ht)
  dfa_complement := fun d trap hd pd ht => firstTwo (C04.C04_complement d hd pd trap ht)
  dfa_complement_min := fun d trap pick hd pd ht => firstTwo (C04.C04_complement_min d trap pick hd pd ht)
  dfa_complement_min_renumbered := fun d trap pick hd pd ht =>
    firstTwo (C04.C04_complement_min_renumbered d trap pick hd pd ht)
  dfa_to_partial := fun d hd pd => (C04.C04_to_partial d hd pd).1
  dfa_to_partial_min := fun d pick hd pd => (C04.C04_to_partial_min d pick hd pd).1
  dfa_to_partial_min_renumbered := fun d pick hd pd =>
    renumber_valid (C04.C04_to_partial_min d pick hd pd).1
  dfa_minify := fun d pick hd pd => (C05.C05_valid d hd pd pick).1
  dfa_minify_renumbered := fun d pick hd pd => renumber_valid (C05.C05_valid d hd pd pick).1
  dfa_expr := fun trapOf hfresh pick Sg e hl =>
    (C04.C04_expr_all trapOf hfresh pick Sg e hl).imp fun _ h => ⟨h.1, h.2.valid⟩
  dfa_from_nfa := fun n hv => C07.C07_from_nfa_valid n hv
  dfa_from_nfa_renumbered := fun n hv ps => (C07.C07_from_nfa_renumbered n hv ps).1
  dfa_from_nfa_min := fun n pick hv ps => (C07.C07_from_nfa_min n hv ps pick).1
  dfa_from_nfa_min_renumbered := fun n pick hv ps =>
    renumber_valid (C07.C07_from_nfa_min n hv ps pick).1
  nfa_from_dfa := fun d hv => C07.C07_from_dfa_valid d hv
  nfa_eliminate_lambda := fun n hv ps => C07.C07_elim_valid n hv ps
  nfa_union := fun A B hA hB => ofC08 (C08.C08_union A B hA hB)
  nfa_or := fun A B hA hB => ofC08 (C08.C08_or A B hA hB)
  nfa_concatenate := fun A B hA hB => ofC08 (C08.C08_concatenate A B hA hB)
  nfa_add := fun A B hA hB => ofC08 (C08.C08_add A B hA hB)
  nfa_intersection := fun A B hA hB => ofC08 (C08.C08_intersection A B hA hB)
  nfa_and := fun A B hA hB => ofC08 (C08.C08_and A B hA hB)
  nfa_shuffle_product := fun A B hA hB => ofC08 (C08.C08_shuffle_product A B hA hB)
  nfa_right_quotient := fun A B hA hB => ofC08 (C08.C08_right_quotient A B hA hB)
  nfa_left_quotient := fun A B hA hB => ofC08 (C08.C08_left_quotient A B hA hB)
  nfa_kleene_star := fun nat hnat A hA => ofC08 (C08.C08_kleene_star nat hnat A hA)
  nfa_option := fun nat hnat A hA => ofC08 (C08.C08_option nat hnat A hA)
  nfa_reverse := fun nat hnat A hA => ofC08 (C08.C08_reverse nat hnat A hA)
  nfa_from_regex := fun hr hg syms hres hlits => firstTwo (C10.C10_compile hr hg syms hres hlits)
  nfa_from_regex_default := fun hr hg => firstTwo (C10.C10_compile_default hr hg)
  nfa_edit_distance := fun syms ref k ins del sub hk hflag href =>
    firstTwo (C16.C16_edit_distance syms ref k ins del sub hk hflag href)
  gnfa_from_dfa := fun natName hinj d hv hlit =>
    (C12.C12_from_dfa_total natName hinj d hv hlit).imp fun _ h => ⟨h, (Alphabet.fromDFA_ok h).1⟩
  gnfa_from_nfa := fun natName hinj n hv hkeys htgts hlit =>
    (C12.C12_from_nfa_total natName hinj n hv hkeys htgts hlit).imp fun _ h =>
      ⟨h, (Alphabet.fromNFA_ok h).1⟩
  dfa_universal_language := fun syms => ofBuilds (C15.C15_universal syms).1
  dfa_empty_language := fun syms => ofBuilds (C15.C15_empty syms).1
  dfa_count_mod := fun syms k hk remainders count hrem =>
    ofBuilds (C15.C15_count_mod syms k hk remainders count hrem)
  dfa_of_length := fun syms minLen hmin maxLen count =>
    ofBuilds (C15.C15_of_length syms minLen hmin maxLen count)
  dfa_nth_from_start := fun syms s n hn hs => ofBuilds (C15.C15_nth_from_start syms s n hn hs)
  dfa_nth_from_end := fun syms s n hn hs => ofBuilds (C15.C15_nth_from_end syms s n hn hs)
  dfa_from_subsequence := fun syms p hp contains =>
    ofBuilds (C15.C15_from_subsequence syms p hp contains)
  dfa_from_prefix := fun syms p hp contains asPartial =>
    ofBuilds (C15.C15_from_prefix syms p hp contains asPartial)
  dfa_from_substring := fun syms p contains sf => by
    cases sf with
    | false => exact ofBuilds (C15.C15_from_substring syms p contains)
    | true => exact ofBuilds (C15.C15_from_suffix syms p contains).2
  dfa_from_suffix := fun syms p contains => ofBuilds (C15.C15_from_suffix syms p contains).1
  dfa_from_substrings := fun syms hsyms pats contains sf hover =>
    ofBuilds (C15.C15_from_substrings syms hsyms pats contains sf hover)
  dfa_from_finite_language := fun lt ho syms hsyms lang hnd asPartial hover =>
    ofBuilds (C15.C15_from_finite_language lt ho syms hsyms lang hnd asPartial hover).1

/-- The statement is about concrete runs of the models: the product of the two C04 example DFAs,
minified and renumbered (the default call `exA ^ exB`), passes `validate`. -/
example : (match C04.exA.binopMin .symm C04.exB (fun _ => 0) with
           | .ok M => M.renumber.validate
           | .error e => .error e) = .ok () := by
  obtain ⟨M, h, v⟩ := C19_results_valid.dfa_binop_min_renumbered .symm C04.exA C04.exB (fun _ => 0)
    (by decide) (by decide) ⟨by decide, by decide, by decide, by decide, by decide⟩ (by decide)
  rw [h]
  exact v

/-- … and so does the union of the two C08 example NFAs. -/
example : (match NFA.union C08.exA C08.exB with
           | .ok R => R.validate
           | .error e => .error e) = .ok () := by
  obtain ⟨R, h, v, _⟩ := C19_results_valid.nfa_union C08.exA C08.exB C08.exA_valid C08.exB_valid
  rw [h]
  exact v

end AV.Props.C19
