/-
Props/C09.lean — NFA equality decides language equivalence exactly.

English statement (properties.jsonl C09): "For any two NFAs over the same alphabet, == is
true exactly when they accept the same language and != exactly when they do not, whatever
their sizes, state names, nondeterminism or empty-string transitions.  The answer is
symmetric and is the same as comparing their determinisations."

Model: `NFA.eqImpl` / `eqOp` / `neOp` (Model/NFAEq.lean) = the extended Hopcroft–Karp loop
of `NFA.__eq__` over subset states with a union–find (Model/HK.lean), the `==` / `!=`
expressions with Python's `NotImplemented` protocol.  The union–find's choice of class
representative (networkx: heavier root, ties by set-iteration order) is the parameter
`pick`; every theorem below holds for *every* `pick`.

"Valid" is `validate = .ok ()` (what `NFA.validate` checks); "same alphabet" is
`sameSyms A.syms B.syms = true` (the two symbol lists have the same members); the language
of an NFA is `NFA.accepts` (proved equal to Mathlib's `εNFA.accepts` in Props/C01.lean),
and language equality quantifies over *all* words (symbols outside the alphabet included).
-/
import AutomataVerif.Proofs.NFAEq
import AutomataVerif.Props.C01

namespace AV.Props.C09
open AV AV.NFA AV.Props.C01

variable {σ σ₁ σ₂ α : Type} [DecidableEq σ] [DecidableEq σ₁] [DecidableEq σ₂] [DecidableEq α]

/-- A union–find representative choice for the subset states of a pair of operands. -/
abbrev Pick (σ₁ σ₂ : Type) :=
  HKG.UF (List σ₁ ⊕ List σ₂) → List σ₁ ⊕ List σ₂ → List σ₁ ⊕ List σ₂ → Bool

theorem eqImpl_spec (pick : Pick σ₁ σ₂) (A : AV.NFA σ₁ α) (B : AV.NFA σ₂ α)
    (hA : A.validate = .ok ()) (hB : B.validate = .ok ()) (hs : sameSyms A.syms B.syms = true) :
    ∃ v : Bool, eqImpl pick A B = .val v ∧ (v = true ↔ ∀ w, A.accepts w = B.accepts w) :=
  NFA.eqImpl_spec pick ((NFA.validate_eq_ok A).mp hA) ((NFA.validate_eq_ok B).mp hB) hs

theorem sameSyms_comm (xs ys : List α) : sameSyms xs ys = sameSyms ys xs := by
  unfold sameSyms; exact Bool.and_comm _ _

/-- `A == B` and `A != B` as one answer, in the form `same_answer` takes. -/
theorem ops_spec (pick₁ : Pick σ₁ σ₂) (pick₂ : Pick σ₂ σ₁) (A : AV.NFA σ₁ α) (B : AV.NFA σ₂ α)
    (hA : A.validate = .ok ()) (hB : B.validate = .ok ()) (hs : sameSyms A.syms B.syms = true) :
    ∃ v : Bool, (eqOp pick₁ pick₂ A B, neOp pick₁ pick₂ A B) = (some v, some (!v)) ∧
      (v = true ↔ ∀ w, A.accepts w = B.accepts w) := by
  obtain ⟨v, hv, hiff⟩ := eqImpl_spec pick₁ A B hA hB hs
  exact ⟨v, by simp [eqOp, neOp, hv], hiff⟩

/-- **C09 (==, !=).**  For valid NFAs over a common alphabet the expression `A == B`
evaluates to a Boolean `v` (no `NotImplemented` fallback, no fuel exhaustion), `A != B`
evaluates to `!v`, and `v` is `True` exactly when `A` and `B` accept the same words —
whatever representatives the union–find picks. -/
theorem C09_eq_iff (pick₁ : Pick σ₁ σ₂) (pick₂ : Pick σ₂ σ₁) (A : AV.NFA σ₁ α) (B : AV.NFA σ₂ α)
    (hA : A.validate = .ok ()) (hB : B.validate = .ok ()) (hs : sameSyms A.syms B.syms = true) :
    ∃ v : Bool, eqOp pick₁ pick₂ A B = some v ∧ neOp pick₁ pick₂ A B = some (!v) ∧
      (v = true ↔ ∀ w, A.accepts w = B.accepts w) :=
  let ⟨v, h, hiff⟩ := ops_spec pick₁ pick₂ A B hA hB hs
  ⟨v, (Prod.mk.inj h).1, (Prod.mk.inj h).2, hiff⟩

/-- The same, phrased with Mathlib's textbook ε-NFA semantics: `==` is `True` exactly when
the two `εNFA.accepts` languages are equal. -/
theorem C09_eq_iff_language (pick₁ : Pick σ₁ σ₂) (pick₂ : Pick σ₂ σ₁) (A : AV.NFA σ₁ α)
    (B : AV.NFA σ₂ α) (hA : A.validate = .ok ()) (hB : B.validate = .ok ())
    (hs : sameSyms A.syms B.syms = true) :
    eqOp pick₁ pick₂ A B = some true ↔ (nfaTextbook A).accepts = (nfaTextbook B).accepts := by
  obtain ⟨v, hv, _, hiff⟩ := C09_eq_iff pick₁ pick₂ A B hA hB hs
  rw [hv, Option.some_inj, hiff, Language.ext_iff]
  exact forall_congr' fun w => by
    rw [Bool.eq_iff_iff, C01_nfa_accepts_iff A hA w, C01_nfa_accepts_iff B hB w]

/-- **C09 (symmetry).**  `A == B` and `B == A` evaluate to the same Boolean (for any
representative choices on either side). -/
theorem C09_symm (pick₁ pick₃ : Pick σ₁ σ₂) (pick₂ pick₄ : Pick σ₂ σ₁) (A : AV.NFA σ₁ α)
    (B : AV.NFA σ₂ α) (hA : A.validate = .ok ()) (hB : B.validate = .ok ())
    (hs : sameSyms A.syms B.syms = true) :
    eqOp pick₁ pick₂ A B = eqOp pick₄ pick₃ B A ∧ neOp pick₁ pick₂ A B = neOp pick₄ pick₃ B A :=
  Prod.mk.inj (same_answer (ops_spec pick₁ pick₂ A B hA hB hs)
    ((ops_spec pick₄ pick₃ B A hB hA (by rw [sameSyms_comm]; exact hs)).imp fun _ h =>
      ⟨h.1, h.2.trans (forall_congr' fun _ => eq_comm)⟩))

/-- The verdict does not depend on the union–find's representative choices. -/
theorem C09_pick_irrelevant (pick₁ pick₁' : Pick σ₁ σ₂) (pick₂ pick₂' : Pick σ₂ σ₁)
    (A : AV.NFA σ₁ α) (B : AV.NFA σ₂ α) (hA : A.validate = .ok ()) (hB : B.validate = .ok ())
    (hs : sameSyms A.syms B.syms = true) :
    eqOp pick₁ pick₂ A B = eqOp pick₁' pick₂' A B :=
  (Prod.mk.inj (same_answer (ops_spec pick₁ pick₂ A B hA hB hs)
    (ops_spec pick₁' pick₂' A B hA hB hs))).1

/-- **C09 (determinisations).**  `A == B` is `True` exactly when the subset-construction
DFAs (Mathlib's `εNFA.toNFA.toDFA`) of the two textbook ε-NFAs accept the same language. -/
theorem C09_eq_det (pick₁ : Pick σ₁ σ₂) (pick₂ : Pick σ₂ σ₁) (A : AV.NFA σ₁ α) (B : AV.NFA σ₂ α)
    (hA : A.validate = .ok ()) (hB : B.validate = .ok ()) (hs : sameSyms A.syms B.syms = true) :
    eqOp pick₁ pick₂ A B = some true ↔
      (nfaTextbook A).toNFA.toDFA.accepts = (nfaTextbook B).toNFA.toDFA.accepts := by
  rw [C09_eq_iff_language pick₁ pick₂ A B hA hB hs, _root_.NFA.toDFA_correct,
    _root_.NFA.toDFA_correct, εNFA.toNFA_correct, εNFA.toNFA_correct]

/- The clause "same as comparing their determinisations" in terms of the library's OWN functions
(`A == B` equals `DFA.from_nfa(A) == DFA.from_nfa(B)`, for every option combination) needs the
models of `DFA.from_nfa` (C07) and `DFA.__eq__` (C06): Props/C09b.lean. -/

/-- Outside the property's domain (different alphabets): `__eq__` returns `NotImplemented`
both ways, so `==` is `False` and `!=` is `True` (identity comparison of distinct objects). -/
theorem C09_different_alphabets (pick₁ : Pick σ₁ σ₂) (pick₂ : Pick σ₂ σ₁) (A : AV.NFA σ₁ α)
    (B : AV.NFA σ₂ α) (hs : sameSyms A.syms B.syms = false) :
    eqImpl pick₁ A B = .notImplemented ∧ eqOp pick₁ pick₂ A B = some false ∧
      neOp pick₁ pick₂ A B = some true := by
  have hs' : sameSyms B.syms A.syms = false := by rw [sameSyms_comm]; exact hs
  simp [eqOp, neOp, eqImpl, hs, hs']

/-- The finality test of `__eq__` (which re-closes every member of the subset state) equals
the plain test "some member is final" on every subset state the loop can build: those are
ε-closed subsets of the state set.  (Hence replacing the closure test by plain membership
changes nothing — DESIGN.md Appendix D, mutant m20, is an equivalent mutant.) -/
theorem C09_final_test_reclosing_redundant (n : AV.NFA σ α) (hv : n.validate = .ok ()) (w : List α) :
    n.setFinal (n.subsetCanon (n.runFrom (n.closure n.init) w)) =
      n.anyFinal (n.runFrom (n.closure n.init) w) := by
  have wf := (NFA.validate_eq_ok n).mp hv
  exact setFinal_subsetCanon (goodSet_runFrom wf (goodSet_start wf) w)

/-- `a*` with an ε-cycle and a state without a row … -/
def exA : AV.NFA Nat Nat :=
  { states := [0, 1, 2], syms := [0],
    trans := [(0, [(none, [1])]), (1, [(none, [0]), (some 0, [0])])],
    init := 0, finals := [1] }

/-- … and `a*` as a one-state loop with other state names and an unreachable state. -/
def exB : AV.NFA Nat Nat :=
  { states := [7, 9], syms := [0], trans := [(7, [(some 0, [7])]), (9, [(some 0, [7])])],
    init := 7, finals := [7] }

/-- `a⁺`. -/
def exC : AV.NFA Nat Nat :=
  { states := [0, 1], syms := [0], trans := [(0, [(some 0, [1])]), (1, [(some 0, [1])])],
    init := 0, finals := [1] }

def exPick : Pick Nat Nat := HKG.nxPick fun _ _ => true

example : exA.validate = .ok () ∧ exB.validate = .ok () ∧ exC.validate = .ok () := by decide +kernel
example : sameSyms exA.syms exB.syms = true := by decide +kernel
example : eqOp exPick exPick exA exB = some true ∧ neOp exPick exPick exA exB = some false := by
  decide +kernel
example : eqOp exPick exPick exA exC = some false ∧ eqOp exPick exPick exC exA = some false := by
  decide +kernel
example : exA.accepts [] = true ∧ exC.accepts [] = false := by decide +kernel

end AV.Props.C09
