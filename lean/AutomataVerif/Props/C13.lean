/-
Props/C13.lean — C13: word counting, enumeration, lengths and random sampling match the
language.

English statement (properties.jsonl): for every DFA and length k, the reported number of
accepted words of length k, the list of those words (each once, in sorted order), the minimum
and maximum word length, the cardinality / len of a finite language and iteration over the
language (ordered by length, then lexicographically, every accepted word eventually and
nothing else) all equal what the language itself dictates; infinite or empty languages raise
the documented exceptions where a number is impossible, and iterating an empty language
produces no word.  A random word of length k is always an accepted word of length k, every
such word is equally likely, and asking for a length with no words raises ValueError.

The language of `d` is `{w | d.accepts w = true}` with `accepts` the reader of C01 (proved
there equal to Mathlib's `DFA.accepts`).  "Valid" is `d.validate = .ok ()` (the constructor's
check); `d.IsDict` says that the association lists of the model have unique keys, as Python
dicts do; `d.KeyInj key` says that `key` (the code point, by which Python compares
one-character strings) is injective on the alphabet.  Word order is `lexLt key` = Python's `<`
on strings.  The functions are those a *fresh* object computes; C20 proves that caches never
change them.

Two clauses need care.  (1) "len of a finite language": the method `__len__` is `cardinality()`
(`C13_cardinality`), but the builtin `len(dfa)` converts its result to a `Py_ssize_t`: from 2^63
words on it raises `OverflowError` (`DFA.lenBuiltin`, Model/DFALen.lean).  `C13_len` is the
statement that holds, `C13_len_full_fails` refutes the unrestricted one with a concrete finite
language (open finding `C13:len-overflow-2^63`).  (2) "every such word is equally likely" is a
statement about the OUTPUT of `randomWord`: `C13_random_output_iff` characterises the event
`randomWord k cs = .ok w` and `C13_random_uniform_output` computes its probability, `1/count`,
over the loop's own draw tree (every `randint(0, total-1)` result uniform on its range and
independent of the earlier ones).
-/
import AutomataVerif.Proofs.Query
import AutomataVerif.Proofs.Random
import AutomataVerif.Proofs.MaxLen
import AutomataVerif.Proofs.Iter
import AutomataVerif.Proofs.RandomSel
import AutomataVerif.Proofs.RandomDraw
import AutomataVerif.Proofs.FiniteWords
import AutomataVerif.Model.DFALen
import Mathlib.Order.Bounds.Basic
import Mathlib.Data.Set.Finite.Basic
import Mathlib.Data.List.Basic
import Mathlib.Data.List.Nodup
import Mathlib.Data.Set.Card

namespace AV.Props.C13
open AV AV.DFA

variable {σ α : Type} [DecidableEq σ] [DecidableEq α]

def Lang (d : AV.DFA σ α) : Set (List α) := {w | d.accepts w = true}

/-- `words_of_length(k)` yields exactly the accepted words of length `k`. -/
theorem C13_words_mem (d : AV.DFA σ α) (hv : d.validate = .ok ()) (key : α → Int) (k : Nat)
    (w : List α) : w ∈ d.wordsOfLength key k ↔ w.length = k ∧ w ∈ Lang d := by
  have wf := (DFA.validate_eq_ok d).mp hv
  exact mem_wordLevel wf key k d.init w wf.initOk

/-- The same for the table entry of every state (the DP table the code keeps per level):
`_word_cache[k][q]` = the words of length `k` accepted from `q`. -/
theorem C13_word_table (d : AV.DFA σ α) (hv : d.validate = .ok ()) (key : α → Int) (k : Nat)
    (q : σ) (hq : q ∈ d.states) (w : List α) :
    w ∈ wget (d.wordLevel key k) q ↔ w.length = k ∧ d.acceptsFrom q w = true :=
  mem_wordLevel ((DFA.validate_eq_ok d).mp hv) key k q w hq

/-- The words of the lengths `i, …, i+k-1`, level after level — what `cardinality()` counts and
`__iter__` yields — are the accepted words of these lengths. -/
theorem mem_levels_lang (d : AV.DFA σ α) (hv : d.validate = .ok ()) (key : α → Int) {i k : Nat}
    {w : List α} : w ∈ (List.range' i k).flatMap (d.wordsOfLength key) ↔
      w ∈ Lang d ∧ i ≤ w.length ∧ w.length < i + k := by
  rw [mem_levels_iff]
  constructor
  · rintro ⟨j, h1, h2, hw⟩
    obtain ⟨rfl, hl⟩ := (C13_words_mem d hv key j w).mp hw
    exact ⟨hl, h1, h2⟩
  · rintro ⟨hl, h1, h2⟩
    exact ⟨_, h1, h2, (C13_words_mem d hv key _ w).mpr ⟨rfl, hl⟩⟩

/-- `words_of_length(k)` is strictly increasing in Python's string order: sorted, each word once. -/
theorem C13_words_sorted (d : AV.DFA σ α) (hv : d.validate = .ok ()) (hd : d.IsDict)
    (key : α → Int) (hk : d.KeyInj key) (k : Nat) :
    (d.wordsOfLength key k).Pairwise (lexLt key) :=
  sorted_wordLevel ((DFA.validate_eq_ok d).mp hv) hd key hk k d.init

theorem C13_words_nodup (d : AV.DFA σ α) (hv : d.validate = .ok ()) (hd : d.IsDict)
    (key : α → Int) (hk : d.KeyInj key) (k : Nat) : (d.wordsOfLength key k).Nodup :=
  nodup_wordLevel ((DFA.validate_eq_ok d).mp hv) hd key hk k d.init

/-- `count_words_of_length(k)` is the length of the list `words_of_length(k)`. -/
theorem C13_count (d : AV.DFA σ α) (hd : d.IsDict) (key : α → Int) (k : Nat) :
    d.countWordsOfLength k = (d.wordsOfLength key k).length :=
  cget_countLevel_eq_length hd key k d.init

/-- An ordering key that is injective on the alphabet always exists: the position in the list. -/
def idxKey (d : AV.DFA σ α) : α → Int := fun a => (d.syms.idxOf a : Int)

omit [DecidableEq σ] in
theorem idxKey_inj (d : AV.DFA σ α) : d.KeyInj (idxKey d) := by
  intro a ha b _ h
  have : d.syms.idxOf a = d.syms.idxOf b := by simpa [idxKey] using h
  exact (List.idxOf_inj ha).mp this

/-- `count_words_of_length(k)` is the number of accepted words of length `k` (cardinality of the
set).  The count is computed without sorting, so no key appears in the statement (the proof uses
the position in the alphabet list as an injective key). -/
theorem C13_count_card (d : AV.DFA σ α) (hv : d.validate = .ok ()) (hd : d.IsDict) (k : Nat) :
    Set.ncard {w | w.length = k ∧ w ∈ Lang d} = d.countWordsOfLength k := by
  classical
  have hset : {w | w.length = k ∧ w ∈ Lang d} = ↑(d.wordsOfLength (idxKey d) k).toFinset := by
    ext w
    simp only [Set.mem_ofPred_eq, List.coe_toFinset]
    exact (C13_words_mem d hv (idxKey d) k w).symm
  rw [hset, Set.ncard_coe_finset,
    List.toFinset_card_of_nodup (C13_words_nodup d hv hd (idxKey d) (idxKey_inj d) k),
    C13_count d hd (idxKey d) k]

/-- In particular the count is 0 exactly when no accepted word has length `k`. -/
theorem C13_count_zero_iff (d : AV.DFA σ α) (hv : d.validate = .ok ()) (hd : d.IsDict) (k : Nat) :
    d.countWordsOfLength k = 0 ↔ ∀ w, w.length = k → w ∉ Lang d := by
  have wf := (DFA.validate_eq_ok d).mp hv
  rw [countWordsOfLength_eq_cnt, ← Nat.le_zero, ← Nat.not_lt, cnt_pos_iff wf hd k wf.initOk]
  exact ⟨fun h w hl hw => h ⟨w, hl, hw⟩, fun h ⟨w, hl, hw⟩ => h w hl hw⟩

/-- A random word of length `k` is an accepted word of length `k` (no exception, no
fall-through of the inner loop) whenever such words exist. -/
theorem C13_random_member (d : AV.DFA σ α) (hv : d.validate = .ok ()) (hd : d.IsDict) (k : Nat)
    (cs : List Nat) (hpos : d.countWordsOfLength k ≠ 0) (hin : d.InRange k d.init cs) :
    ∃ w, d.randomWord k cs = .ok w ∧ w.length = k ∧ w ∈ Lang d := by
  have wf := (DFA.validate_eq_ok d).mp hv
  obtain ⟨w, _, _, _, hsel⟩ :=
    RandSel.randomWordLoop_sel wf k d.init cs [] wf.initOk (Nat.pos_of_ne_zero hpos) hin
  exact ⟨w, (RandSel.randomWord_ok_iff_sel wf k cs w hin).mpr hsel,
    RandSel.sel_accepts hd k d.init cs w hsel⟩

set_option linter.unusedSectionVars false in
/-- `random_word(k)` raises `ValueError` when there is no accepted word of length `k`. -/
theorem C13_random_none (d : AV.DFA σ α) (k : Nat) (cs : List Nat)
    (h0 : d.countWordsOfLength k = 0) : d.randomWord k cs = .error (.py .valueError) :=
  randomWord_of_cnt_zero h0 cs

/-- With in-range `randint` results, `random_word(k)` raises `ValueError` iff the language has no
word of length `k`. -/
theorem C13_random_valueError_iff (d : AV.DFA σ α) (hv : d.validate = .ok ()) (hd : d.IsDict)
    (k : Nat) (cs : List Nat) (hin : d.InRange k d.init cs) :
    d.randomWord k cs = .error (.py .valueError) ↔ ∀ w, w.length = k → w ∉ Lang d := by
  rw [← C13_count_zero_iff d hv hd k]
  constructor
  · intro he
    by_cases h0 : d.countWordsOfLength k = 0
    · exact h0
    · obtain ⟨w, hw, _⟩ := C13_random_member d hv hd k cs h0 hin
      rw [hw] at he; cases he
  · exact C13_random_none d k cs

/-- **One step is count-weighted**: the edge `(a, q')` is selected by exactly
`_count_cache[r][q']` of the `total` equally likely outcomes. -/
theorem C13_random_step (d : AV.DFA σ α) (hd : d.IsDict) (r : Nat) (q : σ)
    (hq : q ∈ d.states) (e : α × σ) (he : e ∈ d.row q) : selecting d r q e = d.cnt r e.2 :=
  selecting_eq_cnt hd r hq he

/-- **Uniformity** (step-product form): every accepted word of length `k` has `wordProb` exactly
`1 / count_words_of_length(k)`, the same for all of them.  That `wordProb` is the probability of
the event "`random_word(k)` returns `w`" is `C13_wordProb_eq_output_prob`; the statement about
the output itself is `C13_random_uniform_output`. -/
theorem C13_random_uniform (d : AV.DFA σ α) (hv : d.validate = .ok ()) (hd : d.IsDict)
    (w : List α) (hw : w ∈ Lang d) :
    wordProb d d.init w = 1 / (d.countWordsOfLength w.length : ℚ) :=
  wordProb_eq ((DFA.validate_eq_ok d).mp hv) hd w d.init ((DFA.validate_eq_ok d).mp hv).initOk hw

/-- Non-empty words that are not accepted from `q` (or unreadable) have step product 0. -/
theorem C13_random_zero (d : AV.DFA σ α) (hv : d.validate = .ok ()) (hd : d.IsDict) :
    ∀ (w : List α) (q : σ), q ∈ d.states → d.acceptsFrom q w = false → 0 < w.length →
      wordProb d q w = 0 :=
  wordProb_eq_zero ((DFA.validate_eq_ok d).mp hv) hd

/-- **Output characterisation**: with in-range `randint` results, `random_word(k)` returns `w`
exactly when the results select `w` (`Sel`: the i-th result picks, count-weighted and in row
order, an edge labelled with the i-th symbol of `w`; the walk ends in a final state). -/
theorem C13_random_output_iff (d : AV.DFA σ α) (hv : d.validate = .ok ()) (k : Nat)
    (cs : List Nat) (w : List α) (hin : d.InRange k d.init cs) :
    d.randomWord k cs = .ok w ↔ d.Sel k d.init cs w :=
  RandSel.randomWord_ok_iff_sel ((DFA.validate_eq_ok d).mp hv) k cs w hin

/-- Selecting results are in range, and select an accepted word of length `k`. -/
theorem C13_random_sel_sound (d : AV.DFA σ α) (hv : d.validate = .ok ()) (hd : d.IsDict) (k : Nat)
    (cs : List Nat) (w : List α) (hs : d.Sel k d.init cs w) :
    d.InRange k d.init cs ∧ d.randomWord k cs = .ok w ∧ w.length = k ∧ w ∈ Lang d := by
  have wf := (DFA.validate_eq_ok d).mp hv
  obtain ⟨hl, hacc⟩ := RandSel.sel_accepts hd k d.init cs w hs
  exact ⟨RandSel.sel_inRange wf k d.init cs w wf.initOk hs, RandSel.randomWord_ok_of_sel wf k cs w hs,
    hl, hacc⟩

/-- For an accepted word the step product `wordProb` of `C13_random_uniform` is the probability of
the output event. -/
theorem C13_wordProb_eq_output_prob (d : AV.DFA σ α) (hv : d.validate = .ok ()) (hd : d.IsDict)
    (w : List α) (hw : w ∈ Lang d) :
    wordProb d d.init w = drawProb d w.length d.init (fun cs => d.randomWord w.length cs = .ok w) := by
  rw [drawProb_congr d w.length d.init _ (fun cs => d.Sel w.length d.init cs w)
    (fun cs _ hin => C13_random_output_iff d hv w.length cs w hin)]
  exact (drawProb_sel hd w d.init hw).symm

/-- **Uniformity of the output.**  When every `randint` result is uniform on its range and
independent of the earlier ones, the event "`random_word(k)` returns `w`" has probability exactly
`1 / count_words_of_length(k)` for every accepted word `w` of length `k` — the same for all. -/
theorem C13_random_uniform_output (d : AV.DFA σ α) (hv : d.validate = .ok ()) (hd : d.IsDict)
    (w : List α) (hw : w ∈ Lang d) :
    drawProb d w.length d.init (fun cs => d.randomWord w.length cs = .ok w) =
      1 / (d.countWordsOfLength w.length : ℚ) :=
  (C13_wordProb_eq_output_prob d hv hd w hw).symm.trans (C13_random_uniform d hv hd w hw)

/-- A word that is not an accepted word of length `k` is output by `random_word(k)` with
probability 0. -/
theorem C13_random_output_zero (d : AV.DFA σ α) (hv : d.validate = .ok ()) (hd : d.IsDict)
    (k : Nat) (w : List α) (hw : ¬ (w.length = k ∧ w ∈ Lang d)) :
    drawProb d k d.init (fun cs => d.randomWord k cs = .ok w) = 0 := by
  rw [drawProb_congr d k d.init _ (fun _ => False), drawProb_false]
  intro cs _ hin
  simp only [iff_false]
  intro hrun
  exact hw (RandSel.sel_accepts hd k d.init cs w ((C13_random_output_iff d hv k cs w hin).mp hrun))

/-- The probabilities of all result vectors add up to 1 whenever a word of length `k`
exists (`drawProb` is a probability distribution on the in-range result vectors). -/
theorem C13_random_draw_total (d : AV.DFA σ α) (hv : d.validate = .ok ())
    (k : Nat) (hpos : d.countWordsOfLength k ≠ 0) : drawProb d k d.init (fun _ => True) = 1 := by
  have wf := (DFA.validate_eq_ok d).mp hv
  unfold drawProb
  simp only [if_true]
  exact drawExp_const wf 1 k d.init wf.initOk (Nat.pos_of_ne_zero hpos)

def Lengths (d : AV.DFA σ α) : Set Nat := {n | ∃ w ∈ Lang d, w.length = n}

theorem lang_empty_iff (d : AV.DFA σ α) : Lang d = ∅ ↔ ∀ w : List α, d.accepts w = false :=
  DFA.setOf_true_eq_empty

theorem lang_ne_empty {d : AV.DFA σ α} {w : List α} (hw : w ∈ Lang d) : Lang d ≠ ∅ :=
  fun h => (h ▸ hw : w ∈ (∅ : Set (List α)))

/-- `isempty()` is true exactly when no word is accepted. -/
theorem C13_isempty (d : AV.DFA σ α) (hd : d.IsDict) : d.isEmpty = true ↔ Lang d = ∅ := by
  rw [lang_empty_iff]; exact isEmpty_spec hd

theorem lang_finite_iff_bounded (d : AV.DFA σ α) (hv : d.validate = .ok ()) :
    (Lang d).Finite ↔ ∃ m, ∀ w ∈ Lang d, w.length ≤ m :=
  DFA.finite_iff_bounded fun _ hw => DFA.accepts_over ((DFA.validate_eq_ok d).mp hv) hw

/-- What `minimum_word_length()` and `maximum_word_length()` return together: the language is
empty, or non-empty with words of unbounded length, or non-empty with a longest word.  Every
statement about lengths, cardinality and iteration is a case analysis over these three. -/
inductive Regime (d : AV.DFA σ α) : Prop
  | empty : Lang d = ∅ → d.minimumWordLength = .error (.lib .emptyLanguageException) →
      d.maximumWordLength = .error (.lib .emptyLanguageException) → Regime d
  | unbounded (i : Nat) : d.minimumWordLength = .ok i → d.maximumWordLength = .ok none →
      IsLeast (Lengths d) i → (∀ N, ∃ w ∈ Lang d, N ≤ w.length) → Regime d
  | bounded (i m : Nat) : d.minimumWordLength = .ok i → d.maximumWordLength = .ok (some m) →
      IsLeast (Lengths d) i → IsGreatest (Lengths d) m → Regime d

theorem regime (d : AV.DFA σ α) (hd : d.IsDict) : Regime d := by
  rcases minimumWordLength_spec hd with ⟨i, h0, ⟨w0, hl0, hw0⟩, hmin⟩ | ⟨h0, hall⟩
  · have hleast : IsLeast (Lengths d) i := ⟨⟨w0, hw0, hl0⟩, fun n ⟨w, hw, hl⟩ => hl ▸ hmin w hw⟩
    rcases maximumWordLength_spec hd with ⟨_, hall⟩ | ⟨h1, _, hunb⟩ | ⟨m, h1, ⟨w1, hl1, hw1⟩, hmax⟩
    · rw [hall w0] at hw0; cases hw0
    · exact .unbounded i h0 h1 hleast fun N => (hunb N).imp fun w h => ⟨h.2, h.1⟩
    · exact .bounded i m h0 h1 hleast ⟨⟨w1, hw1, hl1⟩, fun n ⟨w, hw, hl⟩ => hl ▸ hmax w hw⟩
  · rcases maximumWordLength_spec hd with ⟨h1, _⟩ | ⟨_, ⟨w, hw⟩, _⟩ | ⟨_, _, ⟨w, _, hw⟩, _⟩
    · exact .empty ((lang_empty_iff d).mpr hall) h0 h1
    · rw [hall w] at hw; cases hw
    · rw [hall w] at hw; cases hw

theorem infinite_of_unbounded (d : AV.DFA σ α) (hv : d.validate = .ok ())
    (hu : ∀ N, ∃ w ∈ Lang d, N ≤ w.length) : (Lang d).Infinite :=
  (DFA.infinite_iff_unbounded fun _ hw => DFA.accepts_over ((DFA.validate_eq_ok d).mp hv) hw).mpr
    fun N => (hu N).imp fun _ h => ⟨h.2, h.1⟩

theorem finite_of_greatest (d : AV.DFA σ α) (hv : d.validate = .ok ()) {m : Nat}
    (hm : IsGreatest (Lengths d) m) : (Lang d).Finite :=
  (lang_finite_iff_bounded d hv).mpr ⟨m, fun w hw => hm.2 ⟨w, hw, rfl⟩⟩

theorem lengths_nonempty {d : AV.DFA σ α} {i : Nat} (hi : i ∈ Lengths d) : Lang d ≠ ∅ :=
  lang_ne_empty hi.choose_spec.1

/-- `minimum_word_length()` returns the least length of an accepted word, and raises
`EmptyLanguageException` exactly when the language is empty (no other outcome exists). -/
theorem C13_min (d : AV.DFA σ α) (hd : d.IsDict) :
    (∀ m, d.minimumWordLength = .ok m ↔ IsLeast (Lengths d) m) ∧
    (d.minimumWordLength = .error (.lib .emptyLanguageException) ↔ Lang d = ∅) ∧
    (∀ e, d.minimumWordLength = .error e → e = .lib .emptyLanguageException) := by
  rcases regime d hd with ⟨he, h0, _⟩ | ⟨i, h0, _, hi, _⟩ | ⟨i, _, h0, _, hi, _⟩ <;> rw [h0]
  · exact ⟨fun m => ⟨(nomatch ·), fun h => absurd he (lengths_nonempty h.1)⟩,
      ⟨fun _ => he, fun _ => rfl⟩, fun e h => (Except.error.inj h).symm⟩
  all_goals
    exact ⟨fun m => ⟨fun h => Except.ok.inj h ▸ hi, fun h => congrArg _ (hi.unique h)⟩,
      ⟨(nomatch ·), fun h => absurd h (lengths_nonempty hi.1)⟩, fun _ h => nomatch h⟩

/-- `maximum_word_length()` raises `EmptyLanguageException` exactly for the empty language,
returns `None` exactly for infinite languages, and otherwise the greatest length of an accepted
word. -/
theorem C13_max (d : AV.DFA σ α) (hv : d.validate = .ok ()) (hd : d.IsDict) :
    (d.maximumWordLength = .error (.lib .emptyLanguageException) ↔ Lang d = ∅) ∧
    (d.maximumWordLength = .ok none ↔ (Lang d).Infinite) ∧
    (∀ m, d.maximumWordLength = .ok (some m) ↔ IsGreatest (Lengths d) m) ∧
    (∀ e, d.maximumWordLength = .error e → e = .lib .emptyLanguageException) := by
  rcases regime d hd with ⟨he, _, h0⟩ | ⟨i, _, h0, hi, hu⟩ | ⟨i, m0, _, h0, hi, hm⟩ <;> rw [h0]
  · exact ⟨⟨fun _ => he, fun _ => rfl⟩, ⟨(nomatch ·), fun h => absurd (he ▸ Set.finite_empty) h⟩,
      fun m => ⟨(nomatch ·), fun h => absurd he (lengths_nonempty h.1)⟩,
      fun e h => (Except.error.inj h).symm⟩
  · refine ⟨⟨(nomatch ·), fun h => absurd h (lengths_nonempty hi.1)⟩,
      ⟨fun _ => infinite_of_unbounded d hv hu, fun _ => rfl⟩,
      fun m => ⟨(nomatch ·), fun ⟨_, hub⟩ => ?_⟩, fun _ h => nomatch h⟩
    obtain ⟨w, hw, hl⟩ := hu (m + 1)
    exact absurd (hub ⟨w, hw, rfl⟩) (by omega)
  · exact ⟨⟨(nomatch ·), fun h => absurd h (lengths_nonempty hi.1)⟩,
      ⟨(nomatch ·), fun h => absurd (finite_of_greatest d hv hm) h⟩,
      fun m => ⟨fun h => Option.some.inj (Except.ok.inj h) ▸ hm, fun h => by rw [hm.unique h]⟩,
      fun _ h => nomatch h⟩

/-- `isfinite()` never raises and answers whether the language is finite. -/
theorem C13_isfinite (d : AV.DFA σ α) (hv : d.validate = .ok ()) (hd : d.IsDict) :
    ∃ b, d.isFinite = .ok b ∧ (b = true ↔ (Lang d).Finite) := by
  unfold DFA.isFinite
  rcases regime d hd with ⟨he, _, h0⟩ | ⟨i, _, h0, _, hu⟩ | ⟨i, m, _, h0, _, hm⟩ <;> rw [h0]
  · exact ⟨true, rfl, iff_of_true rfl (he ▸ Set.finite_empty)⟩
  · exact ⟨false, rfl, iff_of_false Bool.false_ne_true (infinite_of_unbounded d hv hu)⟩
  · exact ⟨true, rfl, iff_of_true rfl (finite_of_greatest d hv hm)⟩

/-- The order of iteration: by length, then Python's string order. -/
def shortlex (key : α → Int) (u v : List α) : Prop :=
  u.length < v.length ∨ (u.length = v.length ∧ lexLt key u v)

omit [DecidableEq α] in
theorem shortlex_irrefl (key : α → Int) (w : List α) : ¬ shortlex key w w :=
  fun h => h.elim (Nat.lt_irrefl _) fun h => lexLt_irrefl key w h.2

theorem levels_sorted (d : AV.DFA σ α) (hv : d.validate = .ok ()) (hd : d.IsDict) (key : α → Int)
    (hk : d.KeyInj key) (i k : Nat) :
    ((List.range' i k).flatMap (d.wordsOfLength key)).Pairwise (shortlex key) := by
  have len := fun j u (hu : u ∈ d.wordsOfLength key j) => ((C13_words_mem d hv key j u).mp hu).1
  rw [List.pairwise_flatMap]
  refine ⟨fun j _ => (C13_words_sorted d hv hd key hk j).imp_of_mem fun hu hv' huv =>
      Or.inr ⟨by rw [len j _ hu, len j _ hv'], huv⟩,
    (List.pairwise_lt_range' (s := i) (n := k) 1).imp fun hab u hu v hv' => Or.inl ?_⟩
  rw [len _ u hu, len _ v hv']
  exact hab

theorem levels_nodup (d : AV.DFA σ α) (hv : d.validate = .ok ()) (hd : d.IsDict) (key : α → Int)
    (hk : d.KeyInj key) (i k : Nat) :
    ((List.range' i k).flatMap (d.wordsOfLength key)).Nodup :=
  (levels_sorted d hv hd key hk i k).imp fun {a b} h (e : a = b) =>
    shortlex_irrefl key a (by subst e; exact h)

/-- `cardinality()` returns the number of words of a finite language and raises
`InfiniteLanguageException` for an infinite one; the method `__len__` (`d.len`) is the same call.
The builtin `len(dfa)` is `d.lenBuiltin` (the interpreter converts the result of `__len__` to a
`Py_ssize_t`): `C13_len` below. -/
theorem C13_cardinality (d : AV.DFA σ α) (hv : d.validate = .ok ()) (hd : d.IsDict) :
    ((Lang d).Finite → d.cardinality = .ok (Set.ncard (Lang d))) ∧
    ((Lang d).Infinite → d.cardinality = .error (.lib .infiniteLanguageException)) ∧
    d.len = d.cardinality := by
  classical
  refine and_assoc.mp ⟨?_, rfl⟩
  unfold DFA.cardinality
  rcases regime d hd with ⟨he, h0, h1⟩ | ⟨i, h0, h1, _, hu⟩ | ⟨i, m, h0, h1, hi, hm⟩ <;>
    simp only [h0, h1]
  · exact ⟨fun _ => by rw [he, Set.ncard_empty], fun h => absurd (he ▸ Set.finite_empty) h⟩
  · exact ⟨fun h => absurd h (infinite_of_unbounded d hv hu), fun _ => trivial⟩
  · refine ⟨fun _ => congrArg _ ?_, fun h => absurd (finite_of_greatest d hv hm) h⟩
    have hset : Lang d =
        ↑((List.range' i (m + 1 - i)).flatMap (d.wordsOfLength (idxKey d))).toFinset := by
      ext w
      simp only [List.coe_toFinset, Set.mem_ofPred_eq, mem_levels_lang d hv]
      exact ⟨fun hw => ⟨hw, hi.2 ⟨w, hw, rfl⟩, by have := hm.2 ⟨w, hw, rfl⟩; omega⟩, fun h => h.1⟩
    rw [hset, Set.ncard_coe_finset,
      List.toFinset_card_of_nodup (levels_nodup d hv hd _ (idxKey_inj d) _ _), List.length_flatMap]
    exact congrArg _ (List.map_congr_left fun j _ => C13_count d hd (idxKey d) j)

/-- `len(dfa)` returns the number of words of a finite language **when that number is below
2^63** (`sys.maxsize + 1`); from 2^63 on the interpreter raises `OverflowError` although
`__len__` (= `cardinality()`, `C13_cardinality`) returned the right number; an infinite language
raises `InfiniteLanguageException`. -/
theorem C13_len (d : AV.DFA σ α) (hv : d.validate = .ok ()) (hd : d.IsDict) :
    ((Lang d).Finite → Set.ncard (Lang d) < 2 ^ 63 → d.lenBuiltin = .ok (Set.ncard (Lang d))) ∧
    ((Lang d).Finite → 2 ^ 63 ≤ Set.ncard (Lang d) → d.lenBuiltin = .error .overflowError) ∧
    ((Lang d).Infinite → d.lenBuiltin = .error (.exn (.lib .infiniteLanguageException))) := by
  obtain ⟨hfin, hinf, hlen⟩ := C13_cardinality d hv hd
  unfold DFA.lenBuiltin
  rw [hlen]
  refine ⟨fun h hlt => ?_, fun h hge => ?_, fun h => by rw [hinf h]⟩
  · rw [hfin h]
    have : decide (Set.ncard (Lang d) < ssizeLimit) = true := decide_eq_true (by unfold ssizeLimit; exact hlt)
    simp only [toSsize, this]
  · rw [hfin h]
    have : decide (Set.ncard (Lang d) < ssizeLimit) = false := decide_eq_false (by unfold ssizeLimit; omega)
    simp only [toSsize, this]

/-- Iterating an empty language produces no word and ends at once (no exception). -/
theorem C13_iter_empty (d : AV.DFA σ α) (hd : d.IsDict) (key : α → Int) (n : Nat)
    (h : Lang d = ∅) : d.iterRun key n = .ok ([], true) := by
  unfold DFA.iterRun
  rw [(C13_isempty d hd).mpr h]

/-- What the iterator has produced after at most `n` rounds of its loop: never an exception;
the words of the lengths `i, i+1, …, i+k-1` (`i` = minimum word length), level after level,
each level in `words_of_length` order; it is exhausted only when the next length exceeds the
maximum word length `limit` (`None` for words of unbounded length). -/
theorem iterRun_levels (d : AV.DFA σ α) (hd : d.IsDict) (key : α → Int)
    (n : Nat) (hne : Lang d ≠ ∅) :
    ∃ i limit k, k ≤ n ∧
      d.iterRun key n =
        .ok ((List.range' i k).flatMap (d.wordsOfLength key), !iterCond limit (i + k)) ∧
      (k < n → iterCond limit (i + k) = false) ∧
      (∀ w ∈ Lang d, i ≤ w.length ∧ iterCond limit w.length = true) ∧
      (∀ l, limit = some l → IsGreatest (Lengths d) l) ∧
      (limit = none → ∀ N, ∃ w ∈ Lang d, N ≤ w.length) := by
  have he : d.isEmpty = false := Bool.eq_false_iff.mpr fun h => hne ((C13_isempty d hd).mp h)
  have run : ∀ i limit, d.minimumWordLength = .ok i → d.maximumWordLength = .ok limit →
      ∃ k, k ≤ n ∧ d.iterRun key n =
        .ok ((List.range' i k).flatMap (d.wordsOfLength key), !iterCond limit (i + k)) ∧
      (k < n → iterCond limit (i + k) = false) := fun i limit hi hl => by
    obtain ⟨k, hk, h1, h3, h4⟩ := iterLoop_spec d key limit n i
    refine ⟨k, hk, ?_, h4⟩
    unfold DFA.iterRun
    simp only [he, hi, hl]
    rw [← h1, ← h3]
  rcases regime d hd with ⟨he', _, _⟩ | ⟨i, h0, h1, hi, hu⟩ | ⟨i, m, h0, h1, hi, hm⟩
  · exact absurd he' hne
  · obtain ⟨k, hk, hrun, hstop⟩ := run i none h0 h1
    exact ⟨i, none, k, hk, hrun, hstop, fun w hw => ⟨hi.2 ⟨w, hw, rfl⟩, rfl⟩, fun _ h => (nomatch h),
      fun _ => hu⟩
  · obtain ⟨k, hk, hrun, hstop⟩ := run i (some m) h0 h1
    exact ⟨i, some m, k, hk, hrun, hstop,
      fun w hw => ⟨hi.2 ⟨w, hw, rfl⟩, decide_eq_true (hm.2 ⟨w, hw, rfl⟩)⟩,
      fun _ h => Option.some.inj h ▸ hm, (nomatch ·)⟩

/-- **Nothing else, in order, each once**: every word produced by iteration is accepted; the
sequence is strictly increasing in (length, then string order). -/
theorem C13_iter_sound_sorted (d : AV.DFA σ α) (hv : d.validate = .ok ()) (hd : d.IsDict)
    (key : α → Int) (hk : d.KeyInj key) (n : Nat) :
    ∃ ys fin, d.iterRun key n = .ok (ys, fin) ∧ (∀ w ∈ ys, w ∈ Lang d) ∧
      ys.Pairwise (shortlex key) := by
  by_cases hne : Lang d = ∅
  · exact ⟨[], true, C13_iter_empty d hd key n hne, by simp, List.Pairwise.nil⟩
  · obtain ⟨i, limit, k, _, hrun, _⟩ := iterRun_levels d hd key n hne
    exact ⟨_, _, hrun, fun w hw => ((mem_levels_lang d hv key).mp hw).1,
      levels_sorted d hv hd key hk i k⟩

/-- **Every accepted word eventually**: an accepted word `w` has been produced after at most
`|w| + 1` rounds of the loop. -/
theorem C13_iter_complete (d : AV.DFA σ α) (hv : d.validate = .ok ()) (hd : d.IsDict)
    (key : α → Int) (w : List α) (hw : w ∈ Lang d) (n : Nat) (hn : w.length < n) :
    ∃ ys fin, d.iterRun key n = .ok (ys, fin) ∧ w ∈ ys := by
  obtain ⟨i, limit, k, hk, hrun, hstop, hin, _, _⟩ := iterRun_levels d hd key n (lang_ne_empty hw)
  refine ⟨_, _, hrun, (mem_levels_lang d hv key).mpr ⟨hw, (hin w hw).1, ?_⟩⟩
  -- the loop condition holds at |w|, so the loop cannot have stopped before it
  rcases Nat.lt_or_ge k n with hlt | hge
  · refine Nat.lt_of_not_le fun h => ?_
    rw [iterCond_mono (hin w hw).2 h] at hstop
    cases hstop hlt
  · omega

/-- For a finite language the iterator is exhausted after finitely many rounds, having produced
exactly the language; for an infinite language it is never exhausted. -/
theorem C13_iter_exhaustion (d : AV.DFA σ α) (hv : d.validate = .ok ()) (hd : d.IsDict)
    (key : α → Int) :
    ((Lang d).Finite → ∃ n ys, d.iterRun key n = .ok (ys, true) ∧ ∀ w, w ∈ ys ↔ w ∈ Lang d) ∧
    ((Lang d).Infinite → ∀ n ys fin, d.iterRun key n = .ok (ys, fin) → fin = false) := by
  constructor
  · intro hfin
    by_cases hne : Lang d = ∅
    · exact ⟨0, [], C13_iter_empty d hd key 0 hne, by simp [hne]⟩
    · obtain ⟨m, hm⟩ := (lang_finite_iff_bounded d hv).mp hfin
      obtain ⟨i, limit, k, hk, hrun, hstop, hin, hsome, hnone⟩ := iterRun_levels d hd key (m + 2) hne
      obtain ⟨l, rfl⟩ : ∃ l, limit = some l := by
        cases limit with
        | none => exact absurd hfin (infinite_of_unbounded d hv (hnone rfl))
        | some l => exact ⟨l, rfl⟩
      have hlm : l ≤ m := by
        obtain ⟨w, hw, hwl⟩ := (hsome l rfl).1
        exact hwl ▸ hm w hw
      have hdone : iterCond (some l) (i + k) = false := by
        rcases Nat.lt_or_ge k (m + 2) with hlt | hge
        · exact hstop hlt
        · simp only [iterCond, decide_eq_false_iff_not]; omega
      refine ⟨m + 2, _, by rw [hrun, hdone]; rfl, fun w => ⟨fun hw => ?_, fun hw => ?_⟩⟩
      · exact ((mem_levels_lang d hv key).mp hw).1
      · obtain ⟨ys, fin, hrun', hmem⟩ := C13_iter_complete d hv hd key w hw (m + 2) (by have := hm w hw; omega)
        rw [hrun] at hrun'
        cases hrun'
        exact hmem
  · intro hinf n ys fin hrun
    have hne : Lang d ≠ ∅ := fun h => hinf (h ▸ Set.finite_empty)
    obtain ⟨i, limit, k, hk, hrun', _, _, hsome, _⟩ := iterRun_levels d hd key n hne
    rw [hrun'] at hrun
    cases limit with
    | some l => exact absurd (finite_of_greatest d hv (hsome l rfl)) hinf
    | none => cases hrun; rfl

/-- `0*1⁺` over symbols 0,1 (state 2 is a trap): a complete DFA with an infinite language. -/
def exD : AV.DFA Nat Int :=
  { states := [0, 1, 2], syms := [0, 1],
    trans := [(0, [(0, 0), (1, 1)]), (1, [(0, 2), (1, 1)]), (2, [(0, 2), (1, 2)])],
    init := 0, finals := [1], allowPartial := false }

/-- `{ε, 0, 01, 1, 10, 11}`-like finite language, partial table. -/
def exF : AV.DFA Nat Int :=
  { states := [0, 1, 2, 3], syms := [0, 1],
    trans := [(0, [(1, 2), (0, 1)]), (1, [(1, 3)]), (2, [(0, 3), (1, 3)]), (3, [])],
    init := 0, finals := [0, 1, 2, 3], allowPartial := true }

example : exD.validate = .ok () := by decide +kernel
example : exF.validate = .ok () := by decide +kernel
example : exD.IsDict := ⟨by decide +kernel, by decide +kernel⟩
example : exF.IsDict := ⟨by decide +kernel, by decide +kernel⟩
example : exD.KeyInj id := by unfold DFA.KeyInj; decide +kernel
example : exD.wordsOfLength id 3 = [[0, 0, 1], [0, 1, 1], [1, 1, 1]] ∧ exD.countWordsOfLength 3 = 3 := by
  decide +kernel
example : exF.wordsOfLength id 2 = [[0, 1], [1, 0], [1, 1]] ∧ exF.countWordsOfLength 2 = 3 ∧
    exF.countWordsOfLength 3 = 0 := by decide +kernel

example : exD.minimumWordLength = .ok 1 ∧ exD.maximumWordLength = .ok none ∧ exD.isFinite = .ok false ∧
    exD.cardinality = .error (.lib .infiniteLanguageException) := by decide +kernel
example : exF.minimumWordLength = .ok 0 ∧ exF.maximumWordLength = .ok (some 2) ∧ exF.isFinite = .ok true ∧
    exF.cardinality = .ok 6 := by decide +kernel
example : exF.iterRun id 5 = .ok ([[], [0], [1], [0, 1], [1, 0], [1, 1]], true) := by decide +kernel
example : exD.iterRun id 3 = .ok ([[1], [0, 1], [1, 1], [0, 0, 1], [0, 1, 1], [1, 1, 1]], false) := by decide +kernel
example : exD.InRange 2 exD.init [1, 0] := by decide +kernel
example : exD.randomWord 2 [1, 0] = .ok [1, 1] ∧ exD.randomWord 2 [0, 0] = .ok [0, 1] := by decide +kernel
example : exF.randomWord 3 [] = .error (.py .valueError) := by decide +kernel

/-- The full claim of the English statement for `len`: every finite language has its number of
words as `len`.  It is FALSE for the code as it stands (finding `C13:len-overflow-2^63`): see
`C13_len_full_fails`; `C13_len` is the statement that holds. -/
def C13_len_full : Prop :=
  ∀ d : AV.DFA Nat Nat, d.validate = .ok () → d.IsDict → (Lang d).Finite →
    d.lenBuiltin = .ok (Set.ncard (Lang d))

/-- `DFA.of_length(set('abcdefgh'), min_length=0, max_length=21)`: states 0..22 (22 is the
trap), all of 0..21 final: the (8^22 - 1)/7 = 10540996613548315209 ≥ 2^63 words of length ≤ 21
over 8 symbols.  (The two-symbol instance of the finding, `of_length({'a','b'}, min_length=0,
max_length=64)` with 2^65 - 1 words, is the one the harness replays.) -/
def exBig : AV.DFA Nat Nat :=
  { states := List.range 23, syms := List.range 8,
    trans := (List.range 22).map (fun i => (i, (List.range 8).map fun a => (a, i + 1))) ++
      [(22, (List.range 8).map fun a => (a, 22))],
    init := 0, finals := List.range 22, allowPartial := false }

/-- The table: a row for each state, an entry for each symbol in each row; every edge goes one
state up or into the trap 22. -/
theorem exBig_keys : akeys exBig.trans = List.range 23 ∧ ∀ kv ∈ exBig.trans, akeys kv.2 = List.range 8 :=
  ⟨by decide +kernel, by decide +kernel⟩

theorem exBig_edge : ∀ kv ∈ exBig.trans, ∀ e ∈ kv.2, (kv.1 < e.2 ∨ 22 ≤ e.2) ∧ e.2 < 23 := by
  decide +kernel

theorem exBig_dict : exBig.IsDict :=
  ⟨exBig_keys.1 ▸ List.nodup_range, fun kv hkv => exBig_keys.2 kv hkv ▸ List.nodup_range⟩

theorem exBig_valid : exBig.validate = .ok () :=
  (DFA.validate_eq_ok _).mpr
    { rows := fun q hq => by rw [exBig_keys.1]; exact hq
      complete := fun _ kv hkv a ha => by rw [exBig_keys.2 kv hkv]; exact ha
      symsOk := fun kv hkv a ha => by rw [exBig_keys.2 kv hkv] at ha; exact ha
      tgtOk := fun kv hkv q hq => by
        obtain ⟨e, he, rfl⟩ := List.mem_map.mp hq
        exact List.mem_range.mpr (exBig_edge kv hkv e he).2
      initOk := List.mem_range.mpr (by decide)
      finalsOk := fun q hq => List.mem_range.mpr (Nat.lt_succ_of_lt (List.mem_range.mp hq)) }

theorem exBig_bound : ∀ (w : List Nat) (i : Nat), exBig.acceptsFrom i w = true → i + w.length ≤ 21
  | [], i, h => Nat.le_of_lt_succ (List.mem_range.mp ((acceptsFrom_nil _ i).mp h))
  | a :: w, i, h => by
    obtain ⟨j, hs, h'⟩ := (acceptsFrom_cons _ i a w).mp h
    have hm : (a, j) ∈ exBig.row i := alookup_some_mem hs
    have := (exBig_edge _ (row_mem_trans hm) _ hm).1
    have := exBig_bound w j h'
    rw [List.length_cons]
    omega

theorem exBig_finite : (Lang exBig).Finite :=
  (lang_finite_iff_bounded exBig exBig_valid).mpr
    ⟨21, fun w hw => by have := exBig_bound w 0 hw; omega⟩

theorem exBig_len : exBig.lenBuiltin = .error .overflowError := by
  refine (C13_len exBig exBig_valid exBig_dict).2.1 exBig_finite ?_
  -- the words of length 21 alone are 8^21 = 2^63
  have h21 : exBig.countWordsOfLength 21 = 2 ^ 63 := by decide +kernel
  rw [← h21, ← C13_count_card exBig exBig_valid exBig_dict 21]
  exact Set.ncard_le_ncard (fun w hw => hw.2) exBig_finite

/-- The unrestricted claim about `len` fails: a finite language with at least 2^63 words. -/
theorem C13_len_full_fails : ¬ C13_len_full := by
  intro h
  have := h exBig exBig_valid exBig_dict exBig_finite
  rw [exBig_len] at this
  cases this

example : exF.lenBuiltin = .ok 6 ∧ exD.lenBuiltin = .error (.exn (.lib .infiniteLanguageException)) := by
  decide +kernel

/-- `{00, 01, 10}` as a partial DFA: from the initial state the edge `0` carries two words, the
edge `1` one. -/
def exU : AV.DFA Nat Nat :=
  { states := [0, 1, 2, 3], syms := [0, 1],
    trans := [(0, [(0, 1), (1, 2)]), (1, [(0, 3), (1, 3)]), (2, [(0, 3)]), (3, [])],
    init := 0, finals := [3], allowPartial := true }

example : exU.validate = .ok () := by decide +kernel
example : exU.Sel 2 0 [1, 0] [0, 0] := ⟨0, 1, [0], rfl, by decide +kernel, 0, 3, [], rfl, by decide +kernel, rfl, by decide +kernel⟩

/-- All three words have probability 1/3 … -/
example : drawProb exU 2 0 (fun cs => exU.randomWord 2 cs = .ok [0, 0]) = 1 / 3 ∧
    drawProb exU 2 0 (fun cs => exU.randomWord 2 cs = .ok [1, 0]) = 1 / 3 := by
  have h := fun w hw => C13_random_uniform_output exU (by decide +kernel) ⟨by decide +kernel, by decide +kernel⟩ w hw
  have hc : exU.countWordsOfLength 2 = 3 := by decide +kernel
  refine ⟨?_, ?_⟩
  · have := h [0, 0] (show exU.accepts [0, 0] = true by decide +kernel)
    simp only [List.length_cons, List.length_nil, Nat.zero_add, Nat.reduceAdd, hc] at this
    exact_mod_cast this
  · have := h [1, 0] (show exU.accepts [1, 0] = true by decide +kernel)
    simp only [List.length_cons, List.length_nil, Nat.zero_add, Nat.reduceAdd, hc] at this
    exact_mod_cast this

/-- The NUMBER of in-range result vectors that produce a word is not the same for all words
of `exU` (`[0,0]` ← `[0,0]`, `[1,0]`; `[1,0]` ← `[2,0]` only): the vectors are not equally
likely (the range of the second `randint` depends on the first result), which is why
`C13_random_uniform_output` weights every vector by the product of `1/total` along its run
instead of counting vectors. -/
example :
    let vecs := (List.range 3).flatMap fun a => (List.range 3).map fun b => [a, b]
    (vecs.filter fun cs => decide (exU.InRange 2 0 cs) && decide (exU.randomWord 2 cs = .ok [0, 0])) =
        [[0, 0], [1, 0]] ∧
    (vecs.filter fun cs => decide (exU.InRange 2 0 cs) && decide (exU.randomWord 2 cs = .ok [1, 0])) =
        [[2, 0]] := by decide +kernel

end AV.Props.C13
