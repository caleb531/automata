/-
Props/C16.lean — the edit-distance NFA accepts exactly the strings within the allowed
number of edits.

English statement (properties.jsonl C16): "For every alphabet, reference string, distance
bound k and every enabled subset of {insertion, deletion, substitution}, the constructed NFA
accepts a string exactly when it can be obtained from the reference string by at most k edits
of the enabled kinds.  A negative bound or no enabled edit kind is refused with ValueError."

Model: `NFA.editDistance` (Model/NFAEdit.lean) mirrors `NFA.edit_distance`: the two argument
checks, the `(position, errors)` grid states, the two loops with `add_transition` /
`add_any_transition`, the constructor's validation.

Specification, independent of the code: `AV.Edit.Edits ins del sub ref w n`
(Proofs/EpsOpsD.lean) — an alignment of `ref` and `w` with exactly `n` unit-cost edits of the
enabled kinds (matched symbols are free; substitution, deletion of a reference symbol,
insertion of a symbol cost 1 each).  "At most k edits" is `∃ n ≤ k, Edits … n`.

The OPERATIONAL reading of the English — a chain of at most `k` single edits, each one
insertion, deletion or substitution of one symbol at an arbitrary position (`Step1`, `Steps`,
`StepsLe`, Proofs/EditSteps.lean) — is proved equivalent to the alignment reading for every
set of enabled kinds (`C16_alignment_iff_operational`), and the main theorem is restated with
it (`C16_edit_distance_operational`).

Domain: the reference string is over the alphabet; otherwise the constructor refuses the
automaton with `InvalidSymbolError` (a transition on a symbol outside `input_symbols`):
`C16_ref_outside_alphabet`.  `k : ℤ` as in Python.
-/
import AutomataVerif.Proofs.EditSteps
import AutomataVerif.Proofs.NFAEditSpec
import AutomataVerif.Proofs.NFAEditRefuse
-- for the audit of C16 only: `Edit.accepts_edit`, the grid theorem stated on Mathlib's `εNFA`
import AutomataVerif.Proofs.EpsOpsA

namespace AV.Props.C16
open AV AV.NFA AV.Edit

variable {α : Type} [DecidableEq α]

/-- The root theorem: totality, validity and the language in the alignment reading with `k.toNat`;
the other language theorems restate its last clause. -/
theorem C16_language (syms ref : List α) (k : Int) (ins del sub : Bool) (hk : 0 ≤ k)
    (hflag : (ins || del || sub) = true) (href : ∀ c ∈ ref, c ∈ syms) :
    ∃ R : AV.NFA (Nat × Nat) α, editDistance syms ref k ins del sub = .ok R ∧
      R.validate = .ok () ∧
      ∀ w : List α, R.accepts w = true ↔
        (∀ c ∈ w, c ∈ syms) ∧ ∃ n, n ≤ k.toNat ∧ Edits ins del sub ref w n := by
  obtain ⟨R, hR, hval, hinit, _, hsome, hnone, hfin⟩ :=
    editDistance_spec syms ref k ins del sub hk hflag href
  refine ⟨R, hR, hval, fun w => ?_⟩
  exact (accepts_iff_acc R w).trans
    (hinit ▸ acc_edit (step := R.rel) (· ∈ syms) ref k.toNat ins del sub href hsome hnone hfin w)

/-- **C16 (language).**  For every alphabet `syms`, reference string `ref` over it, bound
`k ≥ 0` and every non-empty set of enabled edit kinds, `edit_distance` returns a valid NFA
`R`, and `R` accepts a word `w` exactly when `w` is over the alphabet and is obtained from
`ref` by at most `k` edits of the enabled kinds. -/
theorem C16_edit_distance (syms ref : List α) (k : Int) (ins del sub : Bool) (hk : 0 ≤ k)
    (hflag : (ins || del || sub) = true) (href : ∀ c ∈ ref, c ∈ syms) :
    ∃ R : AV.NFA (Nat × Nat) α, editDistance syms ref k ins del sub = .ok R ∧
      R.validate = .ok () ∧
      ∀ w : List α, R.accepts w = true ↔
        (∀ c ∈ w, c ∈ syms) ∧ ∃ n : Nat, (n : Int) ≤ k ∧ Edits ins del sub ref w n := by
  obtain ⟨R, hR, hval, h⟩ := C16_language syms ref k ins del sub hk hflag href
  exact ⟨R, hR, hval, fun w => (h w).trans <| and_congr_right fun _ => exists_congr fun _ =>
    and_congr_left fun _ => Int.le_toNat hk⟩

set_option linter.unusedSectionVars false in
/-- **"At most k edits", alignment = operation sequence.**  For all strings, every bound and
every set of enabled edit kinds: an alignment of `r` and `w` with at most `k` unit-cost edits
exists iff `w` is reached from `r` by a chain of at most `k` single edits, each inserting,
deleting or replacing one symbol at an arbitrary position of the current string and writing
only symbols of the alphabet `syms` (`w` itself being over `syms`). -/
theorem C16_alignment_iff_operational (syms : List α) (ins del sub : Bool) (k : Nat) (r w : List α)
    (hw : ∀ c ∈ w, c ∈ syms) :
    (∃ n, n ≤ k ∧ Edits ins del sub r w n) ↔ StepsLe (· ∈ syms) ins del sub k r w :=
  edits_le_iff_stepsLe (· ∈ syms) ins del sub k r w hw

omit [DecidableEq α] in
/-- … and allowing the chain to write arbitrary symbols (passing through strings outside the
alphabet) reaches no further word over the alphabet. -/
theorem C16_operational_any_symbols (syms : List α) (ins del sub : Bool) (k : Nat) (r w : List α)
    (hw : ∀ c ∈ w, c ∈ syms) :
    StepsLe (fun _ => True) ins del sub k r w ↔ StepsLe (· ∈ syms) ins del sub k r w :=
  stepsLe_restrict (· ∈ syms) ins del sub k r w hw

/-- **C16 (language), operational reading.**  For every alphabet `syms`, reference string
`ref` over it, bound `k ≥ 0` and every non-empty set of enabled edit kinds, `edit_distance`
returns a valid NFA `R`, and `R` accepts `w` exactly when `w` is over the alphabet and is
obtained from `ref` by a sequence of at most `k` single edits of the enabled kinds (one
symbol inserted, deleted or replaced at any position per edit). -/
theorem C16_edit_distance_operational (syms ref : List α) (k : Int) (ins del sub : Bool)
    (hk : 0 ≤ k) (hflag : (ins || del || sub) = true) (href : ∀ c ∈ ref, c ∈ syms) :
    ∃ R : AV.NFA (Nat × Nat) α, editDistance syms ref k ins del sub = .ok R ∧
      R.validate = .ok () ∧
      ∀ w : List α, R.accepts w = true ↔
        (∀ c ∈ w, c ∈ syms) ∧ StepsLe (· ∈ syms) ins del sub k.toNat ref w := by
  obtain ⟨R, hR, hval, h⟩ := C16_language syms ref k ins del sub hk hflag href
  exact ⟨R, hR, hval, fun w => (h w).trans <| and_congr_right fun hw =>
    C16_alignment_iff_operational syms ins del sub k.toNat ref w hw⟩

/-- The same with unrestricted intermediate strings. -/
theorem C16_edit_distance_operational_any (syms ref : List α) (k : Int) (ins del sub : Bool)
    (hk : 0 ≤ k) (hflag : (ins || del || sub) = true) (href : ∀ c ∈ ref, c ∈ syms) :
    ∃ R : AV.NFA (Nat × Nat) α, editDistance syms ref k ins del sub = .ok R ∧
      R.validate = .ok () ∧
      ∀ w : List α, R.accepts w = true ↔
        (∀ c ∈ w, c ∈ syms) ∧ StepsLe (fun _ => True) ins del sub k.toNat ref w := by
  obtain ⟨R, hR, hval, h⟩ := C16_language syms ref k ins del sub hk hflag href
  exact ⟨R, hR, hval, fun w => (h w).trans <| and_congr_right fun _ =>
    edits_le_iff_stepsLe_any ins del sub k.toNat ref w⟩

/-- **C16 (reference string outside the alphabet).**  The language clause above speaks
about reference strings over the alphabet.  For every other reference string (with an
admissible bound and at least one enabled kind) no automaton is returned: the constructor
call at the end of `edit_distance` raises `InvalidSymbolError` — the grid's matching
transition on the foreign symbol is the first thing `validate` meets (every target is a grid
state, so no `InvalidStateError` comes first). -/
theorem C16_ref_outside_alphabet (syms ref : List α) (k : Int) (ins del sub : Bool) (hk : 0 ≤ k)
    (hflag : (ins || del || sub) = true) (hbad : ∃ c ∈ ref, c ∉ syms) :
    editDistance syms ref k ins del sub = .error (.lib .invalidSymbolError) :=
  EditRefuse.editDistance_ref_outside syms ref k ins del sub hk hflag hbad

/-- **C16 (refused arguments).**  A negative bound is refused with `ValueError`. -/
theorem C16_negative_bound (syms ref : List α) (k : Int) (ins del sub : Bool) (hk : k < 0) :
    editDistance syms ref k ins del sub = .error (.py .valueError) := by
  rw [editDistance, if_pos hk]

/-- **C16 (refused arguments).**  A call with no enabled edit kind is refused with `ValueError`,
whatever the bound. -/
theorem C16_no_edit_kind (syms ref : List α) (k : Int) :
    editDistance syms ref k false false false = .error (.py .valueError) := by
  unfold editDistance
  split <;> rfl

omit [DecidableEq α] in
/-- Sanity of the specification: zero edits means equality. -/
theorem Edits_zero_iff (ins del sub : Bool) (r w : List α) : Edits ins del sub r w 0 ↔ r = w := by
  constructor
  · intro h
    generalize hn : 0 = n at h
    induction h with
    | nil => rfl
    | keep a _ ih => rw [ih hn]
    | subst | delete | insert => cases hn
  · rintro rfl
    exact EditSteps.edits_refl r

/-- With `k = 0` the automaton accepts exactly the reference string. -/
theorem C16_zero_bound (syms ref : List α) (ins del sub : Bool)
    (hflag : (ins || del || sub) = true) (href : ∀ c ∈ ref, c ∈ syms) :
    ∃ R : AV.NFA (Nat × Nat) α, editDistance syms ref 0 ins del sub = .ok R ∧
      ∀ w : List α, R.accepts w = true ↔ w = ref := by
  obtain ⟨R, hR, _, h⟩ := C16_language syms ref 0 ins del sub (Int.le_refl 0) hflag href
  refine ⟨R, hR, fun w => (h w).trans ⟨?_, ?_⟩⟩
  · rintro ⟨_, n, hn, he⟩
    obtain rfl := Nat.le_zero.mp hn
    exact ((Edits_zero_iff ins del sub ref w).mp he).symm
  · rintro rfl
    exact ⟨href, 0, Nat.le_refl 0, EditSteps.edits_refl w⟩

/-- Levenshtein automaton for `ab` over `{a, b}` (`a = 0`, `b = 1`) with `k = 1`. -/
def exLev : Res (AV.NFA (Nat × Nat) Nat) := editDistance [0, 1] [0, 1] 1 true true true

example : (match exLev with
    | .ok R => R.accepts [0, 1] && R.accepts [0] && R.accepts [1, 1] && R.accepts [0, 1, 1] &&
        !R.accepts [] && !R.accepts [1, 0] && !R.accepts [0, 7]
    | .error _ => false) = true := by decide +kernel

/-- Hamming distance (substitutions only): `aa` is within 1 of `ab`, `a` is not. -/
example : (match editDistance [0, 1] [0, 1] 1 false false true with
    | .ok R => R.accepts [0, 0] && !R.accepts [0]
    | .error _ => false) = true := by decide +kernel

/-- The reference string `ac` is not over `{a, b}`. -/
example : (match editDistance [0, 1] [0, 2] 1 true true true with
    | .error (.lib .invalidSymbolError) => true
    | _ => false) = true := by decide +kernel
example : editDistance [0, 1] [0, 2] 1 true true true = .error (.lib .invalidSymbolError) :=
  C16_ref_outside_alphabet _ _ _ _ _ _ (by decide) rfl ⟨2, by decide, by decide⟩

/-- `ab → b → bb`: two single edits (a deletion at position 0, an insertion at the end). -/
example : StepsLe (· ∈ [0, 1]) true true false 2 [0, 1] [1, 1] :=
  ⟨2, Nat.le_refl _, Steps.tail (Steps.tail (Steps.refl _) (Step1.delete [] [1] 0 rfl))
    (Step1.insert [1] [] 1 rfl (by decide))⟩

example : Edits true true true [0, 1] [1, 1] 1 := Edits.subst 0 1 rfl (Edits.keep 1 Edits.nil)
example : Edits false true false [0, 1] [1] 1 := Edits.delete 0 rfl (Edits.keep 1 Edits.nil)

end AV.Props.C16
