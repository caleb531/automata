/-
Props/C15.lean — C15: language constructors build exactly the specified language, minimal if
promised.

English statement (properties.jsonl): the DFA constructors for 'has prefix', 'has suffix',
'contains substring', 'contains one of several substrings', 'contains subsequence', 'length
(of counted symbols) in a range', 'count of symbols modulo k', 'n-th symbol from start / from
end', a given finite language, the universal and the empty language accept exactly the strings
satisfying that predicate, and exactly its complement when complementation is requested, in
both partial and complete form.  Where the documentation promises the minimal DFA, no
equivalent DFA of the same kind has fewer states (for non-empty patterns over alphabets of at
least two symbols).

Reading of the statements below.
* `Builds r syms L`: the constructor call `r` returns (no exception, no fuel exhaustion) a DFA
  `d` that passes `validate`, is over the alphabet `syms`, and accepts exactly the words over
  `syms` that satisfy `L` — acceptance is `DFA.accepts`, which C01 proves equal to Mathlib's
  `DFA.accepts` of the table completed with a sink.  "The complement when complementation is
  requested" is `L w ↔ contains = true` with the flag `contains : Bool`.
* The predicates are the library notions of Lean core: `p <+: w` (prefix), `p <:+ w` (suffix),
  `p <:+: w` (contiguous substring), `List.Sublist p w` (subsequence), `countIn cnt w` (number
  of symbols of `w` in `cnt`), `w[i]?` (symbol at a position).
* Minimality: `MinimalShape d` (no repeated state, every state reachable by a word over the
  alphabet, any two states distinguished by a word over the alphabet; for partial results
  `MinimalPartialShape` adds: every state is live) and its consequence (`C15_minimal_of_shape`,
  `C15_minimal_of_partial_shape` below, by the counting lemmas of `Proofs/Minimal.lean`),
  `MinimalAmongComplete d` / `MinimalAmongAll d`: every valid complete DFA (over an alphabet
  containing that of `d`) / every valid DFA whatsoever with the same language has at least as
  many (live) states.
-/
import AutomataVerif.Proofs.CtorNth
import AutomataVerif.Proofs.CtorPrefix
import AutomataVerif.Proofs.CtorKMPDfa
import AutomataVerif.Proofs.CtorACDfa
import AutomataVerif.Proofs.CtorFLMinimal
import AutomataVerif.Proofs.Minimal
import AutomataVerif.Proofs.CtorErrors

namespace AV.Props.C15
open AV AV.Ctor

variable {α : Type} [DecidableEq α] {σ : Type} [DecidableEq σ]

/-- The constructor call `r` returns a valid DFA over `syms` whose language is
`{w ∈ syms* | L w}`. -/
def Builds (r : Res (DFA σ α)) (syms : List α) (L : List α → Prop) : Prop :=
  ∃ d, r = .ok d ∧ d.validate = .ok () ∧ d.syms = syms ∧
    ∀ w, d.accepts w = true ↔ (Over syms w ∧ L w)

/-- No valid *complete* DFA with the same language, over an alphabet containing that of `d`, has
fewer states. -/
def MinimalAmongComplete (d : DFA σ α) : Prop :=
  ∀ (σ' : Type) [DecidableEq σ'] (d' : DFA σ' α), d'.validate = .ok () → d'.allowPartial = false →
    (∀ a ∈ d.syms, a ∈ d'.syms) → (∀ w, d'.accepts w = d.accepts w) →
    d.states.length ≤ d'.states.length

/-- No valid DFA at all (partial or complete, any alphabet) with the same language has fewer
states — not even fewer *live* states. -/
def MinimalAmongAll (d : DFA σ α) : Prop :=
  ∀ (σ' : Type) [DecidableEq σ'] (d' : DFA σ' α), d'.validate = .ok () →
    (∀ w, d'.accepts w = d.accepts w) →
    d.states.length ≤ d'.liveStates.length ∧ d'.liveStates.length ≤ d'.states.length

/-- **Counting lemma** (`Proofs/Minimal.lean`, shared with C05).  All states reachable and
pairwise distinguishable ⇒ no equivalent complete DFA has fewer states.  The reaching words of
`MinimalShape` are over the alphabet of `d`, hence over the larger one of the rival. -/
theorem _root_.AV.Ctor.MinimalShape.amongComplete {d : DFA σ α} (h : MinimalShape d) :
    MinimalAmongComplete d := by
  intro σ' _ d' hv hc hs hl
  exact DFA.minimal_of_reachable_over d d' h.nodup
    (fun q hq => let ⟨w, hw, hr⟩ := h.reach q hq; ⟨w, fun a ha => hs a (hw a ha), hr⟩)
    h.dist_word ((DFA.validate_eq_ok d').mp hv) hc hl _ fun _ h => h

set_option linter.unusedVariables false in
/-- `MinimalShape.amongComplete`; validity of `d` is not needed. -/
theorem C15_minimal_of_shape (d : DFA σ α) (wf : d.WF) (h : MinimalShape d) : MinimalAmongComplete d :=
  h.amongComplete

/-- All states reachable, pairwise distinguishable and live ⇒ no equivalent DFA, partial or
complete, has fewer (live) states. -/
theorem C15_minimal_of_partial_shape (d : DFA σ α) (h : MinimalPartialShape d) :
    MinimalAmongAll d := by
  intro σ' _ d' hv hl
  exact DFA.minimal_of_reachable_distinguishable_partial d d' h.nodup h.reach_word h.dist_word
    h.live_word ((DFA.validate_eq_ok d').mp hv) hl

private theorem builds_of (syms : List α) {D : DFA σ α} {r : Res (DFA σ α)} (hr : r = build D)
    (wf : D.WF) (hs : D.syms = syms) {L : List α → Prop}
    (hl : ∀ w, D.accepts w = true ↔ (Over syms w ∧ L w)) : Builds r syms L :=
  ⟨D, by rw [hr]; exact build_ok_of_wf wf, (DFA.validate_eq_ok D).mpr wf, hs, hl⟩

/-- A table that steps as `δ` does: validity and language of the constructor call at once. -/
theorem Sim.builds {ι : Type} {syms : List α} {ks : List ι} {name : ι → σ}
    {row : ι → List (α × σ)} {δ : ι → α → ι} (h : Sim syms ks name row δ) {k0 : ι} (hk0 : k0 ∈ ks)
    {fin : List σ} (hfin : ∀ q ∈ fin, ∃ k ∈ ks, q = name k) {ap : Bool} {r : Res (DFA σ α)}
    (hr : r = build (tableDFA syms ks name row k0 fin ap)) {L : List α → Prop}
    (hL : ∀ w, Over syms w → (name (w.foldl δ k0) ∈ fin ↔ L w)) : Builds r syms L :=
  builds_of syms hr (h.wf hk0 hfin ap) rfl fun w =>
    (h.accepts hk0 hfin ap w).trans (and_congr_right (hL w))

theorem Sim.builds_flag {ι : Type} {syms : List α} {ks : List ι} {name : ι → σ}
    {row : ι → List (α × σ)} {δ : ι → α → ι} (h : Sim syms ks name row δ) {k0 top : ι}
    (hk0 : k0 ∈ ks) (htop : top ∈ ks) {c ap : Bool} {r : Res (DFA σ α)}
    (hr : r = build (flagDFA syms ks name row k0 top c ap)) {L : List α → Prop}
    (hL : ∀ w, Over syms w → (w.foldl δ k0 = top ↔ L w)) :
    Builds r syms (fun w => L w ↔ c = true) :=
  Sim.builds h hk0 (flagFinals_tableOf_names htop c) hr fun w hw =>
    (h.mem_flagFinals (h.mem_fold hk0 hw) c).trans (iff_congr (hL w hw) Iff.rfl)

private theorem builds_loop (syms : List α) {z : σ} {b : Bool} {r : Res (DFA σ α)}
    (hr : r = build (loopDFA z syms b)) {L : List α → Prop}
    (hL : ∀ w, Over syms w → (b = true ↔ L w)) : Builds r syms L :=
  Sim.builds (loop_sim z syms) (List.mem_singleton.mpr rfl) (loop_fin z b) hr fun w hw =>
    Iff.trans (by cases b <;> simp) (hL w hw)

private theorem eq_of_build {D d : DFA σ α} {r : Res (DFA σ α)} (hr : r = build D)
    (h : r = .ok d) : d = D := by
  rw [hr] at h; exact (build_ok_iff.mp h).1

private theorem minimal_of_build_len {D : DFA σ α} {r : Res (DFA σ α)} (hr : r = build D)
    (hc : D.allowPartial = false) (h : MinimalShape D) {n : Nat} (hn : D.states.length = n) :
    ∀ d, r = .ok d →
      d.allowPartial = false ∧ d.states.length = n ∧ MinimalShape d ∧ MinimalAmongComplete d := by
  intro d hd
  rw [eq_of_build hr hd]
  exact ⟨hc, hn, h, h.amongComplete⟩

private theorem minimal_of_build {D : DFA σ α} {r : Res (DFA σ α)} (hr : r = build D)
    (hc : D.allowPartial = false) (h : MinimalShape D) :
    ∀ d, r = .ok d → d.allowPartial = false ∧ MinimalShape d ∧ MinimalAmongComplete d :=
  fun d hd => let ⟨a, _, b, c⟩ := minimal_of_build_len hr hc h rfl d hd; ⟨a, b, c⟩

/-- Only the words over the alphabet matter for the predicate. -/
theorem Builds.congr {r : Res (DFA σ α)} {syms : List α} {L L' : List α → Prop}
    (h : Builds r syms L) (hL : ∀ w, Over syms w → (L w ↔ L' w)) : Builds r syms L' :=
  let ⟨d, h1, h2, h3, h4⟩ := h
  ⟨d, h1, h2, h3, fun w => (h4 w).trans (and_congr_right (hL w))⟩

/-- `universal_language(Σ)` is a valid complete one-state DFA accepting exactly `Σ*`; it is
minimal. -/
theorem C15_universal (syms : List α) :
    Builds (universalLanguage syms) syms (fun _ => True) ∧
    ∀ d, universalLanguage syms = .ok d →
      d.allowPartial = false ∧ MinimalShape d ∧ MinimalAmongComplete d :=
  ⟨builds_loop syms rfl fun _ _ => by simp,
    minimal_of_build rfl rfl (loopDFA_minimal 0 syms true)⟩

/-- `empty_language(Σ)` is a valid complete one-state DFA accepting nothing; it is minimal. -/
theorem C15_empty (syms : List α) :
    Builds (emptyLanguage syms) syms (fun _ => False) ∧
    ∀ d, emptyLanguage syms = .ok d →
      d.allowPartial = false ∧ MinimalShape d ∧ MinimalAmongComplete d :=
  ⟨builds_loop syms rfl fun _ _ => by simp,
    minimal_of_build rfl rfl (loopDFA_minimal 0 syms false)⟩

example : Builds (universalLanguage ['a', 'b']) ['a', 'b'] (fun _ => True) := (C15_universal _).1

/-- `count_mod(Σ, k, remainders, symbols_to_count)` with `k > 0` and remainders in `range(k)`:
a valid complete DFA accepting exactly the words over `Σ` whose number of counted symbols is,
modulo `k`, one of the remainders (defaults: `{0}`, all symbols). -/
theorem C15_count_mod (syms : List α) (k : Int) (hk : 0 < k) (remainders : Option (List Int))
    (count : Option (List α)) (hrem : ∀ r ∈ remainders.getD [0], 0 ≤ r ∧ r < k) :
    Builds (countMod syms k remainders count) syms
      (fun w => ((countIn (count.getD syms) w : Int) % k) ∈ remainders.getD [0]) := by
  have hkn : 0 < k.toNat := by omega
  have hfin : ∀ r ∈ remainders.getD [0], 0 ≤ r ∧ r < (k.toNat : Int) := by
    intro r hr; have := hrem r hr; omega
  refine Sim.builds (countMod_sim syms k.toNat _ hkn) (List.mem_range.mpr hkn) (countMod_fin _ hfin)
    (countMod_eq syms k hk remainders count) fun w _ => ?_
  rw [countMod_fold_zero, nat_cast, Int.natCast_emod, Int.toNat_of_nonneg (by omega)]

/-- `count_mod` raises `ValueError` when `k ≤ 0`. -/
theorem C15_count_mod_nonpositive (syms : List α) (k : Int) (hk : k ≤ 0)
    (remainders : Option (List Int)) (count : Option (List α)) :
    countMod syms k remainders count = .error (.py .valueError) := by
  unfold countMod; simp [hk]

example : Builds (countMod ['a', 'b'] 3 (some [1, 2]) (some ['a'])) ['a', 'b']
    (fun w => ((countIn ['a'] w : Int) % 3) ∈ [1, 2]) :=
  C15_count_mod _ 3 (by decide) _ _ (by decide)

/-- `of_length(Σ, min_length, max_length, symbols_to_count)`, general form: a valid complete DFA
accepting exactly the words over `Σ` whose number of counted symbols lies between `min_length`
and `max_length` (no upper bound for `None`) — all parameter values, degenerate ones included
(`min > max`, `max < 0`, nothing counted, negative `min_length` without a maximum), with the one
exception stated by `C15_of_length_negative_min` below (negative `min_length` together with a
non-negative `max_length` and a counted symbol in `Σ`: the code raises). -/
theorem C15_of_length_general (syms : List α) (minLen : Int) (maxLen : Option Int)
    (count : Option (List α))
    (h : 0 ≤ minLen ∨ maxLen = none ∨ (∃ mx, maxLen = some mx ∧ mx < 0) ∨
      (∀ a ∈ syms, a ∉ count.getD syms)) :
    Builds (ofLength syms minLen maxLen count) syms
      (fun w => minLen ≤ countIn (count.getD syms) w ∧
        ∀ mx, maxLen = some mx → (countIn (count.getD syms) w : Int) ≤ mx) := by
  rcases ofLength_cases syms minLen maxLen count with ⟨hdis, e⟩ | ⟨hdis, hemp, e⟩ | ⟨hdis, hemp, e⟩
  · -- first early return: nothing counted, every word has counted length 0
    refine builds_loop syms e fun w hw => ?_
    rw [zeroInRange_iff, countIn_eq_zero_of_disjoint ((isDisjoint_iff syms _).mp hdis) hw]
    simp
  · -- second early return: empty range of lengths
    obtain ⟨mx, rfl, hmx⟩ := (emptyRange_iff _ _).mp hemp
    refine builds_loop syms e fun w _ => ?_
    simp only [Bool.false_eq_true, false_iff, not_and]
    intro h1 h2
    have := h2 mx rfl
    omega
  · have hmin : 0 ≤ minLen ∨ maxLen = none := by
      rcases h with h | h | ⟨m, rfl, hm0⟩ | h
      · exact Or.inl h
      · exact Or.inr h
      · simp only [emptyRange, decide_eq_false_iff_not] at hemp; omega
      · obtain ⟨c, hc, hcc⟩ := (isDisjoint_eq_false_iff syms _).mp hdis
        exact absurd hcc (h c hc)
    exact Sim.builds (ofLength_sim syms _ _) (List.mem_range.mpr (Nat.succ_pos _))
      (ofLength_fin _ (ofLengthFinals_bounds hemp hmin)) e fun w _ => ofLength_fold_range _ hemp w

/-- `of_length` with `min_length ≥ 0` (lengths are naturals): all parameter values, degenerate
ones included (`min > max`, nothing counted). -/
theorem C15_of_length (syms : List α) (minLen : Int) (hmin : 0 ≤ minLen) (maxLen : Option Int)
    (count : Option (List α)) :
    Builds (ofLength syms minLen maxLen count) syms
      (fun w => minLen ≤ countIn (count.getD syms) w ∧
        ∀ mx, maxLen = some mx → (countIn (count.getD syms) w : Int) ≤ mx) :=
  C15_of_length_general syms minLen maxLen count (Or.inl hmin)

/-- `of_length` without a maximum: every `min_length`, negative ones included (the language is
then `Σ*`). -/
theorem C15_of_length_unbounded (syms : List α) (minLen : Int) (count : Option (List α)) :
    Builds (ofLength syms minLen none count) syms
      (fun w => minLen ≤ countIn (count.getD syms) w) :=
  (C15_of_length_general syms minLen none count (Or.inr (Or.inl rfl))).congr fun _ _ =>
    and_iff_left fun _ e => nomatch e

/-- The error outcome of `of_length`: a negative `min_length` with a non-negative `max_length`
and some counted symbol in the alphabet makes `final_states = range(min_length, max_length + 1)`
contain negative numbers, which are not states — the constructor raises `InvalidStateError`
(no DFA, in particular no wrong DFA, is returned).  Together with `C15_of_length_general` this
covers every input. -/
theorem C15_of_length_negative_min (syms : List α) (minLen : Int) (hmin : minLen < 0) (mx : Int)
    (hmx : 0 ≤ mx) (count : Option (List α)) (c : α) (hc : c ∈ syms) (hcc : c ∈ count.getD syms) :
    ofLength syms minLen (some mx) count = .error (.lib .invalidStateError) := by
  have hdis : isDisjoint syms (count.getD syms) = false :=
    (isDisjoint_eq_false_iff syms _).mpr ⟨c, hc, hcc⟩
  have hemp : emptyRange minLen (some mx) = false := by
    rw [← Bool.not_eq_true, emptyRange_iff]
    rintro ⟨m, hm, h⟩
    cases hm; omega
  rw [ofLength_eq syms minLen (some mx) count hdis hemp]
  exact ofLengthDFA_negative_min syms _ minLen hmin mx hmx

/-- Minimality of `of_length` for **all** parameters (the degenerate ones — empty range, nothing
counted — return the one-state automaton, the early returns of commit bcfb456): whenever a DFA is
returned it is complete with all states reachable and pairwise distinguishable, hence no
equivalent complete DFA is smaller. -/
theorem C15_of_length_minimal (syms : List α) (minLen : Int) (maxLen : Option Int)
    (count : Option (List α)) :
    ∀ d, ofLength syms minLen maxLen count = .ok d →
      d.allowPartial = false ∧ MinimalShape d ∧ MinimalAmongComplete d := by
  rcases ofLength_cases syms minLen maxLen count with ⟨_, e⟩ | ⟨_, _, e⟩ | ⟨hdis, hemp, e⟩
  · exact minimal_of_build e rfl (loopDFA_minimal 0 syms _)
  · exact minimal_of_build e rfl (loopDFA_minimal 0 syms false)
  · obtain ⟨c, hc, hcc⟩ := (isDisjoint_eq_false_iff syms _).mp hdis
    exact minimal_of_build e rfl (ofLengthDFA_minimal_range syms _ hemp c hc hcc)

/-- The number of states `of_length` returns: one for the two early returns, otherwise one per
counter value `0 … min` resp. `0 … max + 1`. -/
theorem C15_of_length_size (syms : List α) (minLen : Int) (maxLen : Option Int)
    (count : Option (List α)) :
    ∀ d, ofLength syms minLen maxLen count = .ok d →
      d.states.length =
        if isDisjoint syms (count.getD syms) || emptyRange minLen maxLen then 1
        else match maxLen with
          | none => minLen.toNat + 1
          | some mx => (mx + 1).toNat + 1 := by
  intro d hd
  rcases ofLength_cases syms minLen maxLen count with ⟨hdis, e⟩ | ⟨hdis, hemp, e⟩ | ⟨hdis, hemp, e⟩
  · rw [eq_of_build e hd, hdis]
    rfl
  · rw [eq_of_build e hd, hdis, hemp]
    rfl
  · rw [eq_of_build e hd, hdis, hemp]
    exact length_ladder_states.trans (by cases maxLen <;> rfl)

example : Builds (ofLength ['a', 'b'] 1 (some 2) (some ['a'])) ['a', 'b']
    (fun w => (1 : Int) ≤ countIn ['a'] w ∧ ∀ mx, some (2 : Int) = some mx → (countIn ['a'] w : Int) ≤ mx) :=
  C15_of_length _ 1 (by decide) _ _

example : ofLength ['a', 'b'] (-2) (some 1) (some ['b']) = .error (.lib .invalidStateError) :=
  C15_of_length_negative_min _ _ (by decide) _ (by decide) _ 'b' (by decide) (by decide)

/-- `nth_from_start(Σ, s, n)` with `n ≥ 1`, `s ∈ Σ`: a valid complete DFA accepting exactly the
words over `Σ` whose `n`-th symbol (index `n-1`) is `s` — also over a one-symbol alphabet,
where the code delegates to `of_length`. -/
theorem C15_nth_from_start (syms : List α) (s : α) (n : Int) (hn : 1 ≤ n) (hs : s ∈ syms) :
    Builds (nthFromStart syms s n) syms (fun w => w[n.toNat - 1]? = some s) := by
  by_cases hlen : syms.length = 1
  · rw [nthFromStart_eq_single syms s n hn hs hlen]
    refine (C15_of_length_unbounded syms n none).congr fun w hw => ?_
    rw [Option.getD_none, countIn_all hw, getElem?_single hlen hs hw, ← Int.toNat_le]
    exact ⟨fun h => Nat.lt_of_lt_of_le (Nat.sub_lt (by omega) Nat.one_pos) h, Nat.le_of_pred_lt⟩
  · refine Sim.builds (nthStart_sim syms s _ hs) (List.mem_range.mpr (Nat.succ_pos _))
      (fun _ hq => ⟨_, List.self_mem_range_succ, List.mem_singleton.mp hq⟩)
      (nthFromStart_eq syms s n hn hs hlen) fun w _ => ?_
    rw [List.mem_singleton, nat_inj, nthStart_fold_top s _ w (n.toNat - 1) 0 (by omega)]

/-- `nth_from_end(Σ, s, n)` with `n ≥ 1`, `s ∈ Σ`: a valid complete DFA accepting exactly the
words over `Σ` of length `≥ n` whose `n`-th symbol from the end (index `|w| - n`) is `s`. -/
theorem C15_nth_from_end (syms : List α) (s : α) (n : Int) (hn : 1 ≤ n) (hs : s ∈ syms) :
    Builds (nthFromEnd syms s n) syms
      (fun w => n.toNat ≤ w.length ∧ w[w.length - n.toNat]? = some s) := by
  by_cases hlen : syms.length = 1
  · rw [nthFromEnd_eq_single syms s n hn hs hlen]
    refine (C15_of_length_unbounded syms n none).congr fun w hw => ?_
    rw [Option.getD_none, countIn_all hw, getElem?_single hlen hs hw, ← Int.toNat_le]
    exact ⟨fun h => ⟨h, Nat.sub_lt (Nat.lt_of_lt_of_le (by omega) h) (by omega)⟩, fun h => h.1⟩
  · exact Sim.builds (nthEnd_sim syms s _) (List.mem_range.mpr (Nat.two_pow_pos _)) (nthEnd_fin _)
      (nthFromEnd_eq syms s n hn hs hlen) fun _ => nthEnd_fold_final syms s _ (by omega)

/-- The announced errors of `nth_from_start` / `nth_from_end`: `ValueError` for `n < 1`,
`InvalidSymbolError` for a symbol outside the alphabet. -/
theorem C15_nth_errors (syms : List α) (s : α) (n : Int) :
    (n < 1 → nthFromStart syms s n = .error (.py .valueError) ∧
             nthFromEnd syms s n = .error (.py .valueError)) ∧
    (1 ≤ n → s ∉ syms → nthFromStart syms s n = .error (.lib .invalidSymbolError) ∧
             nthFromEnd syms s n = .error (.lib .invalidSymbolError)) := by
  constructor
  · intro h; unfold nthFromStart nthFromEnd; simp [h]
  · intro h hs
    have : ¬ n < 1 := by omega
    unfold nthFromStart nthFromEnd; simp [this, hs]

/-- Minimality of `nth_from_start` and `nth_from_end` over alphabets with a second symbol
`t ≠ s`: `n + 2` resp. `2ⁿ` states, all reachable and pairwise distinguishable. -/
theorem C15_nth_minimal (syms : List α) (s : α) (n : Int) (hn : 1 ≤ n) (hs : s ∈ syms)
    (t : α) (ht : t ∈ syms) (hts : t ≠ s) :
    (∀ d, nthFromStart syms s n = .ok d →
      d.allowPartial = false ∧ d.states.length = n.toNat + 2 ∧ MinimalShape d ∧ MinimalAmongComplete d) ∧
    (∀ d, nthFromEnd syms s n = .ok d →
      d.allowPartial = false ∧ d.states.length = 2 ^ n.toNat ∧ MinimalShape d ∧ MinimalAmongComplete d) := by
  have hlen : syms.length ≠ 1 := by
    intro h
    obtain ⟨x, hx⟩ := List.length_eq_one_iff.mp h
    rw [hx] at hs ht
    simp only [List.mem_singleton] at hs ht
    exact hts (ht.trans hs.symm)
  exact ⟨minimal_of_build_len (nthFromStart_eq syms s n hn hs hlen) rfl
      (nthStartDFA_minimal syms s n.toNat hs (by omega) t ht hts)
      length_ladder_states,
    minimal_of_build_len (nthFromEnd_eq syms s n hn hs hlen) rfl
      (nthEndDFA_minimal syms s n.toNat hs (by omega) t ht hts)
      length_ladder_states⟩

/-- Over a one-symbol alphabet `nth_from_start` / `nth_from_end` delegate to
`of_length(min_length = n)`: `n + 1` states, minimal as well. -/
theorem C15_nth_minimal_single (syms : List α) (s : α) (n : Int) (hn : 1 ≤ n) (hs : s ∈ syms)
    (hlen : syms.length = 1) :
    (∀ d, nthFromStart syms s n = .ok d →
      d.allowPartial = false ∧ d.states.length = n.toNat + 1 ∧ MinimalShape d ∧ MinimalAmongComplete d) ∧
    (∀ d, nthFromEnd syms s n = .ok d →
      d.allowPartial = false ∧ d.states.length = n.toNat + 1 ∧ MinimalShape d ∧ MinimalAmongComplete d) := by
  have key := minimal_of_build_len
    (ofLength_eq syms n none none ((isDisjoint_eq_false_iff syms syms).mpr ⟨s, hs, hs⟩) rfl) rfl
    (ofLengthDFA_minimal_range syms syms rfl s hs hs) length_ladder_states
  rw [nthFromStart_eq_single syms s n hn hs hlen, nthFromEnd_eq_single syms s n hn hs hlen]
  exact ⟨key, key⟩

/-- Minimality of `nth_from_start` / `nth_from_end` over **every** alphabet (a Python set:
duplicate-free) containing the symbol: one symbol (`C15_nth_minimal_single`) or more
(`C15_nth_minimal`). -/
theorem C15_nth_minimal_all (syms : List α) (hsyms : syms.Nodup) (s : α) (n : Int) (hn : 1 ≤ n)
    (hs : s ∈ syms) :
    (∀ d, nthFromStart syms s n = .ok d →
      d.allowPartial = false ∧ MinimalShape d ∧ MinimalAmongComplete d) ∧
    (∀ d, nthFromEnd syms s n = .ok d →
      d.allowPartial = false ∧ MinimalShape d ∧ MinimalAmongComplete d) := by
  by_cases hlen : syms.length = 1
  · obtain ⟨h1, h2⟩ := C15_nth_minimal_single syms s n hn hs hlen
    exact ⟨fun d hd => let ⟨a, _, b, c⟩ := h1 d hd; ⟨a, b, c⟩,
      fun d hd => let ⟨a, _, b, c⟩ := h2 d hd; ⟨a, b, c⟩⟩
  · obtain ⟨t, ht, hts⟩ : ∃ t ∈ syms, t ≠ s := by
      cases syms with
      | nil => cases hs
      | cons a rest =>
        cases rest with
        | nil => exact absurd rfl hlen
        | cons b rest' =>
          have hab : a ≠ b := by
            intro e
            rw [List.nodup_cons] at hsyms
            exact hsyms.1 (by simp [e])
          by_cases h : a = s
          · exact ⟨b, by simp, fun e => hab (h.trans e.symm)⟩
          · exact ⟨a, by simp, h⟩
    obtain ⟨h1, h2⟩ := C15_nth_minimal syms s n hn hs t ht hts
    exact ⟨fun d hd => let ⟨a, _, b, c⟩ := h1 d hd; ⟨a, b, c⟩,
      fun d hd => let ⟨a, _, b, c⟩ := h2 d hd; ⟨a, b, c⟩⟩

example : ∀ d, nthFromStart ['a'] 'a' 3 = .ok d →
    d.allowPartial = false ∧ d.states.length = (3 : Int).toNat + 1 ∧ MinimalShape d ∧ MinimalAmongComplete d :=
  (C15_nth_minimal_single ['a'] 'a' 3 (by decide) (by decide) rfl).1

example : Builds (nthFromEnd ['a', 'b'] 'a' 2) ['a', 'b']
    (fun w => (2 : Int).toNat ≤ w.length ∧ w[w.length - (2 : Int).toNat]? = some 'a') :=
  C15_nth_from_end _ _ 2 (by decide) (by decide)

/-- `from_subsequence(Σ, p, contains)` for a pattern over `Σ`: a valid complete DFA accepting
exactly the words over `Σ` that contain `p` as a (scattered) subsequence — or exactly those
that do not, when `contains = False`. -/
theorem C15_from_subsequence (syms p : List α) (hp : ∀ c ∈ p, c ∈ syms) (contains : Bool) :
    Builds (fromSubsequence syms p contains) syms (fun w => p.Sublist w ↔ contains = true) :=
  Sim.builds_flag (subseq_sim syms p hp) (List.mem_range.mpr (Nat.succ_pos _))
    List.self_mem_range_succ (fromSubsequence_eq syms p contains) fun w _ => subseq_fold p w

/-- Minimality of `from_subsequence`: `|p| + 1` states, all reachable, pairwise
distinguishable. -/
theorem C15_from_subsequence_minimal (syms p : List α) (hp : ∀ c ∈ p, c ∈ syms) (contains : Bool) :
    ∀ d, fromSubsequence syms p contains = .ok d →
      d.allowPartial = false ∧ MinimalShape d ∧ MinimalAmongComplete d :=
  minimal_of_build (fromSubsequence_eq syms p contains) rfl (subseqDFA_minimal syms p hp contains)

example : Builds (fromSubsequence ['a', 'b'] ['a', 'b', 'a'] false) ['a', 'b']
    (fun w => ['a', 'b', 'a'].Sublist w ↔ false = true) :=
  C15_from_subsequence _ _ (by decide) _

/-- `from_prefix(Σ, p, contains, as_partial)` for a prefix over `Σ`, all four flag
combinations: a valid DFA accepting exactly the words over `Σ` that start with `p` (or exactly
those that do not, when `contains = False`). -/
theorem C15_from_prefix (syms p : List α) (hp : ∀ c ∈ p, c ∈ syms) (contains asPartial : Bool) :
    Builds (fromPrefix syms p contains asPartial) syms (fun w => p <+: w ↔ contains = true) := by
  rcases fromPrefix_eq syms p contains asPartial with ⟨rfl, rfl, e⟩ | e
  · refine builds_of syms e (prefPartialDFA_wf syms p hp) rfl fun w => ?_
    rw [prefPartialDFA_accepts syms p hp w]
    simp
  · exact Sim.builds_flag (prefComplete_sim syms p hp) (prefComplete_key0 p) (prefComplete_keyTop p) e
      (pref_runO_over syms p)

/-- The two forms of `from_prefix`.  Partial form (`as_partial` and `contains`): no trap
state — states `0 … |p|`, all reachable, live and pairwise distinguishable, hence no DFA at
all is smaller.  Complete form (otherwise): every state has a transition on every symbol
of the alphabet, and for a non-empty prefix over an alphabet with a symbol `b` different from
its first character all `|p| + 2` states are reachable and pairwise distinguishable, hence no
complete DFA is smaller. -/
theorem C15_from_prefix_minimal (syms p : List α) (hp : ∀ c ∈ p, c ∈ syms) :
    (∀ d, fromPrefix syms p true true = .ok d → MinimalPartialShape d ∧ MinimalAmongAll d) ∧
    (∀ contains asPartial d, (!asPartial || !contains) = true →
      fromPrefix syms p contains asPartial = .ok d →
      (∀ q ∈ d.states, ∀ a ∈ syms, ∃ q' ∈ d.states, d.step? (some q) a = some q') ∧
      (∀ b ∈ syms, p[0]? ≠ some b → p ≠ [] → MinimalShape d ∧ MinimalAmongComplete d)) := by
  constructor
  · intro d hd
    rw [eq_of_build (fromPrefix_eq_partial syms p) hd]
    have h := prefPartialDFA_minimal syms p hp
    exact ⟨h, C15_minimal_of_partial_shape _ h⟩
  · intro contains asPartial d hflag hd
    rw [eq_of_build (fromPrefix_eq_complete syms p contains asPartial hflag) hd]
    refine ⟨(prefComplete_sim syms p hp).total _ _ _, fun b hb hb0 hne => ?_⟩
    have h := prefCompleteDFA_minimal syms p hp contains b hb hb0 hne
    exact ⟨h, h.amongComplete⟩

example : Builds (fromPrefix ['a', 'b'] ['a', 'a', 'b'] false true) ['a', 'b']
    (fun w => ['a', 'a', 'b'] <+: w ↔ false = true) :=
  C15_from_prefix _ _ (by decide) _ _

/-- The early return for patterns that every word satisfies (`if not substring: …`,
`if "" in substrings: …`): the universal language, or the empty one for the complement. -/
private theorem builds_trivial (syms : List α) (contains : Bool) (L : List α → Prop)
    (hL : ∀ w, L w) :
    Builds (if contains then universalLanguage syms else emptyLanguage syms) syms
      (fun w => L w ↔ contains = true) :=
  builds_loop syms (b := contains) (by cases contains <;> rfl) fun w _ =>
    (iff_true_left (hL w)).symm

private theorem builds_fromSubstring (syms p : List α) (contains sf : Bool) :
    Builds (fromSubstring syms p contains sf) syms
      (fun w => (if sf then p <:+ w else p <:+: w) ↔ contains = true) := by
  by_cases hp : p = []
  · subst hp
    rw [KMP.fromSubstring_empty]
    exact builds_trivial syms contains _ fun w => KMP.occurs_of_suffix sf List.nil_suffix
  · obtain ⟨row, δ, h, e, htop, _⟩ := KMP.fromSubstring_spec syms p hp contains sf
    exact Sim.builds_flag h (List.mem_range.mpr (Nat.succ_pos _)) List.self_mem_range_succ e
      fun w _ => htop w

/-- `from_substring(Σ, p, contains)` (default `must_be_suffix=False`), for **every** pattern —
self-overlapping ones, the empty one (early return), patterns with symbols outside `Σ`: the KMP
table is built without error and the result is a valid complete DFA accepting exactly the words
over `Σ` that contain `p` as a contiguous substring (or exactly those that do not, when
`contains = False`). -/
theorem C15_from_substring (syms p : List α) (contains : Bool) :
    Builds (fromSubstring syms p contains false) syms (fun w => p <:+: w ↔ contains = true) :=
  builds_fromSubstring syms p contains false

/-- `from_suffix(Σ, p, contains)` = `from_substring(…, must_be_suffix=True)` for **every**
pattern (the empty one included: early return, finding F10a): a valid complete DFA
accepting exactly the words over `Σ` that end with `p` (or exactly those that do not). -/
theorem C15_from_suffix (syms p : List α) (contains : Bool) :
    Builds (fromSuffix syms p contains) syms (fun w => p <:+ w ↔ contains = true) ∧
    Builds (fromSubstring syms p contains true) syms (fun w => p <:+ w ↔ contains = true) :=
  ⟨builds_fromSubstring syms p contains true, builds_fromSubstring syms p contains true⟩

/-- The KMP invariant itself: in the suffix automaton of a non-empty pattern the state reached
on a word `w` over `Σ` is the length of the longest prefix of the pattern that is a suffix of
`w`. -/
theorem C15_from_suffix_state (syms p : List α) (hp : p ≠ []) (contains : Bool) :
    ∀ d, fromSuffix syms p contains = .ok d → ∀ w, Over syms w →
      ∃ k, d.run (some d.init) w = some (nat k) ∧
        (k ≤ p.length ∧ p.take k <:+ w) ∧ ∀ j, (j ≤ p.length ∧ p.take j <:+ w) → j ≤ k := by
  intro d hd w hw
  obtain ⟨row, δ, h, e, _, _, hinv⟩ := KMP.fromSubstring_spec syms p hp contains true
  rw [eq_of_build e hd]
  exact ⟨_, (h.run (List.mem_range.mpr (Nat.succ_pos _)) hw _ _ _).1, hinv rfl w⟩

/-- Minimality of `from_substring` / `from_suffix` for a pattern over `Σ` (the one-state
automaton of the empty pattern included): `|p| + 1` states, all reachable and pairwise
distinguishable, hence no equivalent complete DFA is smaller. -/
theorem C15_from_substring_minimal (syms p : List α) (hp : ∀ c ∈ p, c ∈ syms) (contains sf : Bool) :
    ∀ d, fromSubstring syms p contains sf = .ok d →
      d.allowPartial = false ∧ d.states.length = p.length + 1 ∧ MinimalShape d ∧
        MinimalAmongComplete d := by
  by_cases hpe : p = []
  · subst hpe
    rw [KMP.fromSubstring_empty]
    cases contains
    · exact minimal_of_build_len rfl rfl (loopDFA_minimal 0 syms false) rfl
    · exact minimal_of_build_len rfl rfl (loopDFA_minimal 0 syms true) rfl
  · obtain ⟨row, δ, h, e, htop, hclimb, _⟩ := KMP.fromSubstring_spec syms p hpe contains sf
    exact minimal_of_build_len e rfl
      (h.minimal_pattern hp contains _ (fun w _ => htop w) hclimb fun _ h =>
        (KMP.infix_of_occurs h).length_le)
      length_ladder_states

example : Builds (fromSubstring ['a', 'b'] ['a', 'b', 'a', 'b'] true false) ['a', 'b']
    (fun w => ['a', 'b', 'a', 'b'] <:+: w ↔ true = true) := C15_from_substring _ _ _

example : Builds (fromSuffix ['a', 'b'] ['a', 'a', 'b', 'a', 'a'] false) ['a', 'b']
    (fun w => ['a', 'a', 'b', 'a', 'a'] <:+ w ↔ false = true) :=
  (C15_from_suffix _ _ _).1

example : Builds (fromSuffix ['a', 'b'] [] true) ['a', 'b'] (fun w => [] <:+ w ↔ true = true) :=
  (C15_from_suffix _ _ _).1

/-! The models of `from_substrings` and `from_finite_language` (`fromSubstrings`: trie with labels
in insertion order, failure links, output links, absorbing end state unless suffix mode;
`fromFiniteLanguage`: sorted insertion into a trie with a signature register and compression of
the non-shared suffix of the previous word, `_to_complete` with trap `0`) are executable and tied
to the code by the correspondence run. -/

/-- The verdict of the DFA returned by a constructor call (`none` if the call raised). -/
def verdict (r : Res (DFA σ α)) (w : List α) : Option Bool :=
  match r with
  | .ok d => some (d.accepts w)
  | .error _ => none

/-- Number of states of the DFA returned by a constructor call. -/
def size (r : Res (DFA σ α)) : Option Nat :=
  match r with
  | .ok d => some d.states.length
  | .error _ => none

/-- The exception raised by a constructor call, if any. -/
def raised (r : Res (DFA σ α)) : Option Exn :=
  match r with
  | .ok _ => none
  | .error e => some e

/-- Test vectors for the early returns of `of_length` (finding F15, commit bcfb456), evaluated on
the model:
`of_length({'a'}, 3, 1)` and `of_length({'a','b'}, 2, 3, symbols_to_count={'c'})` have one state
and reject everything; a non-degenerate call keeps its ladder; a negative minimum with a maximum
raises `InvalidStateError`. -/
theorem C15_of_length_regressions :
    size (ofLength ['a'] 3 (some 1) none) = some 1 ∧
    verdict (ofLength ['a'] 3 (some 1) none) ['a', 'a'] = some false ∧
    size (ofLength ['a', 'b'] 2 (some 3) (some ['c'])) = some 1 ∧
    verdict (ofLength ['a', 'b'] 2 (some 3) (some ['c'])) ['a', 'b'] = some false ∧
    size (ofLength ['a', 'b'] 0 (some 3) (some ['c'])) = some 1 ∧
    verdict (ofLength ['a', 'b'] 0 (some 3) (some ['c'])) ['a', 'b'] = some true ∧
    size (ofLength ['a', 'b'] 1 (some 3) (some ['a', 'c'])) = some 5 ∧
    raised (ofLength ['a'] (-1) (some 1) none) = some (.lib .invalidStateError) := by decide +kernel

/-- `from_substrings(Σ, S, contains, must_be_suffix)` (Aho–Corasick) for every duplicate-free
alphabet, **every** list of patterns — over the alphabet or with symbols outside it (trie nodes
below such a symbol get a label but no row: the second BFS only follows symbols of `Σ`, and
`end_state = len(labels)` stays above every label, finding F22), in **every**
insertion order, with patterns that are prefixes / suffixes / infixes of one another, with the
empty pattern (early return, finding F10b) — and both values of both flags: the trie, the
failure links and the output links are built without error and the result is a valid complete
DFA accepting exactly the words over `Σ` that contain (resp. end with) one of the patterns, or
exactly the others when `contains = False`.  (The documentation does not promise minimality.)
Behind it (`Proofs/CtorAC*.lean`): the insertion loop builds a trie of the prefixes of the patterns
(`acTrie_spec`); the first BFS sets every failure link to the node of the longest proper suffix
in the trie and makes the output chain non-empty iff a non-empty suffix is a pattern
(`acFailBfs_spec`, with the BFS-order invariant "everything not deeper than the head of the
queue is linked"); the goto function leads to the node of the longest suffix of `x·a` in the
trie (`acGoto_spec`); the state after `w` is the node of the longest suffix of `w` that is a
prefix of a pattern (`acState_spec`) — for a word over `Σ` that node is one of the tabulated
ones (`acState_vis`, `Tabulated`: one row per node whose string is over `Σ`) —, absorbing in
substring mode into the fresh state `len(labels)` (`acSub_inv`). -/
theorem C15_from_substrings_general (syms : List α) (hsyms : syms.Nodup) (pats : List (List α))
    (contains sf : Bool) :
    Builds (fromSubstrings syms pats contains sf) syms
      (fun w => (∃ p ∈ pats, if sf then p <:+ w else p <:+: w) ↔ contains = true) := by
  by_cases hne : [] ∈ pats
  · rw [AC.fromSubstrings_empty syms pats contains sf hne]
    exact builds_trivial syms contains (fun w => ∃ p ∈ pats, if sf then p <:+ w else p <:+: w)
      fun w => ⟨[], hne, KMP.occurs_of_suffix sf List.nil_suffix⟩
  · obtain ⟨D, he, wf, hs, hacc⟩ := AC.fromSubstrings_spec syms hsyms pats hne contains sf
    exact builds_of syms he wf hs hacc

set_option linter.unusedVariables false in
/-- `C15_from_substrings_general` for patterns over the alphabet, the form C19 cites; the proof does
not use the hypothesis `hover`. -/
theorem C15_from_substrings (syms : List α) (hsyms : syms.Nodup) (pats : List (List α))
    (contains sf : Bool) (hover : ∀ p ∈ pats, ∀ c ∈ p, c ∈ syms) :
    Builds (fromSubstrings syms pats contains sf) syms
      (fun w => (∃ p ∈ pats, if sf then p <:+ w else p <:+: w) ↔ contains = true) :=
  C15_from_substrings_general syms hsyms pats contains sf

/-- Patterns with symbols outside the alphabet need no special treatment in the statement: a
word over `Σ` cannot contain them, so the language is that of the patterns over `Σ` alone. -/
theorem C15_from_substrings_foreign (syms : List α) (hsyms : syms.Nodup) (pats : List (List α))
    (contains sf : Bool) :
    Builds (fromSubstrings syms pats contains sf) syms
      (fun w => (∃ p ∈ pats.filter (fun p => p.all fun c => decide (c ∈ syms)),
        if sf then p <:+ w else p <:+: w) ↔ contains = true) := by
  refine (C15_from_substrings_general syms hsyms pats contains sf).congr fun w hw =>
    iff_congr ⟨?_, ?_⟩ Iff.rfl
  · rintro ⟨p, hp, h⟩
    exact ⟨p, List.mem_filter.mpr ⟨hp, List.all_eq_true.mpr fun c hc =>
      decide_eq_true (hw c ((KMP.infix_of_occurs h).subset hc))⟩, h⟩
  · rintro ⟨p, hp, h⟩
    exact ⟨p, (List.mem_filter.mp hp).1, h⟩

example : Builds (fromSubstrings ['a', 'b'] [['c', 'c'], ['a', 'b'], ['b', 'c', 'a']] true false) ['a', 'b']
    (fun w => (∃ p ∈ [['c', 'c'], ['a', 'b'], ['b', 'c', 'a']], if false then p <:+ w else p <:+: w) ↔
      true = true) :=
  C15_from_substrings_general _ (by decide) _ _ _

example : Builds (fromSubstrings ['a', 'b'] [['a', 'a', 'b'], ['a', 'b'], ['b', 'b']] true true) ['a', 'b']
    (fun w => (∃ p ∈ [['a', 'a', 'b'], ['a', 'b'], ['b', 'b']], if true then p <:+ w else p <:+: w) ↔
      true = true) :=
  C15_from_substrings _ (by decide) _ _ _ (by decide)

/-- Test vectors for findings F10b and F22, evaluated on the model: with the empty
pattern in the set (F10b) the complement DFA in suffix mode rejects `"c"`; with a pattern
carrying a symbol outside the alphabet (F22, `["cc", "ab"]` over `{a, b}`) `"a"` is rejected
and `"ab"` accepted (symbols `a, b, c` = `0, 1, 2`). -/
theorem C15_from_substrings_regressions :
    verdict (fromSubstrings [0, 1, 2] [[], [2, 0, 1]] false true) [2] = some false ∧
    verdict (fromSubstrings [0, 1] [[2, 2], [0, 1]] true false) [0] = some false ∧
    verdict (fromSubstrings [0, 1] [[2, 2], [0, 1]] true false) [0, 1] = some true := by decide +kernel

/-- `from_finite_language(Σ, L, as_partial)` for every duplicate-free alphabet ordered by a strict
total order (`sorted` compares code points), every duplicate-free list of words over it — with
words that are prefixes of one another, shared suffixes, the empty word, the empty language —
and both values of `as_partial`: the incremental construction (sorted insertion, signature
register, compression of the non-shared suffix of the previous word, redirection through the
back map) runs without `KeyError` and returns a valid DFA — partial (`allow_partial = True`, no
trap) resp. complete (`_to_complete` with trap `0`) — accepting exactly the words of `L`.
Behind it (`Proofs/CtorFL*.lean`): the closed form of `add_to_trie` (`flAddWord_effect`), the
invariant "the table is a quotient of the trie of the words added so far; the prefixes of the
current word up to position `k` are still trie nodes with their single parent in the back map,
every other state is registered with its current signature and registered states only point to
registered states" (`FLInv`), its preservation by `add_to_trie` given the contiguity of common
prefixes in a sorted list (`add_inv`, `prefix_between`) and by one `compress` iteration in both
branches (`compressAt_inv`), and the run of the final table along the trie (`runO_spec`). -/
theorem C15_from_finite_language (lt : α → α → Bool) (ho : FL.StrictTotal lt) (syms : List α)
    (hsyms : syms.Nodup) (lang : List (List α)) (hnd : lang.Nodup) (asPartial : Bool)
    (hover : ∀ w ∈ lang, ∀ c ∈ w, c ∈ syms) :
    Builds (fromFiniteLanguage lt syms lang asPartial) syms (fun w => w ∈ lang) ∧
    ∀ d, fromFiniteLanguage lt syms lang asPartial = .ok d →
      d.allowPartial = (asPartial && !lang.isEmpty) := by
  by_cases hne : lang = []
  · subst hne
    have hr : fromFiniteLanguage lt syms [] asPartial = build (loopDFA FLName.zero syms false) := rfl
    refine ⟨builds_loop syms hr fun _ _ => by simp, ?_⟩
    intro d hd
    rw [eq_of_build hr hd]; simp [loopDFA]
  · obtain ⟨D, he, hs, hap, _, h⟩ := FL.fromFiniteLanguage_spec ho syms lang hne hnd asPartial
    obtain ⟨wf, hacc⟩ := (h hover).2.2 (Or.inr hsyms)
    refine ⟨builds_of syms he wf hs hacc, fun d hd => ?_⟩
    rw [eq_of_build he hd, hap, List.isEmpty_eq_false_iff.mpr hne]; simp

example : Builds (fromFiniteLanguage (fun a b : Nat => decide (a < b)) [0, 1]
    [[1, 0, 1], [0, 1], [1, 1], [], [0, 0, 1]] true) [0, 1]
    (fun w => w ∈ [[1, 0, 1], [0, 1], [1, 1], [], [0, 0, 1]]) :=
  (C15_from_finite_language _ FL.strictTotal_nat _ (by decide) _ (by decide) _ (by decide)).1

/-- **Minimality of `from_finite_language`** (the documentation promises the minimal DFA) for a
duplicate-free list of words over the alphabet.  Partial form of a non-empty language: every state
is reachable, live, and any two states are distinguishable — no DFA at all is smaller.
Complete form over a non-empty alphabet (and the empty language, for which the code returns
`empty_language(Σ)`): every state, the trap included, is reachable and any two are
distinguishable — no complete DFA is smaller.  Behind it: the registered states are pairwise
distinguishable at every point of the construction (`RegDist`, Proofs/CtorFLInv.lean: a state is
registered only if no registered state has its signature, `SigsDistinct`, and states with
different signatures are told apart by their finality or a differing transition,
`regDist_of_sigs`, both in Proofs/CtorFLCompress.lean), and the root is told apart from every
other state by a longest word of the language (`root_dist`, Proofs/CtorFLMinimal.lean). -/
theorem C15_from_finite_language_minimal (lt : α → α → Bool) (ho : FL.StrictTotal lt) (syms : List α)
    (lang : List (List α)) (hnd : lang.Nodup) (asPartial : Bool)
    (hover : ∀ w ∈ lang, ∀ c ∈ w, c ∈ syms) :
    ∀ d, fromFiniteLanguage lt syms lang asPartial = .ok d →
      (asPartial = true → lang ≠ [] → MinimalPartialShape d ∧ MinimalAmongAll d) ∧
      ((asPartial = false ∨ lang = []) → syms ≠ [] → MinimalShape d ∧ MinimalAmongComplete d) := by
  intro d hd
  by_cases hne : lang = []
  · subst hne
    have hr : fromFiniteLanguage lt syms [] asPartial = build (loopDFA FLName.zero syms false) := rfl
    rw [eq_of_build hr hd]
    exact ⟨fun _ h => absurd rfl h, fun _ _ =>
      ⟨loopDFA_minimal _ syms false, (loopDFA_minimal _ syms false).amongComplete⟩⟩
  · obtain ⟨D, he, _, _, _, h⟩ := FL.fromFiniteLanguage_spec ho syms lang hne hnd asPartial
    obtain ⟨hp, hc, _⟩ := h hover
    rw [eq_of_build he hd]
    refine ⟨fun hap _ => ⟨hp hap, C15_minimal_of_partial_shape _ (hp hap)⟩, fun hap hs => ?_⟩
    have hm := hc (hap.resolve_right hne) hs
    exact ⟨hm, hm.amongComplete⟩

/-- Concrete instance: a language with shared prefixes and shared suffixes gets 4 states in
partial and 5 in complete form (the Myhill–Nerode numbers), and its verdicts on the listed words
are those of the language (kernel evaluation of the model). -/
theorem C15_from_finite_language_instance :
    (∀ w ∈ [[], [0], [1], [0, 0], [0, 1], [1, 0], [1, 1], [0, 1, 1], [1, 0, 1], [0, 0, 1]],
      verdict (fromFiniteLanguage (fun a b => decide (a < b)) [0, 1]
          [[1, 0, 1], [0, 1], [1, 1], [0, 0, 1]] true) w =
        some (decide (w ∈ [[1, 0, 1], [0, 1], [1, 1], [0, 0, 1]]))) ∧
    size (fromFiniteLanguage (fun a b => decide (a < b)) [0, 1]
          [[1, 0, 1], [0, 1], [1, 1], [0, 0, 1]] true) = some 4 ∧
    size (fromFiniteLanguage (fun a b => decide (a < b)) [0, 1]
          [[1, 0, 1], [0, 1], [1, 1], [0, 0, 1]] false) = some 5 := by
  decide +kernel

/-! ## Error outcomes

Inputs outside the hypotheses of the language theorems above: the constructors do **not** return
a (wrong) DFA, they raise.  Together with `C15_nth_errors`, `C15_count_mod_nonpositive` and
`C15_of_length_negative_min` every excluded input class has its outcome stated. -/

/-- `from_prefix` with a pattern symbol outside the alphabet: the symbol becomes a key of the
transition table and `cls(...)` refuses it with a library exception (`InvalidSymbolError`, or
`MissingSymbolError` when the foreign key makes an incomplete row look complete). -/
theorem C15_from_prefix_foreign (syms p : List α) (contains asPartial : Bool)
    (h : ∃ c ∈ p, c ∉ syms) : ∃ e, fromPrefix syms p contains asPartial = .error (.lib e) := by
  obtain ⟨c, hc, hcs⟩ := h
  rcases fromPrefix_eq syms p contains asPartial with ⟨_, _, e⟩ | e
  · exact e ▸ build_error_of_not_wf (prefPartialDFA_not_wf syms p c hc hcs)
  · exact e ▸ build_error_of_not_wf (prefCompleteDFA_not_wf syms p contains c hc hcs)

/-- `from_subsequence` with a pattern symbol outside the alphabet
(`transitions[prev_state][char] = next_state` adds the key): a library exception. -/
theorem C15_from_subsequence_foreign (syms p : List α) (contains : Bool)
    (h : ∃ c ∈ p, c ∉ syms) : ∃ e, fromSubsequence syms p contains = .error (.lib e) := by
  obtain ⟨c, hc, hcs⟩ := h
  rw [fromSubsequence_eq]
  exact build_error_of_not_wf (subseqDFA_not_wf syms p contains c hc hcs)

/-- `from_finite_language` with a word carrying a symbol outside the alphabet: the incremental
construction still runs to its end without `KeyError` (the invariant does not depend on the
alphabet), and the table is refused by `cls(...)` / `_to_complete` with a library exception —
in both forms. -/
theorem C15_from_finite_language_foreign (lt : α → α → Bool) (ho : FL.StrictTotal lt)
    (syms : List α) (lang : List (List α)) (hnd : lang.Nodup) (asPartial : Bool)
    (h : ∃ w ∈ lang, ∃ c ∈ w, c ∉ syms) :
    ∃ e, fromFiniteLanguage lt syms lang asPartial = .error (.lib e) := by
  have hne : lang ≠ [] := by rintro rfl; obtain ⟨w, hw, _⟩ := h; cases hw
  obtain ⟨D, he, _, _, hnw, _⟩ := FL.fromFiniteLanguage_spec ho syms lang hne hnd asPartial
  rw [he]
  exact build_error_of_not_wf (hnw h)

/-- `count_mod` with a remainder outside `range(k)` (`k > 0`): `final_states = remainders`
contains a non-state, `InvalidStateError`. -/
theorem C15_count_mod_bad_remainder (syms : List α) (k : Int) (hk : 0 < k)
    (remainders : Option (List Int)) (count : Option (List α))
    (h : ∃ r ∈ remainders.getD [0], r < 0 ∨ k ≤ r) :
    countMod syms k remainders count = .error (.lib .invalidStateError) := by
  obtain ⟨r, hr, hbad⟩ := h
  rw [countMod_eq syms k hk]
  exact countModDFA_bad_remainder syms k.toNat _ (by omega) _ r hr (by omega)

/-- Concrete error outcomes, evaluated on the model (symbols `a, b, c` = `0, 1, 2`):
`from_prefix({a,b}, "ac")` and `from_subsequence({a,b}, "ca")` raise `InvalidSymbolError`,
`from_prefix({a}, "ab")` raises `MissingSymbolError` (the foreign key makes the row look
complete), `from_finite_language({a,b}, {"ac"})` raises `InvalidSymbolError` in both forms,
`count_mod({a,b}, 3, {3})` raises `InvalidStateError`. -/
theorem C15_error_instances :
    raised (fromPrefix [0, 1] [0, 2] true true) = some (.lib .invalidSymbolError) ∧
    raised (fromPrefix [0] [0, 1] true true) = some (.lib .missingSymbolError) ∧
    raised (fromPrefix [0, 1] [0, 2] false true) = some (.lib .invalidSymbolError) ∧
    raised (fromSubsequence [0, 1] [2, 0] true) = some (.lib .invalidSymbolError) ∧
    raised (fromFiniteLanguage (fun a b => decide (a < b)) [0, 1] [[0, 2]] true) =
      some (.lib .invalidSymbolError) ∧
    raised (fromFiniteLanguage (fun a b => decide (a < b)) [0, 1] [[0, 2]] false) =
      some (.lib .invalidSymbolError) ∧
    raised (countMod [0, 1] 3 (some [3]) none) = some (.lib .invalidStateError) := by decide +kernel

example : ∃ e, fromPrefix ['a', 'b'] ['a', 'c'] true false = .error (.lib e) :=
  C15_from_prefix_foreign _ _ _ _ ⟨'c', by decide, by decide⟩

example : countMod ['a', 'b'] 3 (some [0, 5]) none = .error (.lib .invalidStateError) :=
  C15_count_mod_bad_remainder _ 3 (by decide) _ _ ⟨5, by decide, by decide⟩

end AV.Props.C15
