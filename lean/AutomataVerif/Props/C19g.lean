/-
Props/C19g.lean — C19, crash-freedom of the operations whose model is a TOTAL function
(the gap listed in the header of Props/C19e.lean).

Model/DFAOpsE.lean refines the total models with explicit Python failures (every dict subscript
of the real function can raise `KeyError`, `next(iter(eq))` can raise `StopIteration`).  Here:
on a definition accepted by `validate` the failure-tracking version returns `.ok` of exactly the
value of the total model — the model that C05 / C13 prove the language facts about.

Covered: `minify` (both pre-passes), `to_partial(minify=True)`, `complement(minify=True)` of a
complete DFA, `_minify` for any caller (`MinSource`), `isempty`, `count_words_of_length`,
`words_of_length`.  The list of modelled subscripts (with line numbers) is in the header of
Model/DFAOpsE.lean.  NOT modelled as failing: the construction loop of `transition_back_map`
(its subscripts use keys stored by the same loop; the end result `backMap` is taken as given),
the networkx calls of the partial pre-pass, `retain_names=False` renaming, list indexing of the
caches.  `DFA.from_nfa`, `NFA.from_dfa`, `NFA.eliminate_lambda` and `complement(minify=True)` of a
partial operand: Props/C19h.lean.
-/
import AutomataVerif.Proofs.OpsE
import AutomataVerif.Proofs.MinCompose

namespace AV

namespace Props.C19
open AV.DFA
variable {σ α : Type} [DecidableEq σ] [DecidableEq α]

/-- **`isempty()` raises no `KeyError`** (`self.transitions[state]` for every state the BFS
pops) and returns what the total model returns. -/
theorem C19_isempty_no_keyerror (d : AV.DFA σ α) (hv : d.validate = .ok ()) :
    d.isEmptyE = .ok d.isEmpty := by
  unfold isEmptyE
  rw [bfs_rows_eq ((validate_eq_ok d).mp hv)]
  rfl

/-- **`count_words_of_length(k)` raises no `KeyError`** (`self.transitions[state]` for every
declared state, at every level) and returns what the total model returns. -/
theorem C19_count_words_no_keyerror (d : AV.DFA σ α) (hv : d.validate = .ok ()) (k : Nat) :
    d.countWordsOfLengthE k = .ok (d.countWordsOfLength k) := by
  unfold countWordsOfLengthE
  rw [countLevelE_eq ((validate_eq_ok d).mp hv)]
  rfl

/-- **`words_of_length(k)` raises no `KeyError`** (`sorted_transition_symbols[state]`,
`self.transitions[state][symbol]`) and yields what the total model yields. -/
theorem C19_words_of_length_no_keyerror (d : AV.DFA σ α) (hv : d.validate = .ok ()) (key : α → Int)
    (k : Nat) : d.wordsOfLengthE key k = .ok (d.wordsOfLength key k) := by
  unfold wordsOfLengthE
  rw [wordLevelE_eq ((validate_eq_ok d).mp hv) key]
  rfl

/-- **`_minify` raises no `KeyError` / `StopIteration`** whatever caller hands it arguments that
describe a DFA (`MinSource`: `minify`, `to_partial`, `complement`, the Boolean operations,
`from_nfa` — see Proofs/MinifyCorrect.lean, Proofs/MinCompose.lean for the sources), for every
pop order `pick` of `processing`, and returns the value of the total model. -/
theorem C19_minify_core_no_keyerror {d : AV.DFA σ α} {kept finals : List σ}
    (S : MinSource d kept finals) (pick : List Nat → Nat) :
    minifyCoreE kept d.syms d.trans d.init finals pick =
      .ok (minifyCore kept d.syms d.trans d.init finals pick) :=
  minifyCoreE_eq S pick

/-- **`minify()` raises no `KeyError` / `StopIteration`** on an accepted definition:
`self.transitions[state]` in the reachability pass, `_partition[x]` / `_sets[id]` inside
`PartitionRefinement`, `origin_dict[end_state]`, `back_map[initial_state]`, `back_map[acc]`,
`next(iter(eq))`, `transitions[eq_class_rep]` — and returns the value of the total model
(the one `C05_lang`, `C05_valid`, `C05_minimal_*` are about). -/
theorem C19_minify_no_keyerror (d : AV.DFA σ α) (hv : d.validate = .ok ()) (ps : d.PyShape)
    (pick : List Nat → Nat) : d.minifyE pick = .ok (d.minify pick) := by
  have wf := (validate_eq_ok d).mp hv
  unfold minifyE
  rw [minifyKeptE_eq wf]
  exact minifyCoreE_eq (minify_source wf ps) pick

/-- **`to_partial(minify=True)` raises no `KeyError` / `StopIteration`** on an accepted
definition (partial or complete), and returns the value of the total model. -/
theorem C19_to_partial_min_no_keyerror (d : AV.DFA σ α) (hv : d.validate = .ok ()) (ps : d.PyShape)
    (pick : List Nat → Nat) : d.toPartialMinE pick = .ok (d.toPartialMin pick) :=
  minifyCoreE_eq (C04.toPartialMin_minSource ((validate_eq_ok d).mp hv) ps) pick

/-- `complement(minify=True)` on a complete table, whatever its flag says. -/
theorem complementMinE_eq {c : AV.DFA σ α} (wf : c.WF) (ps : c.PyShape) (hc : c.IsComplete)
    (pick : List Nat → Nat) : c.complementMinE pick = .ok (c.complementMin pick) := by
  unfold complementMinE
  rw [bfs_rows_eq wf, C04.complementMin_eq]
  exact minifyCoreE_eq (C04.complementMin_minSource wf ps hc) pick

/-- **`complement(minify=True)` of a complete accepted definition raises no `KeyError` /
`StopIteration`**, and returns the value of the total model. -/
theorem C19_complement_min_no_keyerror (c : AV.DFA σ α) (hv : c.validate = .ok ())
    (hc : c.allowPartial = false) (ps : c.PyShape) (pick : List Nat → Nat) :
    c.complementMinE pick = .ok (c.complementMin pick) := by
  have wf := (validate_eq_ok c).mp hv
  exact complementMinE_eq wf ps (wf.complete hc) pick

/-- In the vocabulary of Props/C19e.lean: `minify`, `to_partial(minify=True)`, `isempty`,
`count_words_of_length`, `words_of_length` do not end with an undocumented Python error on an accepted
definition (for `complement(minify=True)` and `_minify` see `C19_complement_min_no_keyerror`,
`C19_minify_core_no_keyerror`). -/
theorem C19_total_ops_no_crash (d : AV.DFA σ α) (hv : d.validate = .ok ()) (ps : d.PyShape)
    (pick : List Nat → Nat) (key : α → Int) (k : Nat) :
    (∀ e : PyErr, d.minifyE pick ≠ .error (.py e)) ∧
    (∀ e : PyErr, d.toPartialMinE pick ≠ .error (.py e)) ∧
    (∀ e : PyErr, d.isEmptyE ≠ .error (.py e)) ∧
    (∀ e : PyErr, d.countWordsOfLengthE k ≠ .error (.py e)) ∧
    (∀ e : PyErr, d.wordsOfLengthE key k ≠ .error (.py e)) :=
  ⟨ok_ne_py (C19_minify_no_keyerror d hv ps pick),
   ok_ne_py (C19_to_partial_min_no_keyerror d hv ps pick), ok_ne_py (C19_isempty_no_keyerror d hv),
   ok_ne_py (C19_count_words_no_keyerror d hv k), ok_ne_py (C19_words_of_length_no_keyerror d hv key k)⟩

/-- Equality of results is decidable (for the `decide` examples). -/
local instance decEqRes {β : Type} [DecidableEq β] : DecidableEq (Res β) := fun a b =>
  match a, b with
  | .ok x, .ok y => if h : x = y then isTrue (by rw [h]) else isFalse (fun he => h (by cases he; rfl))
  | .error x, .error y =>
    if h : x = y then isTrue (by rw [h]) else isFalse (fun he => h (by cases he; rfl))
  | .ok _, .error _ => isFalse (fun he => by cases he)
  | .error _, .ok _ => isFalse (fun he => by cases he)

/-- A partial DFA with a dead state: 0 -a-> 1 (final), 0 -b-> 2 (dead, no way to a final state),
1 has no `b`-transition. -/
def exDead : AV.DFA Nat Nat :=
  { states := [0, 1, 2], syms := [0, 1],
    trans := [(0, [(0, 1), (1, 2)]), (1, [(0, 1)]), (2, [(0, 2), (1, 2)])],
    init := 0, finals := [1], allowPartial := true }

/-- A complete DFA whose table has a row keyed by the non-state 7 (validation accepts it) and an
unreachable state 2. -/
def exExtraRow : AV.DFA Nat Nat :=
  { states := [0, 1, 2], syms := [0],
    trans := [(0, [(0, 1)]), (1, [(0, 0)]), (2, [(0, 2)]), (7, [(0, 0)])],
    init := 0, finals := [1], allowPartial := false }

example : exDead.validate = .ok () ∧ exExtraRow.validate = .ok () := by decide +kernel

theorem exDead_shape : exDead.PyShape :=
  ⟨by decide +kernel, by decide +kernel, by decide +kernel, by decide +kernel, by decide +kernel⟩
theorem exExtraRow_shape : exExtraRow.PyShape :=
  ⟨by decide +kernel, by decide +kernel, by decide +kernel, by decide +kernel, by decide +kernel⟩

/-- The failure-tracking runs on the two examples end with `.ok` (computed, not via the theorems). -/
example : (match exDead.minifyE with | .ok m => m.states.length | .error _ => 99) = 2 := by decide +kernel
example : (match exDead.toPartialMinE with | .ok m => m.states.length | .error _ => 99) = 2 := by
  decide +kernel
example : (match exExtraRow.minifyE with | .ok m => m.states.length | .error _ => 99) = 2 := by decide +kernel
example : (match exExtraRow.toPartialMinE with | .ok m => m.states.length | .error _ => 99) = 2 := by
  decide +kernel
example : exDead.isEmptyE = .ok false ∧ exExtraRow.isEmptyE = .ok false := by decide +kernel
example : exDead.countWordsOfLengthE 3 = .ok 1 ∧ exExtraRow.countWordsOfLengthE 3 = .ok 1 := by decide +kernel
example : exDead.wordsOfLengthE Int.ofNat 2 = .ok [[0, 0]] ∧ exExtraRow.wordsOfLengthE Int.ofNat 3 = .ok [[0, 0, 0]] := by
  decide +kernel

/-- The failure tracking is not vacuous: drop the row of the declared state 1 (validation rejects
this table with `MissingStateError`) and every operation that subscripts `transitions[1]` fails
with `KeyError`, while the total models silently read an empty row. -/
def exNoRow : AV.DFA Nat Nat :=
  { states := [0, 1], syms := [0], trans := [(0, [(0, 1)])], init := 0, finals := [1],
    allowPartial := false }

example : exNoRow.validate = .error (.lib .missingStateError) ∧
    exNoRow.isEmptyE = .error (.py .keyError) ∧ exNoRow.isEmpty = false ∧
    exNoRow.countWordsOfLengthE 1 = .error (.py .keyError) ∧ exNoRow.countWordsOfLength 1 = 1 ∧
    exNoRow.wordsOfLengthE Int.ofNat 1 = .error (.py .keyError) ∧
    (match exNoRow.minifyE with | .error (.py .keyError) => true | _ => false) = true := by decide +kernel

end Props.C19
end AV
