/-
Props/C19f.lean — C19: the bridge between the two models of `GNFA.validate`
(automata/fa/gnfa.py), and what it gives for the GNFA clause of "results are valid".

The framework has two models of `GNFA.validate`, written from the same source lines:

* `AV.GNFA.validateStr rxValid` (Model/GNFAValidate.lean) — labels are strings (`Str`), the regex
  validator `re._validate` is the parameter `rxValid`; this is the model C12 and its driver use,
  and the one `C19_results_valid` (Props/C19b.lean) checks the GNFA results with;
* `AV.VA.GNFA.validate` (Model/ValidateAll.lean) — labels are abstract (`GLabel α`: a list of
  `GChar α` — an input symbol or a literally written character — plus the verdict of the
  validator); this is the model of `C19_gnfa_validate_iff` / `C19_gnfa_rules` / the corruption
  theorems.

`absGNFA rxValid g` (Proofs/GnfaBridge.lean) reads a string-labelled GNFA as an abstract-labelled
one (same states, alphabet, table keys in the same order; labels abstracted character by
character, the verdict is what `rxValid` says about the label).  The theorems below say that
**the two models do not differ**: on every GNFA, the abstract model on `absGNFA rxValid g` returns
what the string model returns on `g` — `ok`, or the same exception — for every validator whose
only escaping exception is `LexerError` (the only kind the abstract verdict can express), e.g.
`simpleRxValid`; for an arbitrary validator, up to reading every escaping exception as
`LexerError`, and in particular with the same acceptance.

Consequence: every GNFA result statement of C12 / C19b of the form `g.validateStr … = .ok ()`
is also a statement `(absGNFA … g).validate = .ok ()`, i.e. (by `C19_gnfa_validate_iff`) the
result is well-formed in the sense `VA.GNFA.WF` of C19.

Also here: validity of a DFA is invariant under *any* renaming of states that is
injective on the names that occur (`C19_dfa_validate_rename_invariant`) — the statement behind
"`_minify(retain_names=False)` is modelled up to an injective renaming of states".
-/
import AutomataVerif.Props.C19b
import AutomataVerif.Props.C12b
import AutomataVerif.Proofs.GnfaBridge
import AutomataVerif.Proofs.RenameValidate

namespace AV.Props.C19
open AV AV.VA AV.GNFA AV.GnfaSpec AV.GnfaBridge

variable {σ : Type} [DecidableEq σ]

/-- The two models of `GNFA.validate` agree: for every regex
validator that lets only `LexerError` escape and every string-labelled GNFA `g`, the
abstract-label model (`VA.GNFA.validate`, the one of `C19_gnfa_validate_iff`) run on the
abstraction of `g` returns exactly what the string-label model (`GNFA.validateStr`, the one of
C12) returns on `g`: `ok`, or the same exception. -/
theorem C19_gnfa_validate_bridge (rxValid : Str → Res Bool)
    (hrx : ∀ s e, rxValid s = .error e → e = .lib .lexerError) (g : AV.GNFA σ Str) :
    (absGNFA rxValid g).validate = g.validateStr rxValid :=
  validate_absGNFA rxValid hrx g

/-- The hypothesis of the bridge holds for the character-level model of `re._validate` that
C12 uses: the only exception that escapes it is `LexerError`. -/
theorem C19_simpleRxValid_only_lexerError (s : Str) (e : Exn)
    (h : simpleRxValid s = .error e) : e = .lib .lexerError :=
  ReValidate.simpleRxValid_error s e h

theorem C19_gnfa_validate_bridge_simple (g : AV.GNFA σ Str) :
    (absGNFA simpleRxValid g).validate = g.validateStr simpleRxValid :=
  validate_absGNFA simpleRxValid ReValidate.simpleRxValid_error g

/-- **The bridge for an arbitrary validator** (no hypothesis): the abstract model is the string
model with every exception that escapes the validator read as `LexerError` — the abstract
verdict has no other way to say "an exception escaped". -/
theorem C19_gnfa_validate_bridge_any (rxValid : Str → Res Bool) (g : AV.GNFA σ Str) :
    (absGNFA rxValid g).validate = g.validateStr (normRx rxValid) :=
  validate_absGNFA_norm rxValid g

theorem C19_gnfa_validate_bridge_ok (rxValid : Str → Res Bool) (g : AV.GNFA σ Str) :
    (absGNFA rxValid g).validate = .ok () ↔ g.validateStr rxValid = .ok () :=
  validate_absGNFA_ok rxValid g

/-- What the string model accepts is well-formed in the sense of C19 (`VA.GNFA.WF`: the
declarative reading of `GNFA.validate` proved in `C19_gnfa_validate_iff`), and conversely. -/
theorem C19_gnfa_validateStr_iff_WF (rxValid : Str → Res Bool) (g : AV.GNFA σ Str) :
    g.validateStr rxValid = .ok () ↔ (absGNFA rxValid g).WF :=
  (C19_gnfa_validate_bridge_ok rxValid g).symm.trans (C19_gnfa_validate_iff _)

theorem valid_abs_of_validateStr {rxValid : Str → Res Bool} {g : AV.GNFA σ Str}
    (h : g.validateStr rxValid = .ok ()) :
    (absGNFA rxValid g).validate = .ok () ∧ (absGNFA rxValid g).WF :=
  ⟨(C19_gnfa_validate_bridge_ok rxValid g).mpr h, (C19_gnfa_validateStr_iff_WF rxValid g).mp h⟩

/-- When the string model raises, the abstract model raises the same exception; `C19_gnfa_rules`
then applies to it (the class is that of a violated rule of the GNFA rule system, no
earlier-checked rule being violated). -/
theorem C19_gnfa_validateStr_error (rxValid : Str → Res Bool)
    (hrx : ∀ s e, rxValid s = .error e → e = .lib .lexerError) (g : AV.GNFA σ Str) (e : Exn)
    (h : g.validateStr rxValid = .error e) : (absGNFA rxValid g).validate = .error e := by
  rw [C19_gnfa_validate_bridge rxValid hrx g, h]

/-- A GNFA with compound labels over `{a, b}` and the operator characters: initial state 2,
final state 3. -/
def brG : AV.GNFA Nat Str :=
  { states := [0, 1, 2, 3], syms := ['a', 'b'],
    trans := [(0, [(0, some ['(', 'a', 'b', ')', '*']), (1, some ['a', '|', 'b']), (3, some [])]),
              (1, [(0, some ['b', '?']), (1, none), (3, none)]),
              (2, [(0, some []), (1, none), (3, none)])],
    init := 2, final := 3 }

example : brG.validateStr simpleRxValid = .ok () := by decide +kernel
example : (absGNFA simpleRxValid brG).validate = .ok () := by decide +kernel
/-- The abstraction is not trivial: operator characters become `.extra`, symbols `.sym`. -/
example : absLabel ['a', 'b'] simpleRxValid ['a', '|', 'b'] =
    { chars := [.sym 'a', .extra "|", .sym 'b'], verdict := .valid } := by decide +kernel

/-- A character outside Σ ∪ {*|()?} in a label: `InvalidRegexError` in both models. -/
def brBadChar : AV.GNFA Nat Str := { brG with trans := brG.trans.map fun kv =>
  (kv.1, kv.2.map fun e => (e.1, if e.2 = some ['b', '?'] then some ['c', '?'] else e.2)) }
example : brBadChar.validateStr simpleRxValid = .error (.lib .invalidRegexError) := by decide +kernel
example : (absGNFA simpleRxValid brBadChar).validate = .error (.lib .invalidRegexError) := by decide +kernel

/-- A label over the right characters that is not a regex (`b|`): `InvalidRegexError`. -/
def brBadRegex : AV.GNFA Nat Str := { brG with trans := brG.trans.map fun kv =>
  (kv.1, kv.2.map fun e => (e.1, if e.2 = some ['b', '?'] then some ['b', '|'] else e.2)) }
example : brBadRegex.validateStr simpleRxValid = .error (.lib .invalidRegexError) := by decide +kernel
example : (absGNFA simpleRxValid brBadRegex).validate = .error (.lib .invalidRegexError) := by decide +kernel

/-- A line feed as input symbol and label: the `LexerError` escapes `validate` in both models. -/
def brLexer : AV.GNFA Nat Str :=
  { states := [0, 1, 2], syms := ['\n'],
    trans := [(0, [(0, some ['\n']), (2, some [])]), (1, [(0, some []), (2, none)])],
    init := 1, final := 2 }
example : brLexer.validateStr simpleRxValid = .error (.lib .lexerError) := by decide +kernel
example : (absGNFA simpleRxValid brLexer).validate = .error (.lib .lexerError) := by decide +kernel

/-- A structural defect (a labelled transition into the initial state): same class again. -/
def brIntoInit : AV.GNFA Nat Str := { brG with trans := brG.trans.map fun kv =>
  (kv.1, if kv.1 = 1 then kv.2 ++ [(2, some ['a'])] else kv.2) }
example : brIntoInit.validateStr simpleRxValid = .error (.lib .invalidStateError) := by decide +kernel
example : (absGNFA simpleRxValid brIntoInit).validate = .error (.lib .invalidStateError) := by decide +kernel

/-- The hypotheses of `C19_gnfa_validate_bridge` are met by `simpleRxValid` on `brG`. -/
example : (absGNFA simpleRxValid brG).validate = brG.validateStr simpleRxValid :=
  C19_gnfa_validate_bridge simpleRxValid C19_simpleRxValid_only_lexerError brG

/-- Whatever `GNFA.from_dfa` returns (any validator, any fresh-name function, any source) passes
the abstract-label `GNFA.validate` of C19 and is well-formed (`VA.GNFA.WF`). -/
theorem C19_from_dfa_result_valid_abs (rxValid : Str → Res Bool) (natName : Nat → σ)
    (d : DFA σ Char) (g : AV.GNFA σ Str) (h : fromDFA rxValid natName d = .ok g) :
    (absGNFA rxValid g).validate = .ok () ∧ (absGNFA rxValid g).WF :=
  valid_abs_of_validateStr (Alphabet.fromDFA_ok h).1

theorem C19_from_nfa_result_valid_abs (rxValid : Str → Res Bool) (natName : Nat → σ)
    (n : NFA σ Char) (g : AV.GNFA σ Str) (h : fromNFA rxValid natName n = .ok g) :
    (absGNFA rxValid g).validate = .ok () ∧ (absGNFA rxValid g).WF :=
  valid_abs_of_validateStr (Alphabet.fromNFA_ok h).1

/-- The GNFA fields of `ResultsValid` (Props/C19b.lean) restated with the `validate` of C19's own
GNFA model: `GNFA.from_dfa(d)` / `GNFA.from_nfa(n)` on a valid source over literal symbols return
a GNFA that passes `VA.GNFA.validate`. -/
structure GnfaResultsValidAbs : Prop where
  gnfa_from_dfa : ∀ {σ : Type} [DecidableEq σ] (natName : Nat → σ), Function.Injective natName →
    ∀ d : DFA σ Char, d.validate = .ok () → (∀ a ∈ d.syms, IsLit a) →
    ∃ g, fromDFA simpleRxValid natName d = .ok g ∧ (absGNFA simpleRxValid g).validate = .ok ()
  gnfa_from_nfa : ∀ {σ : Type} [DecidableEq σ] (natName : Nat → σ), Function.Injective natName →
    ∀ n : NFA σ Char, n.validate = .ok () → (∀ kv ∈ n.trans, (akeys kv.2).Nodup) →
    (∀ kv ∈ n.trans, ∀ e ∈ kv.2, e.2.Nodup) → (∀ a ∈ n.syms, IsLit a) →
    ∃ g, fromNFA simpleRxValid natName n = .ok g ∧ (absGNFA simpleRxValid g).validate = .ok ()

/-- Derived from `C19_results_valid` through the bridge. -/
theorem C19_gnfa_results_valid_abs : GnfaResultsValidAbs where
  gnfa_from_dfa := fun natName hinj d hv hlit =>
    let ⟨g, h, v⟩ := C19_results_valid.gnfa_from_dfa natName hinj d hv hlit
    ⟨g, h, (valid_abs_of_validateStr v).1⟩
  gnfa_from_nfa := fun natName hinj n hv hkeys htgts hlit =>
    let ⟨g, h, v⟩ := C19_results_valid.gnfa_from_nfa natName hinj n hv hkeys htgts hlit
    ⟨g, h, (valid_abs_of_validateStr v).1⟩

/-- On the examples of C12: the GNFAs `from_dfa` / `from_nfa` build pass the abstract model. -/
example : (absGNFA simpleRxValid C12.exG).validate = .ok () :=
  (C19_from_dfa_result_valid_abs simpleRxValid id C12.exDFA C12.exG (by decide +kernel)).1
example : (absGNFA simpleRxValid C12.exGN).validate = .ok () :=
  (C19_from_nfa_result_valid_abs simpleRxValid id C12.exNFA C12.exGN (by decide +kernel)).1
example : (absGNFA simpleRxValid C12.exG).validate = .ok () := by decide +kernel

/-- The negative result of C12b (`loop_space`: a white-space input symbol makes the constructor
of `from_dfa`'s result raise `LexerError`) holds in the abstract model with the same class. -/
theorem C19_loop_space_abs {c : Char} (hsp : pyIsSpace c = true) (h1 : c ≠ ' ') (h2 : c ≠ '\t') :
    (absGNFA simpleRxValid (C12.loopG c)).validate = .error (.lib .lexerError) :=
  C19_gnfa_validateStr_error simpleRxValid ReValidate.simpleRxValid_error _ _ (C12.loop_space hsp h1 h2)

example : (absGNFA simpleRxValid (C12.loopG '\n')).validate = .error (.lib .lexerError) :=
  C19_loop_space_abs (by decide) (by decide) (by decide)

/- `_minify(retain_names=False)`: validity does not depend on how the states are numbered.
`ResultsValid` (Props/C19b.lean) states the `retain_names=False` results with `DFA.renumber` (the
BFS discovery index); after `_minify` the code numbers the blocks with `enumerate` instead — some
other injective numbering of the same blocks.  The theorems below make the remark "the same DFA
up to an injective renaming" a statement: `validate` returns the same (`ok`, or the same
exception) on a DFA and on every renaming of it that is injective on the names that occur, and
for "valid stays valid" no injectivity is needed at all.  `MinifyAnyNumbering` restates every
`…_renumbered` field that goes through `_minify` for an arbitrary numbering `f`. -/

section RenameSec
variable {σ τ α : Type} [DecidableEq σ] [DecidableEq τ] [DecidableEq α]

/-- `DFA.validate` is invariant under every renaming of
the states that is injective on the names occurring in the definition (states, row keys,
transition targets, initial state, final states): same `ok`, same exception. -/
theorem C19_dfa_validate_rename_invariant (f : σ → τ) (d : DFA σ α)
    (hinj : C04.InjOn f (RenameValidate.names d)) : (d.rename f).validate = d.validate :=
  RenameValidate.validate_rename f d hinj

theorem C19_dfa_validate_rename_injective (f : σ → τ) (hf : Function.Injective f) (d : DFA σ α) :
    (d.rename f).validate = d.validate :=
  RenameValidate.validate_rename f d (C04.injOn_of_injective hf _)

theorem C19_dfa_valid_iff_of_injective_renaming (f : σ → τ) (hf : Function.Injective f)
    (d : DFA σ α) : (d.rename f).validate = .ok () ↔ d.validate = .ok () := by
  rw [C19_dfa_validate_rename_injective f hf d]

/-- "Valid stays valid" needs no injectivity (`C04.rename_valid`); with injectivity on the states
and row keys the renamed DFA is also duplicate-free (a Python value) and accepts the same words. -/
theorem C19_dfa_valid_of_renaming (f : σ → τ) (d : DFA σ α) (hv : d.validate = .ok ()) :
    (d.rename f).validate = .ok () ∧
    (C04.InjOn f (d.states ++ akeys d.trans) →
      (d.PyShape → (d.rename f).PyShape) ∧ ∀ w, (d.rename f).accepts w = d.accepts w) :=
  ⟨C04.rename_valid f hv, fun hinj =>
    ⟨fun p => C04.rename_pyShape f ((DFA.validate_eq_ok d).mp hv) p hinj,
     fun w => C04.rename_accepts f ((DFA.validate_eq_ok d).mp hv) hinj.sep w⟩⟩

/-- `renumber` is one such renaming. -/
example (d : DFA σ α) (hv : d.validate = .ok ()) : d.renumber.validate = .ok () :=
  (C19_dfa_valid_of_renaming (fun s => indexOf s d.states) d hv).1

end RenameSec

/-- Every `retain_names=False` result that goes through `_minify`, for an ARBITRARY numbering `f`
of the states of the `retain_names=True` result (the code's `enumerate(blocks)`, the model's
`renumber`, or any other): it passes `validate`. -/
structure MinifyAnyNumbering : Prop where
  dfa_binop_min : ∀ {σ α τ : Type} [DecidableEq σ] [DecidableEq α] [DecidableEq τ] (op : DFA.BinOp)
    (A B : DFA σ α) (pick : List Nat → Nat),
    A.validate = .ok () → B.validate = .ok () → A.PyShape → A.symsEq B = true →
    ∃ M, A.binopMin op B pick = .ok M ∧ ∀ f : _ → τ, (M.rename f).validate = .ok ()
  dfa_complement_min : ∀ {σ α τ : Type} [DecidableEq σ] [DecidableEq α] [DecidableEq τ]
    (d : DFA σ α) (trap : σ) (pick : List Nat → Nat),
    d.validate = .ok () → d.PyShape → trap ∉ d.states →
    ∃ M, d.complementMinFull trap pick = .ok M ∧ ∀ f : _ → τ, (M.rename f).validate = .ok ()
  dfa_to_partial_min : ∀ {σ α τ : Type} [DecidableEq σ] [DecidableEq α] [DecidableEq τ]
    (d : DFA σ α) (pick : List Nat → Nat), d.validate = .ok () → d.PyShape →
    ∀ f : _ → τ, ((d.toPartialMin pick).rename f).validate = .ok ()
  dfa_minify : ∀ {σ α τ : Type} [DecidableEq σ] [DecidableEq α] [DecidableEq τ] (d : DFA σ α)
    (pick : List Nat → Nat), d.validate = .ok () → d.PyShape →
    ∀ f : _ → τ, ((d.minify pick).rename f).validate = .ok ()
  dfa_from_nfa_min : ∀ {σ α τ : Type} [DecidableEq σ] [DecidableEq α] [DecidableEq τ] (n : NFA σ α)
    (pick : List Nat → Nat), n.validate = .ok () → n.PyShape →
    ∀ f : _ → τ, ((n.toDFAMin pick).rename f).validate = .ok ()

/-- From `C19_results_valid` and `C19_dfa_valid_of_renaming`. -/
theorem C19_minify_any_numbering : MinifyAnyNumbering where
  dfa_binop_min := fun op A B pick hA hB pA hs =>
    let ⟨M, h, v⟩ := C19_results_valid.dfa_binop_min op A B pick hA hB pA hs
    ⟨M, h, fun f => (C19_dfa_valid_of_renaming f M v).1⟩
  dfa_complement_min := fun d trap pick hd pd ht =>
    let ⟨M, h, v⟩ := C19_results_valid.dfa_complement_min d trap pick hd pd ht
    ⟨M, h, fun f => (C19_dfa_valid_of_renaming f M v).1⟩
  dfa_to_partial_min := fun d pick hd pd f =>
    (C19_dfa_valid_of_renaming f _ (C19_results_valid.dfa_to_partial_min d pick hd pd)).1
  dfa_minify := fun d pick hd pd f =>
    (C19_dfa_valid_of_renaming f _ (C19_results_valid.dfa_minify d pick hd pd)).1
  dfa_from_nfa_min := fun n pick hv ps f =>
    (C19_dfa_valid_of_renaming f _ (C19_results_valid.dfa_from_nfa_min n pick hv ps)).1

/-- A renaming of the C04 example DFA by a non-monotone injective map: same verdict of
`validate` (here `ok`), as `C19_dfa_validate_rename_invariant` says. -/
def swapName (q : Nat) : Nat := if q = 0 then 5 else if q = 1 then 3 else q + 10

example : C04.InjOn swapName (RenameValidate.names C04.exA) := by decide +kernel
example : (C04.exA.rename swapName).validate = .ok () := by decide +kernel
example : (C04.exA.rename swapName).validate = C04.exA.validate :=
  C19_dfa_validate_rename_invariant swapName C04.exA (by decide +kernel)

/-- … and on an INVALID definition (a transition into a state that does not exist) both raise
the same class. -/
def exBadTarget : AV.DFA Nat Nat :=
  { states := [0, 1], syms := [0, 1], trans := [(0, [(0, 0), (1, 7)]), (1, [(0, 0)])],
    init := 0, finals := [1], allowPartial := true }
example : exBadTarget.validate = .error (.lib .invalidStateError) := by decide +kernel
example : (exBadTarget.rename swapName).validate = .error (.lib .invalidStateError) := by
  rw [C19_dfa_validate_rename_invariant swapName exBadTarget (by decide +kernel)]
  decide +kernel

/-- Injectivity on the occurring names is needed for the invariance (not for "valid stays
valid"): collapsing the missing target 7 onto the state 0 makes an invalid definition valid. -/
example : (exBadTarget.rename fun q => if q = 7 then 0 else q).validate = .ok () := by decide +kernel

/-- The minified symmetric difference of the two C04 examples (the default call `exA ^ exB`),
with its blocks numbered by an arbitrary function, passes `validate`. -/
example : (match C04.exA.binopMin .symm C04.exB (fun _ => 0) with
           | .ok M => (M.rename fun q => 100 - 7 * indexOf q M.states).validate
           | .error e => .error e) = .ok () := by
  obtain ⟨M, h, v⟩ := C19_minify_any_numbering.dfa_binop_min (τ := Nat) .symm C04.exA C04.exB
    (fun _ => 0) (by decide) (by decide) ⟨by decide, by decide, by decide, by decide, by decide⟩
    (by decide)
  rw [h]
  exact v _

end AV.Props.C19
