/-
Props/C12all.lean — aggregator: the module the C12 check builds and audits. It only imports the
files that hold C12's property theorems (C12, C12b, C12c, C12d); it states nothing.
-/
import AutomataVerif.Props.C12b
import AutomataVerif.Props.C12c
import AutomataVerif.Props.C12d
