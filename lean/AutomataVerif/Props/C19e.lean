/-
Props/C19e.lean — C19, the clause "a well-formed (accepted by validate) definition can be run on
any string and passed to any operation without an undocumented error".

The models of C01–C17 track Python-level failures explicitly: `Res β = Except Exn β`,
`Exn.py …` = an undocumented Python error (`KeyError`, `IndexError`, …), `Exn.lib …` = a
documented library exception; generators end with an `Option Exn` / `Outcome` / `GenEnd` /
`SuccStatus`.  `AcceptedIsUsable` below has one field per modelled operation whose model can
express a failure.  Each field says: on VALID operands (validate = ok; plus the representation
invariant "came from Python sets / dicts" — `PyShape`, `IsDict`, `NFA.Valid` — where the cited
theorem needs it; plus the argument conditions of the owning property) the model returns `.ok _`
or the documented `Exn.lib _` named in the field, and never `Exn.py _`.  Every field is a
corollary of a theorem or chain lemma of the property that owns the operation (cited in
`C19_accepted_is_usable_partial`); what is proved here is the passage from the cited theorem to the
form of the field.

Exclusions are OPEN FINDINGS (F13, F14 / F14b, F31, F34, F35 / F35b): where the model does fail
on some valid operand, the field carries the exclusion as an explicit hypothesis and its
comment names the finding.  One documented Python exception: `random_word(k)` raises `ValueError`
when there is no word of length `k` (its docstring says so): `dfa_random_word` allows exactly
`.py .valueError`.

Operations whose model is a TOTAL function (no `Res`: the model cannot express a failure, so
there is nothing to state): `DFA.to_partial`, `minify`, `isempty`, `count_words_of_length`,
`words_of_length`, `DFA.from_nfa`, `NFA.from_dfa`, `NFA.eliminate_lambda` (C07's model),
`DFA.__eq__` / `NFA.__eq__` (three-valued `Option Bool` / `EqRes`, see C06 / C09), renumbering.
Failure-tracking refinements of most of them are in Props/C19g.lean and Props/C19h.lean; their
crash-freedom on the real code is sampled (harness/ops/C19.py), like every field below.
-/
import AutomataVerif.Props.C19b
import AutomataVerif.Props.C01
import AutomataVerif.Props.C02
import AutomataVerif.Props.C03
import AutomataVerif.Props.C06
import AutomataVerif.Props.C13
import AutomataVerif.Props.C14
import AutomataVerif.Props.C17
import AutomataVerif.Props.C18

namespace AV.Props.C19
open AV AV.GNFA AV.GnfaSpec

/-- The call did not end with an undocumented Python-level error. -/
def NoCrash {β : Type} (r : Res β) : Prop := ∀ e : PyErr, r ≠ .error (.py e)

theorem NoCrash.of_ok {β : Type} {r : Res β} {x : β} (h : r = .ok x) : NoCrash r := by
  intro e he; rw [h] at he; cases he

theorem NoCrash.of_lib {β : Type} {r : Res β} {x : Gen.Err} (h : r = .error (.lib x)) :
    NoCrash r := by
  intro e he; rw [h] at he; cases he

/-- The call returned, or raised the documented library exception `x`. -/
def OkOr {β : Type} (x : Gen.Err) (r : Res β) : Prop := (∃ v, r = .ok v) ∨ r = .error (.lib x)

theorem OkOr.noCrash {β : Type} {x : Gen.Err} {r : Res β} (h : OkOr x r) : NoCrash r := by
  rcases h with ⟨v, h⟩ | h
  · exact NoCrash.of_ok h
  · exact NoCrash.of_lib h

theorem OkOr.of_only {β : Type} {x : Gen.Err} {r : Res β}
    (h : ∀ e, r = .error e → e = .lib x) : OkOr x r := by
  cases hr : r with
  | ok v => exact Or.inl ⟨v, rfl⟩
  | error e => rw [h e hr]; exact Or.inr rfl

theorem OkOr.of_bool {β : Type} {x : Gen.Err} {r : Res β} (b : Bool)
    (ht : b = true → ∃ v, r = .ok v) (hf : b = false → r = .error (.lib x)) : OkOr x r := by
  cases b with
  | true => exact .inl (ht rfl)
  | false => exact .inr (hf rfl)

theorem OkOr.ite {β : Type} {x : Gen.Err} (b : Bool) (v : β) :
    OkOr x (if b = true then .ok v else .error (.lib x)) := by
  cases b with
  | true => exact .inl ⟨v, rfl⟩
  | false => exact .inr rfl

theorem OkOr.map {β γ : Type} {x : Gen.Err} {r : Res β} (f : β → γ) (h : OkOr x r) :
    OkOr x (Except.map f r) := by
  rcases h with ⟨v, rfl⟩ | rfl
  · exact .inl ⟨f v, rfl⟩
  · exact .inr rfl

theorem returns {β : Type} {r : Res β} {p : β → Prop} (h : ∃ v, r = .ok v ∧ p v) :
    ∃ v, r = .ok v :=
  h.imp fun _ => And.left

/-- **An accepted definition is usable**: no modelled operation ends with an undocumented
Python error on valid operands. -/
structure AcceptedIsUsable : Prop where
  /-- The validating constructor returns the definition it was given (DFA `__init__`, NFA
  `__init__` as called by the operations). -/
  constructors : (∀ {σ α : Type} [DecidableEq σ] [DecidableEq α] (d : DFA σ α),
      d.validate = .ok () → ∀ sv : Bool, d.mk' sv = .ok d) ∧
    (∀ {σ α : Type} [DecidableEq σ] [DecidableEq α] (n : NFA σ α),
      n.validate = .ok () → NFA.create n = .ok n)
  /-- `_get_next_current_state` from the sink or a declared state: no `KeyError`. -/
  dfa_step : ∀ {σ α : Type} [DecidableEq σ] [DecidableEq α] (d : DFA σ α), d.validate = .ok () →
    ∀ (s : Option σ) (a : α), (∀ q, s = some q → q ∈ d.states) → ∃ s', d.stepE s a = .ok s'
  /-- `read_input_stepwise(w, ignore_rejection)` on ANY word (foreign symbols included): the
  generator ends normally or with `RejectionException`. -/
  dfa_read_stepwise : ∀ {σ α : Type} [DecidableEq σ] [DecidableEq α] (d : DFA σ α),
    d.validate = .ok () → ∀ (w : List α) (ign : Bool) (e : Exn),
    (d.readStepwise w ign).2 = some e → e = .lib .rejectionException
  /-- `read_input(w)`: a configuration or `RejectionException`. -/
  dfa_read_input : ∀ {σ α : Type} [DecidableEq σ] [DecidableEq α] (d : DFA σ α),
    d.validate = .ok () → ∀ w : List α, OkOr .rejectionException (d.readInput w)
  /-- `accepts_input(w)` and `item in d` (any item, `none` = not a `str`) return a Boolean. -/
  dfa_accepts_input : ∀ {σ α : Type} [DecidableEq σ] [DecidableEq α] (d : DFA σ α),
    d.validate = .ok () → (∀ w : List α, ∃ b, d.acceptsInput w = .ok b) ∧
      ∀ item : Option (List α), ∃ b, d.contains item = .ok b
  /-- `lambda_closures[q]` for a declared state and `_get_next_current_states` from any set of
  states: no `KeyError`. -/
  nfa_step : ∀ {σ α : Type} [DecidableEq σ] [DecidableEq α] (n : NFA σ α), n.validate = .ok () →
    (∀ q ∈ n.states, ∃ c, n.closureE q = .ok c) ∧
    ∀ (cur : List σ) (a : α), ∃ nxt, n.nextStatesE cur a = .ok nxt
  nfa_read_stepwise : ∀ {σ α : Type} [DecidableEq σ] [DecidableEq α] (n : NFA σ α),
    n.validate = .ok () → ∀ (w : List α) (e : Exn),
    (n.readStepwise w).2 = some e → e = .lib .rejectionException
  nfa_read_input : ∀ {σ α : Type} [DecidableEq σ] [DecidableEq α] (n : NFA σ α),
    n.validate = .ok () → ∀ w : List α, OkOr .rejectionException (n.readInput w)
  nfa_accepts_input : ∀ {σ α : Type} [DecidableEq σ] [DecidableEq α] (n : NFA σ α),
    n.validate = .ok () → (∀ w : List α, ∃ b, n.acceptsInput w = .ok b) ∧
      ∀ item : Option (List α), ∃ b, n.contains item = .ok b
  /-- `A.union/intersection/difference/symmetric_difference(B, minify=False)`: a DFA, or
  `SymbolMismatchError` (exactly when the alphabets differ). -/
  dfa_binop : ∀ {σ α : Type} [DecidableEq σ] [DecidableEq α] (op : DFA.BinOp) (A B : DFA σ α),
    A.validate = .ok () → B.validate = .ok () → A.PyShape →
    OkOr .symbolMismatchError (A.binopPlain op B)
  /-- … with `minify=True`. -/
  dfa_binop_min : ∀ {σ α : Type} [DecidableEq σ] [DecidableEq α] (op : DFA.BinOp) (A B : DFA σ α)
    (pick : List Nat → Nat), A.validate = .ok () → B.validate = .ok () → A.PyShape →
    OkOr .symbolMismatchError (A.binopMin op B pick)
  /-- All four option combinations `retain_names × minify`. -/
  dfa_binop_opts : ∀ {σ α : Type} [DecidableEq σ] [DecidableEq α] (op : DFA.BinOp) (A B : DFA σ α)
    (retain minify : Bool) (pick : List Nat → Nat),
    A.validate = .ok () → B.validate = .ok () → A.PyShape →
    OkOr .symbolMismatchError (DFA.binopOpts op A B retain minify pick)
  /-- The operators `| & - ^` as the source defines them (no `TypeError` / `AttributeError`
  from the dispatch either). -/
  dfa_operator : ∀ {σ α : Type} [DecidableEq σ] [DecidableEq α] (op : DFA.BinOp) (A B : DFA σ α)
    (pick : List Nat → Nat), A.validate = .ok () → B.validate = .ok () → A.PyShape →
    OkOr .symbolMismatchError (DFA.operator op A B pick)
  /-- `d.to_complete(trap)`; `trap ∉ states` is what `_get_trap_state_id` guarantees. -/
  dfa_to_complete : ∀ {σ α : Type} [DecidableEq σ] [DecidableEq α] (d : DFA σ α) (trap : σ)
    (custom : Bool), d.validate = .ok () → d.PyShape → trap ∉ d.states →
    ∃ C, d.toComplete trap custom = .ok C
  /-- `d.complement(…)` under the option combinations, and `~d`. -/
  dfa_complement : ∀ {σ α : Type} [DecidableEq σ] [DecidableEq α] (d : DFA σ α) (trap : σ)
    (pick : List Nat → Nat), d.validate = .ok () → d.PyShape → trap ∉ d.states →
    (∃ R, d.complementFull trap = .ok R) ∧ (∃ M, d.complementMinFull trap pick = .ok M) ∧
    (∃ R, DFA.invert d trap pick = .ok R)
  /-- Results fed into further operations: every finite expression tree over
  {∪, ∩, −, △, complement, to_partial, to_complete} with any `minify` flags, leaves valid DFAs
  over one alphabet (`trapOf` = `_get_trap_state_id`: a name not among the states). -/
  dfa_expr : ∀ {α : Type} [DecidableEq α] (trapOf : List Nat → Nat), (∀ l, trapOf l ∉ l) →
    ∀ (pick : List Nat → Nat) (Sg : List α) (e : C04.DFAExpr α), e.LeavesOk Sg →
    ∃ R, e.eval trapOf pick = .ok R
  /-- `issubset`, `isdisjoint` (`<=`, `>=`, `issuperset` are the same calls): a Boolean or
  `SymbolMismatchError`, for ALL operands (the model has no other exit). -/
  dfa_issubset_isdisjoint : ∀ {σ α : Type} [DecidableEq σ] [DecidableEq α] (A B : DFA σ α),
    OkOr .symbolMismatchError (A.issubset B) ∧ OkOr .symbolMismatchError (A.isdisjoint B)
  /-- On valid operands over one alphabet they return. -/
  dfa_compare_defined : ∀ {σ α : Type} [DecidableEq σ] [DecidableEq α] (A B : DFA σ α),
    A.validate = .ok () → B.validate = .ok () → A.PyShape → B.PyShape → A.symsEq B = true →
    (∃ b, A.issubset B = .ok b) ∧ (∃ b, B.issubset A = .ok b) ∧ (∃ b, A.isdisjoint B = .ok b) ∧
    ∃ c, A.compareAll B = .ok c
  -- `IsDict`: the transition table came from Python dicts (no duplicate keys)
  /-- `minimum_word_length()`: a number or `EmptyLanguageException`. -/
  dfa_min_word_length : ∀ {σ α : Type} [DecidableEq σ] [DecidableEq α] (d : DFA σ α),
    d.validate = .ok () → d.IsDict → OkOr .emptyLanguageException d.minimumWordLength
  /-- `maximum_word_length()`: a number / `None`, or `EmptyLanguageException`. -/
  dfa_max_word_length : ∀ {σ α : Type} [DecidableEq σ] [DecidableEq α] (d : DFA σ α),
    d.validate = .ok () → d.IsDict → OkOr .emptyLanguageException d.maximumWordLength
  /-- `isfinite()` returns. -/
  dfa_isfinite : ∀ {σ α : Type} [DecidableEq σ] [DecidableEq α] (d : DFA σ α),
    d.validate = .ok () → d.IsDict → ∃ b, d.isFinite = .ok b
  /-- `cardinality()` / `__len__()`: a number or `InfiniteLanguageException`. -/
  dfa_cardinality : ∀ {σ α : Type} [DecidableEq σ] [DecidableEq α] (d : DFA σ α),
    d.validate = .ok () → d.IsDict →
    OkOr .infiniteLanguageException d.cardinality ∧ OkOr .infiniteLanguageException d.len
  /-- The builtin `len(d)`.  EXCLUSION (open finding F31 `C13:len-overflow-2^63`): from 2^63
  words on the interpreter raises `OverflowError` (`C13_len`, `C13_len_full_fails`); below that
  bound: the number, or `InfiniteLanguageException`. -/
  dfa_len_builtin : ∀ {σ α : Type} [DecidableEq σ] [DecidableEq α] (d : DFA σ α),
    d.validate = .ok () → d.IsDict →
    ((C13.Lang d).Finite → Set.ncard (C13.Lang d) < 2 ^ 63) →
    (∃ n, d.lenBuiltin = .ok n) ∨ d.lenBuiltin = .error (.exn (.lib .infiniteLanguageException))
  /-- `iter(d)` run for any number of loop bodies: no exception. -/
  dfa_iter : ∀ {σ α : Type} [DecidableEq σ] [DecidableEq α] (d : DFA σ α),
    d.validate = .ok () → d.IsDict → ∀ (key : α → Int) (n : Nat), ∃ r, d.iterRun key n = .ok r
  /-- `random_word(k)`: a word, or the DOCUMENTED `ValueError` ("if this DFA does not accept any
  words of length k") — no `AssertionError`, nothing else.  `InRange`: the numbers `cs` are
  possible results of `rng.randint(0, total - 1)`. -/
  dfa_random_word : ∀ {σ α : Type} [DecidableEq σ] [DecidableEq α] (d : DFA σ α),
    d.validate = .ok () → d.IsDict → ∀ (k : Nat) (cs : List Nat), d.InRange k d.init cs →
    (∃ w, d.randomWord k cs = .ok w) ∨ d.randomWord k cs = .error (.py .valueError)
  /-- `successors(…)` / `predecessors(…)` for any number of loop iterations: the generator is
  exhausted, still running, or raised `InfiniteLanguageException` (reverse direction on an
  infinite language).  EXCLUSIONS carried by `C14.Dom` (open findings): `symsNe` — F14 / F14b
  `C14:empty-alphabet` (`IndexError` on an empty alphabet, `C14_empty_alphabet`); `inputOver` —
  F13 `C14:start-string-with-foreign-symbol` (`KeyError`, `C14_foreign_start_raises`).  The other
  fields of `Dom`: validate = ok, dict-shaped table, duplicate-free alphabet, `key` injective on
  the alphabet (it is a sort key). -/
  dfa_successors : ∀ {σ α : Type} [DecidableEq σ] [DecidableEq α] (d : DFA σ α) (key : α → Int)
    (input : Option (List α)), C14.Dom d key input → ∀ (o : DFA.SuccOpts) (fuel : Nat) (e : Exn),
    (d.successors key input o fuel).2 = .raised e → e = .lib .infiniteLanguageException
  /-- `successor(…)` never raises; `predecessor(…)` raises at most `InfiniteLanguageException`
  (same exclusions). -/
  dfa_successor_predecessor : ∀ {σ α : Type} [DecidableEq σ] [DecidableEq α] (d : DFA σ α)
    (key : α → Int) (input : Option (List α)), C14.Dom d key input →
    ∀ (o : DFA.SuccOpts) (fuel : Nat) (e : Exn),
    d.successor key input o fuel ≠ .raised e ∧
    (d.predecessor key input o fuel = .raised e → e = .lib .infiniteLanguageException)
  -- `Valid`: validate ok + dict-shaped table
  /-- `union` (`|`), `concatenate` (`+`), `intersection` (`&`), `shuffle_product`,
  `right_quotient`, `left_quotient` return an NFA (no `KeyError` in `_load_new_transition_dict`,
  `_eliminate_lambda`, the product loops). -/
  nfa_binary : ∀ {σ₁ σ₂ α : Type} [DecidableEq σ₁] [DecidableEq σ₂] [DecidableEq α]
    (A : NFA σ₁ α) (B : NFA σ₂ α), A.Valid → B.Valid →
    (∃ R, NFA.union A B = .ok R) ∧ (∃ R, NFA.orOp A B = .ok R) ∧
    (∃ R, NFA.concatenate A B = .ok R) ∧ (∃ R, NFA.addOp A B = .ok R) ∧
    (∃ R, NFA.intersection A B = .ok R) ∧ (∃ R, NFA.andOp A B = .ok R) ∧
    (∃ R, NFA.shuffleProduct A B = .ok R) ∧
    (∃ R, NFA.rightQuotient A B = .ok R) ∧ (∃ R, NFA.leftQuotient A B = .ok R)
  /-- `kleene_star`, `option`, `reverse` (`nat` = the embedding of the fresh int names). -/
  nfa_unary : ∀ {σ α : Type} [DecidableEq σ] [DecidableEq α] (nat : Nat → σ),
    Function.Injective nat → ∀ A : NFA σ α, A.Valid →
    (∃ R, NFA.kleeneStar nat A = .ok R) ∧ (∃ R, NFA.option nat A = .ok R) ∧
    (∃ R, NFA.reverse nat A = .ok R)
  /-- Results fed into further operations: every finite expression tree over the nine operations
  with Python's mixed names (`PyName`), valid leaves: the evaluation returns. -/
  nfa_expr : ∀ {α : Type} [DecidableEq α] (e : NFA.OpExpr α), C08.LeavesValid e →
    ∃ R, e.eval = .ok R
  /-- `_eliminate_lambda()` (the helper the quotients and `eliminate_lambda` run; it indexes
  `lambda_closures[…]`): returns. -/
  nfa_eliminate_lambda_core : ∀ {σ α : Type} [DecidableEq σ] [DecidableEq α] (A : NFA σ α),
    A.Valid → ∃ r, NFAElim.core A = .ok r
  /-- `GNFA.from_dfa(d)` returns and `to_regex()` of the result returns, for every tie-break
  order of `_find_min_connected_node`.  EXCLUSION (open finding F34
  `C12:alphabet-has-reserved-regex-character`): the alphabet consists of literal characters
  (`IsLit`: not reserved in the regex syntax, not white space) — otherwise the GNFA constructor
  refuses some of the labels `from_dfa` writes (`InvalidRegexError` / `LexerError`). -/
  gnfa_from_dfa_to_regex : ∀ {σ : Type} [DecidableEq σ] (natName : Nat → σ),
    Function.Injective natName → ∀ d : DFA σ Char, d.validate = .ok () →
    (∀ kv ∈ d.trans, (akeys kv.2).Nodup) → (∀ a ∈ d.syms, IsLit a) →
    ∃ g, fromDFA simpleRxValid natName d = .ok g ∧
      ∀ ord : Nat → List σ → List σ, (∀ k l x, x ∈ ord k l ↔ x ∈ l) → ∃ o, toRegex g ord = .ok o
  /-- `GNFA.from_nfa(n)` + `to_regex()` (same exclusion; rows and target sets duplicate-free). -/
  gnfa_from_nfa_to_regex : ∀ {σ : Type} [DecidableEq σ] (natName : Nat → σ),
    Function.Injective natName → ∀ n : NFA σ Char, n.validate = .ok () →
    (∀ kv ∈ n.trans, (akeys kv.2).Nodup) → (∀ kv ∈ n.trans, ∀ e ∈ kv.2, e.2.Nodup) →
    (∀ a ∈ n.syms, IsLit a) →
    ∃ g, fromNFA simpleRxValid natName n = .ok g ∧
      ∀ ord : Nat → List σ → List σ, (∀ k l x, x ∈ ord k l ↔ x ∈ l) → ∃ o, toRegex g ord = .ok o
  /-- `g.to_regex()` on a hand-written GNFA of the documented shape (what `GNFA.validate`
  checks, /repo 084dfed: a row for every non-final state, an entry for every non-initial
  state) whose labels are well-formed regexes: no `KeyError` (F20, fixed).  `Shape` / `Denotes`
  are hypotheses here; from `validateStr = ok` the same conclusion is
  `C12_to_regex_total_of_validate` (Props/C12c.lean, not imported here). -/
  gnfa_to_regex : ∀ {σ : Type} [DecidableEq σ] (g : GNFA σ Str),
    Shape (dedup g.states) g.init g.final g.trans →
    ∀ Lb : σ → σ → Language Char, Denotes Lab g.trans Lb →
    ∀ ord : Nat → List σ → List σ, (∀ k l x, x ∈ ord k l ↔ x ∈ l) → ∃ o, toRegex g ord = .ok o
  -- the PDA readers: for EVERY table, valid or not
  /-- NPDA `read_input_stepwise` (any loop budget): ends normally, with `RejectionException`, or
  is still running; `read_input` raises at most that; `accepts_input` raises nothing. -/
  npda_read : ∀ {σ α γ : Type} [DecidableEq σ] [DecidableEq α] [DecidableEq γ]
    (M : PDA.NPDA σ α γ) (fuel : Nat) (w : List α),
    (∀ e, (M.readStepwise fuel w).2 = .raised e → e = .lib .rejectionException) ∧
    (∀ e, PDA.readInput (M.readStepwise fuel w) = some (.error e) → e = .lib .rejectionException) ∧
    (∀ e, PDA.acceptsInput (M.readStepwise fuel w) ≠ some (.error e))
  /-- DPDA the same, whichever of two applicable transitions `set.pop()` takes (`pick`); the
  `IndexError` in the message formatting of `_get_next_configuration` is unreachable. -/
  dpda_read : ∀ {σ α γ : Type} [DecidableEq σ] [DecidableEq α] [DecidableEq γ]
    (M : PDA.DPDA σ α γ) (pick : PDA.Config σ α γ → Bool) (fuel : Nat) (w : List α),
    (∀ e, (M.readStepwise pick fuel w).2 = .raised e → e = .lib .rejectionException) ∧
    (∀ e, PDA.readInput (M.readStepwise pick fuel w) = some (.error e) →
      e = .lib .rejectionException) ∧
    (∀ e, PDA.acceptsInput (M.readStepwise pick fuel w) ≠ some (.error e))
  /-- DTM `read_input_stepwise` observed through `n` calls of `next()`: raises at most
  `RejectionException`; `accepts_input` within that budget answers (for every table). -/
  dtm_read : ∀ {σ Γ : Type} [DecidableEq σ] [DecidableEq Γ] (M : TM.DTM σ Γ) (w : List Γ) (n : Nat),
    (∀ e, (M.readStepwise w n).2 = .raised e → e = .lib .rejectionException) ∧
    ∃ v, M.verdict w n = .ok v
  ntm_read : ∀ {σ Γ : Type} [DecidableEq σ] [DecidableEq Γ] (M : TM.NTM σ Γ) (w : List Γ) (n : Nat),
    (∀ e, (M.readStepwise w n).2 = .raised e → e = .lib .rejectionException) ∧
    ∃ v, M.verdict w n = .ok v
  /-- MNTM `read_input_stepwise`: in the model crash-free for every table, like the readers above (an
  empty transition list raises no `IndexError`, fix 5a3675d); only this field's statement carries
  `validate = ok`. -/
  mntm_read : ∀ {σ Γ : Type} [DecidableEq σ] [DecidableEq Γ] (M : TM.MNTM σ Γ),
    M.validate = .ok () → ∀ (w : List Γ) (n : Nat),
    (∀ e, (M.readStepwise w n).2 = .raised e → e = .lib .rejectionException) ∧
    ∃ v, M.verdict w n = .ok v
  /-- `MNTM.read_input_as_ntm` (C17).  EXCLUSION (open finding F35 / F35b
  `C17:mark-symbol-in-alphabet-or-input`): the head mark `hd` (`'^'`) and the separator `sep`
  (`'_'`) are neither tape symbols (`SimDomain.alphabet`) nor in the input (`Clean`) — otherwise
  `MalformedExtendedTapeError` (`C17_mark_in_alphabet_fails`, `C17_mark_in_input_fails`).
  `SimDomain` also asks for `1 ≤ n_tapes`, which `validate` does not check. -/
  mntm_read_as_ntm : ∀ {σ Γ : Type} [DecidableEq σ] [DecidableEq Γ] (M : TM.MNTM σ Γ) (hd sep : Γ),
    TM.SimDomain M hd sep → ∀ w : List Γ, TM.Clean hd sep w → ∀ n : Nat,
    (∀ e, (TM.simStepwise M hd sep w n).2 = .raised e → e = .lib .rejectionException) ∧
    ∃ v, TM.simVerdict M hd sep w n = .ok v
  /-- `copy()` and a pickle round trip of a constructed automaton of any of the 8 classes
  return (under either setting of `allow_mutable_automata`). -/
  copy_pickle : ∀ (allowMutable : Bool) (cls : String), cls ∈ VA.Obj.classes →
    ∀ (kwargs : List (String × VA.PyVal)) (a : VA.Inst),
    VA.Obj.classInit allowMutable cls kwargs = .ok a →
    (∃ b, VA.Obj.copy allowMutable a = .ok b) ∧ ∃ b, VA.Obj.pickleRoundTrip allowMutable a = .ok b

theorem pda_reads {β : Type} (r : List β × PDA.Outcome) (hne : r.1 ≠ [])
    (hrej : ∀ e, r.2 = .raised e → e = .lib .rejectionException) :
    (∀ e, r.2 = .raised e → e = .lib .rejectionException) ∧
    (∀ e, PDA.readInput r = some (.error e) → e = .lib .rejectionException) ∧
    (∀ e, PDA.acceptsInput r ≠ some (.error e)) :=
  ⟨hrej, PDA.readInput_error r hne hrej, (PDA.acceptsInput_spec r hne hrej).2.2.2.1⟩

theorem rejectUnless_raises {b : Bool} {e : Exn} (h : rejectUnless b = some e) :
    e = .lib .rejectionException := by
  cases b with
  | true => cases h
  | false => exact (Option.some.inj h).symm

section binop
variable {σ α : Type} [DecidableEq σ] [DecidableEq α]

theorem binopPlain_okOr (op : DFA.BinOp) (A B : DFA σ α) (hA : A.validate = .ok ())
    (hB : B.validate = .ok ()) (pA : A.PyShape) :
    OkOr .symbolMismatchError (A.binopPlain op B) :=
  .of_bool (A.symsEq B) (fun hs => returns (C04.C04_binop_valid op A B hA hB pA hs))
    fun hs => (C04.C04_mismatch op A B hs fun _ => 0).1

theorem binopMin_okOr (op : DFA.BinOp) (A B : DFA σ α) (pick : List Nat → Nat)
    (hA : A.validate = .ok ()) (hB : B.validate = .ok ()) (pA : A.PyShape) :
    OkOr .symbolMismatchError (A.binopMin op B pick) :=
  .of_bool (A.symsEq B) (fun hs => returns (C04.C04_binop_min op A B pick hA hB pA hs))
    fun hs => (C04.C04_mismatch op A B hs pick).2

/-- Every option combination post-processes one of the two. -/
theorem binopOpts_okOr (op : DFA.BinOp) (A B : DFA σ α) (retain minify : Bool)
    (pick : List Nat → Nat) (hA : A.validate = .ok ()) (hB : B.validate = .ok ())
    (pA : A.PyShape) : OkOr .symbolMismatchError (DFA.binopOpts op A B retain minify pick) := by
  have h1 := binopPlain_okOr op A B hA hB pA
  have h2 := binopMin_okOr op A B pick hA hB pA
  cases minify <;> cases retain
  · exact h1.map _
  · exact h1.map _
  · exact h2.map _
  · exact h2.map _

end binop

theorem C19_accepted_is_usable_partial : AcceptedIsUsable where
  constructors :=
    ⟨fun d hv sv => by unfold DFA.mk'; rw [hv]; cases sv <;> rfl,
     fun n hv => NFA.create_eq_ok n ((NFA.validate_eq_ok n).mp hv)⟩
  dfa_step := fun d hv s a hs => by
    refine ⟨_, DFA.stepE_good ((DFA.validate_eq_ok d).mp hv) ?_ a⟩
    cases s with
    | none => trivial
    | some q => exact hs q rfl
  dfa_read_stepwise := fun d hv w ign e he => by
    rw [C01.dfa_readStepwise_eq d hv w ign] at he
    exact rejectUnless_raises he
  dfa_read_input := fun d hv w => by
    rw [C01.C01_dfa_read_input d hv w]
    exact .ite _ _
  dfa_accepts_input := fun d hv =>
    ⟨fun w => ⟨_, (C01.C01_dfa_verdicts d hv w).1⟩, fun item => by
      cases item with
      | none => exact ⟨false, rfl⟩
      | some w => exact ⟨_, (C01.C01_dfa_verdicts d hv w).2.1⟩⟩
  nfa_step := fun n hv =>
    ⟨fun q hq => ⟨_, NFA.closureE_eq hq⟩,
     fun cur a => ⟨_, NFA.nextStatesE_eq ((NFA.validate_eq_ok n).mp hv) cur a⟩⟩
  nfa_read_stepwise := fun n hv w e he => by
    rw [(C01.C01_nfa_stepwise n hv w).1] at he
    exact rejectUnless_raises he
  nfa_read_input := fun n hv w => by
    rw [(C01.C01_nfa_verdicts n hv w).1]
    exact .ite _ _
  nfa_accepts_input := fun n hv =>
    ⟨fun w => ⟨_, (C01.C01_nfa_verdicts n hv w).2.1⟩, fun item => by
      cases item with
      | none => exact ⟨false, rfl⟩
      | some w => exact ⟨_, (C01.C01_nfa_verdicts n hv w).2.2.1⟩⟩
  dfa_binop := binopPlain_okOr
  dfa_binop_min := binopMin_okOr
  dfa_binop_opts := binopOpts_okOr
  dfa_operator := fun op A B pick hA hB pA => by
    rw [C04.operator_eq_binopOpts]
    exact binopOpts_okOr op A B false true pick hA hB pA
  dfa_to_complete := fun d trap custom hd pd ht =>
    returns (C04.C04_to_complete d hd pd trap custom ht)
  dfa_complement := fun d trap pick hd pd ht =>
    ⟨returns (C04.C04_complement d hd pd trap ht),
     returns (C04.C04_complement_min d trap pick hd pd ht),
     let ⟨R, h, _⟩ := (C04.C04_invert d trap pick hd pd ht).2; ⟨_, h⟩⟩
  dfa_expr := fun trapOf hfresh pick Sg e hl => returns (C04.C04_expr_all trapOf hfresh pick Sg e hl)
  dfa_issubset_isdisjoint := fun A B =>
    ⟨.of_bool (A.symsEq B) (fun hs => (DFA.compare_defined_any A B hs).2.1)
        fun hs => (C06.C06_mismatch A B hs).2.1,
     .of_bool (A.symsEq B) (fun hs => (DFA.compare_defined_any A B hs).2.2)
        fun hs => (C06.C06_mismatch A B hs).2.2⟩
  dfa_compare_defined := fun A B hA hB pA pB hs =>
    have h := C06.C06_defined A B hA hB pA pB hs
    ⟨h.2.1, h.2.2.1, h.2.2.2, returns (C06.C06_compare_all A B hA hB pA pB hs)⟩
  dfa_min_word_length := fun d _ hd => .of_only (C13.C13_min d hd).2.2
  dfa_max_word_length := fun d hv hd => .of_only (C13.C13_max d hv hd).2.2.2
  dfa_isfinite := fun d hv hd => returns (C13.C13_isfinite d hv hd)
  dfa_cardinality := fun d hv hd => by
    obtain ⟨hfin, hinf, hlen⟩ := C13.C13_cardinality d hv hd
    have h : OkOr .infiniteLanguageException d.cardinality := by
      rcases (C13.Lang d).finite_or_infinite with h | h
      · exact Or.inl ⟨_, hfin h⟩
      · exact Or.inr (hinf h)
    exact ⟨h, by rw [hlen]; exact h⟩
  dfa_len_builtin := fun d hv hd hsmall => by
    obtain ⟨h1, _, h3⟩ := C13.C13_len d hv hd
    rcases (C13.Lang d).finite_or_infinite with h | h
    · exact Or.inl ⟨_, h1 h (hsmall h)⟩
    · exact Or.inr (h3 h)
  dfa_iter := fun d hv hd key n => by
    by_cases he : C13.Lang d = ∅
    · exact ⟨_, C13.C13_iter_empty d hd key n he⟩
    · obtain ⟨i, limit, k, _, h, _⟩ := C13.iterRun_levels d hd key n he
      exact ⟨_, h⟩
  dfa_random_word := fun d hv hd k cs hin => by
    by_cases h0 : d.countWordsOfLength k = 0
    · exact Or.inr (C13.C13_random_none d k cs h0)
    · exact Or.inl (returns (C13.C13_random_member d hv hd k cs h0 hin))
  dfa_successors := fun d key input h o fuel e he => by
    cases ho : o.reverse with
    | false =>
      rcases (C14.C14_successors d key input h o ho fuel).1 with h1 | h1 <;> rw [h1] at he <;> cases he
    | true =>
      rcases (C13.Lang d).finite_or_infinite with hf | hi
      · rcases (C14.C14_predecessors d key input h o ho fuel hf).1 with h1 | h1 <;>
          rw [h1] at he <;> cases he
      · rw [C14.C14_predecessors_infinite d key input h o ho fuel hi] at he
        cases he; rfl
  dfa_successor_predecessor := fun d key input h o fuel e => by
    refine ⟨fun he => ?_, fun he => ?_⟩
    · have := C14.C14_successor d key input h o fuel
      rw [he] at this
      exact this
    · obtain ⟨hinf, hfin⟩ := C14.C14_predecessor d key input h o fuel
      rcases (C13.Lang d).finite_or_infinite with hf | hi
      · have := hfin hf
        rw [he] at this
        exact this.elim
      · rw [hinf hi] at he
        cases he; rfl
  nfa_binary := fun A B hA hB =>
    ⟨returns (C08.C08_union A B hA hB), returns (C08.C08_or A B hA hB),
     returns (C08.C08_concatenate A B hA hB), returns (C08.C08_add A B hA hB),
     returns (C08.C08_intersection A B hA hB), returns (C08.C08_and A B hA hB),
     returns (C08.C08_shuffle_product A B hA hB), returns (C08.C08_right_quotient A B hA hB),
     returns (C08.C08_left_quotient A B hA hB)⟩
  nfa_unary := fun nat hnat A hA =>
    ⟨returns (C08.C08_kleene_star nat hnat A hA), returns (C08.C08_option nat hnat A hA),
     returns (C08.C08_reverse nat hnat A hA)⟩
  nfa_expr := fun e h => returns (C08.C08_expr e h)
  nfa_eliminate_lambda_core := fun A hA =>
    let ⟨ra, ta, fa, h, _⟩ := NFAElim.core_spec A hA
    ⟨(ra, ta, fa), h⟩
  gnfa_from_dfa_to_regex := fun natName hinj d hv hkeys hlit =>
    (C12.C12_from_dfa_total natName hinj d hv hlit).imp fun g hg => ⟨hg, fun ord hord =>
      returns (C12.C12_to_regex_dfa simpleRxValid natName hinj d hv hkeys hlit g hg ord hord)⟩
  gnfa_from_nfa_to_regex := fun natName hinj n hv hkeys htgts hlit =>
    (C12.C12_from_nfa_total natName hinj n hv hkeys htgts hlit).imp fun g hg => ⟨hg, fun ord hord =>
      returns (C12.C12_to_regex_nfa simpleRxValid natName hinj n hv hkeys htgts hlit g hg ord hord)⟩
  gnfa_to_regex := fun g hS _ hD ord hord => returns (C12.C12_to_regex_strings g hS hD ord hord)
  npda_read := fun M fuel w =>
    pda_reads _ (List.cons_ne_nil _ _) (M.run_spec_start fuel w).onlyRej
  dpda_read := fun M pick fuel w =>
    pda_reads _ (List.ne_nil_of_length_pos (M.readStepwise_spec pick fuel w).lenPos)
      (M.readStepwise_spec pick fuel w).onlyRej
  dtm_read := fun M w n => TM.Q.tm_reads fun e he => ((C03.C03_dtm_reject_iff M w n e).mp he).1
  ntm_read := fun M w n => TM.Q.tm_reads fun e he => ((C03.C03_ntm_reject_iff M w n e).mp he).1
  mntm_read := fun M _ w n =>
    TM.Q.tm_reads_of_cases (by rw [TM.MNTM.readStepwise_eq_qobs]; exact TM.Q.qobs_end_cases ..)
  mntm_read_as_ntm := fun M hd sep dom w hw n =>
    TM.Q.tm_reads_of_cases (C17.C17_only_rejection M hd sep dom w hw n)
  copy_pickle := fun am cls hcls kwargs a h =>
    ⟨returns (C18.C18_copy_roundtrip am cls hcls kwargs a h),
     returns (C18.C18_pickle_roundtrip am cls hcls kwargs a h)⟩

/-- C01's partial DFA (state 1 has no 1-transition) is valid; a word with the foreign symbol 7
and a word that runs into the missing transition are read without a crash: `RejectionException`,
`accepts_input` answers `False`. -/
example : C01.exDFA.validate = .ok () ∧
    C01.exDFA.readInput [0, 7, 1] = .error (.lib .rejectionException) ∧
    C01.exDFA.acceptsInput [1, 1, 0] = .ok false ∧ C01.exDFA.acceptsInput [0, 1] = .ok true := by
  decide +kernel

/-- C01's NFA with an ε-cycle and a state without a row: valid, reads a foreign symbol. -/
example : C01.exNFA.validate = .ok () ∧ C01.exNFA.acceptsInput [0] = .ok true ∧
    C01.exNFA.readInput [0, 5] = .error (.lib .rejectionException) := by decide +kernel

/-- C06's DFAs (one partial, one complete, common alphabet): hypotheses of `dfa_binop` /
`dfa_compare_defined`; against a DFA over another alphabet the documented
`SymbolMismatchError`. -/
example : C06.exA.validate = .ok () ∧ C06.exB.validate = .ok () ∧ C06.exA.symsEq C06.exB = true ∧
    C06.exA.issubset C06.exB = .ok false ∧
    (match C06.exA.binopPlain .union
        { C06.exB with syms := [0], trans := [(0, [(0, 1)]), (1, [(0, 0)])] } with
     | .error (.lib .symbolMismatchError) => true
     | _ => false) = true := by decide +kernel
example : C06.exA.PyShape ∧ C06.exB.PyShape := ⟨C06.exA_shape, C06.exB_shape⟩

/-- The hypotheses of `dfa_successors` (`C14.Dom`: non-empty alphabet, start string over it) are
met by C13's finite-language DFA; on C14's infinite-language DFA the reverse direction ends
with the documented `InfiniteLanguageException`. -/
example : C14.Dom C14.exF id (some [0, 1]) :=
  ⟨by decide +kernel, ⟨by decide +kernel, by decide +kernel⟩, by decide +kernel, by decide +kernel,
    by unfold DFA.KeyInj; decide +kernel, by decide +kernel⟩
example : C14.exD.predecessors id (some [1]) {} 10 =
    ([], .raised (.lib .infiniteLanguageException)) := by decide +kernel

/-- C08's NFAs are `Valid`; a quotient of a union evaluates without error. -/
example : C08.exA.Valid ∧ C08.exB.Valid := ⟨C08.exA_valid, C08.exB_valid⟩
example : (match NFA.union C08.exA C08.exB with
           | .ok U => (NFA.leftQuotient U C08.exB).toOption.isSome
           | .error _ => false) = true := by
  obtain ⟨U, hU, _, vU⟩ := C19_results_valid.nfa_union C08.exA C08.exB C08.exA_valid C08.exB_valid
  obtain ⟨R, hR, _⟩ := C08.C08_left_quotient U C08.exB vU C08.exB_valid
  rw [hU]
  simp only [hR]
  rfl

/-- C02's aⁿbⁿ DPDA (valid) and C03's two-tape MNTM (valid) on accepted and rejected inputs. -/
example : C02.exD.validate = .ok () ∧
    PDA.acceptsInput (C02.exD.readStepwise (fun _ => true) 10 [0, 0, 1, 1]) = some (.ok true) ∧
    PDA.acceptsInput (C02.exD.readStepwise (fun _ => false) 10 [0, 1, 1, 7]) = some (.ok false) := by
  decide +kernel
example : C03.exM.validate = .ok () ∧ C03.exM.verdict [0, 0] 4 = .ok .accept ∧
    C03.exM.verdict [9] 4 = .ok .reject := by decide +kernel

end AV.Props.C19
