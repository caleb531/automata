/-
Props/C07.lean — C07: NFA/DFA conversions and ε-elimination preserve the language.

English statement (properties.jsonl): determinising any NFA (with every combination of the
minify and retain-names options), viewing any DFA as an NFA, and eliminating empty-string
transitions from any NFA each produce a valid automaton with exactly the same language as
the source.  The epsilon-eliminated NFA has no empty-string transition left and no state
unreachable from its initial state.

`NFA.accepts` / `DFA.accepts` are the verdicts tied to Mathlib's `εNFA.accepts` /
`DFA.accepts` by C01; "valid" is `validate = .ok ()`, the model of the constructor's check;
`PyShape` says that the lists standing for Python sets/dicts have no repeated elements/keys.
-/
import AutomataVerif.Proofs.Subset
import AutomataVerif.Proofs.Elim
import AutomataVerif.Proofs.MinGlueSubset

namespace AV.Props.C07
open AV AV.C07

variable {σ α : Type} [DecidableEq σ] [DecidableEq α]

/-- **Subset construction, `retain_names=True, minify=False`: same language.**  For every
valid NFA (ε-cycles, states without rows, empty target sets, unreachable parts included) the
DFA built by `DFA.from_nfa` accepts exactly the words the NFA accepts.  No size bound: the
BFS fuel `2 ^ |states| + 1` of the model is shown to be sufficient. -/
theorem C07_from_nfa_lang (n : AV.NFA σ α) (hv : n.validate = .ok ()) (ps : n.PyShape) :
    ∀ w, n.toDFA.accepts w = n.accepts w :=
  toDFA_accepts ((NFA.validate_eq_ok n).mp hv) ps

/-- **Subset construction: the result is a valid DFA** (every state has a row, rows use
alphabet symbols only and lead to states, a row is complete unless the DFA is flagged
partial, initial and final states are states). -/
theorem C07_from_nfa_valid (n : AV.NFA σ α) (hv : n.validate = .ok ()) :
    n.toDFA.validate = .ok () := by
  rw [DFA.validate_eq_ok]
  exact toDFA_wf ((NFA.validate_eq_ok n).mp hv)

/-- The subset DFA has the shape of a value built from Python sets and dicts. -/
theorem C07_from_nfa_pyShape (n : AV.NFA σ α) (ps : n.PyShape) : n.toDFA.PyShape :=
  toDFA_pyShape ps

/-- **Subset construction, `retain_names=False, minify=False`**: the states are renamed by
their BFS discovery index; the result is still a valid DFA with the language of the NFA. -/
theorem C07_from_nfa_renumbered (n : AV.NFA σ α) (hv : n.validate = .ok ()) (ps : n.PyShape) :
    n.toDFA.renumber.validate = .ok () ∧ ∀ w, n.toDFA.renumber.accepts w = n.accepts w :=
  let ⟨r, t⟩ := toDFA_result ((NFA.validate_eq_ok n).mp hv) ps
  ⟨(r.renumber t.keys).valid, (r.renumber t.keys).lang⟩

/-- What C05 gives for one call of `_minify`, the validity and language clauses of `MinifyCoreOk`
(`MinSource.ok`; validity needs, besides `MinHyp`, that every kept state is reachable): the
quotient is a valid DFA accepting the language of the refinement system it was given. -/
def MinifyCoreSpec {τ : Type} [DecidableEq τ] (kept : List τ) (syms : List α)
    (trans : List (τ × List (α × τ))) (init : τ) (finals : List τ) (pick : List Nat → Nat) : Prop :=
  (DFA.minifyCore kept syms trans init finals pick).validate = .ok () ∧
  ∀ w, (DFA.minifyCore kept syms trans init finals pick).accepts w =
    DFA.mfin finals (DFA.mrun kept trans (some init) w)

/-- `_expand_dfa(minify=True)` calls `_minify` on arguments that satisfy its preconditions. -/
theorem C07_from_nfa_minHyp (n : AV.NFA σ α) (hv : n.validate = .ok ()) (ps : n.PyShape) :
    DFA.MinHyp n.toDFA.states n.toDFA.syms n.toDFA.trans n.toDFA.init n.toDFA.finals :=
  (toDFA_minSource ((NFA.validate_eq_ok n).mp hv) ps).hyp

/-- **Subset construction, `minify=True`**, relative to what `_minify` guarantees for this call
(`hC05`; `C07_from_nfa_minifyCoreSpec` proves it, `C07_from_nfa_min` is the unconditional form):
the language of the refinement system is the language of the subset DFA, hence of `n`. -/
theorem C07_from_nfa_min_partial (n : AV.NFA σ α) (hv : n.validate = .ok ()) (ps : n.PyShape)
    (pick : List Nat → Nat)
    (hC05 : DFA.MinHyp n.toDFA.states n.toDFA.syms n.toDFA.trans n.toDFA.init n.toDFA.finals →
      MinifyCoreSpec n.toDFA.states n.toDFA.syms n.toDFA.trans n.toDFA.init n.toDFA.finals pick) :
    (n.toDFAMin pick).validate = .ok () ∧ ∀ w, (n.toDFAMin pick).accepts w = n.accepts w := by
  obtain ⟨h1, h2⟩ := hC05 (C07_from_nfa_minHyp n hv ps)
  refine ⟨h1, fun w => (h2 w).trans ?_⟩
  rw [mlang_eq_accepts ((DFA.validate_eq_ok _).mp (C07_from_nfa_valid n hv)),
    C07_from_nfa_lang n hv ps]

/-- C05's result for the call of `_minify` made by `from_nfa(minify=True)`, for every pop order
(Proofs/MinGlueSubset.lean). -/
theorem C07_from_nfa_minifyCoreSpec (n : AV.NFA σ α) (hv : n.validate = .ok ()) (ps : n.PyShape)
    (pick : List Nat → Nat) :
    MinifyCoreSpec n.toDFA.states n.toDFA.syms n.toDFA.trans n.toDFA.init n.toDFA.finals pick :=
  let ⟨h1, _, h3⟩ := toDFAMin_core ((NFA.validate_eq_ok n).mp hv) ps pick
  ⟨h1, h3⟩

/-- The full statement for `minify=True`, without the C05 hypothesis. -/
def C07_from_nfa_min_full : Prop :=
  ∀ (σ α : Type) [DecidableEq σ] [DecidableEq α] (n : AV.NFA σ α), n.validate = .ok () → n.PyShape →
    ∀ pick : List Nat → Nat,
      (n.toDFAMin pick).validate = .ok () ∧ ∀ w, (n.toDFAMin pick).accepts w = n.accepts w

/-- **Subset construction, `retain_names=True, minify=True`** (`retain_names=False` is
`C07_from_nfa_min_renumbered`).  For every valid NFA of Python shape and every pop order `pick` of
the Hopcroft loop, `DFA.from_nfa(n, retain_names=True, minify=True)` is a valid DFA with exactly
the language of `n`: `_minify` is handed the whole subset DFA, which `_expand_dfa` leaves trim
(`toDFA_result`, `Result.minify_allReached`). -/
theorem C07_from_nfa_min (n : AV.NFA σ α) (hv : n.validate = .ok ()) (ps : n.PyShape)
    (pick : List Nat → Nat) :
    (n.toDFAMin pick).validate = .ok () ∧ ∀ w, (n.toDFAMin pick).accepts w = n.accepts w :=
  let m := toDFAMin_result ((NFA.validate_eq_ok n).mp hv) ps pick
  ⟨m.valid, m.lang⟩

/-- The minified subset DFA is again a value Python sets/dicts can hold (so it can be an
operand of further operations). -/
theorem C07_from_nfa_min_pyShape (n : AV.NFA σ α) (hv : n.validate = .ok ()) (ps : n.PyShape)
    (pick : List Nat → Nat) : (n.toDFAMin pick).PyShape :=
  (toDFAMin_result ((NFA.validate_eq_ok n).mp hv) ps pick).pyShape

theorem C07_from_nfa_min_full_holds : C07_from_nfa_min_full :=
  fun _ _ _ _ n hv ps pick => C07_from_nfa_min n hv ps pick

/-- **Subset construction with the library's DEFAULT options `retain_names=False,
minify=True`** — the literal call `DFA.from_nfa(n)`.  Here `_expand_dfa` renames the subset
states by BFS discovery index *before* it calls `_minify`, so `_minify` runs on a table with
int names (and picks its trap id among the negative ints, which the indices never are).
For every valid NFA of Python shape and every pop order `pick` of the Hopcroft loop the
result is a valid DFA with exactly the language of `n`.  (The final `enumerate` renaming of
the blocks is an injective renaming of a valid DFA: `C07_from_nfa_default_renamed`.) -/
theorem C07_from_nfa_min_renumbered (n : AV.NFA σ α) (hv : n.validate = .ok ()) (ps : n.PyShape)
    (pick : List Nat → Nat) :
    (n.toDFAMinRenum pick).validate = .ok () ∧ ∀ w, (n.toDFAMinRenum pick).accepts w = n.accepts w :=
  let r := toDFAMinRenum_result ((NFA.validate_eq_ok n).mp hv) ps pick
  ⟨r.valid, r.lang⟩

/-- The same statement with `_minify`'s arguments spelled out: `P` is the renumbered subset DFA. -/
theorem C07_from_nfa_min_renumbered' (n : AV.NFA σ α) (hv : n.validate = .ok ()) (ps : n.PyShape)
    (pick : List Nat → Nat) :
    let P := n.toDFA.renumber
    (DFA.minifyCore P.states P.syms P.trans P.init P.finals pick).validate = .ok () ∧
    ∀ w, (DFA.minifyCore P.states P.syms P.trans P.init P.finals pick).accepts w = n.accepts w :=
  C07_from_nfa_min_renumbered n hv ps pick

/-- The default-options result is again a value Python sets/dicts can hold. -/
theorem C07_from_nfa_min_renumbered_pyShape (n : AV.NFA σ α) (hv : n.validate = .ok ())
    (ps : n.PyShape) (pick : List Nat → Nat) : (n.toDFAMinRenum pick).PyShape :=
  (toDFAMinRenum_result ((NFA.validate_eq_ok n).mp hv) ps pick).pyShape

/-- The default-options result is trim and reduced (hence minimal, as in C05): every state
is reached from the initial state by a word, and any two distinct states are told apart by
a word. -/
theorem C07_from_nfa_min_renumbered_minimal (n : AV.NFA σ α) (hv : n.validate = .ok ())
    (ps : n.PyShape) (pick : List Nat → Nat) :
    (∀ q ∈ (n.toDFAMinRenum pick).states,
      ∃ w, (n.toDFAMinRenum pick).run (some (n.toDFAMinRenum pick).init) w = some q) ∧
    (∀ q ∈ (n.toDFAMinRenum pick).states, ∀ q' ∈ (n.toDFAMinRenum pick).states, q ≠ q' →
      ∃ w, (n.toDFAMinRenum pick).isFinal ((n.toDFAMinRenum pick).run (some q) w) ≠
        (n.toDFAMinRenum pick).isFinal ((n.toDFAMinRenum pick).run (some q') w)) :=
  let S := toDFA_renumber_minSource ((NFA.validate_eq_ok n).mp hv) ps
  ⟨S.reachable pick, S.distinguishable pick⟩

/-- **`DFA.from_nfa(n)` with int names.**  `_minify(retain_names=False)` finally names each
block by a number; renaming the valid quotient by the position of the block (any injective
numbering behaves the same, see `C04_renumber`) keeps validity and the language. -/
theorem C07_from_nfa_default_renamed (n : AV.NFA σ α) (hv : n.validate = .ok ()) (ps : n.PyShape)
    (pick : List Nat → Nat) :
    (n.toDFAMinRenum pick).renumber.validate = .ok () ∧
    ∀ w, (n.toDFAMinRenum pick).renumber.accepts w = n.accepts w :=
  let r := (toDFAMinRenum_result ((NFA.validate_eq_ok n).mp hv) ps pick).renumber
    (C04.minifyCore_keys ..)
  ⟨r.valid, r.lang⟩

/-- **`NFA.from_dfa`: the result is a valid NFA** (in particular the initial state has a
transition row, which `NFA.validate` demands and DFA validity provides). -/
theorem C07_from_dfa_valid (d : AV.DFA σ α) (hv : d.validate = .ok ()) :
    (NFA.ofDFA d).validate = .ok () := by
  rw [NFA.validate_eq_ok]
  exact ofDFA_wf ((DFA.validate_eq_ok d).mp hv)

/-- **`NFA.from_dfa`: same language**, for complete and partial DFAs alike (this half needs
no validity hypothesis at all: the NFA has no ε-moves and its set of current states is the
singleton of the DFA's state, or empty once the DFA run has stopped). -/
theorem C07_from_dfa_lang (d : AV.DFA σ α) : ∀ w, (NFA.ofDFA d).accepts w = d.accepts w :=
  ofDFA_accepts d

/-- The set of current states of the embedded DFA after `w`. -/
theorem C07_from_dfa_run (d : AV.DFA σ α) (w : List α) (p : σ) :
    p ∈ (NFA.ofDFA d).runFrom ((NFA.ofDFA d).closure d.init) w ↔ d.run (some d.init) w = some p := by
  rw [ofDFA_closure]; exact ofDFA_run d w (some d.init) p

/-- **ε-elimination: same language.**  For every valid NFA (ε-cycles, states without rows,
empty target sets, unreachable parts, rows keyed by non-states included) the result of
`eliminate_lambda` accepts exactly the words the source accepts. -/
theorem C07_elim_lang (n : AV.NFA σ α) (hv : n.validate = .ok ()) (ps : n.PyShape) :
    ∀ w, n.eliminateLambda.accepts w = n.accepts w :=
  fun w => elim_accepts ((NFA.validate_eq_ok n).mp hv) ps w

/-- **ε-elimination: the result is a valid NFA** (the constructor call at the end of
`eliminate_lambda` cannot raise). -/
theorem C07_elim_valid (n : AV.NFA σ α) (hv : n.validate = .ok ()) (ps : n.PyShape) :
    n.eliminateLambda.validate = .ok () := by
  rw [NFA.validate_eq_ok]
  exact elim_wf ((NFA.validate_eq_ok n).mp hv) ps

/-- **No empty-string transition is left**: no row of the result has a `""` key — hence no
state has a λ-move and every λ-closure in the result is the state itself. -/
theorem C07_elim_no_epsilon (n : AV.NFA σ α) (hv : n.validate = .ok ()) (ps : n.PyShape) :
    (∀ kv ∈ n.eliminateLambda.trans, ∀ e ∈ kv.2, e.1 ≠ none) ∧
    (∀ q, n.eliminateLambda.targets q none = []) ∧
    (∀ q, n.eliminateLambda.closure q = [q]) := by
  have wf := (NFA.validate_eq_ok n).mp hv
  exact ⟨elim_noEps wf ps, elim_targets_none wf ps, elim_closure wf ps⟩

/-- **No unreachable state is left**: every state of the result is reached from its initial
state by following transitions of the result. -/
theorem C07_elim_all_reachable (n : AV.NFA σ α) (hv : n.validate = .ok ()) (ps : n.PyShape) :
    ∀ q ∈ n.eliminateLambda.states,
      Reach (fun q => (n.eliminateLambda.row q).flatMap fun e => e.2) n.eliminateLambda.init q :=
  have _ := ps
  elim_reachable ((NFA.validate_eq_ok n).mp hv)

/-- The same in terms of words: every state of the result is among the current states after
reading some word. -/
theorem C07_elim_all_reachable_by_words (n : AV.NFA σ α) (hv : n.validate = .ok ()) (ps : n.PyShape) :
    ∀ q ∈ n.eliminateLambda.states,
      ∃ w, q ∈ n.eliminateLambda.runFrom (n.eliminateLambda.closure n.eliminateLambda.init) w :=
  elim_reachable_word ((NFA.validate_eq_ok n).mp hv) ps

/-- **C07 for `eliminate_lambda`, in one statement** (DESIGN.md §7): valid, same language,
no empty-string transition, no unreachable state. -/
theorem C07_elim (n : AV.NFA σ α) (hv : n.validate = .ok ()) (ps : n.PyShape) :
    n.eliminateLambda.validate = .ok () ∧
    (∀ w, n.eliminateLambda.accepts w = n.accepts w) ∧
    (∀ kv ∈ n.eliminateLambda.trans, ∀ e ∈ kv.2, e.1 ≠ none) ∧
    (∀ q ∈ n.eliminateLambda.states,
      Reach (fun q => (n.eliminateLambda.row q).flatMap fun e => e.2) n.eliminateLambda.init q) :=
  ⟨C07_elim_valid n hv ps, C07_elim_lang n hv ps, (C07_elim_no_epsilon n hv ps).1,
    C07_elim_all_reachable n hv ps⟩

/-- The result again has the shape of a value built from Python sets and dicts (so the
conversions compose: e.g. `DFA.from_nfa(n.eliminate_lambda())`). -/
theorem C07_elim_pyShape (n : AV.NFA σ α) (hv : n.validate = .ok ()) (ps : n.PyShape) :
    n.eliminateLambda.PyShape :=
  elim_pyShape ((NFA.validate_eq_ok n).mp hv) ps

/-- What the transformation does, state by state: the new final states are the reachable
states whose λ-closure meets the old final states (whatever the order in which the loop
visits the states), and the new targets of a reachable `q` on `a` are its old targets plus
everything reachable by `a` (λ-closed) from the other members of its λ-closure. -/
theorem C07_elim_shape (n : AV.NFA σ α) (hv : n.validate = .ok ()) (ps : n.PyShape) :
    (∀ q, q ∈ n.eliminateLambda.finals ↔
      q ∈ n.eliminateLambda.states ∧ q ∈ n.states ∧ ∃ p ∈ n.closure q, p ∈ n.finals) ∧
    (∀ q ∈ n.eliminateLambda.states, ∀ a t,
      t ∈ n.eliminateLambda.targets q (some a) ↔
        t ∈ n.targets q (some a) ∨
        t ∈ n.nextStates ((n.closure q).filter fun p => decide (p ≠ q)) a) := by
  have wf := (NFA.validate_eq_ok n).mp hv
  exact ⟨fun q => mem_elim_finals wf ps q, fun q hq a t => elim_targets_some wf ps hq a t⟩

/-- An NFA with an ε-cycle (0 ⇄ 1), a state without a row (2), an unreachable state with an
empty target set (3), and a row keyed by a name that is not a state (9). -/
def exN : AV.NFA Nat Nat :=
  { states := [0, 1, 2, 3], syms := [0, 1],
    trans := [(0, [(none, [1]), (some 0, [0])]), (1, [(none, [0]), (some 1, [2])]),
              (3, [(some 0, [])]), (9, [(none, [3])])],
    init := 0, finals := [2] }

/-- The "second symbol from the end is 1" NFA (its subset DFA needs 4 states). -/
def exK : AV.NFA Nat Nat :=
  { states := [0, 1, 2], syms := [0, 1],
    trans := [(0, [(some 0, [0]), (some 1, [0, 1])]), (1, [(some 0, [2]), (some 1, [2])])],
    init := 0, finals := [2] }

def exD : AV.DFA Nat Nat :=
  { states := [0, 1], syms := [0, 1], trans := [(0, [(0, 0), (1, 1)]), (1, [(0, 0)])],
    init := 0, finals := [1], allowPartial := true }

example : exN.validate = .ok () := by rfl
example : exK.validate = .ok () := by rfl
example : exD.validate = .ok () := by rfl
theorem exN_pyShape : exN.PyShape :=
  ⟨by decide +kernel, by decide +kernel, by decide +kernel, by decide +kernel, by decide +kernel,
    by decide +kernel⟩
theorem exK_pyShape : exK.PyShape :=
  ⟨by decide +kernel, by decide +kernel, by decide +kernel, by decide +kernel, by decide +kernel,
    by decide +kernel⟩

example : exN.closure 0 = [0, 1] := by decide +kernel
example : (exN.accepts [1], exN.accepts [0, 0, 1], exN.accepts [0], exN.accepts [1, 1]) =
    (true, true, false, false) := by decide +kernel
example : (exN.toDFA.states, exN.toDFA.allowPartial) = ([[0, 1], [2]], true) := by decide +kernel
example : (exN.toDFA.accepts [0, 0, 1], exN.toDFA.accepts [1, 1]) = (true, false) := by decide +kernel
example : exN.toDFA.renumber.states = [0, 1] := by decide +kernel
example : exK.toDFA.states.length = 4 := by decide +kernel
example : (exK.toDFA.accepts [1, 0], exK.accepts [1, 0], exK.toDFA.accepts [0, 1]) =
    (true, true, false) := by decide +kernel
example : (exK.toDFAMin).states.length = 4 := by decide +kernel
example : (exK.toDFAMin).validate = .ok () ∧ ∀ w, (exK.toDFAMin).accepts w = exK.accepts w :=
  C07_from_nfa_min exK (by rfl) exK_pyShape _
example : (exN.toDFAMin).validate = .ok () ∧ ∀ w, (exN.toDFAMin).accepts w = exN.accepts w :=
  C07_from_nfa_min exN (by rfl) exN_pyShape _
example : (exK.toDFAMinRenum).states.length = 4 := by decide +kernel
example : (exN.toDFAMinRenum).states = [DFA.MinName.blk [1], DFA.MinName.blk [0]] := by decide +kernel
example : (exN.toDFAMinRenum).validate = .ok () ∧
    ∀ w, (exN.toDFAMinRenum).accepts w = exN.accepts w :=
  C07_from_nfa_min_renumbered exN (by rfl) exN_pyShape _

example : ((NFA.ofDFA exD).accepts [0, 1], (NFA.ofDFA exD).accepts [1, 1]) = (true, false) := by decide +kernel

/-- State 1 (only entered by λ-moves) and state 3 become unreachable and are pruned, with
their rows and the row of the non-state 9. -/
example : exN.eliminateLambda.states = [0, 2] := by decide +kernel
example : exN.eliminateLambda.trans = [(0, [(some 0, [0]), (some 1, [2])])] := by decide +kernel
example : exN.eliminateLambda.finals = [2] := by decide +kernel
example : (exN.eliminateLambda.accepts [0, 0, 1], exN.eliminateLambda.accepts [0]) = (true, false) := by
  decide +kernel

/-- ε-elimination creates final states: here every state becomes final (0 through the
in-loop growth or directly, both give the same set). -/
def exF : AV.NFA Nat Nat :=
  { states := [0, 1, 2], syms := [0], trans := [(0, [(none, [1])]), (1, [(none, [2]), (some 0, [0])])],
    init := 0, finals := [2] }
example : exF.validate = .ok () := by rfl
example : exF.eliminateLambda.finals = [0, 1, 2] ∧ exF.eliminateLambda.states = [0, 1, 2] ∧
    exF.eliminateLambda.trans = [(0, [(some 0, [0, 1, 2])]), (1, [(some 0, [0])])] ∧
    exF.eliminateLambda.accepts [] = true ∧ exF.accepts [] = true := by decide +kernel

end AV.Props.C07
