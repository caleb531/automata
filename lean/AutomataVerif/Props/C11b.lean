/-
Props/C11b.lean — C11, the comparison helpers, with the library's OWN `NFA.__eq__` and
`NFA.union`.

`Props/C11.lean` proves `C11_comparisons` with the behaviour of `NFA.__eq__` / `NFA.union` as
hypotheses (`EqContract`, `UnionContract`).  Those contracts are theorems of C09 (`C09_eq_iff`,
model `NFA.eqOp`, Model/NFAEq.lean) and C08 (`C08_union`, model `NFA.union`,
Model/NFAOps.lean).  Here the comparison helpers' model (`Rx.isequal / issubset / issuperset`,
Model/RxCompile.lean, parametric in the two operations) is instantiated with those models and
the hypotheses disappear.

The contracts as phrased in `Props/C11.lean` quantify over ALL valid NFAs; C08's theorems need
the stronger `NFA.Valid` (validate ok + dict-shaped tables).  So the contracts are not
instantiated literally; instead the three calls the helpers make are followed on the compiled
NFAs, which ARE `Valid` (`Built.toNFA_Valid`: the builder invariant gives unique keys at both
levels), and `union`'s result is `Valid` again by C08.

In its own module because it imports the property files of C08 and C09.
-/
import AutomataVerif.Props.C11
import AutomataVerif.Model.RxCompare
import AutomataVerif.Props.C09
import AutomataVerif.Props.C08

namespace AV.Props.C11
open AV AV.Rx AV.NFA

/-! `eqLib p₁ p₂` (= `NFA.eqOp`, the model of `nfa_a == nfa_b`, C09) and `uniLib` (= `NFA.union`,
C08) are defined in the core-only `Model/RxCompare.lean`, so that the driver executable's
`RX_CMP` command runs exactly the terms `isequal (eqLib …)`, `issubset (eqLib …) uniLib`,
`issuperset (eqLib …) uniLib` of `C11_comparisons_lib` below (with `drvPick`, which is
`C09.exPick`). -/

example : drvPick = C09.exPick := rfl

theorem sameSyms_self (xs : List Char) : sameSyms xs xs = true :=
  (sameSyms_iff xs xs).mpr fun _ => .rfl

theorem sameSyms_sunion_self (xs : List Char) : sameSyms (sunion xs xs) xs = true :=
  (sameSyms_iff _ xs).mpr fun _ => by rw [mem_sunion, or_self]

/-- **The calls the comparison helpers make all succeed and are exact** (library models of
`from_regex`, `union`, `==`; no hypotheses about them).  For two strings spelling expressions of
the grammar over a common explicit alphabet `Σ` (no reserved character, containing their
literals) and any union–find representative choices:
`from_regex` returns `N1`, `N2`; `N1.union(N2)` returns an NFA `U` (no `KeyError`, constructor
validation passes); each of `N1 == N2`, `U == N2`, `U == N1` evaluates to a Boolean (no
`NotImplemented` fall-through, no fuel exhaustion), which is `True` exactly when
`den Σ e1 = den Σ e2`, `den Σ e1 ≤ den Σ e2`, `den Σ e2 ≤ den Σ e1` respectively. -/
theorem C11_comparisons_calls (p₁ p₂ : C09.Pick Nat Nat)
    {s1 s2 : List Char} {ts1 ts2 : List (Tok Char)} {e1 e2 : Rx Char}
    (hr1 : Renders ts1 s1) (hg1 : G .E e1 ts1) (hr2 : Renders ts2 s2) (hg2 : G .E e2 ts2)
    (syms : List Char) (hres : ∀ c ∈ syms, isReserved c = false)
    (hl1 : ∀ a ∈ e1.lits, a ∈ syms) (hl2 : ∀ a ∈ e2.lits, a ∈ syms) :
    ∃ N1 N2 U beq bsub bsup,
      fromRegex s1 (some syms) = .ok N1 ∧ fromRegex s2 (some syms) = .ok N2 ∧
      NFA.union N1 N2 = .ok U ∧
      eqOp p₁ p₂ N1 N2 = some beq ∧ eqOp p₁ p₂ U N2 = some bsub ∧ eqOp p₁ p₂ U N1 = some bsup ∧
      (beq = true ↔ den syms e1 = den syms e2) ∧
      (bsub = true ↔ den syms e1 ≤ den syms e2) ∧
      (bsup = true ↔ den syms e2 ≤ den syms e1) := by
  obtain ⟨b1, _, g1, h1⟩ :=
    C10.compile_spec (lex_renders hr1) hg1 (fromRegex_some_eq s1 hres) hl1
  obtain ⟨b2, _, g2, h2⟩ :=
    C10.compile_spec (lex_renders hr2) hg2 (fromRegex_some_eq s2 hres) hl2
  have V1 := g1.toNFA_Valid fun _ h => h
  have V2 := g2.toNFA_Valid fun _ h => h
  have v1 := V1.validate
  have v2 := V2.validate
  have a1 := g1.accepts_iff syms
  have a2 := g2.accepts_iff syms
  obtain ⟨U, hU, VU, LU⟩ := C08.C08_union _ _ V1 V2
  have vu := VU.validate
  have syu : U.syms = sunion syms syms := by
    rw [union_eq _ _ V1.wf V2.wf, create_eq_ok _ (unionRaw_valid _ _ V1 V2).wf] at hU
    cases hU
    rfl
  have au : ∀ w, U.accepts w = true ↔ w ∈ den syms e1 + den syms e2 := by
    intro w
    rw [← C08.mem_Lang U vu w, LU, Language.mem_add, C08.mem_Lang _ v1 w, C08.mem_Lang _ v2 w,
      a1, a2]
    exact (Language.mem_add _ _ _).symm
  have su : ∀ N : NFA Nat Char, N.syms = syms → sameSyms U.syms N.syms = true := fun N h => by
    rw [syu, h]; exact sameSyms_sunion_self syms
  obtain ⟨beq, heq, _, ieq⟩ := C09.C09_eq_iff p₁ p₂ _ _ v1 v2 (sameSyms_self syms)
  obtain ⟨bsub, hsub, _, isub⟩ := C09.C09_eq_iff p₁ p₂ U _ vu v2 (su _ rfl)
  obtain ⟨bsup, hsup, _, isup⟩ := C09.C09_eq_iff p₁ p₂ U _ vu v1 (su _ rfl)
  obtain ⟨i1, i2, i3⟩ := sameAcc_union a1 a2 au
  exact ⟨_, _, U, beq, bsub, bsup, h1, h2, hU, heq, hsub, hsup, ieq.trans i1, isub.trans i2,
    isup.trans i3⟩

/-- **`isequal`, `issubset`, `issuperset` are exact — with the library's own `==` and `union`.**
The conclusion of `C11_comparisons`, for the helpers' model instantiated with the models of
`NFA.__eq__` (C09) and `NFA.union` (C08); the contract hypotheses are gone.  Holds for every
choice of union–find representatives. -/
theorem C11_comparisons_lib (p₁ p₂ : C09.Pick Nat Nat)
    {s1 s2 : List Char} {ts1 ts2 : List (Tok Char)} {e1 e2 : Rx Char}
    (hr1 : Renders ts1 s1) (hg1 : G .E e1 ts1) (hr2 : Renders ts2 s2) (hg2 : G .E e2 ts2)
    (syms : List Char) (hres : ∀ c ∈ syms, isReserved c = false)
    (hl1 : ∀ a ∈ e1.lits, a ∈ syms) (hl2 : ∀ a ∈ e2.lits, a ∈ syms) :
    (∃ b, isequal (eqLib p₁ p₂) s1 s2 (some syms) = .ok b ∧
      (b = true ↔ den syms e1 = den syms e2)) ∧
    (∃ b, issubset (eqLib p₁ p₂) uniLib s1 s2 (some syms) = .ok b ∧
      (b = true ↔ den syms e1 ≤ den syms e2)) ∧
    (∃ b, issuperset (eqLib p₁ p₂) uniLib s1 s2 (some syms) = .ok b ∧
      (b = true ↔ den syms e2 ≤ den syms e1)) := by
  obtain ⟨N1, N2, U, beq, bsub, bsup, h1, h2, hU, heq, hsub, hsup, ieq, isub, isup⟩ :=
    C11_comparisons_calls p₁ p₂ hr1 hg1 hr2 hg2 syms hres hl1 hl2
  have hu : uniLib N1 N2 = U := by simp [uniLib, hU]
  refine ⟨⟨beq, ?_, ieq⟩, ⟨bsub, ?_, isub⟩, ⟨bsup, ?_, isup⟩⟩
  · unfold isequal; simp only [h1, h2, eqLib, heq, Option.getD_some]
  · unfold issubset; simp only [h1, h2, hu, eqLib, hsub, Option.getD_some]
  · unfold issuperset; simp only [h1, h2, hu, eqLib, hsup, Option.getD_some]

/-- The instantiated model runs: `a|b` vs `b|a|b` are equal, `a` is a proper subset of `a|b`
(so `issubset` is true, `issuperset` and `isequal` false). -/
example :
    (isequal (eqLib C09.exPick C09.exPick) "a|b".toList "b|a|b".toList (some ['a', 'b']),
     isequal (eqLib C09.exPick C09.exPick) "a".toList "a|b".toList (some ['a', 'b']),
     issubset (eqLib C09.exPick C09.exPick) uniLib "a".toList "a|b".toList (some ['a', 'b']),
     issuperset (eqLib C09.exPick C09.exPick) uniLib "a".toList "a|b".toList (some ['a', 'b']))
    = (.ok true, .ok false, .ok true, .ok false) := by decide +kernel

end AV.Props.C11
