/-
Model/TMSim.lean — automata/tm/mntm.py:283-445: `MNTM._read_extended_tape` and
`MNTM.read_input_as_ntm` (the single-tape simulation on one *extended tape*).

The extended tape is a Python `str`; here a `List Γ` with two distinguished symbols
`hd` (`"^"`, written right after the scanned cell of a virtual tape) and `sep` (`"_"`,
closing every virtual tape).  The driver instantiates `Γ := Char`, `hd := '^'`, `sep := '_'`.

The splice loop is modelled with the index arithmetic **as written**: `i` is a Python
`int` (`Int`), subscripts and slices have Python semantics (`pyIdx`, `pyTake` = `l[:i]`,
`pyDrop` = `l[i:]`, negative indices count from the end, an out-of-range subscript is
`IndexError`).  The inner `while executing_changes` loop has no static bound for arbitrary
alphabets (a written symbol equal to `hd` is scanned again), so it takes fuel; `none`
means the fuel ran out.  `Proofs/TMSim.lean` shows the fuel chosen by `spliceMoves`
suffices for every tape alphabet without `hd`/`sep`.
Lean core only.
-/
import AutomataVerif.Model.TM

namespace AV.TM
variable {σ Γ : Type} [DecidableEq σ] [DecidableEq Γ]

/-! ### Python sequence operations with `int` indices -/

/-- `l[i]` as an `Option` (`none` = `IndexError`). -/
def pyGet? (l : List Γ) (i : Int) : Option Γ :=
  if 0 ≤ i then l[i.toNat]?
  else if (-i).toNat ≤ l.length then l[l.length - (-i).toNat]? else none

/-- `l[i]`. -/
def pyIdx (l : List Γ) (i : Int) : Res Γ :=
  match pyGet? l i with
  | some s => .ok s
  | none => .error (.py .indexError)

/-- `l[:i]`. -/
def pyTake (l : List Γ) (i : Int) : List Γ :=
  if 0 ≤ i then l.take i.toNat else l.take (l.length - (-i).toNat)

/-- `l[i:]`. -/
def pyDrop (l : List Γ) (i : Int) : List Γ :=
  if 0 ≤ i then l.drop i.toNat else l.drop (l.length - (-i).toNat)

/-! ### `_read_extended_tape` -/

/-- Loop body of `_read_extended_tape`; `prev` is `tape[i-1]` (`none` iff `i = 0`, the
`i - 1 < 0` test), `heads` = `virtual_heads`, `hf` = `heads_found`, `seps` =
`separators_found`. -/
def readExtAux (hd sep : Γ) : Option Γ → List Γ → List Γ → Nat → Nat → Res (List Γ)
  | _, [], heads, _, seps =>
      if heads.length ≠ seps then .error (.lib .malformedExtendedTapeError) else .ok heads
  | prev, s :: rest, heads, hf, seps =>
      if s = hd then
        match prev with
        | none => .error (.lib .malformedExtendedTapeError)
        | some p => readExtAux hd sep (some s) rest (heads ++ [p]) (hf + 1) seps
      else if s = sep then
        if hf = 0 then .error (.lib .malformedExtendedTapeError)
        else if hf > 1 then .error (.lib .malformedExtendedTapeError)
        else readExtAux hd sep (some s) rest heads 0 (seps + 1)
      else readExtAux hd sep (some s) rest heads hf seps

/-- `_read_extended_tape(tape, head_symbol, tape_separator_symbol)`. -/
def readExtended (hd sep : Γ) (tape : List Γ) : Res (List Γ) :=
  readExtAux hd sep none tape [] 0 0

/-! ### the splice loop -/

/-- `new_tape[j] == tape_separator_symbol` (may raise `IndexError`). -/
def pyEqAt (sep : Γ) (tape : List Γ) (j : Int) : Res Bool :=
  match pyGet? tape j with
  | some s => .ok (decide (s = sep))
  | none => .error (.py .indexError)

/-- `new_tape[:i] + blank + new_tape[i:]`. -/
def pyInsert (tape : List Γ) (i : Int) (xs : List Γ) : List Γ := pyTake tape i ++ xs ++ pyDrop tape i

/-- The direction part of the head branch:
```
if direction == "R": i += 1
elif direction == "L":
    i -= 1
    if i == 0 or new_tape[i - 1] == tape_separator_symbol:
        new_tape = new_tape[:i] + blank + new_tape[i:]; i += 1
```
(any other direction: nothing). -/
def spliceDir (sep blank : Γ) (dir : Dir) (tape : List Γ) (i : Int) : Res (List Γ × Int) :=
  match dir with
  | .R => .ok (tape, i + 1)
  | .L =>
    if i - 1 = 0 then .ok (pyInsert tape (i - 1) [blank], i - 1 + 1)
    else
      match pyEqAt sep tape (i - 1 - 1) with
      | .error e => .error e
      | .ok true => .ok (pyInsert tape (i - 1) [blank], i - 1 + 1)
      | .ok false => .ok (tape, i - 1)
  | _ => .ok (tape, i)

/-- Re-inserting the head mark:
```
if i > 0 and new_tape[i - 1] == tape_separator_symbol:
    i -= 1; new_tape = new_tape[:i] + blank + head + new_tape[i:]; i += 1
else:
    new_tape = new_tape[:i] + head + new_tape[i:]
``` -/
def spliceMark (hd sep blank : Γ) (tape : List Γ) (i : Int) : Res (List Γ × Int) :=
  if i > 0 then
    match pyEqAt sep tape (i - 1) with
    | .error e => .error e
    | .ok true => .ok (pyInsert tape (i - 1) [blank, hd], i - 1 + 1)
    | .ok false => .ok (pyInsert tape i [hd], i)
  else .ok (pyInsert tape i [hd], i)

/-- The `if new_tape[i] == head_symbol:` branch (without the final `i += 1`):
```
new_tape = new_tape[: i - 1] + new_head + new_tape[i:]
new_tape = new_tape[:i] + "" + new_tape[i + 1 :]
```
then the direction part, then the head mark. -/
def spliceHead (hd sep blank newHead : Γ) (dir : Dir) (tape : List Γ) (i : Int) :
    Res (List Γ × Int) :=
  let tape1 := pyTake tape (i - 1) ++ [newHead] ++ pyDrop tape i
  let tape2 := pyTake tape1 i ++ pyDrop tape1 (i + 1)
  match spliceDir sep blank dir tape2 i with
  | .error e => .error e
  | .ok r => spliceMark hd sep blank r.1 r.2

/-- `while executing_changes:` for one move `(new_head, direction)`, from index `i`.
`.ok none`: fuel exhausted. -/
def scanMove (hd sep blank newHead : Γ) (dir : Dir) :
    Nat → List Γ → Int → Res (Option (List Γ × Int))
  | 0, _, _ => .ok none
  | fuel + 1, tape, i =>
    match pyGet? tape i with
    | none => .error (.py .indexError)
    | some s =>
      if s = hd then
        match spliceHead hd sep blank newHead dir tape i with
        | .error e => .error e
        | .ok r => scanMove hd sep blank newHead dir fuel r.1 (r.2 + 1)
      else if s = sep then
        .ok (some (tape, i + 1))
      else
        scanMove hd sep blank newHead dir fuel tape (i + 1)

/-- `for move in moves:` — `i` persists across the moves. -/
def spliceMoves (hd sep blank : Γ) : List (Γ × Dir) → List Γ → Int → Res (Option (List Γ × Int))
  | [], tape, i => .ok (some (tape, i))
  | m :: ms, tape, i =>
    match scanMove hd sep blank m.1 m.2 (2 * tape.length + 4) tape i with
    | .error e => .error e
    | .ok none => .ok none
    | .ok (some r) => spliceMoves hd sep blank ms r.1 r.2

/-- The queue entry appended for one `next_config`: `(next_state, new_tape, i - 1)`. -/
def spliceAll (hd sep blank : Γ) (tape : List Γ) (t : σ × List (Γ × Dir)) :
    Res (Option (σ × List Γ × Int)) :=
  match spliceMoves hd sep blank t.2 tape 0 with
  | .error e => .error e
  | .ok none => .ok none
  | .ok (some r) => .ok (some (t.1, r.1, r.2 - 1))

/-! ### `read_input_as_ntm` -/

/-- `"".join(chain.from_iterable((tape.tape[0], head, *tape.tape[1:], sep) for tape in tapes))`.
(`tape.tape[0]` exists: the constructor pads; the `[]` case cannot occur.) -/
def extOfTapes (hd sep : Γ) (tapes : List (Tape Γ)) : List Γ :=
  tapes.flatMap fun t =>
    match t.cells with
    | [] => []
    | c :: rest => c :: hd :: rest ++ [sep]

/-- A queue entry `(state, extended_tape, pos)`; the yielded value is
`{TMConfiguration(state, TMTape(extended_tape, blank, pos))}` (no padding happens:
`pos < len(extended_tape)`). -/
abbrev SimEntry (σ Γ : Type) := σ × List Γ × Int

/-- `for next_config in possible_configs:` — splice each, append `(state, tape, i - 1)`. -/
def spliceEach (hd sep blank : Γ) (tape : List Γ) :
    List (σ × List (Γ × Dir)) → List (SimEntry σ Γ) → Res (Option (List (SimEntry σ Γ)))
  | [], acc => .ok (some acc)
  | t :: ts, acc =>
    match spliceAll hd sep blank tape t with
    | .error e => .error e
    | .ok none => .ok none
    | .ok (some ent) => spliceEach hd sep blank tape ts (acc ++ [ent])

/-- What processing one entry does: `some none` = `return` (final state), an exception,
out of fuel (`.ok none`) or `some (some kids)` = the entries to append. -/
def simProcess (M : MNTM σ Γ) (hd sep : Γ) (e : SimEntry σ Γ) :
    Res (Option (Option (List (SimEntry σ Γ)))) :=
  if e.1 ∈ M.finals then .ok (some none) else
  match readExtended hd sep e.2.1 with
  | .error ex => .error ex
  | .ok heads =>
    -- try: possible_configs = self.transitions[current_state][virtual_heads]
    -- except KeyError: continue
    match (alookup e.1 M.trans).bind (alookup heads) with
    | none => .ok (some (some []))
    | some configs =>
      match spliceEach hd sep M.blank e.2.1 configs [] with
      | .error ex => .error ex
      | .ok none => .ok none
      | .ok (some kids) => .ok (some (some kids))

/-- State of the suspended generator: the entry just yielded and the queue.  Running out of splice
fuel is not a state: `simResume` raises `spliceFuelExn` (never happens in the domain). -/
abbrev SimState (σ Γ : Type) := SimEntry σ Γ × List (SimEntry σ Γ)

/-- Out-of-fuel marker of the model (not a Python exception). -/
def spliceFuelExn : Exn := .py .assertion

/-- One `next()` on the generator suspended at `yield {current_config}`. -/
def simResume (M : MNTM σ Γ) (hd sep : Γ) (st : SimState σ Γ) :
    Resume (SimState σ Γ) (SimEntry σ Γ) :=
  match simProcess M hd sep st.1 with
  | .error e => .raise e
  | .ok none => .raise spliceFuelExn
  | .ok (some none) => .ret
  | .ok (some (some kids)) =>
    match st.2 ++ kids with
    | [] => .raise (.lib .rejectionException)
    | e' :: rest => .yield e' (e', rest)

/-- `read_input_as_ntm(w)` observed through `n` calls of `next()`. -/
def simStepwise (M : MNTM σ Γ) (hd sep : Γ) (w : List Γ) (n : Nat) :
    List (SimEntry σ Γ) × GenEnd :=
  let e0 : SimEntry σ Γ := (M.init, extOfTapes hd sep (M.initTapes w), 0)
  genStart (simResume M hd sep) e0 (e0, []) n

def simVerdict (M : MNTM σ Γ) (hd sep : Γ) (w : List Γ) (n : Nat) : Res Verdict :=
  verdictOf (simStepwise M hd sep w n).2

end AV.TM
