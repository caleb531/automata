/-
Model/ConvertE.lean — failure-tracking refinements of the TOTAL models of Model/Convert.lean
(`DFA.from_nfa` through `_expand_dfa`, `NFA.eliminate_lambda`, `NFA.from_dfa`) and of the
composition `DFA.complement(minify=True)` = `to_complete` ; BFS ; `_minify`.

As in Model/DFAOpsE.lean every Python SUBSCRIPT `d[k]` of the real function is a lookup that ends
with `KeyError` when `k` is absent; `.get`, `setdefault`, membership-guarded reads and `pop(k, None)`
stay total.  Everything else (values, orders, fuel) is the total model's, so that
`xE … = .ok (x …)` can be stated (Props/C19h.lean).

Which subscripts of the code are modelled (line numbers of /repo/automata/fa/dfa.py and nfa.py):

`DFA.from_nfa`   dfa.py 2515 `target_nfa._get_lambda_closures()[target_nfa.initial_state]`  → `closureE`
`NFA._iterate_through_symbol_path_pairs`
                 nfa.py 284  `self.transitions.get(state, {})`: `.get`, total
                 nfa.py 288  `res_dict.setdefault(...)`: total
                 nfa.py 290  `lambda_closures[end_state]` for every end state of every non-lambda,
                             non-empty entry of every current state                        → `closureE`
`NFA._get_lambda_closures`  no subscript (dict comprehension over `self.states`; its keys are
                             exactly `self.states`, which is what `closureE` tests)
`DFA._expand_dfa` dfa.py 1039 `transitions = {initial_state_name: {}}`
                 1047–1049   `if tgt not in states: states.add(tgt); transitions[tgt] = {}` (store)
                 1051        `transitions[cur_state_name][chr] = tgt_state_name`: the SUBSCRIPT
                             `transitions[cur_state_name]`                                   → `alookup … | none => KeyError`
                 1053/1054   `final_states.add`
`DFA._bfs_edges` dfa.py 974–985 no subscript; `visited_set` and (for `retain_names=True`) `states`
                             hold the same elements whenever either is tested, one list models both;
                             for `retain_names=False` the names are the discovery indices
                             (`get_renaming_function(count(0))` is a `setdefault`, total) and the
                             loop is run on the names in Model/ConvertERenum.lean (`expandRenumE`).
`NFA._eliminate_lambda` nfa.py 351 `lambda_closures[state]` for `state in self.states`      → `closureE`
                 354  `_get_next_current_states(lambda_enclosure, input_symbol)`             → `nextStatesE`
                      (nfa.py 303–307: `self.transitions[current_state]` is guarded by
                       `current_state not in self.transitions`, `.get(input_symbol, {})`,
                       `lambda_closures[end_state]` is a subscript — Model/NFA.lean)
                 359  `new_transitions.setdefault(state, {})`: total
                 361/362 `state_transition_dict[input_symbol].update` guarded by `in`: total
                 369/370 `new_transitions[state].pop("", None)` guarded by `state in new_transitions`
                 379/380 `new_transitions.pop(state)` for `state` in its own keys: structurally safe
`NFA._compute_reachable_states` nfa.py 325 `transitions.get(state)`: total, no subscript
`NFA.from_dfa`   nfa.py 172–177 a dict comprehension over `.items()`: NO subscript at all
`DFA.complement` dfa.py 937 `to_complete()` (Model/DFAOps.lean `toComplete`: its own reads are
                 `.items()` loops, membership tests and stores), 942 `complete_dfa.transitions[state]`
                 inside `_bfs_states`, then `_minify`                                         → `complementMinE`
-/
import AutomataVerif.Model.Convert
import AutomataVerif.Model.DFAOpsE
import AutomataVerif.Model.DFAComplement

namespace AV

/-! ### `_expand_dfa` as the loop the code runs -/

namespace DFA
variable {S α : Type} [DecidableEq S] [DecidableEq α]

/-- The mutable state of `_expand_dfa` + `_bfs_edges`: `transitions`, `states` (= `visited_set`),
`final_states`, `queue`. -/
structure ExpSt (S α : Type) where
  trans : List (S × List (α × S))
  states : List S
  finals : List S
  queue : List S
  deriving Repr

/-- One iteration of `for cur_state, chr, tgt_state in _bfs_edges(...)` (lines 1044–1054) followed
by the resumption of the generator (lines 983–985). -/
def expEdgeE (isFin : S → Bool) (cur : S) (st : ExpSt S α) (e : α × S) : Res (ExpSt S α) :=
  let trans1 := if e.2 ∈ st.states then st.trans else ainsert e.2 [] st.trans
  match alookup cur trans1 with
  | none => .error (.py .keyError)
  | some row =>
    .ok { trans := ainsert cur (ainsert e.1 e.2 row) trans1,
          states := sinsert e.2 st.states,
          finals := if isFin e.2 then sinsert e.2 st.finals else st.finals,
          queue := if e.2 ∈ st.states then st.queue else st.queue ++ [e.2] }

/-- `while queue: curr_state = queue.popleft(); for chr, tgt in expand_state_fn(curr_state): …`
(`expand_state_fn` may raise). -/
def expLoopE (succE : S → Res (List (α × S))) (isFin : S → Bool) :
    Nat → ExpSt S α → Res (ExpSt S α)
  | 0, st => .ok st
  | fuel + 1, st =>
    match st.queue with
    | [] => .ok st
    | q :: work =>
      match succE q with
      | .error e => .error e
      | .ok es =>
        match foldlE (expEdgeE isFin q) { st with queue := work } es with
        | .error e => .error e
        | .ok st' => expLoopE succE isFin fuel st'

/-- Lines 1039–1041 and 974/975: the state before the first pop. -/
def expInit (isFin : S → Bool) (init : S) : ExpSt S α :=
  { trans := [(init, [])], states := [init],
    finals := if isFin init then [init] else [], queue := [init] }

/-- `_expand_dfa(final_state_fn, initial_state, expand_state_fn, input_symbols,
retain_names=True, minify=False)` (the constructor call of line 1075 excluded). -/
def expandE (succE : S → Res (List (α × S))) (isFin : S → Bool) (syms : List α) (fuel : Nat)
    (init : S) : Res (DFA S α) :=
  match expLoopE succE isFin fuel (expInit isFin init) with
  | .error e => .error e
  | .ok st =>
    .ok { states := st.states, syms := syms, trans := st.trans, init := init, finals := st.finals,
          allowPartial := st.trans.any fun kv => kv.2.length != syms.length }

end DFA

namespace NFA
variable {σ α : Type} [DecidableEq σ] [DecidableEq α]

/-! ### `DFA.from_nfa` -/

/-- `_iterate_through_symbol_path_pairs(current_states)` with `lambda_closures[end_state]` a
subscript (for every end state of every entry that passes `if input_symbol and next_states`). -/
def subsetSuccE (n : NFA σ α) (S : List σ) : Res (List (α × List σ)) :=
  let entries : List (α × List σ) := S.flatMap fun q =>
    (n.row q).filterMap fun e =>
      match e.1 with
      | some a => if e.2.isEmpty then none else some (a, e.2)
      | none => none
  bindE (mapE (fun e => bindE (mapE n.closureE e.2) fun cs => .ok (e.1, cs.flatten)) entries)
    fun closed =>
      .ok ((dedup (closed.map Prod.fst)).map fun a =>
        (a, n.canon ((closed.filter fun e => decide (e.1 = a)).flatMap Prod.snd)))

/-- `DFA.from_nfa(n, retain_names=True, minify=False)`. -/
def toDFAE (n : NFA σ α) : Res (DFA (List σ) α) :=
  bindE (n.closureE n.init) fun c0 =>
    DFA.expandE n.subsetSuccE n.subsetFinal n.syms (2 ^ n.states.length + 1) (n.canon c0)

/-- `DFA.from_nfa(n, retain_names=True, minify=True)`. -/
def toDFAMinE (n : NFA σ α) (pick : List Nat → Nat := fun _ => 0) :
    Res (DFA (DFA.MinName (List σ)) α) :=
  bindE n.toDFAE fun P => DFA.minifyCoreE P.states P.syms P.trans P.init P.finals pick

/-! ### `NFA.eliminate_lambda` -/

/-- The body of `if next_current_states:` (lines 359–364) and its `else` (nothing). -/
def elimUpd (q : σ) (a : α) (nxt : List σ) (tr : List (σ × List (Option α × List σ))) :
    List (σ × List (Option α × List σ)) :=
  if nxt.isEmpty then tr
  else
    let row := (alookup q tr).getD []
    let old := (alookup (some a) row).getD []
    ainsert q (ainsert (some a) (sunion old nxt) row) tr

/-- One iteration of `for state in self.states` of `_eliminate_lambda`: `lambda_closures[state]`
and the `lambda_closures[end_state]` inside `_get_next_current_states` are subscripts. -/
def elimStepE (n : NFA σ α)
    (acc : List (σ × List (Option α × List σ)) × List σ) (q : σ) :
    Res (List (σ × List (Option α × List σ)) × List σ) :=
  bindE (n.closureE q) fun cl =>
    let encl := cl.filter fun p => decide (p ≠ q)
    bindE (foldlE (fun tr a => bindE (n.nextStatesE encl a) fun nxt => .ok (elimUpd q a nxt tr))
        acc.1 n.syms) fun trans =>
      let finals := if acc.2.any (fun p => decide (p ∈ encl)) then sinsert q acc.2 else acc.2
      let trans := match alookup q trans with
        | some row => ainsert q (row.filter fun e => e.1.isSome) trans
        | none => trans
      .ok (trans, finals)

/-- `_eliminate_lambda` followed by the arguments of the constructor call of `eliminate_lambda`. -/
def eliminateLambdaE (n : NFA σ α) : Res (NFA σ α) :=
  bindE (foldlE n.elimStepE (n.trans, dedup n.finals) n.states) fun r =>
    let reach := reachableStates n.init r.1 (n.nodes.length + 1)
    .ok { states := reach, syms := n.syms,
          trans := r.1.filter fun kv => decide (kv.1 ∈ reach),
          init := n.init, finals := reach.filter fun q => decide (q ∈ r.2) }

/-! ### `NFA.from_dfa` -/

/-- `NFA.from_dfa` performs no subscript: the failure-tracking version is the total one. -/
def ofDFAE (d : DFA σ α) : Res (NFA σ α) := .ok (ofDFA d)

end NFA

namespace DFA
variable {σ α : Type} [DecidableEq σ] [DecidableEq α]

/-- `complement(retain_names=True, minify=True)` as the code composes it: `to_complete()` iff
`allow_partial`, then the failure-tracking BFS + `_minify` of Model/DFAOpsE.lean. -/
def complementMinFullE (d : DFA σ α) (trap : σ) (pick : List Nat → Nat) :
    Res (DFA (MinName σ) α) :=
  match (if d.allowPartial then d.toComplete trap false else .ok d) with
  | .ok C => C.complementMinE pick
  | .error e => .error e

end DFA
end AV
