/-
Model/RxToken.lean — the token classes of automata/regex (lexer.py `Token`, postfix.py
`Operator / InfixOperator / PostfixOperator / Literal / LeftParen / RightParen`, parser.py
`UnionToken … WildcardToken`).

The *classification* of a token (which `isinstance` tests it passes) and its precedence
are not written here: they are looked up, by class name, in the tables that
`harness/extract_tables.py` regenerates from the source on every run
(`AV.Gen.Regex.tokenClasses`).  Lean core only.
-/
import AutomataVerif.Model.Basic
import AutomataVerif.Generated.Regex

namespace AV.Rx

/-- A token object.  `str s` is `StringToken(text=s)` (one character when it comes from the
lexer, `""` when inserted for `()`); `quant lo hi` is a `QuantifierToken` that passed the
bound checks of its constructor; `concat` is the `ConcatToken("")` inserted by
`add_concat_and_empty_string_tokens`. -/
inductive Tok (α : Type)
  | lparen | rparen
  | union | inter | shuffle
  | star | plus | opt
  | quant (lo : Nat) (hi : Option Nat)
  | concat
  | str (s : List α)
  | wildcard
  deriving DecidableEq, Repr, Inhabited

/-- `type(token).__name__`. -/
def Tok.cls {α : Type} : Tok α → String
  | .lparen => "LeftParen"
  | .rparen => "RightParen"
  | .union => "UnionToken"
  | .inter => "IntersectionToken"
  | .shuffle => "ShuffleToken"
  | .star => "KleeneStarToken"
  | .plus => "KleenePlusToken"
  | .opt => "OptionToken"
  | .quant _ _ => "QuantifierToken"
  | .concat => "ConcatToken"
  | .str _ => "StringToken"
  | .wildcard => "WildcardToken"

/-- The five classes `isinstance` is ever asked about in postfix.py / parser.py; `unknown` is what
`baseOfCls` answers for a class name the regenerated table puts under none of them. -/
inductive Base
  | literal | infixOp | postfixOp | lparen | rparen | unknown
  deriving DecidableEq, Repr, Inhabited

def Base.name : Base → String
  | .literal => "Literal"
  | .infixOp => "InfixOperator"
  | .postfixOp => "PostfixOperator"
  | .lparen => "LeftParen"
  | .rparen => "RightParen"
  | .unknown => "?"

/-- Base class of a token class, read off the regenerated class table. -/
def baseOfCls (c : String) : Base :=
  if c == "LeftParen" then .lparen
  else if c == "RightParen" then .rparen
  else match Gen.Regex.tokenClasses.find? (fun t => t.1 == c) with
    | some (_, b, _) =>
        if b == "Literal" then .literal
        else if b == "InfixOperator" then .infixOp
        else if b == "PostfixOperator" then .postfixOp
        else .unknown
    | none => .unknown

def Tok.base {α : Type} (t : Tok α) : Base := baseOfCls t.cls

/-- `token.get_precedence()` (`none`: the class has no such method → `AttributeError`). -/
def Tok.prec {α : Type} (t : Tok α) : Option Nat := Gen.Regex.precOf t.cls

/-- `isinstance(token, <class named c>)` for the five base classes. -/
def Tok.isInstance {α : Type} (t : Tok α) (c : String) : Bool := t.base.name == c

def Tok.isOperator {α : Type} (t : Tok α) : Bool :=
  match t.base with
  | .infixOp => true
  | .postfixOp => true
  | _ => false

end AV.Rx
