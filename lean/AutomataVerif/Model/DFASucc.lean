/-
Model/DFASucc.lean — automata/fa/dfa.py: `successors` (the explicit-stack traversal) and its
wrappers `successor`, `predecessors`, `predecessor` (property C14).

The generator body is a step function on
    (state_stack, char_stack, candidate, should_yield)
with the three yield points of the code:
  * the *successor* yield at the top of the loop body (pre-order, `candidate == first_symbol`),
  * the *predecessor* yield in the `else` branch (post-order, `candidate is None`),
  * the *predecessor* yield for the empty word after the loop, which looks at the **bottom**
    of the state stack (`state_stack[-1]` when `char_stack` is empty) — fix 322a5c4.
Both stacks are kept top-first (`state_stack[-1]` is the head), the word on the stack is
`chars.reverse`.  `None` entries of the state stack come from reading an unreadable prefix
(`read_input_stepwise(input_str, ignore_rejection=True)`).

Python failure modes kept explicit: `sorted_symbols[-1]` on an empty alphabet (`IndexError`,
finding F14), `symbol_succ[candidate]` for a popped symbol outside the alphabet (`KeyError`,
finding F13); both are open findings of C14 (proved to occur: Proofs/SuccForeign.lean) and
unreachable for start strings over a non-empty alphabet.
The generator can be infinite (forward direction on an infinite language without
`max_length`), hence the loop takes `fuel` = number of loop iterations and reports
`outOfFuel`; results are monotone in the fuel.
-/
import AutomataVerif.Model.DFAQuery

namespace AV
namespace DFA
variable {σ α : Type} [DecidableEq σ] [DecidableEq α]

/-- Keyword arguments of `successors` other than the start string and the key. -/
structure SuccOpts where
  strict : Bool := true
  reverse : Bool := false
  minLen : Nat := 0
  maxLen : Option Nat := none
  deriving Repr, DecidableEq

/-- What the set-up part of `successors` computes once. -/
structure SuccCfg (σ α : Type) where
  coacc : List σ                      -- `coaccessible_nodes`
  first : α                           -- `first_symbol`
  symSucc : List (α × Option α)       -- `symbol_succ`, read with `alookup` (last write first)
  deriving Repr

/-- Loop variables. -/
structure SuccState (σ α : Type) where
  states : List (Option σ)            -- `state_stack`, top first
  chars : List α                      -- `char_stack`, top first
  cand : Option α                     -- `candidate`
  shouldYield : Bool
  deriving Repr

inductive SuccStatus
  | finished                          -- generator exhausted
  | outOfFuel
  | raised (e : Exn)
  deriving Repr, DecidableEq

/-- `sorted(self.input_symbols, reverse=reverse, key=key)` (stable in both directions). -/
def sortedSymbols (d : DFA σ α) (key : α → Int) (reverse : Bool) : List α :=
  match reverse with
  | false => sortBy (fun a b => decide (key a < key b)) d.syms
  | true => sortBy (fun a b => decide (key b < key a)) d.syms

/-- `symbol_succ = {a: b for a, b in pairwise(sorted_symbols)}; symbol_succ[last] = None`
as the list of writes, most recent first (so that `alookup` returns the value a Python
dict holds after all writes). -/
def symbolSucc (sorted : List α) (last : α) : List (α × Option α) :=
  ((sorted.zip (sorted.tail.map some)) ++ [(last, none)]).reverse

/-- `min_length <= len(char_stack) and (max_length is None or len(char_stack) <= max_length)`. -/
def inWindow (o : SuccOpts) (n : Nat) : Bool :=
  decide (o.minLen ≤ n) &&
    (match o.maxLen with
     | none => true
     | some m => decide (n ≤ m))

/-- `max_length is None or len(char_stack) < max_length`. -/
def belowMax (o : SuccOpts) (n : Nat) : Bool :=
  match o.maxLen with
  | none => true
  | some m => decide (n < m)

/-- `candidate_state in coaccessible_nodes` (`None` is not a node). -/
def viable (c : SuccCfg σ α) : Option σ → Bool
  | none => false
  | some q => decide (q ∈ c.coacc)

def yieldIf (b : Bool) (chars : List α) : Option (List α) :=
  match b with
  | true => some chars.reverse
  | false => none

/-- One execution of the `while` body: the word yielded in it (if any), then the next loop
variables or the exception that ends the generator. -/
def succStep (d : DFA σ α) (o : SuccOpts) (c : SuccCfg σ α) (s : SuccState σ α) :
    Option (List α) × Res (SuccState σ α) :=
  match s.states with
  | [] => (none, .error (.py .indexError))          -- `state_stack[-1]`, never empty
  | state :: restStates =>
    let n := s.chars.length
    match s.cand with
    | some a =>
      -- successors yield here
      let y := yieldIf (!o.reverse && s.shouldYield && inWindow o n && decide (a = c.first)
                        && d.isFinal state) s.chars
      let candState := d.step? state a             -- `_get_next_current_state(state, candidate)`
      match viable c candState && belowMax o n with
      | true =>                                    -- traverse to child
        (y, .ok { states := candState :: s.states, chars := a :: s.chars,
                  cand := some c.first, shouldYield := true })
      | false =>                                   -- next sibling
        match alookup a c.symSucc with
        | none => (y, .error (.py .keyError))
        | some nxt => (y, .ok { s with cand := nxt, shouldYield := true })
    | none =>
      -- predecessors yield here; then traverse to parent
      let y := yieldIf (o.reverse && s.shouldYield && inWindow o n && d.isFinal state) s.chars
      match s.chars with
      | [] => (y, .error (.py .indexError))        -- `char_stack.pop()`, excluded by the loop test
      | ch :: chars' =>
        match alookup ch c.symSucc with
        | none => (y, .error (.py .keyError))      -- start string with a foreign symbol (F13)
        | some nxt => (y, .ok { states := restStates, chars := chars', cand := nxt,
                                shouldYield := true })

/-- The code after the loop: predecessor yield for the empty word. -/
def succFinal (d : DFA σ α) (o : SuccOpts) (s : SuccState σ α) : List (List α) × SuccStatus :=
  match s.states with
  | [] => ([], .raised (.py .indexError))
  | bottom :: _ =>
    ((yieldIf (o.reverse && s.shouldYield && inWindow o s.chars.length && s.cand.isNone
               && d.isFinal bottom) s.chars).toList, .finished)

/-- `while char_stack or candidate is not None:` for at most `fuel` iterations. -/
def succLoop (d : DFA σ α) (o : SuccOpts) (c : SuccCfg σ α) :
    Nat → SuccState σ α → List (List α) × SuccStatus
  | 0, _ => ([], .outOfFuel)
  | fuel + 1, s =>
    match s.chars.isEmpty && s.cand.isNone with
    | true => succFinal d o s
    | false =>
      match succStep d o c s with
      | (y, .error e) => (y.toList, .raised e)
      | (y, .ok s') =>
        let r := succLoop d o c fuel s'
        (y.toList ++ r.1, r.2)

/-- The body of `successors` given the outcome `fin` of its `self.isfinite()` call (made only
when `reverse`) and the graph `g` returned by `self._get_digraph()`. -/
def successorsCore (d : DFA σ α) (fin : Res Bool) (g : Digraph σ) (key : α → Int)
    (input : Option (List α)) (o : SuccOpts) (fuel : Nat) : List (List α) × SuccStatus :=
  match fin with
  | .error e => ([], .raised e)
  | .ok false => ([], .raised (.lib .infiniteLanguageException))
  | .ok true =>
    let coacc := g.reachable d.finals true
    let sorted := d.sortedSymbols key o.reverse
    match sorted.getLast?, sorted.head? with
    | some last, some first =>
      let c : SuccCfg σ α := { coacc := coacc, first := first, symSucc := symbolSucc sorted last }
      match input with
      | none =>
        succLoop d o c fuel { states := [some d.init], chars := [], cand := some first,
                              shouldYield := true }
      | some w =>
        match d.readStepwise w true with
        | (_, some e) => ([], .raised e)
        | (tr, none) =>
          succLoop d o c fuel
            { states := tr.reverse, chars := w.reverse,
              cand := (match o.reverse with | true => none | false => some first),
              shouldYield := !o.strict }
    | _, _ => ([], .raised (.py .indexError))       -- `sorted_symbols[-1]`, empty alphabet (F14)

/-- The code of `successors` before the loop, as one value: the exception it raises, or the
configuration and the initial loop variables (`successorsCore = succSetup` then `succLoop`:
`successorsCore_eq_setup` in Proofs/SuccCfg.lean).  Used for generator objects that are
advanced one `next()` at a time (Model/DFACache.lean). -/
def succSetup (d : DFA σ α) (fin : Res Bool) (g : Digraph σ) (key : α → Int)
    (input : Option (List α)) (o : SuccOpts) : Res (SuccCfg σ α × SuccState σ α) :=
  match fin with
  | .error e => .error e
  | .ok false => .error (.lib .infiniteLanguageException)
  | .ok true =>
    let coacc := g.reachable d.finals true
    let sorted := d.sortedSymbols key o.reverse
    match sorted.getLast?, sorted.head? with
    | some last, some first =>
      let c : SuccCfg σ α := { coacc := coacc, first := first, symSucc := symbolSucc sorted last }
      match input with
      | none =>
        .ok (c, { states := [some d.init], chars := [], cand := some first, shouldYield := true })
      | some w =>
        match d.readStepwise w true with
        | (_, some e) => .error e
        | (tr, none) =>
          .ok (c, { states := tr.reverse, chars := w.reverse,
                    cand := (match o.reverse with | true => none | false => some first),
                    shouldYield := !o.strict })
    | _, _ => .error (.py .indexError)

/-- `if reverse and not self.isfinite()`: the call is made only for `reverse=True`. -/
def finiteGuard (d : DFA σ α) (reverse : Bool) : Res Bool :=
  match reverse with
  | true => d.isFinite
  | false => .ok true

/-- `successors(input_str, strict, key, reverse, min_length, max_length)` on a fresh object:
the words yielded within `fuel` loop iterations and how the run ended. -/
def successors (d : DFA σ α) (key : α → Int) (input : Option (List α)) (o : SuccOpts)
    (fuel : Nat) : List (List α) × SuccStatus :=
  d.successorsCore (d.finiteGuard o.reverse) d.digraph key input o fuel

/-- `predecessors(input_str, …)` = `successors(input_str, …, reverse=True)`.  The annotation
says `str`, but the argument is passed through unchanged, so `predecessors(None)` (all words
in decreasing order) is accepted like `successors(None, reverse=True)`. -/
def predecessors (d : DFA σ α) (key : α → Int) (input : Option (List α)) (o : SuccOpts) (fuel : Nat) :
    List (List α) × SuccStatus :=
  d.successors key input { o with reverse := true } fuel

/-- Result of the single-step wrappers: `for word in gen: return word; return None`. -/
inductive FirstResult (α : Type)
  | word (w : List α)
  | none                                -- Python `None`
  | outOfFuel
  | raised (e : Exn)
  deriving Repr, DecidableEq

def firstOf (r : List (List α) × SuccStatus) : FirstResult α :=
  match r.1, r.2 with
  | w :: _, _ => .word w
  | [], .finished => .none
  | [], .outOfFuel => .outOfFuel
  | [], .raised e => .raised e

/-- `successor(input_str, …)`. -/
def successor (d : DFA σ α) (key : α → Int) (input : Option (List α)) (o : SuccOpts)
    (fuel : Nat) : FirstResult α :=
  firstOf (d.successors key input { o with reverse := false } fuel)

/-- `predecessor(input_str, …)` (`None` is passed through to `predecessors`). -/
def predecessor (d : DFA σ α) (key : α → Int) (input : Option (List α)) (o : SuccOpts) (fuel : Nat) :
    FirstResult α :=
  firstOf (d.predecessors key input o fuel)

end DFA
end AV
