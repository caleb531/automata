/-
Spec/GnfaRx.lean — reference notions for C12 (state elimination); of the model they use only `Str`
and `pyIsSpace` (Model/GNFAValidate.lean, for `IsLit`):

* `Rx`, `Rx.den` — regular expressions over characters with the operators the GNFA labels use
  (ε, symbol, concatenation, union, star, option) and their language (Mathlib `Language`);
* `Renders lvl e s` — `s` is a concrete string for `e` in the library's regex syntax
  (automata/regex): a literal is any non-reserved, non-blank character, `()` is the empty string,
  `(…)` groups, the postfix operators `*` `?` bind tighter than concatenation, which binds tighter
  than `|` (precedences 3 > 2 > 1 in the table regenerated from parser.py, see
  `Props/C12.lean: C12_generated_precedence`);
* `Lab L s` — the string `s` denotes the language `L`: either `s` is the empty string (which the
  library's parser special-cases as ε) and `L = {ε}`, or `s` renders an expression with language `L`;
* `Walk Lb p q w` — `w` labels a path `p ⇝ q` in a graph whose edge `(p, q)` carries the
  language `Lb p q` (`0` = no edge): the semantics of a generalised NFA.
-/
import Mathlib.Computability.Language
import AutomataVerif.Generated.Regex
import AutomataVerif.Model.GNFAValidate

namespace AV.GnfaSpec
open AV

/-- Regular expressions as they occur as GNFA labels. -/
inductive Rx
  | eps
  | sym (c : Char)
  | cat (a b : Rx)
  | union (a b : Rx)
  | star (a : Rx)
  | opt (a : Rx)
  deriving Repr, DecidableEq

/-- The language of an expression. -/
def Rx.den : Rx → Language Char
  | .eps => 1
  | .sym c => {[c]}
  | .cat a b => a.den * b.den
  | .union a b => a.den + b.den
  | .star a => KStar.kstar a.den
  | .opt a => 1 + a.den

/-- A character the library's lexer reads as a one-character string literal. -/
def IsLit (c : Char) : Prop := c ∉ AV.Gen.Regex.reservedCharacters ∧ pyIsSpace c = false

instance (c : Char) : Decidable (IsLit c) := by unfold IsLit; infer_instance

/-- Syntactic levels: union ⊇ concatenation ⊇ postfix/atom. -/
inductive Lvl
  | U | C | P
  deriving DecidableEq, Repr

/-- `Renders lvl e s`: `s` is a string of level `lvl` for the expression `e` in the library's
regex syntax (no blanks, no redundant grouping other than what the rules allow). -/
inductive Renders : Lvl → Rx → Str → Prop
  | sym {c : Char} : IsLit c → Renders .P (.sym c) [c]
  | emp : Renders .P .eps ['(', ')']
  | paren {e : Rx} {s : Str} : Renders .U e s → Renders .P e ('(' :: s ++ [')'])
  | star {e : Rx} {s : Str} : Renders .P e s → Renders .P (.star e) (s ++ ['*'])
  | opt {e : Rx} {s : Str} : Renders .P e s → Renders .P (.opt e) (s ++ ['?'])
  | ofP {e : Rx} {s : Str} : Renders .P e s → Renders .C e s
  | cat {e₁ e₂ : Rx} {s₁ s₂ : Str} :
      Renders .C e₁ s₁ → Renders .P e₂ s₂ → Renders .C (.cat e₁ e₂) (s₁ ++ s₂)
  | ofC {e : Rx} {s : Str} : Renders .C e s → Renders .U e s
  | union {e₁ e₂ : Rx} {s₁ s₂ : Str} :
      Renders .U e₁ s₁ → Renders .C e₂ s₂ → Renders .U (.union e₁ e₂) (s₁ ++ '|' :: s₂)

/-- The string `s` denotes the language `L` under the library's regex syntax. -/
def Lab (L : Language Char) (s : Str) : Prop :=
  (s = [] ∧ L = 1) ∨ ∃ e, Renders .U e s ∧ e.den = L

/-- An optional label (`None` = no edge) denotes `L`. -/
def LabO (L : Language Char) : Option Str → Prop
  | none => L = 0
  | some s => Lab L s

/-- Paths of a graph with language-labelled edges. -/
inductive Walk {σ α : Type} (Lb : σ → σ → Language α) : σ → σ → List α → Prop
  | nil (p : σ) : Walk Lb p p []
  | cons {p q r : σ} {u v : List α} : u ∈ Lb p q → Walk Lb q r v → Walk Lb p r (u ++ v)

/-- The language of a generalised NFA: labels of the paths from `init` to `final`. -/
def GLang {σ α : Type} (Lb : σ → σ → Language α) (init final : σ) : Language α :=
  {w | Walk Lb init final w}

/-- Ripping `q`: every remaining pair `(i, j)` gets `Lb i j + Lb i q · (Lb q q)* · Lb q j`,
and `q` loses all its edges. -/
def rip {σ α : Type} [DecidableEq σ] (Lb : σ → σ → Language α) (q : σ) : σ → σ → Language α :=
  fun i j => if i = q ∨ j = q then 0 else Lb i j + Lb i q * KStar.kstar (Lb q q) * Lb q j

end AV.GnfaSpec
