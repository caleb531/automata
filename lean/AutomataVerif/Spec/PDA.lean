/-
Spec/PDA.lean — reference semantics of pushdown automata (Lean core only).  Short on purpose:
this is what the C02 theorems compare the model of `automata/pda/*.py` with.  `Step`, `StepN`
and `Accepting` are stated over an abstract move relation `Δ` and use nothing of the readers'
code; `Config` and `Table` are the model's types (Model/PDA.lean), and the move relation of a
table (`NPDA.moves`, `DPDA.moves`) is read through the model's lookup `Table.entry?` — `movesMem`
states it by membership only, equal under unique dict keys (`C02_moves_by_membership`).

A configuration is `(state, unread input, stack)`; the stack is written bottom first as in
the code (`PDAStack.stack`), so the TOP is the LAST element.  One move looks at the state,
at the top symbol `X` and at either the next input symbol or nothing, goes to a new
state, consumes the symbol it looked at (if any) and replaces `X` by the pushed string,
whose FIRST symbol becomes the new top (`β ++ [X]` becomes `β ++ push.reverse`).  A
configuration with an empty stack has no move.
-/
import AutomataVerif.Model.PDA

namespace AV.PDA

variable {σ α γ : Type}

/-- The move relation of a table: `Δ q a X p push` — in state `q`, reading `a`
(`none`: nothing), with `X` on top of the stack, go to `p` and replace `X` by `push`. -/
abbrev Moves (σ α γ : Type) := σ → Option α → γ → σ → List γ → Prop

/-- One move. -/
inductive Step (Δ : Moves σ α γ) : Config σ α γ → Config σ α γ → Prop
  | read {q p : σ} {a : α} {w : List α} {β push : List γ} {X : γ} (h : Δ q (some a) X p push) :
      Step Δ ⟨q, a :: w, β ++ [X]⟩ ⟨p, w, β ++ push.reverse⟩
  | eps {q p : σ} {w : List α} {β push : List γ} {X : γ} (h : Δ q none X p push) :
      Step Δ ⟨q, w, β ++ [X]⟩ ⟨p, w, β ++ push.reverse⟩

/-- Exactly `n` moves. -/
inductive StepN (Δ : Moves σ α γ) : Nat → Config σ α γ → Config σ α γ → Prop
  | zero (c : Config σ α γ) : StepN Δ 0 c c
  | succ {n : Nat} {c c' c'' : Config σ α γ} (h : StepN Δ n c c') (s : Step Δ c' c'') : StepN Δ (n + 1) c c''

/-- A λ-move (ε-move): a move that reads nothing. -/
inductive EpsStep (Δ : Moves σ α γ) : Config σ α γ → Config σ α γ → Prop
  | mk {q p : σ} {w : List α} {β push : List γ} {X : γ} (h : Δ q none X p push) :
      EpsStep Δ ⟨q, w, β ++ [X]⟩ ⟨p, w, β ++ push.reverse⟩

/-- "The ε-moves of the table cannot run forever" (the condition in C02's quantifier): there is
no infinite sequence of λ-moves, from any configuration whatever — the converse of the λ-move
relation is well founded (every configuration is accessible). -/
def EpsTerminates (Δ : Moves σ α γ) : Prop := ∀ c, Acc (fun c' c => EpsStep Δ c c') c

/-- The three acceptance modes. -/
inductive AccMode
  | finalState | emptyStack | both
  deriving DecidableEq, Repr

/-- The `acceptance_mode` string of each mode. -/
def AccMode.literal : AccMode → String
  | .finalState => "final_state"
  | .emptyStack => "empty_stack"
  | .both => "both"

/-- An accepting configuration: the whole input is consumed and, depending on the mode,
the state is final, the stack is empty, or either. -/
def Accepting (m : AccMode) (F : List σ) (c : Config σ α γ) : Prop :=
  c.input = [] ∧
  match m with
  | .finalState => c.state ∈ F
  | .emptyStack => c.stack = []
  | .both => c.stack = [] ∨ c.state ∈ F

variable [DecidableEq σ] [DecidableEq α] [DecidableEq γ]

/-- Moves of an NPDA table: `(p, push) ∈ transitions[q][a][X]`. -/
def NPDA.moves (M : NPDA σ α γ) : Moves σ α γ :=
  fun q a X p push => ∃ ts, M.entry? q a X = some ts ∧ (p, push) ∈ ts

/-- Moves of a DPDA table: `transitions[q][a][X] = (p, push)`. -/
def DPDA.moves (M : DPDA σ α γ) : Moves σ α γ :=
  fun q a X p push => M.entry? q a X = some (p, push)

/-- A table (of a DPDA) offers two moves to some configuration: a symbol move and a
λ-move for the same state and stack top (entries themselves are single-valued). -/
def DPDA.TwoMoves (M : DPDA σ α γ) : Prop :=
  ∃ q a X, (M.entry? q (some a) X).isSome = true ∧ (M.entry? q none X).isSome = true

/-- The moves of an NPDA table stated by membership only — no lookup function of the model is
involved: `transitions` has an item `(q, row)`, `row` an item `(a, sp)`, `sp` an item `(X, ts)`
and `(p, push) ∈ ts`.  Equal to `NPDA.moves` when dict keys are unique
(`C02_moves_by_membership`). -/
def NPDA.movesMem (M : NPDA σ α γ) : Moves σ α γ :=
  fun q a X p push => ∃ row sp ts, (q, row) ∈ M.trans ∧ (a, sp) ∈ row ∧ (X, ts) ∈ sp ∧ (p, push) ∈ ts

/-- The moves of a DPDA table stated by membership only. -/
def DPDA.movesMem (M : DPDA σ α γ) : Moves σ α γ :=
  fun q a X p push => ∃ row sp, (q, row) ∈ M.trans ∧ (a, sp) ∈ row ∧ (X, (p, push)) ∈ sp

/-- `DPDA.TwoMoves` stated by membership only. -/
def DPDA.TwoMovesMem (M : DPDA σ α γ) : Prop :=
  ∃ q row a sp sp' X, (q, row) ∈ M.trans ∧ (some a, sp) ∈ row ∧ (none, sp') ∈ row ∧
    X ∈ akeys sp ∧ X ∈ akeys sp'

/-- Python dicts have unique keys: the association lists standing for `transitions` and
for each `transitions[q]` have no repeated key (a representation invariant, not a
restriction on definitions).  For the PDA table type, the same two conditions as `DFA.IsDict`
(Proofs/Query.lean) and the fields `keys_nodup`, `rows_nodup` of `DFA.PyShape`. -/
def Table.KeysUnique {τ : Type} (M : Table σ α γ τ) : Prop :=
  (akeys M.trans).Nodup ∧ ∀ kv ∈ M.trans, (akeys kv.2).Nodup

/-- Unique keys at all three levels of `transitions[q][a][X]` (the innermost dicts included). -/
def Table.KeysUniqueAll {τ : Type} (M : Table σ α γ τ) : Prop :=
  M.KeysUnique ∧ ∀ kv ∈ M.trans, ∀ e ∈ kv.2, (akeys e.2).Nodup

/-- Everything `PDA.validate` asks of a definition apart from determinism: the input
symbols labelling transitions are declared (or are the empty string), the stack symbols
keying transitions are declared, the initial state, initial stack symbol and final states
are declared, and the acceptance mode is one of the three literals.  (The code checks
neither target states, nor pushed symbols, nor that rows are keyed by states.) -/
structure Table.WellFormed {τ : Type} (M : Table σ α γ τ) : Prop where
  inputOk : ∀ kv ∈ M.trans, ∀ e ∈ kv.2, ∀ a, e.1 = some a → a ∈ M.inputSyms
  stackOk : ∀ kv ∈ M.trans, ∀ e ∈ kv.2, ∀ X ∈ akeys e.2, X ∈ M.stackSyms
  initOk : M.init ∈ M.states
  initStackOk : M.initStack ∈ M.stackSyms
  finalsOk : ∀ q ∈ M.finals, q ∈ M.states
  modeOk : ∃ m : AccMode, M.mode = m.literal

end AV.PDA
